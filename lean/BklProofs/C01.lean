/-
  C01 — "layer merge follows the documented merge rules".

  `merge dst src` (Bkl/Merge.lean, mirrors merge.go): maps merge by key, lists concatenate,
  scalars replace, with the directives `$delete`, `$replace`, `$match`, `$value`, `$required`.

  The statements use `Val.isScalar` (bool / int / flt / str), `plainEntry`, `dropRequired` (a list
  minus its `"$required"` marker strings) from Lemmas/Merge.lean and, for the recursive boundary
  of §10, `matchPatch` from Lemmas/MergeList.lean, `matchRel` from Lemmas/C01Rejects.lean and
  `Pointwise` from Lemmas/Except.lean.
-/
import BklProofs.Lemmas.MergeWF
import BklProofs.Lemmas.C01Rejects
namespace Bkl

/-! ## 1. a null child changes nothing -/

theorem C01_null_child_map (d : Fields) : merge (.map d) .null = .ok (.map d) :=
  merge_map_null d

theorem C01_null_child_list (d : List Val) : merge (.list d) .null = .ok (.list d) :=
  merge_list_null d

theorem C01_null_child :
    (∀ d : Fields, merge (.map d) .null = .ok (.map d)) ∧
    (∀ d : List Val, merge (.list d) .null = .ok (.list d)) :=
  ⟨merge_map_null, merge_list_null⟩

/-! ## 2. a null parent is replaced by the child -/

theorem C01_null_parent (s : Val) : merge .null s = .ok s :=
  merge_null s

/-! ## 3. scalars: the child replaces the parent, an identical value is rejected -/

theorem C01_scalar (dst src : Val) (h : dst.isScalar = true) :
    merge dst src = if src == dst then .error .uselessOverride else .ok src :=
  merge_scalar dst src h

example : (Val.str "a").isScalar = true ∧ (Val.int 3).isScalar = true ∧
    (Val.bool false).isScalar = true ∧ (Val.flt "1.5").isScalar = true := by decide

theorem C01_scalar_reject_iff (dst src : Val) (h : dst.isScalar = true) :
    (∃ e, merge dst src = .error e) ↔ src = dst := by
  rw [C01_scalar dst src h]
  by_cases hs : src = dst
  · subst hs; simp
  · have : (src == dst) = false := by simpa using hs
    simp [this, hs]

example : (Val.int 3).isScalar = true := rfl

/-! ## 4. kind mismatches -/

/-- scalar or list over a non-empty map -/
theorem C01_kind_mismatch_map (d : Fields) (src : Val) (hd : d ≠ [])
    (hs : src.isScalar = true ∨ src.isList = true) :
    merge (.map d) src = .error .invalidType := by
  obtain ⟨h1, h2⟩ := Val.scalar_or_list_iff.1 hs
  rw [merge_map_other d src h1 h2]
  cases d with
  | nil => exact absurd rfl hd
  | cons a tl => rfl

example : ([("a", Val.int 1)] : Fields) ≠ [] ∧
    ((Val.str "x").isScalar = true ∨ (Val.str "x").isList = true) := by decide

/-- scalar or map over a list -/
theorem C01_kind_mismatch_list (d : List Val) (src : Val)
    (hs : src.isScalar = true ∨ src.isMap = true) :
    merge (.list d) src = .error .invalidType := by
  obtain ⟨h1, h2⟩ := Val.scalar_or_map_iff.1 hs
  exact merge_list_other d src h1 h2

example : (Val.map [("a", .int 1)]).isScalar = true ∨ (Val.map [("a", .int 1)]).isMap = true := by
  decide

/-- anything that is not a map and not null over an empty map yields the child -/
theorem C01_kind_mismatch_empty_map (src : Val) (h1 : src.isMap = false)
    (h2 : src.isNull = false) : merge (.map []) src = .ok src := by
  rw [merge_map_other [] src h1 h2]; rfl

example : (Val.list [.int 1]).isMap = false ∧ (Val.list [.int 1]).isNull = false := by decide

/-! ## 5. `$replace: true` in a map patch -/

theorem C01_replace_true (d s : Fields) (h : fhasBool s "$replace" true = true) :
    merge (.map d) (.map s) = .ok (.map (fdel s "$replace")) := by
  rw [merge_map_map, mergeMapMap_replace h]

example : fhasBool [("$replace", .bool true), ("a", .int 1)] "$replace" true = true := by decide

/-! ## 6. maps merge key by key -/

theorem C01_map_by_key {d s : Fields} {r : Val} (hd : Fields.SortedKeys d)
    (hs : Fields.SortedKeys s) (hrep : fhasBool s "$replace" true = false)
    (h : merge (.map d) (.map s) = .ok r) :
    ∃ rm, r = .map rm ∧ Fields.SortedKeys rm ∧ ∀ k,
      match fget s k with
      | none => fget rm k = fget d k
      | some v =>
        if v.toStr = "$delete" then (fget d k ≠ none ∧ fget rm k = none)
        else match fget d k with
          | none => fget rm k = some v
          | some e => ∃ r', merge e v = .ok r' ∧ fget rm k = some r' := by
  obtain ⟨rm, rfl, hsort, hat⟩ := merge_map_at (distinctKeys_of_sorted hs) hrep h
  refine ⟨rm, rfl, hsort hd, fun k => ?_⟩
  have := hat k
  cases hk : fget s k with
  | none => rw [hk] at this; exact this
  | some v => rw [hk] at this; exact mergeAct_ok_iff.1 this

example : Fields.SortedKeys [("a", .int 1), ("b", .int 2)] ∧
    Fields.SortedKeys [("b", .str "$delete"), ("c", .int 3)] ∧
    fhasBool [("b", .str "$delete"), ("c", .int 3)] "$replace" true = false ∧
    merge (.map [("a", .int 1), ("b", .int 2)]) (.map [("b", .str "$delete"), ("c", .int 3)])
      = .ok (.map [("a", .int 1), ("c", .int 3)]) := by
  refine ⟨by decide, by decide, by decide, ?_⟩
  -- `merge` is defined by well-founded recursion, so a closed instance is evaluated by its equations, not by `decide`
  simp [merge_map_map, mergeMapMap_eq, mergeFields_cons, mergeFields_nil, fhasBool, fget, fset,
    fdel, Val.toStr, Except.map]

theorem C01_map_reject_iff {d s : Fields} (hs : Fields.SortedKeys s)
    (hrep : fhasBool s "$replace" true = false) :
    (∃ err, merge (.map d) (.map s) = .error err) ↔
      ∃ k v, fget s k = some v ∧
        ((v.toStr = "$delete" ∧ fget d k = none) ∨
         (v.toStr ≠ "$delete" ∧ ∃ e, fget d k = some e ∧ ∃ err, merge e v = .error err)) := by
  rw [merge_map_map, mergeMapMap_error_iff hs]
  exact and_iff_right hrep

example : Fields.SortedKeys [("b", .str "$delete"), ("c", .int 3)] ∧
    fhasBool [("b", .str "$delete"), ("c", .int 3)] "$replace" true = false := by decide

/-! ## 7. lists -/

/-- plain entries are appended (after the parent's `$required` markers are dropped) -/
theorem C01_list_concat (d s : List Val) (h : s.all plainEntry = true) :
    merge (.list d) (.list s) =
      .ok (.list (d.filter (fun x => !(x == Val.str "$required")) ++ s)) :=
  merge_list_plain d s h

example : [Val.int 1, .str "x", .map [("a", .int 2)], .list [.str "$replace"]].all plainEntry
    = true := by decide

/-- a `"$replace"` string entry: the child list (minus the marker) replaces the parent list -/
theorem C01_list_replace_string (d s : List Val) (h : Val.str "$replace" ∈ s) :
    merge (.list d) (.list s) =
      .ok (.list (s.filter (fun x => !(x == Val.str "$replace")))) := by
  rw [merge_list_list]
  apply mergeListList_replace_string
  rw [List.any_eq_true]
  exact ⟨_, h, by simp⟩

example : Val.str "$replace" ∈ [Val.int 1, .str "$replace", .int 2] := by decide

/-- a `{$match: m, $value: val}` entry merges `val` into every parent entry matching `m` -/
theorem C01_list_match_value (d : List Val) (m val : Val) :
    merge (.list d) (.list [Val.map [("$match", m), ("$value", val)]]) =
      if (d.filter (fun x => !(x == Val.str "$required"))).any (fun e => matchV e m) then
        Except.map Val.list
          ((d.filter (fun x => !(x == Val.str "$required"))).mapM
            (fun e => if matchV e m then merge e val else pure e))
      else .error .noMatchFound := by
  refine (merge_list_entry d [] [] [("$match", m), ("$value", val)] rfl List.not_mem_nil rfl
    (by simp [fhasBool, fget])).trans ?_
  have step : Gen.Lib.entryStep (dropRequired d) (.map [("$match", m), ("$value", val)]) =
      Gen.Lib.matchOnly (dropRequired d) m val :=
    (Gen.Lib.entryStep_match _ rfl rfl).trans
      ((Gen.Lib.mergeListMatch_value _ _ rfl).trans (if_neg (Nat.lt_irrefl 0)))
  rw [List.append_nil, Gen.Lib.mergeEntries_eq_steps, step, ← Gen.Lib.matchStep_eq_matchOnly, matchStep,
    dropRequired]
  generalize d.filter (fun x => !(x == Val.str "$required")) = d'
  cases hm : d'.any (fun e => matchV e m) with
  | false =>
    -- nothing matches: the `mapM` is the identity, and the answer is `noMatchFound`
    rw [mapM_ok_of_forall (fun e => if matchV e m = true then merge e val else pure e) id d'
      fun x hx => if_neg (by rw [any_eq_false_iff_forall.1 hm x hx]; exact Bool.false_ne_true),
      List.map_id]
    rfl
  | true =>
    rw [if_pos rfl]
    cases d'.mapM (fun e => if matchV e m = true then merge e val else pure e) with
    | error e => rfl
    | ok d'' => exact congrArg (Except.map Val.list) (mergeEntries_nil d'')

example : Fields.SortedKeys [("$match", Val.int 1), ("$value", .int 2)] := by decide

/-- a `$delete` entry carrying another key is rejected with `extraKeys` -/
theorem C01_list_extra_keys_delete (d pre post : List Val) (kvs : Fields) (pat : Val)
    (hpre : pre.all plainEntry = true)
    (hpost1 : Val.str "$replace" ∉ post) (hpost2 : hasListMapBool post "$replace" true = false)
    (hdel : fget kvs "$delete" = some pat) (hextra : (fdel kvs "$delete").length > 0) :
    merge (.list d) (.list (pre ++ Val.map kvs :: post)) = .error .extraKeys := by
  apply list_entry_extra d pre post kvs hpre hpost1 hpost2
  · intro d'; exact mergeEntries_delete_extra d' post hdel hextra
  · intro _
    have : fget (fdel kvs "$replace") "$delete" = some pat := by
      rw [fget_fdel_ne _ _ _ (by decide)]; exact hdel
    exact length_pos_of_fget this

example : [Val.int 1].all plainEntry = true ∧ Val.str "$replace" ∉ [Val.int 2] ∧
    hasListMapBool [Val.int 2] "$replace" true = false ∧
    fget [("$delete", Val.int 1), ("x", .int 2)] "$delete" = some (.int 1) ∧
    (fdel [("$delete", Val.int 1), ("x", .int 2)] "$delete").length > 0 := by decide

/-- a `$match` + `$value` entry carrying a third key is rejected with `extraKeys` -/
theorem C01_list_extra_keys_match (d pre post : List Val) (kvs : Fields) (m val : Val)
    (hpre : pre.all plainEntry = true)
    (hpost1 : Val.str "$replace" ∉ post) (hpost2 : hasListMapBool post "$replace" true = false)
    (hdel : fget kvs "$delete" = none)
    (hm : fget kvs "$match" = some m) (hv : fget kvs "$value" = some val)
    (hextra : (fdel (fdel kvs "$match") "$value").length > 0) :
    merge (.list d) (.list (pre ++ Val.map kvs :: post)) = .error .extraKeys := by
  apply list_entry_extra d pre post kvs hpre hpost1 hpost2
  · intro d'
    rw [mergeEntries_match d' post hdel hm,
      if_pos ⟨by rw [hv]; rfl, List.length_pos_iff.1 hextra⟩]
  · intro _
    have : fget (fdel kvs "$replace") "$match" = some m := by
      rw [fget_fdel_ne _ _ _ (by decide)]; exact hm
    exact length_pos_of_fget this

example : ([] : List Val).all plainEntry = true ∧ Val.str "$replace" ∉ ([] : List Val) ∧
    hasListMapBool [] "$replace" true = false ∧
    fget [("$match", Val.int 1), ("$value", .int 2), ("x", .int 3)] "$delete" = none ∧
    fget [("$match", Val.int 1), ("$value", .int 2), ("x", .int 3)] "$match" = some (.int 1) ∧
    fget [("$match", Val.int 1), ("$value", .int 2), ("x", .int 3)] "$value" = some (.int 2) ∧
    (fdel (fdel [("$match", Val.int 1), ("$value", .int 2), ("x", .int 3)] "$match")
      "$value").length > 0 := by decide

/-- a `{$replace: true, …extra}` entry anywhere in the patch is rejected with `extraKeys` -/
theorem C01_list_extra_keys_replace (d s : List Val) (kvs : Fields)
    (hstr : Val.str "$replace" ∉ s) (hmem : Val.map kvs ∈ s)
    (hrep : fhasBool kvs "$replace" true = true) (hextra : (fdel kvs "$replace").length > 0) :
    merge (.list d) (.list s) = .error .extraKeys :=
  merge_list_marker_extra d (any_replace_eq_false_iff.2 hstr) hmem hrep hextra

example : Val.str "$replace" ∉ [Val.int 1, .map [("$replace", .bool true), ("a", .int 1)]] ∧
    Val.map [("$replace", .bool true), ("a", .int 1)] ∈
      [Val.int 1, .map [("$replace", .bool true), ("a", .int 1)]] ∧
    fhasBool [("$replace", .bool true), ("a", .int 1)] "$replace" true = true ∧
    (fdel [("$replace", Val.bool true), ("a", .int 1)] "$replace").length > 0 := by decide

/-! ## 8. well-formedness is preserved -/

theorem C01_wf {d s r : Val} (hd : Val.WF d) (hs : Val.WF s) (h : merge d s = .ok r) :
    Val.WF r :=
  merge_wf hd hs h

example : Val.WF (.map [("a", .int 1), ("b", .map [("x", .int 2)])]) ∧
    Val.WF (.map [("b", .map [("x", .int 5)]), ("c", .int 3)]) ∧
    merge (.map [("a", .int 1), ("b", .map [("x", .int 2)])])
        (.map [("b", .map [("x", .int 5)]), ("c", .int 3)])
      = .ok (.map [("a", .int 1), ("b", .map [("x", .int 5)]), ("c", .int 3)]) := by
  refine ⟨by decide, by decide, ?_⟩
  simp [merge_map_map, mergeMapMap_eq, mergeFields_cons, mergeFields_nil, merge_int, fhasBool,
    fget, fset, Val.toStr, Except.map]

/-! ## 9. a key that no layer mentions keeps the base value -/

theorem C01_chain_frame (b : Fields) (layers : List Val) (k : String) (res : Val)
    (hl : ∀ x ∈ layers, ∃ l, x = Val.map l ∧ fhasBool l "$replace" true = false ∧
      fget l k = none)
    (h : mergeChain (.map b :: layers) = .ok res) :
    ∃ r, res = .map r ∧ fget r k = fget b k := by
  -- an invariant of the fold: the value is a map that holds at `k` what `b` holds
  refine foldlM_inv (fun v => ∃ r, v = .map r ∧ fget r k = fget b k) merge layers (.map b) res
    ⟨b, rfl, rfl⟩ (fun s x s' hx ⟨m, hm, hg⟩ hs => ?_) h
  obtain ⟨l, rfl, hrep, hk⟩ := hl x hx
  subst hm
  obtain ⟨rm, hmf, rfl⟩ := R_map_ok_iff.1 ((merge_map_map_noreplace hrep).symm.trans hs)
  exact ⟨rm, rfl, (mergeFields_frame hk hmf).trans hg⟩

example : (∀ x ∈ [Val.map [("b", .int 2)], Val.map [("b", .int 3), ("c", .int 4)]],
      ∃ l, x = Val.map l ∧ fhasBool l "$replace" true = false ∧ fget l "a" = none) ∧
    mergeChain [.map [("a", .int 1)], .map [("b", .int 2)], .map [("b", .int 3), ("c", .int 4)]]
      = .ok (.map [("a", .int 1), ("b", .int 3), ("c", .int 4)]) := by
  constructor
  · intro x hx
    simp only [List.mem_cons, List.not_mem_nil, or_false] at hx
    rcases hx with rfl | rfl
    · exact ⟨_, rfl, by decide, by decide⟩
    · exact ⟨_, rfl, by decide, by decide⟩
  · simp [mergeChain, List.foldlM, ok_bind, merge_map_map, mergeMapMap_eq, mergeFields_cons,
      mergeFields_nil, merge_int, fhasBool, fget, fset, Val.toStr, Except.map]

/-! ## 10. the recursive accept / reject boundary

`Rejects dst src` is written from the property text ("a child is rejected … exactly when an
override is useless or inapplicable"), not from the code, and `C01_reject_iff` shows that it is
*exactly* the set of inputs on which `merge` returns an error.

Boundary facts that the model implements and that the predicate documents:
* a `null` parent accepts everything, a `null` child is accepted by everything (it changes
  nothing over a map or a list, and it *replaces* a scalar);
* a scalar parent is replaced by any different child of any kind (scalar, null, list, map);
* an **empty** map parent accepts a scalar or list child (`overMap` needs `d ≠ []`);
* a list parent rejects every map child, **including the empty map** (`overList`);
* a map patch carrying `$replace: true` replaces the parent map and is never rejected, whatever
  is below it (all map constructors need `fhasBool s "$replace" true = false`); `$replace` with
  any other value (`false`, a string, …) is an ordinary key;
* a list patch containing the string `"$replace"` replaces the parent list and is never rejected,
  not even if it also contains a malformed `{$replace: true, extra: …}` entry; without that string,
  a `{$replace: true}` entry replaces the parent list, and *any* `$replace: true` entry with
  extra keys is rejected (`listReplaceExtraKeys`) before any other entry is looked at;
* otherwise the patch entries are applied left to right to the parent list minus its
  `"$required"` marker strings (`dropRequired`); `RejectsEntries acc patch` describes that walk,
  `acc` being the list built so far.  `$delete` has priority over `$match`; a `$match` entry
  without `$value` merges *itself minus the `$match` key* into the matched elements (so extra
  keys are legal there), see `matchPatch`.
Every error class of the model's `merge` (`uselessOverride`, `invalidType`, `extraKeys`,
`noMatchFound`) is covered by the property text. -/

mutual
/-- `Rejects dst src`: the child `src` cannot be layered on the parent `dst`. -/
inductive Rejects : Val → Val → Prop
  /-- the same scalar value -/
  | sameScalar {v : Val} : v.isScalar = true → Rejects v v
  /-- a scalar or a list over a non-empty map -/
  | overMap {d : Fields} {s : Val} :
      d ≠ [] → (s.isScalar = true ∨ s.isList = true) → Rejects (.map d) s
  /-- a scalar or a map (even an empty one) over a list -/
  | overList {d : List Val} {s : Val} :
      (s.isScalar = true ∨ s.isMap = true) → Rejects (.list d) s
  /-- `k: $delete` for a key the parent does not have -/
  | mapDeleteAbsent {d s : Fields} {k : String} :
      fhasBool s "$replace" true = false →
      fget s k = some (.str "$delete") → fget d k = none → Rejects (.map d) (.map s)
  /-- a key present on both sides whose child value is rejected by the parent value -/
  | mapKey {d s : Fields} {k : String} {e v : Val} :
      fhasBool s "$replace" true = false →
      fget s k = some v → v ≠ .str "$delete" → fget d k = some e → Rejects e v →
      Rejects (.map d) (.map s)
  /-- a `{$replace: true, …}` list entry carrying extra keys -/
  | listReplaceExtraKeys {d s : List Val} {m : Fields} :
      Val.str "$replace" ∉ s → Val.map m ∈ s → fhasBool m "$replace" true = true →
      fdel m "$replace" ≠ [] → Rejects (.list d) (.list s)
  /-- no replace directive: some entry of the patch is rejected when its turn comes -/
  | listWalk {d s : List Val} :
      Val.str "$replace" ∉ s → (∀ m, Val.map m ∈ s → fhasBool m "$replace" true = false) →
      RejectsEntries (dropRequired d) s → Rejects (.list d) (.list s)

/-- `RejectsEntries acc patch`: applying the entries of `patch` left to right to the list `acc`
    built so far hits a rejected entry. -/
inductive RejectsEntries : List Val → List Val → Prop
  /-- a plain entry (no `$delete`, no `$match`) is appended; the rejection is further right -/
  | skip {d rest : List Val} {v : Val} :
      (∀ kvs, v = .map kvs → fget kvs "$delete" = none ∧ fget kvs "$match" = none) →
      RejectsEntries (d ++ [v]) rest → RejectsEntries d (v :: rest)
  /-- a `$delete` entry carrying extra keys -/
  | deleteExtraKeys {d rest : List Val} {kvs : Fields} {pat : Val} :
      fget kvs "$delete" = some pat → fdel kvs "$delete" ≠ [] →
      RejectsEntries d (.map kvs :: rest)
  /-- a `$delete` entry whose pattern matches nothing (at the point where it is applied) -/
  | deleteNoMatch {d rest : List Val} {kvs : Fields} {pat : Val} :
      fget kvs "$delete" = some pat → (∀ e ∈ d, matchV e pat = false) →
      RejectsEntries d (.map kvs :: rest)
  /-- a `$delete` entry removes the matching elements; the rejection is further right -/
  | deleteNext {d rest : List Val} {kvs : Fields} {pat : Val} :
      fget kvs "$delete" = some pat →
      RejectsEntries (d.filter (fun e => !matchV e pat)) rest →
      RejectsEntries d (.map kvs :: rest)
  /-- a `$match` + `$value` entry carrying extra keys -/
  | matchExtraKeys {d rest : List Val} {kvs : Fields} {m v2 : Val} :
      fget kvs "$delete" = none → fget kvs "$match" = some m → fget kvs "$value" = some v2 →
      fdel (fdel kvs "$match") "$value" ≠ [] → RejectsEntries d (.map kvs :: rest)
  /-- a `$match` entry that matches nothing (at the point where it is applied) -/
  | matchNone {d rest : List Val} {kvs : Fields} {m : Val} :
      fget kvs "$delete" = none → fget kvs "$match" = some m →
      (∀ e ∈ d, matchV e m = false) → RejectsEntries d (.map kvs :: rest)
  /-- recursion through a matched element: it rejects the patch of the `$match` entry -/
  | matchRec {d rest : List Val} {kvs : Fields} {m e : Val} :
      fget kvs "$delete" = none → fget kvs "$match" = some m →
      e ∈ d → matchV e m = true → Rejects e (matchPatch kvs) →
      RejectsEntries d (.map kvs :: rest)
  /-- a `$match` entry updates the matched elements (`d'` is `d` with every matched element
      replaced by its merge with the patch); the rejection is further right -/
  | matchNext {d d' rest : List Val} {kvs : Fields} {m : Val} :
      fget kvs "$delete" = none → fget kvs "$match" = some m →
      Pointwise (matchRel m (matchPatch kvs)) d d' → RejectsEntries d' rest →
      RejectsEntries d (.map kvs :: rest)
end

/-- A rejected child makes `merge` fail: by induction on the derivation, for `Rejects` and
    `RejectsEntries` at once (the two recursors share their fifteen cases). -/
theorem C01_error_of_rejects :
    (∀ {d s : Val}, Rejects d s → Val.WF s → ∃ e, merge d s = .error e) ∧
    (∀ {d s : List Val}, RejectsEntries d s → (∀ x ∈ s, Val.WF x) →
      ∃ e, mergeEntries d s = .error e) := by
  refine ⟨@Rejects.rec
      (fun d s _ => Val.WF s → ∃ e, merge d s = .error e)
      (fun d s _ => (∀ x ∈ s, Val.WF x) → ∃ e, mergeEntries d s = .error e)
      ?sameScalar ?overMap ?overList ?mapDeleteAbsent ?mapKey ?listReplaceExtraKeys ?listWalk
      ?skip ?deleteExtraKeys ?deleteNoMatch ?deleteNext ?matchExtraKeys ?matchNone ?matchRec
      ?matchNext,
    @RejectsEntries.rec
      (fun d s _ => Val.WF s → ∃ e, merge d s = .error e)
      (fun d s _ => (∀ x ∈ s, Val.WF x) → ∃ e, mergeEntries d s = .error e)
      ?sameScalar ?overMap ?overList ?mapDeleteAbsent ?mapKey ?listReplaceExtraKeys ?listWalk
      ?skip ?deleteExtraKeys ?deleteNoMatch ?deleteNext ?matchExtraKeys ?matchNone ?matchRec
      ?matchNext⟩
  case sameScalar => intro v hv _; exact (C01_scalar_reject_iff _ _ hv).2 rfl
  case overMap => intro d s hd hs _; exact ⟨_, C01_kind_mismatch_map _ _ hd hs⟩
  case overList => intro d s hs _; exact ⟨_, C01_kind_mismatch_list _ _ hs⟩
  case mapDeleteAbsent =>
    intro d s k hrep hk hd hs
    exact (C01_map_reject_iff (wf_map_iff.1 hs).1 hrep).2 ⟨_, _, hk, Or.inl ⟨rfl, hd⟩⟩
  case mapKey =>
    intro d s k e v hrep hk hne he _ ih hs
    exact (C01_map_reject_iff (wf_map_iff.1 hs).1 hrep).2
      ⟨_, _, hk, Or.inr ⟨mt toStr_eq_delete_iff.1 hne, _, he, ih (wf_of_fget hs hk)⟩⟩
  case listReplaceExtraKeys =>
    intro d s m hnot hm h1 h2 _
    exact ⟨_, C01_list_extra_keys_replace _ _ _ hnot hm h1 (List.length_pos_iff.2 h2)⟩
  case listWalk =>
    intro d s hnot hno _ ih hs
    rw [merge_list_list, mergeListList_error_iff]
    exact ⟨hnot, Or.inr ⟨hno, ih (wf_list_iff.1 hs)⟩⟩
  case skip =>
    intro d rest v hp _ ih hs
    rw [mergeEntries_skip _ _ hp]
    exact ih (List.forall_mem_cons.1 hs).2
  case deleteExtraKeys =>
    intro d rest kvs pat hdel h _
    exact (mergeEntries_delete_error_iff _ _ hdel).2 (Or.inl h)
  case deleteNoMatch =>
    intro d rest kvs pat hdel h _
    exact (mergeEntries_delete_error_iff _ _ hdel).2 (Or.inr (Or.inl h))
  case deleteNext =>
    intro d rest kvs pat hdel _ ih hs
    exact (mergeEntries_delete_error_iff _ _ hdel).2
      (Or.inr (Or.inr (ih (List.forall_mem_cons.1 hs).2)))
  case matchExtraKeys =>
    intro d rest kvs m v2 hdel hm hv h _
    exact (mergeEntries_match_error_iff _ _ hdel hm).2 (Or.inl ⟨_, hv, h⟩)
  case matchNone =>
    intro d rest kvs m hdel hm h _
    exact (mergeEntries_match_error_iff _ _ hdel hm).2 (Or.inr (Or.inl h))
  case matchRec =>
    intro d rest kvs m e hdel hm he hme _ ih hs
    exact (mergeEntries_match_error_iff _ _ hdel hm).2 (Or.inr (Or.inr (Or.inl
      ⟨_, he, hme, ih (matchPatch_wf (List.forall_mem_cons.1 hs).1)⟩)))
  case matchNext =>
    intro d d' rest kvs m hdel hm hpw _ ih hs
    exact (mergeEntries_match_error_iff _ _ hdel hm).2 (Or.inr (Or.inr (Or.inr
      ⟨_, hpw, ih (List.forall_mem_cons.1 hs).2⟩)))

/-- A failing list walk is rejected, given the same for `merge` on the patches of its `$match`
    entries. -/
theorem C01_rejectsEntries_of_error {s : List Val}
    (IH : ∀ kvs, Val.map kvs ∈ s → Val.WF (matchPatch kvs) → ∀ d e,
      merge d (matchPatch kvs) = .error e → Rejects d (matchPatch kvs))
    (hwf : ∀ x ∈ s, Val.WF x) : ∀ d e, mergeEntries d s = .error e → RejectsEntries d s := by
  induction s with
  | nil => intro d e h; rw [mergeEntries_nil] at h; cases h
  | cons v rest ih =>
    intro d e h
    obtain ⟨hwfv, hwfr⟩ := List.forall_mem_cons.1 hwf
    have ihr := ih (fun kvs hm => IH kvs (List.mem_cons_of_mem _ hm)) hwfr
    have skip : (∀ kvs, v = .map kvs → fget kvs "$delete" = none ∧ fget kvs "$match" = none) →
        RejectsEntries d (v :: rest) := fun hp => by
      rw [mergeEntries_skip d rest hp] at h
      exact .skip hp (ihr _ _ h)
    cases v with
    | map kvs =>
      cases hdel : fget kvs "$delete" with
      | some pat =>
        rcases (mergeEntries_delete_error_iff d rest hdel).1 ⟨e, h⟩ with h | h | ⟨e', h⟩
        · exact .deleteExtraKeys hdel h
        · exact .deleteNoMatch hdel h
        · exact .deleteNext hdel (ihr _ _ h)
      | none =>
        cases hm : fget kvs "$match" with
        | none => exact skip fun kvs' h => by cases h; exact ⟨hdel, hm⟩
        | some m =>
          rcases (mergeEntries_match_error_iff d rest hdel hm).1 ⟨e, h⟩ with
            ⟨v2, h1, h2⟩ | h | ⟨x, hx, hxm, e', h⟩ | ⟨d', hpw, e', h⟩
          · exact .matchExtraKeys hdel hm h1 h2
          · exact .matchNone hdel hm h
          · exact .matchRec hdel hm hx hxm (IH kvs List.mem_cons_self (matchPatch_wf hwfv) _ _ h)
          · exact .matchNext hdel hm hpw (ihr _ _ h)
    | _ => exact skip fun kvs' h => by cases h

theorem rejects_map_other {dm : Fields} {s : Val} {e : Err} (h1 : s.isMap = false)
    (h2 : s.isNull = false) (h : merge (.map dm) s = .error e) : Rejects (.map dm) s := by
  rw [merge_map_other _ _ h1 h2] at h
  cases dm with
  | nil => cases h
  | cons p tl => exact .overMap (List.cons_ne_nil _ _) (Val.scalar_or_list_iff.2 ⟨h1, h2⟩)

/-- A failing `merge` is rejected: by induction on the patch. -/
theorem C01_rejects_of_error : ∀ s : Val, Val.WF s → ∀ d e,
    merge d s = .error e → Rejects d s := by
  refine merge_patch_induction fun s ihm ihl hs d e h => ?_
  cases d with
  | null => rw [merge_null] at h; cases h
  | map dm =>
    cases s with
    | map sm =>
      rw [merge_map_map] at h
      obtain ⟨hrep, k, v, hk, hb⟩ := (mergeMapMap_error_iff (wf_map_iff.1 hs).1).1 ⟨e, h⟩
      rcases hb with ⟨hv, hd⟩ | ⟨hne, x, hx, e', he'⟩
      · rw [toStr_eq_delete_iff.1 hv] at hk
        exact .mapDeleteAbsent hrep hk hd
      · exact .mapKey hrep hk (mt toStr_eq_delete_iff.2 hne) hx
          (ihm sm rfl _ (fget_mem hk) (wf_of_fget hs hk) x e' he')
    | null => rw [merge_map_null] at h; cases h
    | _ => exact rejects_map_other rfl rfl h
  | list dl =>
    cases s with
    | list sl =>
      rw [merge_list_list] at h
      obtain ⟨hnot, h'⟩ := (mergeListList_error_iff dl sl).1 ⟨e, h⟩
      rcases h' with ⟨m, hm, h1, h2⟩ | ⟨hno, e', he'⟩
      · exact .listReplaceExtraKeys hnot hm h1 h2
      · exact .listWalk hnot hno
          (C01_rejectsEntries_of_error (ihl sl rfl) (wf_list_iff.1 hs) _ _ he')
    | null => rw [merge_list_null] at h; cases h
    | _ => exact .overList (Val.scalar_or_map_iff.2 ⟨rfl, rfl⟩)
  | _ =>
    obtain rfl := (C01_scalar_reject_iff _ s rfl).1 ⟨e, h⟩
    exact .sameScalar rfl

/-- **the accept / reject boundary**: `merge` returns an error exactly on `Rejects`.
    Only the well-formedness of the child is asked for (`C01_reject_iff` asks for that of the
    parent too and does not use it); it is needed: see `C01_reject_iff_needs_src_wf`. -/
theorem C01_reject_iff_of_src_wf {d s : Val} (hs : Val.WF s) :
    (∃ e, merge d s = .error e) ↔ Rejects d s :=
  ⟨fun ⟨e, h⟩ => C01_rejects_of_error s hs d e h,
   fun h => C01_error_of_rejects.1 h hs⟩

theorem C01_reject_iff {d s : Val} (_hd : Val.WF d) (hs : Val.WF s) :
    (∃ e, merge d s = .error e) ↔ Rejects d s :=
  C01_reject_iff_of_src_wf hs

/-- the same boundary for the list walk on its own -/
theorem C01_reject_entries_iff {d s : List Val} (hs : Val.WF (.list s)) :
    (∃ e, mergeEntries d s = .error e) ↔ RejectsEntries d s :=
  ⟨fun ⟨e, h⟩ => C01_rejectsEntries_of_error (fun _ _ => C01_rejects_of_error _)
      (wf_list_iff.1 hs) d e h,
   fun h => C01_error_of_rejects.2 h (wf_list_iff.1 hs)⟩

example : Val.WF (.map [("a", .int 1), ("b", .list [.int 1])]) ∧
    Val.WF (.map [("b", .list [.map [("$delete", .int 2)]])]) := by decide

/-- a child that is not rejected is accepted: `merge` is total off `Rejects` -/
theorem C01_accept_total {d s : Val} (hd : Val.WF d) (hs : Val.WF s) (h : ¬ Rejects d s) :
    ∃ r, merge d s = .ok r := by
  cases hm : merge d s with
  | ok r => exact ⟨r, rfl⟩
  | error e => exact absurd ((C01_reject_iff hd hs).1 ⟨e, hm⟩) h

/-- … and the result is well-formed -/
theorem C01_accept_total_wf {d s : Val} (hd : Val.WF d) (hs : Val.WF s) (h : ¬ Rejects d s) :
    ∃ r, merge d s = .ok r ∧ Val.WF r := by
  obtain ⟨r, hr⟩ := C01_accept_total hd hs h
  exact ⟨r, hr, C01_wf hd hs hr⟩

/-- non-vacuity of `C01_accept_total`: a concrete accepted pair (`¬ Rejects` is established from
    the successful merge through `C01_reject_iff`) -/
example : Val.WF (.map [("a", .int 1)]) ∧ Val.WF (.map [("a", .int 2)]) ∧
    ¬ Rejects (.map [("a", .int 1)]) (.map [("a", .int 2)]) := by
  refine ⟨by decide, by decide, fun h => ?_⟩
  obtain ⟨e, he⟩ := (C01_reject_iff_of_src_wf (by decide)).2 h
  simp [merge_map_map, mergeMapMap_eq, mergeFields_cons, mergeFields_nil, merge_int, fhasBool,
    fget, fset, Val.toStr, Except.map] at he

/-- `$replace: true` in a map patch: nothing below it is ever rejected -/
theorem C01_replace_true_never_rejects (d s : Fields) (h : fhasBool s "$replace" true = true) :
    ¬ Rejects (.map d) (.map s) := by
  intro hr
  cases hr with
  | sameScalar h' => simp [Val.isScalar] at h'
  | overMap _ h' => simp [Val.isScalar, Val.isList] at h'
  | mapDeleteAbsent h' _ _ => rw [h] at h'; cases h'
  | mapKey h' _ _ _ _ => rw [h] at h'; cases h'

example : fhasBool [("$replace", .bool true), ("a", .int 1)] "$replace" true = true := by decide

/-- a `"$replace"` string in a list patch: nothing in it is ever rejected -/
theorem C01_replace_string_never_rejects (d s : List Val) (h : Val.str "$replace" ∈ s) :
    ¬ Rejects (.list d) (.list s) := by
  intro hr
  cases hr with
  | sameScalar h' => simp [Val.isScalar] at h'
  | overList h' => simp [Val.isScalar, Val.isMap] at h'
  | listReplaceExtraKeys h' _ _ _ => exact h' h
  | listWalk h' _ _ => exact h' h

example : Val.str "$replace" ∈ [Val.map [("$delete", .int 9)], .str "$replace"] := by decide

/-- the hypothesis `WF s` of `C01_reject_iff` cannot be dropped: a patch that repeats a key
    (impossible for a decoded document) deletes it twice -/
theorem C01_reject_iff_needs_src_wf :
    (∃ e, merge (.map [("a", .int 1)]) (.map [("a", .str "$delete"), ("a", .str "$delete")])
      = .error e) ∧
    ¬ Rejects (.map [("a", .int 1)]) (.map [("a", .str "$delete"), ("a", .str "$delete")]) := by
  constructor
  · refine ⟨.uselessOverride, ?_⟩
    simp [merge_map_map, mergeMapMap_eq, mergeFields_cons, fhasBool, fget, fdel, Val.toStr,
      Except.map]
  · intro h
    cases h with
    | overMap _ h' => simp [Val.isScalar, Val.isList] at h'
    | @mapDeleteAbsent _ _ k _ h1 h2 =>
      by_cases hk : "a" = k
      · subst hk; simp [fget] at h2
      · simp [fget, hk] at h1
    | @mapKey _ _ k e v _ h1 h2 h3 _ =>
      by_cases hk : "a" = k
      · subst hk
        simp [fget] at h1
        exact h2 h1.symm
      · simp [fget, hk] at h1

/-! ### non-vacuity: every constructor of `Rejects` / `RejectsEntries` on concrete values,
    together with the error the model returns -/

example : Rejects (.int 3) (.int 3) ∧ merge (.int 3) (.int 3) = .error .uselessOverride :=
  ⟨.sameScalar rfl, merge_int 3 _⟩

example : Rejects (.map [("a", .int 1)]) (.str "x") ∧
    merge (.map [("a", .int 1)]) (.str "x") = .error .invalidType :=
  ⟨.overMap (List.cons_ne_nil _ _) (Or.inl rfl), merge_map_other _ _ rfl rfl⟩

example : Rejects (.map [("a", .int 1)]) (.list []) ∧
    merge (.map [("a", .int 1)]) (.list []) = .error .invalidType :=
  ⟨.overMap (List.cons_ne_nil _ _) (Or.inr rfl), merge_map_other _ _ rfl rfl⟩

/-- even the empty map is rejected over a list -/
example : Rejects (.list [.int 1]) (.map []) ∧
    merge (.list [.int 1]) (.map []) = .error .invalidType :=
  ⟨.overList (Or.inr rfl), merge_list_other _ _ rfl rfl⟩

example : Rejects (.list []) (.bool true) ∧ merge (.list []) (.bool true) = .error .invalidType :=
  ⟨.overList (Or.inl rfl), merge_list_other _ _ rfl rfl⟩

example : Rejects (.map [("a", .int 1)]) (.map [("b", .str "$delete")]) ∧
    merge (.map [("a", .int 1)]) (.map [("b", .str "$delete")]) = .error .uselessOverride :=
  ⟨.mapDeleteAbsent (k := "b") (by decide) (by decide) (by decide),
   by simp [merge_map_map, mergeMapMap_eq, mergeFields_cons, fhasBool, fget, Val.toStr, Except.map]⟩

/-- recursion through a key: the nested value is the same scalar -/
example : Rejects (.map [("a", .map [("x", .int 1)])]) (.map [("a", .map [("x", .int 1)])]) ∧
    merge (.map [("a", .map [("x", .int 1)])]) (.map [("a", .map [("x", .int 1)])])
      = .error .uselessOverride :=
  ⟨.mapKey (k := "a") (e := .map [("x", .int 1)]) (v := .map [("x", .int 1)])
      (by decide) (by decide) (by decide) (by decide)
      (.mapKey (k := "x") (e := .int 1) (v := .int 1) (by decide) (by decide) (by decide)
        (by decide) (.sameScalar rfl)),
   by simp [merge_map_map, mergeMapMap_eq, mergeFields_cons, merge_int, fhasBool, fget, Val.toStr,
        Except.map]⟩

example : Rejects (.list []) (.list [.map [("$replace", .bool true), ("a", .int 1)]]) ∧
    merge (.list []) (.list [.map [("$replace", .bool true), ("a", .int 1)]])
      = .error .extraKeys :=
  ⟨.listReplaceExtraKeys (m := [("$replace", .bool true), ("a", .int 1)])
      (by decide) (by decide) (by decide) (by decide),
   C01_list_extra_keys_replace _ _ [("$replace", .bool true), ("a", .int 1)]
     (by decide) (by decide) (by decide) (by decide)⟩

/-- `listWalk` + `deleteNoMatch` -/
example : Rejects (.list [.int 1]) (.list [.map [("$delete", .int 2)]]) ∧
    merge (.list [.int 1]) (.list [.map [("$delete", .int 2)]]) = .error .uselessOverride :=
  ⟨.listWalk (by decide) (hasListMapBool_eq_false_iff.1 (by decide))
      (.deleteNoMatch (pat := .int 2) (by decide) (by decide)),
   by rw [C01_list_delete, if_neg (by decide)]⟩

/-- `skip`: the rejected entry comes after a plain one (and `"$required"` markers of the parent
    are dropped first) -/
example : Rejects (.list [.str "$required", .int 1])
      (.list [.int 5, .map [("$delete", .int 7)]]) ∧
    (∃ e, merge (.list [.str "$required", .int 1]) (.list [.int 5, .map [("$delete", .int 7)]])
      = .error e) := by
  have h : Rejects (.list [.str "$required", .int 1])
      (.list [.int 5, .map [("$delete", .int 7)]]) :=
    .listWalk (by decide) (hasListMapBool_eq_false_iff.1 (by decide))
      (.skip (fun kvs h => by cases h)
        (.deleteNoMatch (pat := .int 7) (by decide) (by decide)))
  exact ⟨h, (C01_reject_iff_of_src_wf (by decide)).2 h⟩

/-- `deleteExtraKeys` -/
example : Rejects (.list [.int 1]) (.list [.map [("$delete", .int 1), ("x", .int 2)]]) ∧
    merge (.list [.int 1]) (.list [.map [("$delete", .int 1), ("x", .int 2)]])
      = .error .extraKeys :=
  ⟨.listWalk (by decide) (hasListMapBool_eq_false_iff.1 (by decide))
      (.deleteExtraKeys (pat := .int 1) (by decide) (by decide)),
   C01_list_extra_keys_delete _ [] [] _ (.int 1) (by decide) (by decide) (by decide) (by decide)
     (by decide)⟩

/-- `deleteNext`: the first `$delete` succeeds, the second then matches nothing -/
example : RejectsEntries [.int 1, .int 2]
      [.map [("$delete", .int 1)], .map [("$delete", .int 1)]] ∧
    mergeEntries [.int 1, .int 2] [.map [("$delete", .int 1)], .map [("$delete", .int 1)]]
      = .error .uselessOverride :=
  ⟨.deleteNext (pat := .int 1) (by decide)
      (.deleteNoMatch (pat := .int 1) (by decide) (by decide)),
   by rw [mergeEntries_delete _ _ (del := .int 1) (by decide) (by decide),
        if_pos (by decide),
        mergeEntries_delete _ _ (del := .int 1) (by decide) (by decide),
        if_neg (by decide)]⟩

/-- `matchExtraKeys` -/
example : Rejects (.list [.int 1])
      (.list [.map [("$match", .int 1), ("$value", .int 2), ("x", .int 3)]]) ∧
    merge (.list [.int 1]) (.list [.map [("$match", .int 1), ("$value", .int 2), ("x", .int 3)]])
      = .error .extraKeys :=
  ⟨.listWalk (by decide) (hasListMapBool_eq_false_iff.1 (by decide))
      (.matchExtraKeys (m := .int 1) (v2 := .int 2) (by decide) (by decide) (by decide)
        (by decide)),
   C01_list_extra_keys_match _ [] [] _ (.int 1) (.int 2) (by decide) (by decide) (by decide)
     (by decide) (by decide) (by decide) (by decide)⟩

/-- `matchNone` -/
example : Rejects (.list [.int 1]) (.list [.map [("$match", .int 2), ("$value", .int 3)]]) ∧
    merge (.list [.int 1]) (.list [.map [("$match", .int 2), ("$value", .int 3)]])
      = .error .noMatchFound :=
  ⟨.listWalk (by decide) (hasListMapBool_eq_false_iff.1 (by decide))
      (.matchNone (m := .int 2) (by decide) (by decide) (by decide)),
   by rw [C01_list_match_value, if_neg (by decide)]⟩

/-- `matchRec`: the matched element rejects the `$value` (same scalar) -/
example : Rejects (.list [.int 1]) (.list [.map [("$match", .int 1), ("$value", .int 1)]]) ∧
    merge (.list [.int 1]) (.list [.map [("$match", .int 1), ("$value", .int 1)]])
      = .error .uselessOverride :=
  ⟨.listWalk (by decide) (hasListMapBool_eq_false_iff.1 (by decide))
      (.matchRec (m := .int 1) (e := .int 1) (by decide) (by decide) (by decide) (by decide)
        (.sameScalar rfl)),
   by rw [C01_list_match_value, if_pos (by decide)]
      show Except.map Val.list (List.mapM _ [Val.int 1]) = _
      rw [mapM_cons, if_pos (by decide), merge_int]
      rfl⟩

/-- `matchRec` without `$value`: the entry minus `$match` is merged into the matched map -/
example : Rejects (.list [.map [("id", .int 1), ("x", .int 5)]])
      (.list [.map [("$match", .map [("id", .int 1)]), ("x", .int 5)]]) := 
  .listWalk (by decide) (hasListMapBool_eq_false_iff.1 (by decide))
    (.matchRec (m := .map [("id", .int 1)]) (e := .map [("id", .int 1), ("x", .int 5)])
      (by decide) (by decide) (by decide) (by decide)
      (.mapKey (k := "x") (e := .int 5) (v := .int 5) (by decide) (by decide) (by decide)
        (by decide) (.sameScalar rfl)))

/-- `matchNext`: the first `$match` rewrites `1` to `2`, so the second one matches nothing -/
example : RejectsEntries [.int 1]
      [.map [("$match", .int 1), ("$value", .int 2)], .map [("$match", .int 1), ("$value", .int 3)]]
    ∧ (∃ e, mergeEntries [.int 1]
      [.map [("$match", .int 1), ("$value", .int 2)], .map [("$match", .int 1), ("$value", .int 3)]]
      = .error e) := by
  have hstep : Pointwise (matchRel (.int 1) (matchPatch [("$match", .int 1), ("$value", .int 2)]))
      [.int 1] [.int 2] := by
    refine .cons ?_ .nil
    rw [matchRel, if_pos (by decide), merge_int]
    rfl
  have h : RejectsEntries [.int 1]
      [.map [("$match", .int 1), ("$value", .int 2)],
       .map [("$match", .int 1), ("$value", .int 3)]] :=
    .matchNext (m := .int 1) (by decide) (by decide) hstep
      (.matchNone (m := .int 1) (by decide) (by decide) (by decide))
  exact ⟨h, (C01_reject_entries_iff (by decide)).2 h⟩

/-! ## 11. layers that touch different keys commute -/

/-- Success values agree in both orders: for key-sorted maps `d`, `s1`, `s2` where the patches
    share no key and neither is a `$replace: true` patch, `s1` then `s2` yields `r` iff `s2`
    then `s1` yields `r`.  (`$delete` values and nested directives are allowed.) -/
theorem C01_merge_assoc_frame_ok {d s1 s2 : Fields} (hd : Fields.SortedKeys d)
    (hs1 : Fields.SortedKeys s1) (hs2 : Fields.SortedKeys s2)
    (hr1 : fhasBool s1 "$replace" true = false) (hr2 : fhasBool s2 "$replace" true = false)
    (hdisj : ∀ k, fget s1 k = none ∨ fget s2 k = none) (r : Val) :
    (merge (.map d) (.map s1) >>= fun x => merge x (.map s2)) = .ok r ↔
    (merge (.map d) (.map s2) >>= fun x => merge x (.map s1)) = .ok r := by
  -- both orders are one `mergeFields` run over the same entries with distinct keys
  have hn := distinctKeys_append_of_disjoint hs1 hs2 hdisj
  have hp : (s2 ++ s1).Perm (s1 ++ s2) := List.perm_append_comm
  rw [merge_two_layers hr1 hr2, merge_two_layers hr2 hr1, R_map_ok_iff, R_map_ok_iff]
  exact exists_congr fun a => and_congr_left'
    ⟨mergeFields_perm hd hn hp, mergeFields_perm hd (distinctKeys_perm hp hn) hp.symm⟩

/-- … hence the two orders are rejected together -/
theorem C01_merge_assoc_frame_reject {d s1 s2 : Fields} (hd : Fields.SortedKeys d)
    (hs1 : Fields.SortedKeys s1) (hs2 : Fields.SortedKeys s2)
    (hr1 : fhasBool s1 "$replace" true = false) (hr2 : fhasBool s2 "$replace" true = false)
    (hdisj : ∀ k, fget s1 k = none ∨ fget s2 k = none) :
    (∃ e, (merge (.map d) (.map s1) >>= fun x => merge x (.map s2)) = .error e) ↔
    (∃ e, (merge (.map d) (.map s2) >>= fun x => merge x (.map s1)) = .error e) :=
  R_error_iff_of_ok_iff (C01_merge_assoc_frame_ok hd hs1 hs2 hr1 hr2 hdisj)

/-- The full statement (equality of the two `Except` results) is FALSE: when both patches are
    rejected, the *error class* reported is that of whichever patch is applied first. -/
theorem C01_merge_assoc_frame_false :
    ∃ d s1 s2 : Fields, Fields.SortedKeys d ∧ Fields.SortedKeys s1 ∧ Fields.SortedKeys s2 ∧
      fhasBool s1 "$replace" true = false ∧ fhasBool s2 "$replace" true = false ∧
      (∀ k, fget s1 k = none ∨ fget s2 k = none) ∧
      (merge (.map d) (.map s1) >>= fun x => merge x (.map s2)) = .error .uselessOverride ∧
      (merge (.map d) (.map s2) >>= fun x => merge x (.map s1)) = .error .invalidType := by
  refine ⟨[("a", .int 1), ("b", .map [("x", .int 1)])], [("a", .int 1)], [("b", .int 5)],
    by decide, by decide, by decide, by decide,
    by decide, ?_, ?_, ?_⟩
  · intro k
    by_cases hk : "a" = k
    · right; subst hk; decide
    · left; simp [fget, hk]
  · simp [merge_map_map, mergeMapMap_eq, mergeFields_cons, merge_int, fhasBool, fget, Val.toStr,
      Except.map]
    rfl
  · simp [merge_map_map, mergeMapMap_eq, mergeFields_cons, merge_map_other _ (.int 5) rfl rfl,
      fhasBool, fget, Val.toStr, Except.map]
    rfl

/-- The strongest true form of the equality: the two orders give the same `Except` result unless
    both are rejected with different error classes (exactly the class of
    `C01_merge_assoc_frame_false`). -/
theorem C01_merge_assoc_frame_partial {d s1 s2 : Fields} (hd : Fields.SortedKeys d)
    (hs1 : Fields.SortedKeys s1) (hs2 : Fields.SortedKeys s2)
    (hr1 : fhasBool s1 "$replace" true = false) (hr2 : fhasBool s2 "$replace" true = false)
    (hdisj : ∀ k, fget s1 k = none ∨ fget s2 k = none)
    (hcls : ∀ e1 e2, (merge (.map d) (.map s1) >>= fun x => merge x (.map s2)) = .error e1 →
      (merge (.map d) (.map s2) >>= fun x => merge x (.map s1)) = .error e2 → e1 = e2) :
    (merge (.map d) (.map s1) >>= fun x => merge x (.map s2)) =
    (merge (.map d) (.map s2) >>= fun x => merge x (.map s1)) :=
  R_eq_of_ok_iff (C01_merge_assoc_frame_ok hd hs1 hs2 hr1 hr2 hdisj) hcls

/-- non-vacuity: disjoint patches (one deletes, one recurses into a nested map) over a base,
    with the common result -/
example : Fields.SortedKeys [("a", .int 1), ("b", .map [("x", .int 1)])] ∧
    Fields.SortedKeys [("a", .str "$delete")] ∧
    Fields.SortedKeys [("b", .map [("x", .int 2)]), ("c", .int 3)] ∧
    fhasBool [("a", .str "$delete")] "$replace" true = false ∧
    fhasBool [("b", .map [("x", .int 2)]), ("c", .int 3)] "$replace" true = false ∧
    (∀ k, fget [("a", .str "$delete")] k = none ∨
      fget [("b", .map [("x", .int 2)]), ("c", .int 3)] k = none) ∧
    (merge (.map [("a", .int 1), ("b", .map [("x", .int 1)])]) (.map [("a", .str "$delete")])
      >>= fun x => merge x (.map [("b", .map [("x", .int 2)]), ("c", .int 3)]))
      = .ok (.map [("b", .map [("x", .int 2)]), ("c", .int 3)]) := by
  refine ⟨by decide, by decide, by decide, by decide,
    by decide, ?_, ?_⟩
  · intro k
    by_cases hk : "a" = k
    · right; subst hk; decide
    · left; simp [fget, hk]
  · simp [ok_bind, merge_map_map, mergeMapMap_eq, mergeFields_cons, mergeFields_nil, merge_int,
      fhasBool, fget, fset, fdel, Val.toStr, Except.map]

end Bkl
