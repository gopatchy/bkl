/-
  C20 — "bklb / kubectl-bkl rewrite only file arguments; all else passes through".
  `wrapArgs` is `args.mapM wrapStep` (`wrapArgs_eq`, BklProofs/Lemmas/FilesCli.lean): one independent step per argument.
  The sample file system `chainFS` is in Lemmas/FilesChain.lean, its evaluations in Lemmas/FilesCli.lean; `wa_clashFS` and the
  per-argument lemmas are in Lemmas/C20Args.lean.
-/
import BklProofs.Lemmas.C20Args
namespace Bkl

/-- The rewritten argv has the same length, and position by position every result is either
    the argument itself or the evaluation of the file that this argument resolves to. -/
theorem C20_length_order (fs : FS) (cwd : Comps) (env : Vars) (args : List String)
    (ws : List WArg) (h : wrapArgs fs cwd env args = .ok ws) :
    ws.length = args.length ∧
    ∀ (i : Nat) (a : String), args[i]? = some a →
      ∃ w, ws[i]? = some w ∧
        (w = .verbatim a ∨
          ∃ real f outs, fileMatch fs cwd a = .ok (real, f) ∧ w = .evaluated f outs) := by
  refine ⟨wa_wrapArgs_length h, fun i a ha => ?_⟩
  obtain ⟨w, hw, hstep⟩ := wa_wrapArgs_getElem? h ha
  refine ⟨w, hw, ?_⟩
  cases hm : fileMatch fs cwd a with
  | error e =>
    rw [wrapStep_verbatim hm] at hstep
    cases hstep
    exact .inl rfl
  | ok rf =>
    obtain ⟨real, f⟩ := rf
    obtain ⟨st, outs, -, -, rfl⟩ := (wa_wrapStep_ok_iff hm w).1 hstep
    exact .inr ⟨real, f, outs, rfl, rfl⟩

/-- non-vacuity (sample file system `chainFS`, cwd /w): `apply -f a.json` -/
example : wrapArgs chainFS ["w"] [] ["apply", "-f", "a.json"] =
    .ok [.verbatim "apply", .verbatim "-f", .evaluated "json" [.map [("x", .int 1)]]] :=
  chainFS_wrap_example

/-- An argument that `FileMatch` does not resolve is passed through byte for byte. -/
theorem C20_verbatim (fs : FS) (cwd : Comps) (env : Vars) (args : List String)
    (ws : List WArg) (h : wrapArgs fs cwd env args = .ok ws)
    (i : Nat) (a : String) (ha : args[i]? = some a) (e : Err)
    (hm : fileMatch fs cwd a = .error e) : ws[i]? = some (.verbatim a) := by
  obtain ⟨w, hw, hstep⟩ := wa_wrapArgs_getElem? h ha
  rw [wrapStep_verbatim hm] at hstep
  cases hstep
  exact hw

example : wrapArgs chainFS ["w"] [] ["apply", "-f", "a.json"] =
      .ok [.verbatim "apply", .verbatim "-f", .evaluated "json" [.map [("x", .int 1)]]] ∧
    ["apply", "-f", "a.json"][1]? = some "-f" ∧
    fileMatch chainFS ["w"] "-f" = .error .invalidType :=
  ⟨chainFS_wrap_example, rfl, (wa_nomatch_f chainFS)⟩

/-- In particular every argument whose extension is not a supported format (flags, verbs,
    resource names, …) is not resolved … -/
theorem C20_unsupported_ext (fs : FS) (cwd : Comps) (a : String)
    (hx : supportedExts.contains (extOf (baseOf (absPath cwd a))) = false) :
    fileMatch fs cwd a = .error .invalidType :=
  fileMatch_noext hx

example : supportedExts.contains (extOf (baseOf (absPath ["w"] "apply"))) = false :=
  wa_noext_apply

/-- … hence passed through. -/
theorem C20_verbatim_ext (fs : FS) (cwd : Comps) (env : Vars) (args : List String)
    (ws : List WArg) (h : wrapArgs fs cwd env args = .ok ws)
    (i : Nat) (a : String) (ha : args[i]? = some a)
    (hx : supportedExts.contains (extOf (baseOf (absPath cwd a))) = false) :
    ws[i]? = some (.verbatim a) :=
  C20_verbatim fs cwd env args ws h i a ha _ (C20_unsupported_ext fs cwd a hx)

/-- A resolved argument is replaced by the output documents of the layered evaluation of the
    real file, in the format named by the *argument's* extension. -/
theorem C20_file_args (fs : FS) (cwd : Comps) (env : Vars) (args : List String)
    (ws : List WArg) (h : wrapArgs fs cwd env args = .ok ws)
    (i : Nat) (a : String) (ha : args[i]? = some a) (real : Comps) (f : String)
    (hm : fileMatch fs cwd a = .ok (real, f)) :
    f = extOf (baseOf (absPath cwd a)) ∧
    ∃ st outs, mergeFileLayers fs { root := [], cwd := cwd } PState.empty real = .ok st ∧
      outputDocuments (st.docs.map (·.2)) env = .ok outs ∧
      ws[i]? = some (.evaluated f outs) := by
  obtain ⟨w, hw, hstep⟩ := wa_wrapArgs_getElem? h ha
  obtain ⟨st, outs, hst, ho, rfl⟩ := (wa_wrapStep_ok_iff hm w).1 hstep
  exact ⟨(fileMatch_ok hm).1, st, outs, hst, ho, hw⟩

/-- non-vacuity: the argument says `a.json`, the real file is `/w/a.yaml`, the format is `json` -/
example : wrapArgs chainFS ["w"] [] ["apply", "-f", "a.json"] =
      .ok [.verbatim "apply", .verbatim "-f", .evaluated "json" [.map [("x", .int 1)]]] ∧
    ["apply", "-f", "a.json"][2]? = some "a.json" ∧
    fileMatch chainFS ["w"] "a.json" = .ok (["w", "a.yaml"], "json") :=
  ⟨chainFS_wrap_example, rfl, chainFS_match_a_json⟩

/-- If an argument resolves and its evaluation fails, the rewriting fails: the result is never
    `.ok`, so the wrapped program is never reached. -/
theorem C20_fail_no_exec (fs : FS) (cwd : Comps) (env : Vars) (args : List String)
    (a : String) (ha : a ∈ args) (real : Comps) (f : String)
    (hm : fileMatch fs cwd a = .ok (real, f))
    (hfail : (∃ e, mergeFileLayers fs { root := [], cwd := cwd } PState.empty real = .error e) ∨
      (∃ st e, mergeFileLayers fs { root := [], cwd := cwd } PState.empty real = .ok st ∧
        outputDocuments (st.docs.map (·.2)) env = .error e)) :
    ∃ e', wrapArgs fs cwd env args = .error e' := by
  have : ∃ e, wrapStep fs cwd env a = .error e := by
    rcases hfail with ⟨e, he⟩ | ⟨st, e, hst, he⟩
    · exact ⟨e, (wa_wrapStep_error_iff hm e).2 (.inl he)⟩
    · exact ⟨e, (wa_wrapStep_error_iff hm e).2 (.inr ⟨st, hst, he⟩)⟩
  obtain ⟨e, he⟩ := this
  rw [wrapArgs_eq]
  exact mapM_error_of_mem _ _ ha he

/-- non-vacuity: `/w/bad.yaml` does not decode; the later, good `a.yaml` does not rescue it -/
example : "bad.yaml" ∈ ["apply", "-f", "bad.yaml", "a.yaml"] ∧
    fileMatch chainFS ["w"] "bad.yaml" = .ok (["w", "bad.yaml"], "yaml") ∧
    mergeFileLayers chainFS ⟨[], ["w"]⟩ PState.empty ["w", "bad.yaml"] = .error .unmarshal ∧
    wrapArgs chainFS ["w"] [] ["apply", "-f", "bad.yaml", "a.yaml"] = .error .unmarshal :=
  ⟨by decide, chainFS_match_bad, chainFS_layers_bad _, chainFS_wrap_fail⟩

/-- The error reported is that of the first failing argument (all earlier ones succeeded). -/
theorem C20_first_failure (fs : FS) (cwd : Comps) (env : Vars) (args : List String) (e : Err) :
    wrapArgs fs cwd env args = .error e ↔
      ∃ l1 a l2, args = l1 ++ a :: l2 ∧ (∀ x ∈ l1, ∃ w, wrapStep fs cwd env x = .ok w) ∧
        wrapStep fs cwd env a = .error e := by
  rw [wrapArgs_eq]
  exact mapM_eq_error_iff _ _ _

/-- A failing step is always a resolved file whose evaluation failed with that very error. -/
theorem C20_step_error (fs : FS) (cwd : Comps) (env : Vars) (a : String) (e : Err)
    (h : wrapStep fs cwd env a = .error e) :
    ∃ real f, fileMatch fs cwd a = .ok (real, f) ∧
      (mergeFileLayers fs { root := [], cwd := cwd } PState.empty real = .error e ∨
        ∃ st, mergeFileLayers fs { root := [], cwd := cwd } PState.empty real = .ok st ∧
          outputDocuments (st.docs.map (·.2)) env = .error e) := by
  cases hm : fileMatch fs cwd a with
  | error e' => rw [wrapStep_verbatim hm] at h; cases h
  | ok rf => exact ⟨rf.1, rf.2, rfl, (wa_wrapStep_error_iff hm e).1 h⟩

example : wrapStep chainFS ["w"] [] "bad.yaml" = .error .unmarshal :=
  (wa_wrapStep_error_iff chainFS_match_bad _).2 (.inl (chainFS_layers_bad _))

/-- The wrapped program's name: exactly one trailing `b` removed. -/
theorem C20_name :
    wrappedName "kubectlb" = some "kubectl" ∧ wrappedName "recorderb" = some "recorder" ∧
    wrappedName "bkl" = none ∧ wrappedName "abb" = some "ab" ∧
    (∀ cs : List Char, wrappedName (String.ofList (cs ++ ['b'])) = some (String.ofList cs)) ∧
    (∀ s : String, s.toList.getLast? ≠ some 'b' → wrappedName s = none) :=
  ⟨by decide +kernel, by decide +kernel, by decide +kernel, by decide +kernel, wrappedName_snoc,
    wrappedName_none⟩

/-! ## argument-wise rewriting, the named extension, the failure classes
   (helpers: BklProofs/Lemmas/C20Args.lean) -/

/-- The rewriting is argument-wise.  `wrapArgs` distributes over `++`
    (first conjunct), so what replaces an argument depends on that argument alone: every
    position of the result is the (only) result of wrapping that argument by itself, with a
    FRESH parser — no document of an earlier file argument leaks into a later one — and
    conversely the single results assemble to the result of the list.  In particular the same
    argument gets the same replacement wherever it occurs (`[a, a]`), the second component of
    `[a, b]` is the only component of `[b]`, and whether/how a later argument fails does not
    depend on the earlier ones. -/
theorem C20_args_independent (fs : FS) (cwd : Comps) (env : Vars) :
    (∀ as bs : List String, wrapArgs fs cwd env (as ++ bs) =
      (do let x ← wrapArgs fs cwd env as; let y ← wrapArgs fs cwd env bs; pure (x ++ y))) ∧
    (∀ (args : List String) (ws : List WArg), wrapArgs fs cwd env args = .ok ws →
      ∀ (i : Nat) (a : String), args[i]? = some a →
        ∃ w, ws[i]? = some w ∧ wrapArgs fs cwd env [a] = .ok [w]) ∧
    (∀ (args : List String) (ws : List WArg), args.length = ws.length →
      (∀ (i : Nat) (a : String) (w : WArg), args[i]? = some a → ws[i]? = some w →
        wrapArgs fs cwd env [a] = .ok [w]) → wrapArgs fs cwd env args = .ok ws) ∧
    (∀ (args : List String) (ws : List WArg), wrapArgs fs cwd env args = .ok ws →
      ∀ (i j : Nat) (a : String), args[i]? = some a → args[j]? = some a → ws[i]? = ws[j]?) ∧
    (∀ (a : String) (ws : List WArg), wrapArgs fs cwd env [a, a] = .ok ws →
      ∃ w, ws = [w, w] ∧ wrapArgs fs cwd env [a] = .ok [w]) ∧
    (∀ (a b : String) (w₁ w₂ : WArg), wrapArgs fs cwd env [a, b] = .ok [w₁, w₂] →
      wrapArgs fs cwd env [a] = .ok [w₁] ∧ wrapArgs fs cwd env [b] = .ok [w₂]) ∧
    (∀ (a b : String) (w : WArg) (e : Err), wrapArgs fs cwd env [a] = .ok [w] →
      (wrapArgs fs cwd env [a, b] = .error e ↔ wrapArgs fs cwd env [b] = .error e)) := by
  have hpt := wa_wrapArgs_pointwise fs cwd env
  have hsame : ∀ (args : List String) (ws : List WArg), wrapArgs fs cwd env args = .ok ws →
      ∀ (i j : Nat) (a : String), args[i]? = some a → args[j]? = some a → ws[i]? = ws[j]? := by
    intro args ws h i j a hi hj
    obtain ⟨w, hw, h1⟩ := hpt args ws h i a hi
    obtain ⟨w', hw', h2⟩ := hpt args ws h j a hj
    rw [h1] at h2
    cases h2
    rw [hw, hw']
  refine ⟨wa_wrapArgs_append fs cwd env, hpt, wa_wrapArgs_of_singles fs cwd env, hsame, ?_, ?_, ?_⟩
  · intro a ws h
    obtain ⟨w₁, w₂, rfl, h₁, h₂⟩ := wa_wrapArgs_pair h
    cases h₁.symm.trans h₂
    exact ⟨w₁, rfl, (wa_wrapArgs_single_ok fs cwd env a w₁).2 h₁⟩
  · intro a b w₁ w₂ h
    obtain ⟨_, _, hws, h₁, h₂⟩ := wa_wrapArgs_pair h
    cases hws
    exact ⟨(wa_wrapArgs_single_ok fs cwd env a w₁).2 h₁, (wa_wrapArgs_single_ok fs cwd env b w₂).2 h₂⟩
  · intro a b w e h
    have := wa_wrapArgs_append fs cwd env [a] [b]
    rw [List.singleton_append] at this
    rw [this, h]
    cases wrapArgs fs cwd env [b] with
    | error e' => exact Iff.rfl
    | ok y => exact ⟨fun h' => (nomatch h'), fun h' => (nomatch h')⟩

/-- non-vacuity: `a.json a.json` — the same replacement twice; `a.json a.yaml` — the second
    component is what `a.yaml` alone gives (each evaluated from scratch: one document, not two) -/
example : wrapArgs chainFS ["w"] [] ["a.json", "a.json"] =
      .ok [.evaluated "json" [.map [("x", .int 1)]], .evaluated "json" [.map [("x", .int 1)]]] ∧
    wrapArgs chainFS ["w"] [] ["a.json", "a.yaml"] =
      .ok [.evaluated "json" [.map [("x", .int 1)]], .evaluated "yaml" [.map [("x", .int 1)]]] ∧
    wrapArgs chainFS ["w"] [] ["a.yaml"] = .ok [.evaluated "yaml" [.map [("x", .int 1)]]] := by
  have hj : wrapStep chainFS ["w"] [] "a.json" = _ := wa_chainFS_step_a_ext "json" (by decide)
  have hy : wrapStep chainFS ["w"] [] "a.yaml" = _ := wa_chainFS_step_a_ext "yaml" (by decide)
  refine ⟨?_, ?_, ?_⟩
  · rw [wrapArgs_eq, mapM_cons, mapM_cons, mapM_nil, hj]
  · rw [wrapArgs_eq, mapM_cons, mapM_cons, mapM_nil, hj, hy]
  · rw [wrapArgs_eq, mapM_cons, mapM_nil, hy]

/-- For an argument `x.f` (`f` non-empty, without `.` and
    `/`: e.g. every supported extension) that `FileMatch` resolves, to a real file
    `…/stem.e` with ANY supported extension `e`, the format handed on is exactly the NAMED
    extension `f` (first conjunct), and that is the format of the `evaluated` replacement in the
    rewritten argv (second).  Two arguments that resolve to the SAME real file get each its own
    format — nothing is remembered per real path — and the same documents (third). -/
theorem C20_format_is_named_extension (fs : FS) (cwd : Comps) (env : Vars) :
    (∀ (x f : String), '.' ∉ f.toList → '/' ∉ f.toList → f ≠ "" →
      ∀ (real : Comps) (g : String), fileMatch fs cwd (x ++ "." ++ f) = .ok (real, g) →
        g = f ∧ f ∈ supportedExts ∧
        ∃ e ∈ supportedExts, ∃ (d : Comps) (t : String),
          absPath cwd (x ++ "." ++ f) = d ++ [t ++ "." ++ f] ∧
          real = d ++ [stemOf (t ++ "." ++ f) ++ "." ++ e] ∧ fs.exists real = true) ∧
    (∀ (x f : String), '.' ∉ f.toList → '/' ∉ f.toList → f ≠ "" →
      ∀ (real : Comps) (g : String), fileMatch fs cwd (x ++ "." ++ f) = .ok (real, g) →
      ∀ (args : List String) (ws : List WArg), wrapArgs fs cwd env args = .ok ws →
      ∀ (i : Nat), args[i]? = some (x ++ "." ++ f) →
        ∃ outs, ws[i]? = some (.evaluated f outs)) ∧
    (∀ (a₁ a₂ : String) (real : Comps) (f₁ f₂ : String),
      fileMatch fs cwd a₁ = .ok (real, f₁) → fileMatch fs cwd a₂ = .ok (real, f₂) →
      ∀ (ws : List WArg), wrapArgs fs cwd env [a₁, a₂] = .ok ws →
        ∃ outs, ws = [.evaluated f₁ outs, .evaluated f₂ outs]) := by
  have hfmt : ∀ (x f : String), '.' ∉ f.toList → '/' ∉ f.toList → f ≠ "" →
      ∀ (real : Comps) (g : String), fileMatch fs cwd (x ++ "." ++ f) = .ok (real, g) → g = f := by
    intro x f h1 h2 h3 real g hm
    rw [(fileMatch_ok hm).1, wa_extOf_arg cwd x f h1 h2 h3]
  refine ⟨?_, ?_, ?_⟩
  · intro x f h1 h2 h3 real g hm
    have hg := hfmt x f h1 h2 h3 real g hm
    obtain ⟨-, hsup, hfind⟩ := fileMatch_ok hm
    obtain ⟨d, t, habs⟩ := wa_absPath_dot cwd x f h1 h2 h3
    obtain ⟨e, he, hreal, hex⟩ := findFile_some fs _ _ real hfind
    rw [habs, baseOf_snoc, dirOf_snoc] at hreal
    exact ⟨hg, hg ▸ List.contains_iff_mem.1 hsup, e, he, d, t, habs, hreal, hex⟩
  · intro x f h1 h2 h3 real g hm args ws h i ha
    obtain ⟨-, st, outs, -, -, hw⟩ := C20_file_args fs cwd env args ws h i _ ha real g hm
    exact ⟨outs, by rw [hw, hfmt x f h1 h2 h3 real g hm]⟩
  · intro a₁ a₂ real f₁ f₂ hm₁ hm₂ ws h
    obtain ⟨w₁, w₂, rfl, h₁, h₂⟩ := wa_wrapArgs_pair h
    obtain ⟨st, outs, hst, ho, rfl⟩ := (wa_wrapStep_ok_iff hm₁ w₁).1 h₁
    obtain ⟨st', outs', hst', ho', rfl⟩ := (wa_wrapStep_ok_iff hm₂ w₂).1 h₂
    cases hst.symm.trans hst'
    cases ho.symm.trans ho'
    exact ⟨outs, rfl⟩

/-- non-vacuity: `a.json`, `a.toml` and `a.yaml` all resolve to the real file `/w/a.yaml`; each
    is evaluated in ITS OWN named format -/
example : fileMatch chainFS ["w"] ("a" ++ "." ++ "json") = .ok (["w", "a.yaml"], "json") ∧
    fileMatch chainFS ["w"] ("a" ++ "." ++ "toml") = .ok (["w", "a.yaml"], "toml") ∧
    '.' ∉ "json".toList ∧ '/' ∉ "json".toList ∧ "json" ≠ "" ∧
    wrapArgs chainFS ["w"] [] ["a.json", "a.toml", "a.yaml"] =
      .ok [.evaluated "json" [.map [("x", .int 1)]], .evaluated "toml" [.map [("x", .int 1)]],
        .evaluated "yaml" [.map [("x", .int 1)]]] := by
  have hj : wrapStep chainFS ["w"] [] "a.json" = _ := wa_chainFS_step_a_ext "json" (by decide)
  have ht : wrapStep chainFS ["w"] [] "a.toml" = _ := wa_chainFS_step_a_ext "toml" (by decide)
  have hy : wrapStep chainFS ["w"] [] "a.yaml" = _ := wa_chainFS_step_a_ext "yaml" (by decide)
  refine ⟨chainFS_match_a_ext _ (by decide), chainFS_match_a_ext _ (by decide),
    by decide, by decide, by decide, ?_⟩
  rw [wrapArgs_eq, mapM_cons, mapM_cons, mapM_cons, mapM_nil, hj, ht, hy]

/-- Once `FileMatch` has resolved the argument ITSELF, EVERY error of
    its evaluation — of layering (`mergeFileLayers`: undecodable file, missing parent layer
    `missingFile`, bad merge `invalidType`, cycle, …) or of the output phase — aborts the
    rewriting with that very error (the arguments before it having succeeded): no class of
    evaluation error is mistaken for "not a bkl file". -/
theorem C20_failure_classes (fs : FS) (cwd : Comps) (env : Vars) (pre post : List String)
    (a : String) (wpre : List WArg) (real : Comps) (f : String) (e : Err)
    (hpre : wrapArgs fs cwd env pre = .ok wpre)
    (hm : fileMatch fs cwd a = .ok (real, f))
    (hfail : mergeFileLayers fs { root := [], cwd := cwd } PState.empty real = .error e ∨
      ∃ st, mergeFileLayers fs { root := [], cwd := cwd } PState.empty real = .ok st ∧
        outputDocuments (st.docs.map (·.2)) env = .error e) :
    wrapArgs fs cwd env (pre ++ a :: post) = .error e :=
  wa_wrapArgs_error_at fs cwd env pre post a wpre e hpre ((wa_wrapStep_error_iff hm e).2 hfail)

/-- … and ONLY a failure of `FileMatch` on the argument itself makes it verbatim: a verbatim
    position of the result is the argument, unchanged, and `FileMatch` rejected it. -/
theorem C20_verbatim_only_if_nomatch (fs : FS) (cwd : Comps) (env : Vars) (args : List String)
    (ws : List WArg) (h : wrapArgs fs cwd env args = .ok ws) (i : Nat) (a s : String)
    (ha : args[i]? = some a) (hw : ws[i]? = some (.verbatim s)) :
    s = a ∧ ∃ e, fileMatch fs cwd a = .error e := by
  obtain ⟨w, hw', hstep⟩ := wa_wrapArgs_getElem? h ha
  rw [hw] at hw'
  cases hw'
  exact (wa_wrapStep_verbatim_iff fs cwd env a s).1 hstep

/-- The two error classes `FileMatch` itself uses, arising
    from the EVALUATION of a resolved argument, abort (for every environment):
    * `/w/orphan.x.yaml` exists (the argument resolves) but its parent layer `orphan` does not:
      `missingFile`, `wrapArgs` is that error — not verbatim;
    * `/w/a.b.yaml` (`x: 5`) on top of `/w/a.yaml` (`x: {y: 1}`): `invalidType`, an error;
    whereas the same two classes coming from `FileMatch` on the argument (`nothere.yaml`: no
    such layer, `missingFile`; `apply`: no supported extension, `invalidType`) mean verbatim. -/
theorem C20_failure_classes_examples (env : Vars) :
    (fileMatch chainFS ["w"] "orphan.x.yaml" = .ok (["w", "orphan.x.yaml"], "yaml") ∧
      mergeFileLayers chainFS ⟨[], ["w"]⟩ PState.empty ["w", "orphan.x.yaml"] = .error .missingFile ∧
      wrapArgs chainFS ["w"] env ["apply", "-f", "orphan.x.yaml", "a.yaml"] = .error .missingFile) ∧
    (fileMatch wa_clashFS ["w"] "a.b.yaml" = .ok (["w", "a.b.yaml"], "yaml") ∧
      mergeFileLayers wa_clashFS ⟨[], ["w"]⟩ PState.empty ["w", "a.b.yaml"] = .error .invalidType ∧
      wrapArgs wa_clashFS ["w"] env ["apply", "-f", "a.b.yaml"] = .error .invalidType) ∧
    (fileMatch chainFS ["w"] "nothere.yaml" = .error .missingFile ∧
      fileMatch chainFS ["w"] "apply" = .error .invalidType ∧
      wrapArgs chainFS ["w"] env ["apply", "nothere.yaml"] =
        .ok [.verbatim "apply", .verbatim "nothere.yaml"]) := by
  refine ⟨⟨wa_chainFS_match_orphan, wa_chainFS_layers_orphan _, ?_⟩,
    ⟨wa_clashFS_match, wa_clashFS_layers, ?_⟩,
    ⟨wa_chainFS_nomatch_nothere, (wa_nomatch_apply chainFS), ?_⟩⟩
  · exact C20_failure_classes chainFS ["w"] env ["apply", "-f"] ["a.yaml"] "orphan.x.yaml" _ _ _ _
      (wa_pre _ env) wa_chainFS_match_orphan (.inl (wa_chainFS_layers_orphan _))
  · exact C20_failure_classes wa_clashFS ["w"] env ["apply", "-f"] [] "a.b.yaml" _ _ _ _
      (wa_pre _ env) wa_clashFS_match (.inl wa_clashFS_layers)
  · rw [wrapArgs_eq, mapM_cons, mapM_cons, mapM_nil,
      wrapStep_verbatim (wa_nomatch_apply chainFS), wrapStep_verbatim wa_chainFS_nomatch_nothere]

end Bkl
