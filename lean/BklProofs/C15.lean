/-
  C15 — "bkld round trip: base + bkld(base, target) evaluates to target".

  `diff target base` (Bkl/Tools.lean, mirrors cmd/bkld/diff.go) computes a patch layer;
  layering it over `base` with bkl's own `merge` gives back `target`.

  Input domain (BklProofs/Lemmas/Tools.lean):
    `plainVal v` — `v` is well-formed (`Val.wfB`), contains no `.null`, and is `$`-free: no map
                   key and no string leaf starts with `$` (`dollarFree`, stated on `String.toList`).
  Only the *target* has to be plain; the base only has to be well-formed (so the base may
  contain `$required` markers — this is what C16_lossless uses).
-/
import BklProofs.Lemmas.ToolsDiff
import BklProofs.Lemmas.ToolsCliProofs
namespace Bkl

/-! ### the shared witnesses `C15_target`, `C15_base`, `C15_base2` are in Lemmas/ToolsDiff.lean -/

/-- what bkld emits for the witnesses (every branch of `diff` for maps is exercised) -/
example : diffDoc C15_target C15_base = some (.map
    [("$match", .map []), ("a", .int 1), ("gone", .str "$delete"),
     ("l", .list [.str "x", .map [("n", .int 1)], .map [("$replace", .bool true)]]),
     ("m", .map [("p", .str "q"), ("s", .str "$delete")]), ("new", .bool false)]) := by decide +kernel

example : diffDoc C15_target C15_base2 = some (.map
    [("$match", .map []), ("$replace", .bool true), ("a", .int 1),
     ("l", .list [.str "x", .map [("n", .int 1)]]),
     ("m", .map [("p", .str "q"), ("r", .flt "1.5")]), ("new", .bool false)]) := by decide +kernel

/-! ## `diff` keeps its promise at every position -/

/-- For a plain `target` and a well-formed `base` (in particular: a plain base):
    * `same`          — the two are equal;
    * `patch p`       — bkl accepts `p` over `base` and the result is `target`;
    * `replaceParent` — `base` is a non-empty map or a list and `target` is of another kind:
                        no patch at this position can work, the enclosing map is replaced. -/
theorem C15_roundtrip_core (target base : Val) (ht : plainVal target = true)
    (hb : Val.WF base) :
    match diff target base with
    | .same => target = base
    | .patch p => merge base p = .ok target
    | .replaceParent =>
      replaceable base = false ∧ (target.isMap && base.isMap) = false ∧
        (target.isList && base.isList) = false := by
  have h := diff_spec target base ht hb
  cases hd : diff target base <;> (rw [hd] at h; exact h)

example : plainVal C15_target = true ∧ Val.WF C15_base :=
  ⟨C15_witness_plain.1, plainVal_wf C15_witness_plain.2.1⟩

/-- `replaceParent` is returned exactly when the base cannot be overridden by a value of
    another kind and the target is of another kind (no hypotheses needed). -/
theorem C15_replaceParent_iff (target base : Val) :
    diff target base = .replaceParent ↔
      (replaceable base = false ∧ (target.isMap && base.isMap) = false ∧
        (target.isList && base.isList) = false) :=
  diff_replaceParent_iff target base

example : replaceable (.list [.int 1]) = false ∧
    ((Val.map [("p", .str "q")]).isMap && (Val.list [.int 1]).isMap) = false ∧
    ((Val.map [("p", .str "q")]).isList && (Val.list [.int 1]).isList) = false := by decide

/-! ## whole documents -/

example : plainVal (.map [("a", .int 1)]) = true ∧ Val.WF (.map [("a", .str "$required")]) ∧
    fget [("a", Val.str "$required")] "$match" = none := by decide

/-- the hypothesis on `$match` cannot be dropped: if only the base has a `$match` key, the
    `"$match": "$delete"` entry of the patch is overwritten by the document selector, so the
    body that the parser merges is empty and the base keeps its `$match` key -/
example : Val.WF (.map [("$match", .int 1), ("a", .int 1)]) ∧
    diffDoc (.map [("a", .int 1)]) (.map [("$match", .int 1), ("a", .int 1)])
      = some (.map [("$match", .map [])]) := by decide +kernel

/-- the round trip for plain map-rooted target and base -/
theorem C15_roundtrip (t b : Fields) (ht : plainVal (.map t) = true)
    (hb : plainVal (.map b) = true) :
    match diffDoc (.map t) (.map b) with
    | none => Val.map t = Val.map b
    | some layer => ∃ m, layer = .map m ∧ fget m "$match" = some (.map []) ∧
        merge (.map b) (.map (fdel m "$match")) = .ok (.map t) :=
  C15_roundtrip_wf_base t b ht (plainVal_wf hb) (plainVal_fget_dollar hb (by decide))

example : (∃ t, C15_target = .map t) ∧ (∃ b, C15_base = .map b) ∧
    plainVal C15_target = true ∧ plainVal C15_base = true :=
  ⟨⟨_, rfl⟩, ⟨_, rfl⟩, C15_witness_plain.1, C15_witness_plain.2.1⟩

/-- The same through the parser (`mergeDocument`, Bkl/Parser.lean): the parser holds the single
    document `B = base`; the emitted layer, read as document `L` with parent `B`, selects `B`
    by its `$match: {}` and is merged into it.  Afterwards the only document is `target`. -/
theorem C15_roundtrip_parser (t b : Fields) (layer : Val) (ht : plainVal (.map t) = true)
    (hb : plainVal (.map b) = true) (hl : diffDoc (.map t) (.map b) = some layer) :
    ∃ st', mergeDocument { docs := [("B", .map b)], known := [("B", [])] }
        { id := "L", parents := ["B"], data := layer } = .ok st' ∧
      st'.docs = [("B", .map t)] := by
  have h := C15_roundtrip t b ht hb
  rw [hl] at h
  obtain ⟨m, rfl, hm, hmerge⟩ := h
  exact ⟨_, mergeDocument_single b m _ hm (plainVal_not_placeholder hb) hmerge, rfl⟩

example : plainVal C15_target = true ∧ plainVal C15_base = true ∧
    (diffDoc C15_target C15_base).isSome = true :=
  ⟨C15_witness_plain.1, C15_witness_plain.2.1, by decide +kernel⟩

/-- for map-rooted documents bkld never fails with `errReplaceParent` -/
theorem C15_doc_never_replaceParent (t b : Fields) :
    diff (.map t) (.map b) ≠ .replaceParent := by
  intro h
  rcases diff_map_map_cases t b with h' | ⟨m, h'⟩ <;> (rw [h'] at h; cases h)

/-! ## equal data: the emitted layer is empty -/

/-- when base and target are the same data nothing is emitted -/
theorem C15_empty_when_equal (v : Val) (hv : Val.WF v) :
    diff v v = .same ∧ diffDoc v v = none :=
  ⟨diff_self v hv, diffDoc_same (diff_self v hv)⟩

example : Val.WF C15_target := plainVal_wf C15_witness_plain.1

/-- well-formedness cannot be dropped: with a duplicated key the loop compares the second
    entry against the first one -/
example : diffDoc (.map [("k", .int 1), ("k", .int 2)]) (.map [("k", .int 1), ("k", .int 2)])
    = some (.map [("$match", .map []), ("k", .int 2)]) := by decide

/-- for a plain target `diff` answers `same` exactly when the data are equal -/
theorem C15_same_iff (t b : Val) (ht : plainVal t = true) (hb : Val.WF b) :
    diff t b = .same ↔ t = b := by
  constructor
  · intro h
    have hspec := diff_spec t b ht hb
    rw [h] at hspec
    exact hspec
  · rintro rfl
    exact diff_self t hb

example : plainVal C15_target = true ∧ Val.WF C15_base :=
  ⟨C15_witness_plain.1, plainVal_wf C15_witness_plain.2.1⟩

/-! ## the `$delete` entries of a list patch find their entry -/

/-- A `{$delete: e}` entry for an entry `e` of a plain base list is never rejected as a useless
    override: `e` matches itself (`matchV_refl_plain`), and exactly the entries matching `e`
    are removed. -/
theorem C15_delete_entry_accepted (src : List Val) (e : Val) (hs : plainVal (.list src) = true)
    (he : e ∈ src) :
    merge (.list src) (.list [.map [("$delete", e)]]) =
      .ok (.list (src.filter (fun v => !matchV v e))) := by
  have hfil : src.filter (fun x => !(x == Val.str "$required")) = src := by
    rw [List.filter_eq_self]
    intro x hx
    have := plainVal_ne_str_dollar (plainVal_list_iff.1 hs x hx)
      (show dollarFree "$required" = false by decide)
    simpa using this
  have hany : src.any (fun v => matchV v e) = true := by
    rw [List.any_eq_true]
    exact ⟨e, he, matchV_refl_plain e (plainVal_list_iff.1 hs e he)⟩
  rw [C01_list_delete, hfil, hany]
  rfl

example : plainVal (.list [.map [("n", .int 1)], .str "x"]) = true ∧
    Val.map [("n", .int 1)] ∈ [Val.map [("n", .int 1)], .str "x"] := by decide

/-! ## the tool main: cmd/bkld/main.go (`Bkl.bkldRun`, Bkl/ToolsCli.lean)

  Helper lemmas are in BklProofs/Lemmas/ToolsCliProofs.lean (prefix `tc_`); the sample file
  system `tc_toolFS` holds /w/a.yaml (`tc_base`), /w/t.yaml (`tc_target`), /w/c.json, /w/two.yaml
  (two documents), /w/none.yaml (no document) and /w/r.yaml. -/

/-- The output format of bkld and bkli: the `-f` value if it is given and non-empty; else the
    extension of `-o` if `-o` is given and has a non-empty extension; else the fallback (the
    format FileMatch reported for the first input). -/
theorem C15_tool_format_choice (opts : ToolOpts) (fb : String) :
    (∀ f, opts.format = some f → f ≠ "" → toolFormat opts fb = f) ∧
    (∀ o, (opts.format = none ∨ opts.format = some "") → opts.outPath = some o →
        extOfPath o ≠ "" → toolFormat opts fb = extOfPath o) ∧
    ((opts.format = none ∨ opts.format = some "") →
        (opts.outPath = none ∨ ∃ o, opts.outPath = some o ∧ extOfPath o = "") →
        toolFormat opts fb = fb) :=
  ⟨fun f hf hne => tc_toolFormat_f opts fb f hf hne,
   fun o hf ho hne => tc_toolFormat_o opts fb o hf ho hne,
   fun hf ho => tc_toolFormat_fb opts fb hf ho⟩

/-- `-o out.toml` → toml -/
example : toolFormat { outPath := some "out.toml" } "yaml" = "toml" := by
  rw [(C15_tool_format_choice _ _).2.1 "out.toml" (.inl rfl) rfl (by rw [tc_ext_out_toml]; decide),
    tc_ext_out_toml]

/-- `-o out` → the fallback -/
example : toolFormat { outPath := some "out" } "yaml" = "yaml" :=
  (C15_tool_format_choice _ _).2.2 (.inl rfl) (.inr ⟨"out", rfl, tc_ext_out⟩)

/-- a dot in a directory name is not an extension: `-o d.x/out` → the fallback -/
example : toolFormat { outPath := some "d.x/out" } "yaml" = "yaml" :=
  (C15_tool_format_choice _ _).2.2 (.inl rfl) (.inr ⟨"d.x/out", rfl, tc_ext_dir_out⟩)

/-- `-f yaml -o out.json` → yaml -/
example : toolFormat { format := some "yaml", outPath := some "out.json" } "toml" = "yaml" :=
  (C15_tool_format_choice _ _).1 "yaml" rfl (by decide)

/-- an empty `-f` counts as not given: `-f "" -o out.json` → json -/
example : toolFormat { format := some "", outPath := some "out.json" } "toml" = "json" := by
  rw [(C15_tool_format_choice _ _).2.1 "out.json" (.inr rfl) rfl (by rw [tc_ext_out_json]; decide),
    tc_ext_out_json]

/-- neither `-f` nor `-o` → the fallback -/
example : toolFormat {} "yaml" = "yaml" :=
  (C15_tool_format_choice _ _).2.2 (.inl rfl) (.inl rfl)

/-- `getOnlyDocument` (FileMatch + a fresh parser + MergeFileLayers + "exactly 1 source
    document") succeeds exactly when the argument resolves, the layers of the file merge, and the
    merged parser state holds exactly one document; it returns that document and the format
    FileMatch reported. -/
theorem C15_getOnlyDocument_iff (fs : FS) (cwd : Comps) (path : String) (d : Val) (f : String) :
    getOnlyDocument fs cwd path = .ok (d, f) ↔
      ∃ real st id, fileMatch fs cwd path = .ok (real, f) ∧
        mergeFileLayers fs { root := [], cwd := cwd } PState.empty real = .ok st ∧
        st.docs = [(id, d)] :=
  tc_getOnlyDocument_ok_iff fs cwd path d f

example : getOnlyDocument tc_toolFS ["w"] "a.yaml" = .ok (tc_base, "yaml") := tc_toolFS_get_a

/-- the argument `a.toml` resolves to /w/a.yaml; the reported format is the argument's -/
example : getOnlyDocument tc_toolFS ["w"] "a.toml" = .ok (tc_base, "toml") := tc_toolFS_get_a_toml

/-- inheritance applies to tool inputs too: /w/a.b.json of `chainFS` (BklProofs/Lemmas/FilesChain.lean)
    is layered over /w/a.yaml before the tool sees it -/
example : getOnlyDocument chainFS ["w"] "a.b.json" =
    .ok (.map [("x", .int 1), ("y", .int 2)], "json") := tc_chainFS_get_ab

/-- bkld succeeds exactly when it has two inputs, each of them yields exactly one merged document,
    both documents evaluate (`Document.Process`) to exactly one document, and the chosen format is
    supported; the result is `diffDoc` of the two *evaluated* documents (target first). -/
theorem C15_bkld_result_iff (fs : FS) (cwd : Comps) (env : Vars) (opts : ToolOpts)
    (r : ToolResult) :
    bkldRun fs cwd env opts = .ok r ↔
      ∃ b t base target f ft base' target',
        opts.inputs = [b, t] ∧
        getOnlyDocument fs cwd b = .ok (base, f) ∧ getOnlyDocument fs cwd t = .ok (target, ft) ∧
        processOnly env base = .ok base' ∧ processOnly env target = .ok target' ∧
        toolFormat opts f ∈ supportedExts ∧
        r = { format := toolFormat opts f, doc := diffDoc target' base' } := by
  constructor
  · intro h
    by_cases hi : ∃ b t, opts.inputs = [b, t]
    · obtain ⟨b, t, hi⟩ := hi
      rw [tc_bkldRun_two fs cwd env opts b t hi] at h
      simp only [R_bind_eq_ok, Prod.exists] at h
      obtain ⟨base, f, hb, base', hpb, target, ft, ht, target', hpt, fmt, hc, h⟩ := h
      obtain ⟨rfl, hmem⟩ := tc_checkFormat_ok_iff.1 hc
      cases h
      exact ⟨b, t, base, target, _, ft, base', target', hi, hb, ht, hpb, hpt, hmem, rfl⟩
    · rw [tc_bkldRun_not_two fs cwd env opts (fun b t h => hi ⟨b, t, h⟩)] at h
      cases h
  · rintro ⟨b, t, base, target, f, ft, base', target', hi, hb, ht, hpb, hpt, hmem, rfl⟩
    simp only [tc_bkldRun_two fs cwd env opts b t hi, hb, hpb, ht, hpt, tc_checkFormat_of_mem hmem,
      ok_bind]
    rfl

/-- the forward direction, field by field -/
theorem C15_bkld_result (fs : FS) (cwd : Comps) (env : Vars) (opts : ToolOpts) (r : ToolResult)
    (h : bkldRun fs cwd env opts = .ok r) :
    ∃ b t base target f ft base' target',
      opts.inputs = [b, t] ∧
      getOnlyDocument fs cwd b = .ok (base, f) ∧ getOnlyDocument fs cwd t = .ok (target, ft) ∧
      processOnly env base = .ok base' ∧ processOnly env target = .ok target' ∧
      r.doc = diffDoc target' base' ∧
      r.format = toolFormat opts f ∧ r.format ∈ supportedExts := by
  obtain ⟨b, t, base, target, f, ft, base', target', hi, hb, ht, hpb, hpt, hmem, rfl⟩ :=
    (C15_bkld_result_iff fs cwd env opts r).1 h
  exact ⟨b, t, base, target, f, ft, base', target', hi, hb, ht, hpb, hpt, rfl, rfl, hmem⟩

/-- `bkld a.yaml t.yaml` on the sample file system -/
theorem C15_bkld_sample :
    bkldRun tc_toolFS ["w"] [] { inputs := ["a.yaml", "t.yaml"] } =
      .ok { format := "yaml",
            doc := some (.map [("$match", .map []), ("a", .int 2), ("b", .str "$delete"),
                               ("c", .bool true)]) } := by
  rw [C15_bkld_result_iff]
  exact ⟨"a.yaml", "t.yaml", tc_base, tc_target, "yaml", "yaml", tc_base, tc_target, rfl,
    tc_toolFS_get_a, tc_toolFS_get_t, tc_processOnly_base, tc_processOnly_target, by decide +kernel,
    congrArg (ToolResult.mk "yaml") (by decide +kernel)⟩

example : ∃ r, bkldRun tc_toolFS ["w"] [] { inputs := ["a.yaml", "t.yaml"] } = .ok r :=
  ⟨_, C15_bkld_sample⟩

/-- The round trip for the layer that the modelled CLI emits.  Let bkld succeed on inputs whose
    evaluated documents are the maps `bf` (base: well-formed, no `$match` key) and `tf` (target:
    plain).  Then
    * either nothing is emitted and the two evaluated documents are equal, or the emitted layer
      is a map carrying `$match: {}` whose body (what the parser merges) is accepted by `merge`
      over the evaluated base and yields the evaluated target (`C15_roundtrip_wf_base`);
    * nothing is emitted iff the two evaluated documents are the same (`C15_same_iff`). -/
theorem C15_bkld_cli_roundtrip (fs : FS) (cwd : Comps) (env : Vars) (opts : ToolOpts)
    (r : ToolResult) (b t : String) (base target : Val) (f ft : String) (bf tf : Fields)
    (h : bkldRun fs cwd env opts = .ok r) (hi : opts.inputs = [b, t])
    (hb : getOnlyDocument fs cwd b = .ok (base, f))
    (ht : getOnlyDocument fs cwd t = .ok (target, ft))
    (hpb : processOnly env base = .ok (.map bf)) (hpt : processOnly env target = .ok (.map tf))
    (hplt : plainVal (.map tf) = true) (hwb : Val.WF (.map bf))
    (hbm : fget bf "$match" = none) :
    r.doc = diffDoc (.map tf) (.map bf) ∧
    (match r.doc with
     | none => Val.map tf = Val.map bf
     | some layer => ∃ m, layer = .map m ∧ fget m "$match" = some (.map []) ∧
         merge (.map bf) (.map (fdel m "$match")) = .ok (.map tf)) ∧
    (r.doc = none ↔ Val.map tf = Val.map bf) := by
  obtain ⟨b', t', base1, target1, f1, ft1, base2, target2, hi', hb', ht', hpb', hpt', hdoc, _, _⟩ :=
    C15_bkld_result fs cwd env opts r h
  rw [hi] at hi'
  obtain ⟨rfl, rfl⟩ : b = b' ∧ t = t' := by simpa using hi'
  rw [hb] at hb'; cases hb'
  rw [ht] at ht'; cases ht'
  rw [hpb] at hpb'; cases hpb'
  rw [hpt] at hpt'; cases hpt'
  refine ⟨hdoc, ?_, ?_⟩
  · rw [hdoc]
    exact C15_roundtrip_wf_base tf bf hplt hwb hbm
  · rw [hdoc, diffDoc_none_iff, C15_same_iff _ _ hplt hwb]
    constructor
    · rintro (h1 | h1)
      · exact h1
      · exact absurd h1 (C15_doc_never_replaceParent tf bf)
    · exact fun h1 => .inl h1

example : (∃ r, bkldRun tc_toolFS ["w"] [] { inputs := ["a.yaml", "t.yaml"] } = .ok r) ∧
    ({ inputs := ["a.yaml", "t.yaml"] } : ToolOpts).inputs = ["a.yaml", "t.yaml"] ∧
    getOnlyDocument tc_toolFS ["w"] "a.yaml" = .ok (tc_base, "yaml") ∧
    getOnlyDocument tc_toolFS ["w"] "t.yaml" = .ok (tc_target, "yaml") ∧
    processOnly [] tc_base = .ok (.map [("a", .int 1), ("b", .str "x")]) ∧
    processOnly [] tc_target = .ok (.map [("a", .int 2), ("c", .bool true)]) ∧
    plainVal (.map [("a", .int 2), ("c", .bool true)]) = true ∧
    Val.WF (.map [("a", .int 1), ("b", .str "x")]) ∧
    fget [("a", Val.int 1), ("b", .str "x")] "$match" = none :=
  ⟨⟨_, C15_bkld_sample⟩, rfl, tc_toolFS_get_a, tc_toolFS_get_t, tc_processOnly_base,
    tc_processOnly_target, by decide +kernel, by decide +kernel, by decide +kernel⟩

/-- … and through the parser, for plain evaluated documents: a parser holding the evaluated
    base as its single document `B`, given the emitted layer as document `L` with parent `B`,
    ends with the evaluated target as its only document (`C15_roundtrip_parser`). -/
theorem C15_bkld_cli_roundtrip_parser (fs : FS) (cwd : Comps) (env : Vars) (opts : ToolOpts)
    (r : ToolResult) (b t : String) (base target : Val) (f ft : String) (bf tf : Fields)
    (layer : Val)
    (h : bkldRun fs cwd env opts = .ok r) (hi : opts.inputs = [b, t])
    (hb : getOnlyDocument fs cwd b = .ok (base, f))
    (ht : getOnlyDocument fs cwd t = .ok (target, ft))
    (hpb : processOnly env base = .ok (.map bf)) (hpt : processOnly env target = .ok (.map tf))
    (hplt : plainVal (.map tf) = true) (hplb : plainVal (.map bf) = true)
    (hl : r.doc = some layer) :
    ∃ st', mergeDocument { docs := [("B", .map bf)], known := [("B", [])] }
        { id := "L", parents := ["B"], data := layer } = .ok st' ∧
      st'.docs = [("B", .map tf)] := by
  have h1 := (C15_bkld_cli_roundtrip fs cwd env opts r b t base target f ft bf tf h hi hb ht hpb hpt
    hplt (plainVal_wf hplb) (plainVal_fget_dollar hplb (by decide))).1
  rw [hl] at h1
  exact C15_roundtrip_parser tf bf layer hplt hplb h1.symm

example : (∃ r, bkldRun tc_toolFS ["w"] [] { inputs := ["a.yaml", "t.yaml"] } = .ok r) ∧
    plainVal (.map [("a", .int 2), ("c", .bool true)]) = true ∧
    plainVal (.map [("a", .int 1), ("b", .str "x")]) = true :=
  ⟨⟨_, C15_bkld_sample⟩, by decide, by decide⟩

/-- "exactly one document": if the merged state of an input file has 0 or ≥ 2 documents,
    `getOnlyDocument` fails, and so does every tool that is given this input — a first document
    is never chosen silently.  (`bkldRun`/`bkliRun` may already have failed on an earlier input.) -/
theorem C15_one_document_required (fs : FS) (cwd : Comps) (path : String) (real : Comps)
    (f : String) (st : PState) (hm : fileMatch fs cwd path = .ok (real, f))
    (hl : mergeFileLayers fs { root := [], cwd := cwd } PState.empty real = .ok st)
    (hn : st.docs.length ≠ 1) :
    getOnlyDocument fs cwd path = .error .other ∧
    (∀ env opts, path ∈ opts.inputs → ∃ e, bkldRun fs cwd env opts = .error e) ∧
    (∀ opts, path ∈ opts.inputs → ∃ e, bkliRun fs cwd opts = .error e) ∧
    (∀ opts, path ∈ opts.inputs → ∃ e, bklrRun fs cwd opts = .error e) ∧
    -- the exact error when the offending file is the first input
    (∀ env opts t, opts.inputs = [path, t] → bkldRun fs cwd env opts = .error .other) ∧
    (∀ opts p rest, opts.inputs = path :: p :: rest → bkliRun fs cwd opts = .error .other) ∧
    (∀ opts, opts.inputs = [path] → bklrRun fs cwd opts = .error .other) := by
  have hg := tc_getOnlyDocument_not_one hm hl hn
  refine ⟨hg, fun env opts hp => (tc_run_error_of_mem hg opts hp).1 env,
    fun opts hp => (tc_run_error_of_mem hg opts hp).2.1,
    fun opts hp => (tc_run_error_of_mem hg opts hp).2.2, ?_, ?_, ?_⟩
  · intro env opts t hi
    rw [tc_bkldRun_two fs cwd env opts path t hi, hg]; rfl
  · intro opts p rest hi
    rw [tc_bkliRun_many fs cwd opts path p rest hi, mapM_cons, hg]; rfl
  · intro opts hi
    rw [tc_bklrRun_one fs cwd opts path hi, hg]; rfl

/-- two documents in /w/two.yaml, none in /w/none.yaml -/
example : fileMatch tc_toolFS ["w"] "two.yaml" = .ok (["w", "two.yaml"], "yaml") ∧
    mergeFileLayers tc_toolFS { root := [], cwd := ["w"] } PState.empty ["w", "two.yaml"] =
      .ok { docs := [("/w/two.yaml|doc0", tc_base), ("/w/two.yaml|doc1", tc_target)],
            known := [("/w/two.yaml|doc0", []), ("/w/two.yaml|doc1", [])] } ∧
    [("/w/two.yaml|doc0", tc_base), ("/w/two.yaml|doc1", tc_target)].length ≠ 1 :=
  ⟨tc_toolFS_match_two, tc_toolFS_layers_two, by decide⟩

example : fileMatch tc_toolFS ["w"] "none.yaml" = .ok (["w", "none.yaml"], "yaml") ∧
    mergeFileLayers tc_toolFS { root := [], cwd := ["w"] } PState.empty ["w", "none.yaml"] =
      .ok PState.empty ∧ PState.empty.docs.length ≠ 1 :=
  ⟨tc_toolFS_match_none, tc_toolFS_layers_none, by decide⟩

/-- `bkld a.yaml two.yaml` fails although /w/two.yaml's first document alone would do -/
example : bkldRun tc_toolFS ["w"] [] { inputs := ["a.yaml", "two.yaml"] } = .error .other := by
  have hg := (C15_one_document_required tc_toolFS ["w"] "two.yaml" _ _ _ tc_toolFS_match_two
    tc_toolFS_layers_two (by decide)).1
  rw [tc_bkldRun_two _ _ _ _ "a.yaml" "two.yaml" rfl, tc_toolFS_get_a, ok_bind]
  simp only
  rw [tc_processOnly_base, ok_bind, hg]
  rfl

end Bkl
