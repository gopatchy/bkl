/-
  C07 — no unresolved `$required` and no stray `$directive` string reaches the output.
  Model: `validateChars`, `validateString`, `validate`, `emit` (Bkl/Output.lean).
  Theorems about `Val` come with `_list` / `_fields` companions: the statement about the value at a list
  or a map, or proved together with it.
  The specification `badString` / `clean` and `validate_iff` (`validate` accepts exactly the clean trees) stand in
  BklProofs/Lemmas/Output.lean, where C11 finds them.
  `$required` across layers rests on the path lemmas of BklProofs/Lemmas/MergePath.lean and on
  `countReq` (BklProofs/Lemmas/Required.lean).
-/
import BklProofs.Lemmas.Required
import BklProofs.Lemmas.MergePath
import BklProofs.Lemmas.Output
import BklProofs.Lemmas.MergeList
namespace Bkl

/-! ## `validate` accepts exactly the clean trees (`validate_iff`, BklProofs/Lemmas/Output.lean) -/

example : clean (.map [("a", .str "$$x"), ("$Upper", .list [.str "$", .int 1])]) = true := by decide +kernel
example : clean (.map [("a", .str "$x")]) = false := by decide +kernel

/-! ## The only errors of `validate`: `requiredField` and `invalidDirective` (`validate_error`, BklProofs/Lemmas/Output.lean) -/

example : validate (.map [("a", .str "$required")]) = .error .requiredField := by decide +kernel
example : validate (.list [.map [("$merge", .int 1)]]) = .error .invalidDirective := by decide +kernel

/-! ## Everything `emit` returns went through `validate` -/

/-- every emitted document is the finalisation of a validated tree -/
theorem C07_outputs_validated (ds outs : List Val) (h : emit ds = .ok outs) :
    ∀ o ∈ outs, ∃ v2, o = finalize v2 ∧ validate v2 = .ok () := by
  intro o ho
  obtain ⟨vs, _, h⟩ := emit_ok h
  obtain ⟨_, _, v2, _, hv, rfl⟩ := emitFinish_mem vs outs h o ho
  exact ⟨v2, rfl, hv⟩

/-- … and hence of a `clean` tree -/
theorem C07_outputs_clean (ds outs : List Val) (h : emit ds = .ok outs) :
    ∀ o ∈ outs, ∃ v2, o = finalize v2 ∧ clean v2 = true := by
  intro o ho
  obtain ⟨v2, h1, h2⟩ := C07_outputs_validated ds outs h o ho
  exact ⟨v2, h1, (validate_iff v2).1 h2⟩

example : emit [.map [("a", .int 1), ("b", .map [("$output", .bool false)])]] =
    .ok [.map [("a", .int 1)]] := by decide +kernel

/-! ## An unresolved `$required` is rejected -/

mutual
theorem C07_required_not_clean : ∀ (v : Val), 0 < countReq v → clean v = false
  | .map kvs, h => by
    simp only [countReq] at h; simp only [clean]; exact C07_required_not_clean_fields kvs h
  | .list xs, h => by
    simp only [countReq] at h; simp only [clean]; exact C07_required_not_clean_list xs h
  | .str s, h => by
    simp only [countReq] at h
    split at h
    · rename_i hs; subst hs; decide
    · omega
  | .null, h | .bool _, h | .int _, h | .flt _, h => by simp [countReq] at h
theorem C07_required_not_clean_list : ∀ (xs : List Val), 0 < countReqList xs → cleanList xs = false
  | [], h => by simp [countReqList] at h
  | x :: xs, h => by
    simp only [countReqList] at h
    simp only [cleanList, Bool.and_eq_false_iff]
    by_cases hx : 0 < countReq x
    · left; exact C07_required_not_clean x hx
    · right; exact C07_required_not_clean_list xs (by omega)
theorem C07_required_not_clean_fields : ∀ (kvs : Fields), 0 < countReqFields kvs →
    cleanFields kvs = false
  | [], h => by simp [countReqFields] at h
  | (k, v) :: rest, h => by
    simp only [countReqFields] at h
    simp only [cleanFields, Bool.and_eq_false_iff]
    by_cases hx : 0 < countReq v
    · left; right; exact C07_required_not_clean v hx
    · right; exact C07_required_not_clean_fields rest (by omega)
end

/-- a tree that still contains a `$required` marker never validates -/
theorem C07_required_rejected (v2 : Val) (h : 0 < countReq v2) : validate v2 ≠ .ok () := by
  intro hv
  have := C07_required_not_clean v2 h
  rw [(validate_iff v2).1 hv] at this
  cases this

/-- more precisely it fails, with one of the two `validate` errors -/
theorem C07_required_rejected_error (v2 : Val) (h : 0 < countReq v2) :
    validate v2 = .error .requiredField ∨ validate v2 = .error .invalidDirective := by
  cases hv : validate v2 with
  | ok u => exact absurd hv (C07_required_rejected v2 h)
  | error e => rcases validate_error v2 e hv with rfl | rfl <;> simp

example : 0 < countReq (.map [("a", .list [.int 1, .str "$required"])]) := by decide

/-- so `emit` fails as soon as a filtered document still carries a marker -/
theorem C07_emit_required_fails (v v2 : Val) (h1 : findOutputs v = .ok (v, []))
    (h2 : filterOutput v = .ok (some v2)) (h3 : 0 < countReq v2) :
    ∃ e, emit [v] = .error e := by
  rw [emit_single v v2 h1 h2]
  rcases C07_required_rejected_error v2 h3 with h | h <;> rw [h] <;> exact ⟨_, rfl⟩

example : findOutputs (.map [("a", .str "$required")]) = .ok (.map [("a", .str "$required")], []) ∧
    filterOutput (.map [("a", .str "$required")]) = .ok (some (.map [("a", .str "$required")])) := by
  decide

/-! ## Directive literals are rejected -/

theorem C07_directive_strings_rejected :
    ∀ s ∈ ["$delete", "$replace", "$match", "$value", "$invert", "$required", "$output", "$merge",
           "$encode", "$decode", "$repeat", "$parent", "$env:X", "$merge:a", "$replace:a"],
      validateString s ≠ .ok () := by
  decide +kernel

theorem C07_dollar_lower_rejected (c : Char) (rest : List Char) (h : isLowerModel c = true) :
    validateChars ('$' :: c :: rest) ≠ .ok () := by
  unfold validateChars
  split
  · intro h'; cases h'
  · simp [h, throw, throwThe, MonadExceptOf.throw]

theorem C07_dollar_lower_rejected_string (c : Char) (rest : List Char)
    (h : isLowerModel c = true) : validateString (String.ofList ('$' :: c :: rest)) ≠ .ok () := by
  unfold validateString
  rw [String.toList_ofList]
  exact C07_dollar_lower_rejected c rest h

example : isLowerModel 'm' = true := by decide

/-! ## `$required` across layers

  The statements follow a key path `π` through nested maps (BklProofs/Lemmas/MergePath.lean):
  `mapPath v π` is the value there (`none` if a key is missing or a non-map is met before the end),
  `mentions u π` says when a layer `u` touches `π` and `noReplaceAlong u π` that no map on the way has
  `$replace: true` (see there).  `dropRequired d` is the list `d` without its `"$required"` string
  entries and `plainEntry` a list-patch entry that is no list directive (BklProofs/Lemmas/Merge.lean). -/

/-- whatever sits at a map path is counted in the whole document -/
theorem C07_countReq_of_path : ∀ (π : List String) (v x : Val), mapPath v π = some x →
    countReq x ≤ countReq v := by
  intro π
  induction π with
  | nil => intro v x h; rw [q_mapPath_nil] at h; cases h; omega
  | cons k π ih =>
    intro v x h
    obtain ⟨m, c, rfl, hc, hx⟩ := q_mapPath_cons h
    have h1 := ih c x hx
    have h2 := q_countReq_le_of_fget hc
    simp only [countReq]; omega

/-- any value at a path no upper layer mentions is still there after the whole chain -/
theorem C07_path_persists (lower : Val) (uppers : List Val) (π : List String) (x res : Val)
    (hx : mapPath lower π = some x)
    (hup : ∀ u ∈ uppers, u.WF ∧ mentions u π = false)
    (h : mergeChain (lower :: uppers) = .ok res) : mapPath res π = some x :=
  q_chain_path_frame π x uppers lower res hup hx h

/-- **a `$required` in the lower layer persists** through any number of upper layers that do
    not mention its path: it is still at `π` in the merged document, which therefore is
    rejected by `validate` (and so by `emit`). -/
theorem C07_required_persists (lower : Val) (uppers : List Val) (π : List String) (res : Val)
    (hreq : mapPath lower π = some (.str "$required"))
    (hup : ∀ u ∈ uppers, u.WF ∧ mentions u π = false)
    (h : mergeChain (lower :: uppers) = .ok res) :
    mapPath res π = some (.str "$required") ∧ 0 < countReq res ∧ validate res ≠ .ok () := by
  have h1 := C07_path_persists lower uppers π _ res hreq hup h
  have h2 : 0 < countReq res := by
    have := C07_countReq_of_path π res _ h1
    simp only [countReq, if_true] at this
    omega
  exact ⟨h1, h2, C07_required_rejected res h2⟩

/-- **an upper layer that sets `π` overrides the marker**: the merged document has the upper
    layer's value `c` at `π` (so for `c ≠ "$required"` this marker is gone).  `c` may be any value
    (scalar, list, map, null) except the `$delete` directive.  Maps with `$replace: true` on the
    way are allowed; the single excluded case is `c` being that very `$replace: true` entry. -/
theorem C07_required_scalar_override (lower upper res : Val) (π : List String) (c : Val)
    (hw : upper.WF) (hreq : mapPath lower π = some (.str "$required"))
    (hc : mapPath upper π = some c) (hdel : c ≠ .str "$delete")
    (hlast : c = .bool true → π.getLast? ≠ some "$replace")
    (h : merge lower upper = .ok res) : mapPath res π = some c := by
  refine q_merge_path_scalar π lower upper res _ c hw hreq rfl hc ?_ hlast h
  intro ht
  cases c with
  | str s => exact hdel (congrArg Val.str ht)
  | _ => exact absurd ht (show ¬ "" = "$delete" by decide)

/-- an upper layer repeating the marker does not satisfy it: that merge is rejected -/
theorem C07_required_same_rejected (lower upper : Val) (π : List String)
    (hw : upper.WF) (hreq : mapPath lower π = some (.str "$required"))
    (hc : mapPath upper π = some (.str "$required")) (hnr : noReplaceAlong upper π = true) :
    ∃ e, merge lower upper = .error e := by
  cases h : merge lower upper with
  | error e => exact ⟨e, rfl⟩
  | ok r =>
    obtain ⟨r', h1, _⟩ := q_merge_path_merge π lower upper r _ _ hw hreq hc hnr (by decide) h
    rw [merge_scalar _ _ rfl] at h1
    simp at h1

/-- the model's rule for `$required` entries of a list (`mergeListList`): unless the patch
    list carries a `$replace` directive, the parent's `"$required"` string entries are removed
    *before* the patch entries are applied — whatever the patch is, even `[]`. -/
theorem C07_list_strip_rule (d s : List Val)
    (h1 : s.any (fun x => x == Val.str "$replace") = false)
    (h2 : hasListMapBool s "$replace" true = false) :
    merge (.list d) (.list s) = Except.map Val.list (mergeEntries (dropRequired d) s) := by
  rw [merge_list_list, mergeListList_no_replace d h1 h2]
  cases mergeEntries (dropRequired d) s <;> rfl

theorem C07_list_strip_nil (d : List Val) :
    merge (.list d) (.list []) = .ok (.list (dropRequired d)) ∧
    Val.str "$required" ∉ dropRequired d :=
  ⟨q_merge_list_nil d, q_not_mem_dropRequired d⟩

/-- **a `$required` list entry survives** upper layers that do not mention the list's path (for
    `π = [k]`: that do not have the key `k` at all) -/
theorem C07_required_list_persists (lower : Val) (uppers : List Val) (π : List String)
    (L : List Val) (res : Val)
    (hL : mapPath lower π = some (.list L)) (hmem : Val.str "$required" ∈ L)
    (hup : ∀ u ∈ uppers, u.WF ∧ mentions u π = false)
    (h : mergeChain (lower :: uppers) = .ok res) :
    mapPath res π = some (.list L) ∧ 0 < countReq res ∧ validate res ≠ .ok () := by
  have h1 := C07_path_persists lower uppers π _ res hL hup h
  have h2 : 0 < countReq res := by
    have := C07_countReq_of_path π res _ h1
    have h3 := q_countReq_le_of_mem hmem
    simp only [countReq, if_true] at this h3
    omega
  exact ⟨h1, h2, C07_required_rejected res h2⟩

/-- **… and is stripped when the upper layer's list appends**: for a patch list `s` of plain
    entries at the same path the merged list is `dropRequired L ++ s`; it contains a
    `"$required"` entry only if `s` brings its own. -/
theorem C07_required_list_stripped (lower upper res : Val) (π : List String) (L s : List Val)
    (hw : upper.WF) (hL : mapPath lower π = some (.list L))
    (hs : mapPath upper π = some (.list s)) (hnr : noReplaceAlong upper π = true)
    (hplain : s.all plainEntry = true) (h : merge lower upper = .ok res) :
    mapPath res π = some (.list (dropRequired L ++ s)) ∧
    (Val.str "$required" ∈ dropRequired L ++ s ↔ Val.str "$required" ∈ s) := by
  obtain ⟨r', h1, h2⟩ := q_merge_path_merge π lower upper res _ _ hw hL hs hnr
    (by simp only [Val.toStr]; decide) h
  rw [merge_list_plain L s hplain] at h1
  cases h1
  refine ⟨h2, ?_⟩
  rw [List.mem_append]
  constructor
  · rintro (h | h)
    · exact absurd h (q_not_mem_dropRequired L)
    · exact h
  · exact Or.inr

local instance instDecWF_C07 (v : Val) : Decidable v.WF := by unfold Val.WF; infer_instance

/-- lower layer: a marker at `svc.port`, a marker entry in the list `svc.args` -/
def c07_lower : Val :=
  .map [("name", .str "x"),
        ("svc", .map [("args", .list [.str "$required", .str "-v"]), ("port", .str "$required")])]

/-- two upper layers that touch `svc` and `name` but neither `svc.port` nor `svc.args` -/
def c07_up1 : Val := .map [("svc", .map [("host", .str "h")])]
def c07_up2 : Val := .map [("name", .str "y"), ("svc", .null)]

example : mapPath c07_lower ["svc", "port"] = some (.str "$required") ∧
    (∀ u ∈ [c07_up1, c07_up2], u.WF ∧ mentions u ["svc", "port"] = false) ∧
    mergeChain [c07_lower, c07_up1, c07_up2] =
      .ok (.map [("name", .str "y"),
        ("svc", .map [("args", .list [.str "$required", .str "-v"]), ("host", .str "h"),
                      ("port", .str "$required")])]) := by
  refine ⟨by decide, by decide, ?_⟩
  simp [c07_lower, c07_up1, c07_up2, mergeChain, List.foldlM, merge, mergeMapMap, mergeFields,
    fhasBool, fget, fset, Val.toStr, e_pure_eq, ok_bind]

example : mapPath c07_lower ["svc", "args"] = some (.list [.str "$required", .str "-v"]) ∧
    Val.str "$required" ∈ [Val.str "$required", .str "-v"] ∧
    (∀ u ∈ [c07_up1, c07_up2], u.WF ∧ mentions u ["svc", "args"] = false) := by decide +kernel

/-- an upper layer that sets the port, below a `$replace: true` map -/
def c07_up3 : Val := .map [("svc", .map [("$replace", .bool true), ("port", .int 80)])]

example : c07_up3.WF ∧ mapPath c07_up3 ["svc", "port"] = some (.int 80) ∧
    Val.int 80 ≠ .str "$delete" ∧ (Val.int 80 = .bool true → False) ∧
    mentions c07_up3 ["svc", "port"] = true ∧
    merge c07_lower c07_up3 = .ok (.map [("name", .str "x"), ("svc", .map [("port", .int 80)])]) := by
  refine ⟨by decide, by decide, by decide, by decide, by decide, ?_⟩
  simp [c07_lower, c07_up3, merge, mergeMapMap, mergeFields, fhasBool, fget, fset, fdel,
    Val.toStr, e_pure_eq, ok_bind]

/-- the excluded case of `C07_required_scalar_override` is real: the value at `π` is itself the
    `$replace: true` directive and is consumed -/
example : mapPath (.map [("$replace", .str "$required")]) ["$replace"] = some (.str "$required") ∧
    mapPath (.map [("$replace", .bool true)]) ["$replace"] = some (.bool true) ∧
    merge (.map [("$replace", .str "$required")]) (.map [("$replace", .bool true)])
      = .ok (.map []) := by
  refine ⟨by decide, by decide, ?_⟩
  simp [merge, mergeMapMap, fhasBool, fget, fdel, e_pure_eq]

/-- `$delete` is the other way to get rid of the marker: the key disappears -/
example : merge (.map [("a", .str "$required")]) (.map [("a", .str "$delete")]) = .ok (.map []) := by
  simp [merge, mergeMapMap, mergeFields, fhasBool, fget, fdel, fhas, Val.toStr, e_pure_eq,
    ok_bind]

/-- an upper layer whose list appends: the marker entry is stripped -/
def c07_up4 : Val := .map [("svc", .map [("args", .list [.str "-q"]), ("port", .int 1)])]

example : c07_up4.WF ∧ mapPath c07_up4 ["svc", "args"] = some (.list [.str "-q"]) ∧
    noReplaceAlong c07_up4 ["svc", "args"] = true ∧ [Val.str "-q"].all plainEntry = true ∧
    merge c07_lower c07_up4 = .ok (.map [("name", .str "x"),
      ("svc", .map [("args", .list [.str "-v", .str "-q"]), ("port", .int 1)])]) := by
  refine ⟨by decide, by decide, by decide, by decide, ?_⟩
  simp [c07_lower, c07_up4, merge, mergeMapMap, mergeFields, fhasBool, fget, fset, Val.toStr,
    mergeListList, popListString, popListMapBool, hasListMapBool, mergeEntries, e_pure_eq,
    ok_bind]

example : [Val.int 1].any (fun x => x == Val.str "$replace") = false ∧
    hasListMapBool [Val.int 1] "$replace" true = false := by decide


end Bkl
