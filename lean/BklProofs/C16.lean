/-
  C16 — "bkli yields the maximal common base, and the migrate workflow is lossless".

  `intersect a b` / `intersectAll` (Bkl/Tools.lean, mirror cmd/bkli/intersect.go) compute the
  common base of several documents; conflicting values become the marker string `"$required"`
  (lists with nothing in common become `["$required"]`).

  `Sub r v` (BklProofs/Lemmas/ToolsIntersect.lean, decidable): `r` is a marker-tolerant
  sub-document of `v` — `r = "$required"`, or both are maps and every key of `r` is in `v` with
  `Sub` of the values, or both are lists and (`r = ["$required"]` or every entry of `r` occurs
  in `v`), or `r = v`.

  Input domains: `Val.WF`, `Val.nullFree` (no `.null` anywhere), `plainVal` (WF, null-free and
  `$`-free), all in BklProofs/Lemmas/Tools.lean.
-/
import BklProofs.Lemmas.ToolsIntersect
import BklProofs.Lemmas.ToolsDiff
import BklProofs.Lemmas.ToolsCliProofs
namespace Bkl

/-! ### the shared witnesses `C16_a`, `C16_b`, `C16_c` are in Lemmas/ToolsIntersect.lean -/

/-- what bkli computes for two and for three of the witnesses -/
example : intersect C16_a C16_b =
    .map [("img", .str "nginx"), ("name", .str "$required"), ("ports", .list [.int 80]),
          ("res", .map [("cpu", .int 1), ("mem", .str "$required")]),
          ("tags", .list [.str "$required"])] := by decide +kernel

example : intersectAll [C16_a, C16_b, C16_c] =
    .map [("img", .str "nginx"), ("name", .str "$required"), ("ports", .list [.int 80]),
          ("res", .str "$required"), ("tags", .list [.str "$required"])] := by decide +kernel

/-! ## the result is a common sub-document -/

/-- For null-free inputs (`a` well-formed) the intersection is a sub-document of both. -/
theorem C16_common (a b : Val) (ha : Val.WF a) (han : a.nullFree = true)
    (hbn : b.nullFree = true) :
    Sub (intersect a b) a ∧ Sub (intersect a b) b :=
  ⟨Sub_intersect_left a b ha han hbn, Sub_intersect_right a b han hbn⟩

example : Val.WF C16_a ∧ C16_a.nullFree = true ∧ C16_b.nullFree = true :=
  ⟨plainVal_wf C16_witness_plain.1, plainVal_nullFree C16_witness_plain.1,
    plainVal_nullFree C16_witness_plain.2.1⟩

/-- null-freeness cannot be dropped: a `null` on one side makes the result `null` -/
example : ¬ Sub (intersect (.int 1) .null) (.int 1) := by decide

/-! ## a key with non-null values in both inputs is never dropped -/

/-- a key carrying non-null values in both inputs is kept; its value is the intersection of the
    two values (no sortedness needed) -/
theorem C16_required_on_conflict (am bm : Fields) (k : String) (x y : Val)
    (hx : fget am k = some x) (hy : fget bm k = some y) (hxn : x ≠ .null) (hyn : y ≠ .null) :
    fget (intersectFields am bm) k = some (intersect x y) ∧
    fget (intersectFields am bm) k ≠ none := by
  have h := fget_intersectFields hx hy (intersect_isNull hxn hyn)
  exact ⟨h, by rw [h]; simp⟩

example : fget [("name", Val.str "a")] "name" = some (.str "a") ∧
    fget [("name", Val.str "b")] "name" = some (.str "b") ∧
    Val.str "a" ≠ .null ∧ Val.str "b" ≠ .null := by decide

/-- … and two different scalars become the marker `"$required"` -/
theorem C16_required_on_conflict_scalar (am bm : Fields) (k : String) (x y : Val)
    (hx : fget am k = some x) (hy : fget bm k = some y) (hxs : x.isScalar = true)
    (hyn : y ≠ .null) (hne : x ≠ y) :
    fget (intersectFields am bm) k = some (.str "$required") := by
  have hxn : x ≠ .null := by intro e; subst e; cases hxs
  rw [(C16_required_on_conflict am bm k x y hx hy hxn hyn).1, intersect_scalar x y hxs hyn]
  have : (x == y) = false := beq_eq_false_iff_ne.2 hne
  rw [this]; rfl

example : fget [("name", Val.str "a")] "name" = some (.str "a") ∧
    fget [("name", Val.str "b")] "name" = some (.str "b") ∧
    (Val.str "a").isScalar = true ∧ Val.str "b" ≠ .null ∧ Val.str "a" ≠ .str "b" := by decide

/-! ## idempotence and maximality -/

theorem C16_idempotent (v : Val) (hv : Val.WF v) (hn : v.nullFree = true) :
    intersect v v = v :=
  intersect_self v hv hn

example : Val.WF C16_a ∧ C16_a.nullFree = true :=
  ⟨plainVal_wf C16_witness_plain.1, plainVal_nullFree C16_witness_plain.1⟩

/-- an empty list is the one place where well-formed, null-free data could have been lost
    (`len(a)+len(b) > 0` in the Go code guards it) -/
example : intersect (.list []) (.list []) = .list [] := by decide

/-- a key with the same (well-formed, null-free) value in both inputs is kept unchanged -/
theorem C16_keeps_shared (am bm : Fields) (k : String) (x : Val)
    (hx : fget am k = some x) (hy : fget bm k = some x) (hw : Val.WF x)
    (hn : x.nullFree = true) :
    fget (intersectFields am bm) k = some x := by
  have hxn := nullFree_ne_null hn
  have h := (C16_required_on_conflict am bm k x x hx hy hxn hxn).1
  rwa [intersect_self x hw hn] at h

example : fget [("res", Val.map [("cpu", .int 1)])] "res" = some (.map [("cpu", .int 1)]) ∧
    Val.WF (.map [("cpu", .int 1)]) ∧ (Val.map [("cpu", .int 1)]).nullFree = true := by decide

/-! ## the bkli main loop -/

theorem C16_fold_same (v : Val) (hv : Val.WF v) (hn : v.nullFree = true) :
    intersectAll [v, v, v] = v :=
  intersectAll_replicate v hv hn 2

example : Val.WF C16_a ∧ C16_a.nullFree = true :=
  ⟨plainVal_wf C16_witness_plain.1, plainVal_nullFree C16_witness_plain.1⟩

/-- for plain inputs the result of the whole fold is a sub-document of every input -/
theorem C16_fold (vs : List Val) (h : ∀ x ∈ vs, plainVal x = true) :
    ∀ x ∈ vs, Sub (intersectAll vs) x :=
  (intersectAll_sub vs h).2

example : ∀ x ∈ [C16_a, C16_b, C16_c], plainVal x = true := C16_witness_all

/-- … and stays in the domain (well-formed, null-free) -/
theorem C16_fold_wf (vs : List Val) (hne : vs ≠ []) (h : ∀ x ∈ vs, plainVal x = true) :
    Val.WF (intersectAll vs) ∧ (intersectAll vs).nullFree = true :=
  (intersectAll_sub vs h).1 hne

example : [C16_a, C16_b, C16_c] ≠ [] ∧ ∀ x ∈ [C16_a, C16_b, C16_c], plainVal x = true :=
  ⟨List.cons_ne_nil _ _, C16_witness_all⟩

/-- `C16_fold` is FALSE for inputs that are merely well-formed and null-free: an input list
    that itself carries the marker string twice survives as `["$required", "$required"]`, which
    is neither `["$required"]` nor a sub-list of the first input. -/
theorem C16_fold_needs_plain :
    let vs := [Val.list [.str "x"], .list [.str "y"], .list [.str "$required", .str "$required"]]
    (∀ x ∈ vs, Val.WF x ∧ x.nullFree = true) ∧
    intersectAll vs = .list [.str "$required", .str "$required"] ∧
    ¬ Sub (intersectAll vs) (.list [.str "x"]) := by decide

/-- two inputs: no `$`-freeness needed -/
theorem C16_fold_partial (a b : Val) (ha : Val.WF a) (han : a.nullFree = true)
    (hbn : b.nullFree = true) :
    Sub (intersectAll [b, a]) a ∧ Sub (intersectAll [b, a]) b :=
  C16_common a b ha han hbn

example : Val.WF C16_a ∧ C16_a.nullFree = true ∧ C16_b.nullFree = true :=
  ⟨plainVal_wf C16_witness_plain.1, plainVal_nullFree C16_witness_plain.1,
    plainVal_nullFree C16_witness_plain.2.1⟩

/-! ## the migrate workflow is lossless -/

/-- a base that is a sub-document of the target is never `replaceParent` -/
theorem diff_ne_replaceParent_of_Sub {x b : Val} (h : Sub b x) : diff x b ≠ .replaceParent := by
  intro hd
  obtain ⟨hr, h1, h2⟩ := (diff_replaceParent_iff x b).1 hd
  cases b with
  | map bm =>
    obtain ⟨vm, rfl, _⟩ := Sub_map_iff.1 h
    cases h1
  | list bl =>
    obtain ⟨vl, rfl, _⟩ := Sub_list_iff.1 h
    cases h2
  | _ => cases hr

/-- For a plain document `x` and any well-formed base `b` that is a sub-document of `x`
    (markers `"$required"` and `["$required"]` allowed anywhere): bkld either finds them equal
    or emits a patch that bkl accepts over `b` and that reproduces `x`. -/
theorem C16_lossless (x b : Val) (hx : plainVal x = true) (hb : Val.WF b) (hsub : Sub b x) :
    match diff x b with
    | .same => x = b
    | .patch p => merge b p = .ok x
    | .replaceParent => False := by
  have h := diff_spec x b hx hb
  have hne := diff_ne_replaceParent_of_Sub hsub
  cases hd : diff x b with
  | same => rw [hd] at h; exact h
  | patch p => rw [hd] at h; exact h
  | replaceParent => exact hne hd

example : plainVal C16_a = true ∧ Val.WF (intersect C16_a C16_b) ∧
    Sub (intersect C16_a C16_b) C16_a :=
  have h := C16_witness_plain
  ⟨h.1, intersect_wf _ _ (plainVal_wf h.1),
    Sub_intersect_left _ _ (plainVal_wf h.1) (plainVal_nullFree h.1) (plainVal_nullFree h.2.1)⟩

/-- the base computed by bkli from plain inputs, against each of the inputs -/
theorem C16_lossless_migrate (vs : List Val) (h : ∀ x ∈ vs, plainVal x = true) (x : Val)
    (hx : x ∈ vs) :
    match diff x (intersectAll vs) with
    | .same => x = intersectAll vs
    | .patch p => merge (intersectAll vs) p = .ok x
    | .replaceParent => False := by
  have hne : vs ≠ [] := by intro e; rw [e] at hx; cases hx
  exact C16_lossless x _ (h x hx) (C16_fold_wf vs hne h).1 (C16_fold vs h x hx)

example : (∀ x ∈ [C16_a, C16_b, C16_c], plainVal x = true) ∧ C16_b ∈ [C16_a, C16_b, C16_c] :=
  ⟨C16_witness_all, List.mem_cons_of_mem _ List.mem_cons_self⟩

/-- Whole map-rooted documents: the base is a map; for every input either bkld emits nothing
    and the input equals the base, or the emitted layer carries `$match: {}` and its body (the
    layer without `$match`, what the parser merges) turns the base back into that input. -/
theorem C16_lossless_doc (vs : List Val) (h : ∀ x ∈ vs, plainVal x = true)
    (hm : ∀ x ∈ vs, x.isMap = true) (t : Fields) (ht : Val.map t ∈ vs) :
    ∃ bm, intersectAll vs = .map bm ∧
      match diffDoc (.map t) (.map bm) with
      | none => Val.map t = Val.map bm
      | some layer => ∃ m, layer = .map m ∧ fget m "$match" = some (.map []) ∧
          merge (.map bm) (.map (fdel m "$match")) = .ok (.map t) := by
  have hne : vs ≠ [] := by intro e; rw [e] at ht; cases ht
  obtain ⟨bm, hbm⟩ := intersectAll_isMap vs hne hm
  refine ⟨bm, hbm, ?_⟩
  have hpl := h _ ht
  have hwf := (C16_fold_wf vs hne h).1
  have hsub := C16_fold vs h _ ht
  rw [hbm] at hwf hsub
  -- the base has no `$match` key: its keys are keys of the plain input
  have hnm : fget bm "$match" = none := by
    cases hg : fget bm "$match" with
    | none => rfl
    | some r =>
      obtain ⟨vm, hv, hall⟩ := Sub_map_iff.1 hsub
      cases hv
      obtain ⟨y, hy, _⟩ := hall _ (fget_mem hg)
      have hy' : fget t "$match" = some y := hy
      rw [plainVal_fget_dollar hpl (show dollarFree "$match" = false by decide)] at hy'
      cases hy'
  exact C15_roundtrip_wf_base t bm hpl hwf hnm

example : (∀ x ∈ [C16_a, C16_b, C16_c], plainVal x = true) ∧
    (∀ x ∈ [C16_a, C16_b, C16_c], x.isMap = true) ∧
    (∃ t, Val.map t ∈ [C16_a, C16_b, C16_c]) :=
  ⟨C16_witness_all, by decide, _, List.mem_cons_self⟩

/-! ## the tool main: cmd/bkli/main.go (`Bkl.bkliRun`, Bkl/ToolsCli.lean)

  Helper lemmas are in BklProofs/Lemmas/ToolsCliProofs.lean (prefix `tc_`); the sample file
  system `tc_toolFS` is described in BklProofs/C15.lean. -/

/-- bkli succeeds exactly when it has at least two inputs, every input yields exactly one
    merged document (`getOnlyDocument`: FileMatch, a fresh parser, MergeFileLayers — the documents
    are NOT evaluated), and the chosen format is supported.  The emitted document is
    `intersectAll` of the merged documents in argument order, `none` if that is `null`; the
    format is `toolFormat` (`-f`, else `-o`'s extension) with the first input's format as
    fallback. -/
theorem C16_bkli_result_iff (fs : FS) (cwd : Comps) (opts : ToolOpts) (r : ToolResult) :
    bkliRun fs cwd opts = .ok r ↔
      ∃ first second rest d0 f0 ds,
        opts.inputs = first :: second :: rest ∧
        List.Forall₂ (fun p (d : Val × String) => getOnlyDocument fs cwd p = .ok d)
          (first :: second :: rest) ((d0, f0) :: ds) ∧
        toolFormat opts f0 ∈ supportedExts ∧
        r = { format := toolFormat opts f0,
              doc := if (intersectAll (d0 :: ds.map (·.1))).isNull then none
                     else some (intersectAll (d0 :: ds.map (·.1))) } := by
  constructor
  · intro h
    rcases hi : opts.inputs with _ | ⟨first, _ | ⟨second, rest⟩⟩
    · rw [tc_bkliRun_lt_two fs cwd opts (by rw [hi]; exact Nat.zero_lt_two)] at h; cases h
    · rw [tc_bkliRun_lt_two fs cwd opts (by rw [hi]; exact Nat.one_lt_two)] at h; cases h
    · rw [tc_bkliRun_many fs cwd opts first second rest hi] at h
      simp only [R_bind_eq_ok, Prod.exists] at h
      obtain ⟨docs, hm, d0, f0, hd, fmt, hc, h⟩ := h
      obtain ⟨rfl, hmem⟩ := tc_checkFormat_ok_iff.1 hc
      cases h
      cases (tc_mapM_ok_iff _ _ _).1 hm with
      | @cons _ d _ ds hd' hrest =>
        rw [hd] at hd'
        cases hd'
        exact ⟨first, second, rest, d0, f0, ds, rfl, .cons hd hrest, hmem, rfl⟩
  · rintro ⟨first, second, rest, d0, f0, ds, hi, hf, hmem, rfl⟩
    have hd : getOnlyDocument fs cwd first = .ok (d0, f0) := by
      cases hf with | cons hd _ => exact hd
    simp only [tc_bkliRun_many fs cwd opts first second rest hi, (tc_mapM_ok_iff _ _ _).2 hf, hd,
      tc_checkFormat_of_mem hmem, ok_bind]
    rfl

/-- the forward direction, field by field -/
theorem C16_bkli_result (fs : FS) (cwd : Comps) (opts : ToolOpts) (r : ToolResult)
    (h : bkliRun fs cwd opts = .ok r) :
    2 ≤ opts.inputs.length ∧
    ∃ docs : List (Val × String),
      List.Forall₂ (fun p (d : Val × String) => getOnlyDocument fs cwd p = .ok d)
        opts.inputs docs ∧
      docs.length = opts.inputs.length ∧
      r.doc = (if (intersectAll (docs.map (·.1))).isNull then none
               else some (intersectAll (docs.map (·.1)))) ∧
      (r.doc = none ↔ intersectAll (docs.map (·.1)) = .null) ∧
      (∀ v, r.doc = some v → v = intersectAll (docs.map (·.1))) ∧
      (∃ d0 f0 ds, docs = (d0, f0) :: ds ∧ r.format = toolFormat opts f0) ∧
      r.format ∈ supportedExts := by
  obtain ⟨first, second, rest, d0, f0, ds, hi, hf, hmem, rfl⟩ :=
    (C16_bkli_result_iff fs cwd opts r).1 h
  refine ⟨by rw [hi]; simp, (d0, f0) :: ds, by rw [hi]; exact hf,
    by rw [hi]; exact (Pointwise.length_eq (forall₂_iff_pointwise.1 hf)).symm, rfl, ?_, ?_, ⟨d0, f0, ds, rfl, rfl⟩, hmem⟩
  · simp only [List.map_cons]
    split
    · rename_i hn; simpa using isNull_iff.1 hn
    · rename_i hn
      simp only [reduceCtorEq, false_iff]
      exact fun e => hn (isNull_iff.2 e)
  · intro v hv
    simp only [List.map_cons] at hv ⊢
    split at hv
    · cases hv
    · cases hv; rfl

/-- `bkli a.yaml c.json` on the sample file system: format from the first input -/
theorem C16_bkli_sample :
    bkliRun tc_toolFS ["w"] { inputs := ["a.yaml", "c.json"] } =
      .ok { format := "yaml", doc := some (.map [("a", .int 1), ("b", .str "$required")]) } := by
  rw [C16_bkli_result_iff]
  refine ⟨"a.yaml", "c.json", [], tc_base, "yaml", [(tc_third, "json")], rfl,
    .cons tc_toolFS_get_a (.cons tc_toolFS_get_c .nil), by decide, ?_⟩
  rw [show toolFormat { inputs := ["a.yaml", "c.json"] } "yaml" = "yaml" from rfl]
  rw [show intersectAll (tc_base :: [(tc_third, "json")].map (·.1)) =
    .map [("a", .int 1), ("b", .str "$required")] by decide]
  rfl

/-- `bkli -o out.toml a.yaml c.json t.yaml`: three inputs in argument order, format from `-o` -/
theorem C16_bkli_sample3 :
    bkliRun tc_toolFS ["w"] { outPath := some "out.toml", inputs := ["a.yaml", "c.json", "t.yaml"] } =
      .ok { format := "toml", doc := some (.map [("a", .str "$required")]) } := by
  rw [C16_bkli_result_iff]
  refine ⟨"a.yaml", "c.json", ["t.yaml"], tc_base, "yaml", [(tc_third, "json"), (tc_target, "yaml")],
    rfl, .cons tc_toolFS_get_a (.cons tc_toolFS_get_c (.cons tc_toolFS_get_t .nil)), ?_, ?_⟩
  · rw [tc_toolFormat_o _ _ "out.toml" (.inl rfl) rfl (by rw [tc_ext_out_toml]; decide),
      tc_ext_out_toml]
    decide
  · rw [tc_toolFormat_o _ _ "out.toml" (.inl rfl) rfl (by rw [tc_ext_out_toml]; decide),
      tc_ext_out_toml]
    rw [show intersectAll (tc_base :: [(tc_third, "json"), (tc_target, "yaml")].map (·.1)) =
      .map [("a", .str "$required")] by decide]
    rfl

example : ∃ r, bkliRun tc_toolFS ["w"] { inputs := ["a.yaml", "c.json"] } = .ok r :=
  ⟨_, C16_bkli_sample⟩

/-- fewer than two inputs: bkli fails (go-flags: at least 2 positional arguments) -/
theorem C16_bkli_needs_two (fs : FS) (cwd : Comps) (opts : ToolOpts)
    (h : opts.inputs.length < 2) : bkliRun fs cwd opts = .error .other :=
  tc_bkliRun_lt_two fs cwd opts h

example : ({ inputs := ["a.yaml"] } : ToolOpts).inputs.length < 2 := by decide

/-- The CLI result is common to all inputs (`C16_fold`, `C16_fold_wf`) and the migrate workflow
    through the CLI is lossless (`C16_lossless_migrate`): if bkli succeeds and the merged
    document of every input is plain, then a document `base` is emitted, it is the fold of the
    merged documents, well-formed and null-free, a sub-document of the merged document of every
    input, and bkld's `diff` of each input's merged document against it is `same` or a patch
    that `merge` accepts over `base` and that reproduces the input. -/
theorem C16_bkli_cli_common (fs : FS) (cwd : Comps) (opts : ToolOpts) (r : ToolResult)
    (docs : List (Val × String)) (h : bkliRun fs cwd opts = .ok r)
    (hf : List.Forall₂ (fun p (d : Val × String) => getOnlyDocument fs cwd p = .ok d)
      opts.inputs docs)
    (hpl : ∀ d ∈ docs, plainVal d.1 = true) :
    ∃ base, r.doc = some base ∧ base = intersectAll (docs.map (·.1)) ∧
      Val.WF base ∧ base.nullFree = true ∧
      (∀ p ∈ opts.inputs, ∀ d f, getOnlyDocument fs cwd p = .ok (d, f) → Sub base d) ∧
      (∀ p ∈ opts.inputs, ∀ d f, getOnlyDocument fs cwd p = .ok (d, f) →
        match diff d base with
        | .same => d = base
        | .patch q => merge base q = .ok d
        | .replaceParent => False) := by
  obtain ⟨h2, docs', hf', hlen, hdoc, _, _, _, _⟩ := C16_bkli_result fs cwd opts r h
  obtain rfl := tc_forall2_getOnly_unique hf hf'
  have hpl' : ∀ x ∈ docs.map (·.1), plainVal x = true := by
    intro x hx
    obtain ⟨d, hd, rfl⟩ := List.mem_map.1 hx
    exact hpl d hd
  have hne : docs.map (·.1) ≠ [] := by
    intro e
    have : docs.length = 0 := by simpa using congrArg List.length e
    omega
  have hwf := C16_fold_wf _ hne hpl'
  have hnn : (intersectAll (docs.map (·.1))).isNull = false := by
    cases hn : (intersectAll (docs.map (·.1))).isNull
    · rfl
    · exact absurd (isNull_iff.1 hn) (nullFree_ne_null hwf.2)
  have hmemdoc : ∀ p ∈ opts.inputs, ∀ d f, getOnlyDocument fs cwd p = .ok (d, f) →
      d ∈ docs.map (·.1) := by
    intro p hp d f hg
    obtain ⟨b, hb, hgb⟩ := Pointwise.mem_left (forall₂_iff_pointwise.1 hf) hp
    rw [hg] at hgb
    cases hgb
    exact List.mem_map.2 ⟨(d, f), hb, rfl⟩
  refine ⟨intersectAll (docs.map (·.1)), ?_, rfl, hwf.1, hwf.2, ?_, ?_⟩
  · rw [hdoc, hnn]; rfl
  · intro p hp d f hg
    exact C16_fold _ hpl' d (hmemdoc p hp d f hg)
  · intro p hp d f hg
    exact C16_lossless_migrate _ hpl' d (hmemdoc p hp d f hg)

example : (∃ r, bkliRun tc_toolFS ["w"] { inputs := ["a.yaml", "c.json"] } = .ok r) ∧
    List.Forall₂ (fun p (d : Val × String) => getOnlyDocument tc_toolFS ["w"] p = .ok d)
      ({ inputs := ["a.yaml", "c.json"] } : ToolOpts).inputs
      [(tc_base, "yaml"), (tc_third, "json")] ∧
    (∀ d ∈ [(tc_base, "yaml"), (tc_third, "json")], plainVal d.1 = true) :=
  ⟨⟨_, C16_bkli_sample⟩, .cons tc_toolFS_get_a (.cons tc_toolFS_get_c .nil), by decide⟩

/-- Two inputs (`C16_common` / `C16_fold_partial`): no `$`-freeness is needed.  If the merged
    documents are null-free and the second one is well-formed, bkli emits `intersect second first`
    and it is a sub-document of both. -/
theorem C16_bkli_cli_common_two (fs : FS) (cwd : Comps) (opts : ToolOpts) (r : ToolResult)
    (p q : String) (a b : Val) (fa fb : String)
    (h : bkliRun fs cwd opts = .ok r) (hi : opts.inputs = [p, q])
    (hp : getOnlyDocument fs cwd p = .ok (b, fb)) (hq : getOnlyDocument fs cwd q = .ok (a, fa))
    (ha : Val.WF a) (han : a.nullFree = true) (hbn : b.nullFree = true) :
    r.doc = some (intersect a b) ∧ r.format = toolFormat opts fb ∧
      Sub (intersect a b) a ∧ Sub (intersect a b) b := by
  obtain ⟨_, docs, hf, _, hdoc, _, _, ⟨d0, f0, ds, hd, hfmt⟩, _⟩ := C16_bkli_result fs cwd opts r h
  have hf2 : List.Forall₂ (fun p (d : Val × String) => getOnlyDocument fs cwd p = .ok d)
      opts.inputs [(b, fb), (a, fa)] := by
    rw [hi]; exact .cons hp (.cons hq .nil)
  obtain rfl := tc_forall2_getOnly_unique hf hf2
  cases hd
  have hc := C16_common a b ha han hbn
  refine ⟨?_, hfmt, hc.1, hc.2⟩
  rw [hdoc]
  have : intersectAll ([(b, fb), (a, fa)].map (·.1)) = intersect a b := rfl
  rw [this, intersect_isNull (nullFree_ne_null han) (nullFree_ne_null hbn)]
  rfl

example : (∃ r, bkliRun tc_toolFS ["w"] { inputs := ["a.yaml", "c.json"] } = .ok r) ∧
    getOnlyDocument tc_toolFS ["w"] "a.yaml" = .ok (tc_base, "yaml") ∧
    getOnlyDocument tc_toolFS ["w"] "c.json" = .ok (tc_third, "json") ∧
    Val.WF tc_third ∧ tc_third.nullFree = true ∧ tc_base.nullFree = true :=
  ⟨⟨_, C16_bkli_sample⟩, tc_toolFS_get_a, tc_toolFS_get_c, by decide, by decide, by decide⟩

end Bkl
