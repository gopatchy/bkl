/-
  C11 — `$output` selects exactly the marked subtrees and hides exactly the excluded ones.
  Model: `findOutputs`, `filterOutput`, `emit` (Bkl/Output.lean).
  Specification functions are defined here, each where it is first needed, independently of the model;
  those of hiding (`hidden`, `prune`, `filterFails`) with `C11_filterOutput_eq` stand in
  Lemmas/C11Spec.lean, where the translated `filterOutput'` finds them too, and so do `hasOutTrue`,
  `hasOutFalse`, `noNull`, `hasKey` with `C11_no_marker_root_fallback`, `filterOutput_unmarked` and
  `C11_no_key_no_marker` (a value without markers: nothing is selected, nothing is dropped), on which
  C06 rests.  Theorems about `Val` come with `_list` / `_fields` companions.  Where the companions say the same of every entry, the
  theorem is proved by induction on the value (`Val.induction_mem`) and the companions are its
  instances, through the entry-by-entry forms of the functions involved (`noNullList_iff`,
  `pruneList_forall`, … ).  Where they say more (a `skip` flag, an index, the enclosing
  container), the three are a mutual structural proof; each member then names its structural
  argument: left to search among the further `Val`-typed arguments, Lean ends up with well-founded
  recursion, which is much slower to check.
-/
import BklProofs.Lemmas.C11Spec
namespace Bkl

/-! ## The marker entry of a list, and the number of marked containers -/

/-- a list entry that is a `$output: true` marker (consumed by the enclosing list) -/
def isTrueMarker : Val → Bool
  | .map m => fhasBool m "$output" true
  | _ => false

mutual
/-- number of containers carrying the marker: maps with `$output: true`, lists with at least one
    `{$output: true}` entry (the marker entries themselves are consumed, not counted) -/
def countSel : Val → Nat
  | .map kvs => (if fhasBool kvs "$output" true then 1 else 0) + countSelFields kvs
  | .list xs => (if hasListMapBool xs "$output" true then 1 else 0) + countSelList xs
  | _ => 0
def countSelList : List Val → Nat
  | [] => 0
  | x :: xs => (if isTrueMarker x then 0 else countSel x) + countSelList xs
def countSelFields : Fields → Nat
  | [] => 0
  | (_, v) :: rest => countSel v + countSelFields rest
end

theorem C11_aux_isTrueMarker_eq (x : Val) : isTrueMarker x = isMarker "$output" true x := rfl

/-! ## No marker: nothing is selected, the tree is unchanged -/

theorem C11_no_marker_root_fallback_list : ∀ (xs : List Val), hasOutTrueList xs = false →
    findOutputsList xs false = .ok (xs, []) := fun _ h =>
  findOutputsList_id fun x hx => C11_no_marker_root_fallback x (hasOutTrueList_false.1 h x hx)
theorem C11_no_marker_root_fallback_fields : ∀ (kvs : Fields), hasOutTrueFields kvs = false →
    findOutputsFields kvs false = .ok (kvs, []) := fun _ h =>
  findOutputsFields_id fun p hp => C11_no_marker_root_fallback p.2 (hasOutTrueFields_false.1 h p hp)

example : hasOutTrue (.map [("a", .list [.int 1, .map [("$output", .bool false)]])]) = false := by
  decide

/-- consequently the first loop of `emit` (see `emit_eq`) passes the document root on -/
theorem C11_no_marker_emit_root (d : Val) (h : hasOutTrue d = false) :
    emitSelect [d] = .ok [d] := by
  rw [os_emitSelect_single, C11_no_marker_root_fallback d h]
  rfl

/-! ## No `$output: true` marker survives selection -/

mutual
theorem C11_markers_stripped : ∀ (v v' : Val) (outs : List Val),
    findOutputs v = .ok (v', outs) →
    hasOutTrue v' = false ∧ ∀ o ∈ outs, hasOutTrue o = false
  | .map kvs, v', outs, h => by
    obtain ⟨ret, o, hf, rfl, rfl⟩ := findOutputs_map_ok h
    obtain ⟨ih1, ih2⟩ := C11_markers_stripped_fields kvs _ ret o hf
    have hself : hasOutTrue (.map ret) = false := by
      simp only [hasOutTrue, ih1, o_findOutputsFields_fhasBool hf, Bool.or_false]
    refine ⟨hself, ?_⟩
    split
    · exact List.forall_mem_cons.2 ⟨hself, ih2⟩
    · exact ih2
  | .list xs, v', outs, h => by
    obtain ⟨ret, o, hf, rfl, rfl⟩ := findOutputs_list_ok h
    obtain ⟨ih1, ih2⟩ := C11_markers_stripped_list xs _ ret o hf
    have hself : hasOutTrue (.list ret) = false := by
      simp only [hasOutTrue, ih1, C11_aux_hasOutTrueList ret ih1, Bool.or_false]
    refine ⟨hself, ?_⟩
    split
    · exact List.forall_mem_append.2 ⟨ih2, List.forall_mem_singleton.2 hself⟩
    · exact ih2
  | .null, v', outs, h | .bool _, v', outs, h | .int _, v', outs, h
  | .flt _, v', outs, h | .str _, v', outs, h => by
    obtain ⟨rfl, rfl⟩ := findOutputs_scalar_ok rfl rfl h
    exact ⟨rfl, fun _ hm => nomatch hm⟩
termination_by structural x => x
theorem C11_markers_stripped_list : ∀ (xs : List Val) (skip : Bool) (r outs : List Val),
    findOutputsList xs skip = .ok (r, outs) →
    hasOutTrueList r = false ∧ ∀ o ∈ outs, hasOutTrue o = false
  | [], skip, r, outs, h => by
    obtain ⟨rfl, rfl⟩ := findOutputsList_nil_ok h
    exact ⟨rfl, fun _ hm => nomatch hm⟩
  | x :: xs, skip, r, outs, h => by
    rcases findOutputsList_cons_ok h with ⟨_, _, h'⟩ | ⟨_, x', o1, xs', o2, h1, h2, rfl, rfl⟩
    · exact C11_markers_stripped_list xs skip r outs h'
    · obtain ⟨a1, a2⟩ := C11_markers_stripped x x' o1 h1
      obtain ⟨b1, b2⟩ := C11_markers_stripped_list xs skip xs' o2 h2
      exact ⟨by simp only [hasOutTrueList, a1, b1, Bool.or_false],
        List.forall_mem_append.2 ⟨a2, b2⟩⟩
termination_by structural x => x
theorem C11_markers_stripped_fields : ∀ (kvs : Fields) (skip : Bool) (r : Fields)
    (outs : List Val), findOutputsFields kvs skip = .ok (r, outs) →
    hasOutTrueFields r = false ∧ ∀ o ∈ outs, hasOutTrue o = false
  | [], skip, r, outs, h => by
    obtain ⟨rfl, rfl⟩ := findOutputsFields_nil_ok h
    exact ⟨rfl, fun _ hm => nomatch hm⟩
  | (k, v) :: rest, skip, r, outs, h => by
    rcases findOutputsFields_cons_ok h with ⟨_, _, h'⟩ | ⟨_, v', o1, rest', o2, h1, h2, rfl, rfl⟩
    · exact C11_markers_stripped_fields rest skip r outs h'
    · obtain ⟨a1, a2⟩ := C11_markers_stripped v v' o1 h1
      obtain ⟨b1, b2⟩ := C11_markers_stripped_fields rest skip rest' o2 h2
      exact ⟨by simp only [hasOutTrueFields, a1, b1, Bool.or_false],
        List.forall_mem_append.2 ⟨a2, b2⟩⟩
termination_by structural x => x
end

example : findOutputs (.map [("a", .list [.map [("$output", .bool true)], .int 1]),
                           ("b", .map [("$output", .bool true), ("c", .int 2)])]) =
    .ok (.map [("a", .list [.int 1]), ("b", .map [("c", .int 2)])],
         [.list [.int 1], .map [("c", .int 2)]]) := by decide

/-! ## Order of the selected subtrees -/

/-- a marked map is itself the first selected document -/
theorem C11_map_self_first (kvs : Fields) (v' : Val) (outs : List Val)
    (hm : fhasBool kvs "$output" true = true) (h : findOutputs (.map kvs) = .ok (v', outs)) :
    outs.head? = some v' := by
  obtain ⟨ret, o, _, rfl, rfl⟩ := findOutputs_map_ok h
  simp [hm]

/-- a marked list is itself the last selected document -/
theorem C11_list_self_last (xs : List Val) (v' : Val) (outs : List Val)
    (hm : hasListMapBool xs "$output" true = true) (h : findOutputs (.list xs) = .ok (v', outs)) :
    outs.getLast? = some v' := by
  obtain ⟨ret, o, _, rfl, rfl⟩ := findOutputs_list_ok h
  simp [hm]

example : findOutputs (.map [("$output", .bool true), ("a", .map [("$output", .bool true)])]) =
    .ok (.map [("a", .map [])], [.map [("a", .map [])], .map []]) := by decide
example : findOutputs (.list [.map [("$output", .bool true)], .list [.map [("$output", .bool true)]]])
    = .ok (.list [.list []], [.list [], .list [.list []]]) := by decide

/-! ## Hiding: `filterOutput` drops exactly the hidden values -/

/-- when `filterOutput` succeeds, it returns nothing iff the value is hidden -/
theorem C11_hide_spec (v : Val) (r : Option Val) (h : filterOutput v = .ok r) :
    r = none ↔ hidden v = true := by
  rw [(filterOutput_ok_iff.1 h).2]
  cases hidden v <;> simp

example : filterOutput (.list [.int 1, .map [("$output", .bool false)]]) = .ok none := by decide
example : filterOutput (.map [("$output", .bool true)]) = .ok (some (.map [("$output", .bool true)])) := by
  decide

/-- a hidden value is dropped or (list marker entry with extra keys) rejected, never kept -/
theorem C11_hidden_not_kept (v r : Val) (hh : hidden v = true) : filterOutput v ≠ .ok (some r) :=
  fun h => by rw [(filterOutput_some h).2.1] at hh; cases hh

/-- the entries of a visible map: exactly the entries whose value is kept, in order, each with
    its filtered value; and every child was filtered successfully -/
theorem C11_hide_spec_map (kvs r : Fields) (h : filterOutput (.map kvs) = .ok (some (.map r))) :
    hidden (.map kvs) = false ∧
    (∀ kv ∈ kvs, ∃ o, filterOutput kv.2 = .ok o) ∧
    r = kvs.filterMap fun kv =>
      match filterOutput kv.2 with
      | .ok (some v'') => some (kv.1, v'')
      | _ => none := by
  obtain ⟨hf, hh, hr⟩ := filterOutput_some h
  rw [filterFails, show fhasBool kvs "$output" false = false from hh] at hf
  -- no entry fails, so each is filtered to what `prune` says
  have hc := fun kv hkv => filterOutput_ok_iff.2 ⟨filterFailsFields_false.1 hf kv hkv, rfl⟩
  refine ⟨hh, fun kv hkv => ⟨_, hc kv hkv⟩, ?_⟩
  rw [Val.map.inj hr, pruneFields_eq]
  exact filterMap_congr_mem _ _ _ fun kv hkv => by rw [hc kv hkv]; dsimp only; cases hidden kv.2 <;> rfl

theorem C11_hide_spec_list (xs r : List Val) (h : filterOutput (.list xs) = .ok (some (.list r))) :
    hidden (.list xs) = false ∧
    (∀ x ∈ xs, ∃ o, filterOutput x = .ok o) ∧
    r = xs.filterMap fun x =>
      match filterOutput x with
      | .ok (some x'') => some x''
      | _ => none := by
  obtain ⟨hf, hh, hr⟩ := filterOutput_some h
  rw [filterFails, show hasListMapBool xs "$output" false = false from hh] at hf
  have hc := fun x hx => filterOutput_ok_iff.2 ⟨filterFailsList_false.1 hf x hx, rfl⟩
  refine ⟨hh, fun x hx => ⟨_, hc x hx⟩, ?_⟩
  rw [Val.list.inj hr, pruneList_eq, ← List.filterMap_eq_map, List.filterMap_filter]
  exact filterMap_congr_mem _ _ _ fun x hx => by rw [hc x hx]; cases hidden x <;> rfl

example : filterOutput (.map [("a", .null), ("b", .map [("$output", .bool false)]), ("c", .int 1)])
    = .ok (some (.map [("c", .int 1)])) := by decide
example : filterOutput (.list [.null, .list [.map [("$output", .bool false)]], .int 1])
    = .ok (some (.list [.int 1])) := by decide

/-! ## No `null` survives -/

theorem noNull_prune (v : Val) : hidden v = false → noNull (prune v) = true := by
  induction v using Val.induction_mem with
  | map kvs ih => exact fun _ => noNullFields_iff.2 (pruneFields_forall (P := (noNull · = true)) ih)
  | list xs ih => exact fun _ => noNullList_iff.2 (pruneList_forall (P := (noNull · = true)) ih)
  | null => exact nofun
  | _ => exact fun _ => rfl

/-- `noNull` holds without well-formedness -/
theorem C11_no_null (v : Val) : ∀ (r : Val), filterOutput v = .ok (some r) → noNull r = true :=
  fun r h => by obtain ⟨_, hh, rfl⟩ := filterOutput_some h; exact noNull_prune v hh

theorem C11_no_null_list : ∀ (xs rs : List Val), filterOutputList xs = .ok rs →
    noNullList rs = true := fun _ _ h =>
  (filterOutputList_ok_iff.1 h).2 ▸
    noNullList_iff.2 (pruneList_forall (P := (noNull · = true)) fun x _ => noNull_prune x)
theorem C11_no_null_fields : ∀ (kvs fs : Fields), filterOutputFields kvs = .ok fs →
    noNullFields fs = true := fun _ _ h =>
  (filterOutputFields_ok_iff.1 h).2 ▸
    noNullFields_iff.2 (pruneFields_forall (P := (noNull · = true)) fun p _ => noNull_prune p.2)

/-! ## A marker entry with extra keys is an error -/

theorem C11_marker_extra_keys_error (m : Fields) (hb : fhasBool m "$output" true = true)
    (hl : (fdel m "$output").length > 0) :
    findOutputs (.list [.map m]) = .error .extraKeys := by
  have hs : hasListMapBool [.map m] "$output" true = true := by
    rw [o_hasListMapBool_cons, isMarker, hb]; rfl
  rw [os_findOutputs_list_eq, hs, os_findOutputsList_marker_eq m [] hb, if_pos hl]

/-- anywhere in a list, such an entry makes `findOutputs` fail (possibly with an earlier error) -/
theorem C11_marker_extra_keys_error_mem (xs : List Val) (m : Fields) (hm : .map m ∈ xs)
    (hb : fhasBool m "$output" true = true) (hl : (fdel m "$output").length > 0) :
    ∃ e, findOutputs (.list xs) = .error e := by
  cases h : findOutputs (.list xs) with
  | error e => exact ⟨e, rfl⟩
  | ok p =>
    obtain ⟨v', outs⟩ := p
    obtain ⟨ret, o, hf, _, _⟩ := findOutputs_list_ok h
    have hs : hasListMapBool xs "$output" true = true :=
      (hasListMapBool_eq xs _ _).trans (List.any_eq_true.2 ⟨.map m, hm, hb⟩)
    rw [hs] at hf
    have := o_findOutputsList_marker_clean xs ret o hf m hm hb
    omega

example : fhasBool [("$output", .bool true), ("x", .int 1)] "$output" true = true ∧
    (fdel [("$output", .bool true), ("x", .int 1)] "$output").length > 0 := by decide

/-! ## No `$output` key reaches the finalisation step of `emit` -/

/-- a validated tree has no map key that `validateString` rejects -/
theorem C11_validate_no_bad_key (k : String) (hk : validateString k ≠ .ok ()) (v : Val) :
    validate v = .ok () → hasKey k v = false := by
  induction v using Val.induction_mem with
  | map kvs ih =>
    intro h
    rw [validate, validateFields_ok_iff] at h
    rw [hasKey, hasKeyFields_false]
    intro p hp
    rw [ih p hp (h p hp).2, Bool.or_false, beq_eq_false_iff_ne]
    intro e; subst e; exact hk (h p hp).1
  | list xs ih =>
    intro h
    rw [validate, validateList_ok] at h
    exact (hasKey.eq_2 k xs).trans (hasKeyList_false.2 fun x hx => ih x hx (h x hx))
  | _ => intro _; rfl

theorem C11_validate_no_bad_key_list (k : String) (hk : validateString k ≠ .ok ()) :
    ∀ (xs : List Val), validateList xs = .ok () → hasKeyList k xs = false := fun xs h =>
  (hasKey.eq_2 k xs).symm.trans (C11_validate_no_bad_key k hk (.list xs) (by rwa [validate]))
theorem C11_validate_no_bad_key_fields (k : String) (hk : validateString k ≠ .ok ()) :
    ∀ (kvs : Fields), validateFields kvs = .ok () → hasKeyFields k kvs = false := fun kvs h =>
  (hasKey.eq_1 k kvs).symm.trans (C11_validate_no_bad_key k hk (.map kvs) (by rwa [validate]))

example : validateString "$output" ≠ .ok () ∧
    validate (.map [("a", .list [.map [("$$output", .bool true)]])]) = .ok () := by decide +kernel

theorem C11_no_key_no_marker_list : ∀ (xs : List Val), hasKeyList "$output" xs = false →
    hasOutTrueList xs = false ∧ hasOutFalseList xs = false := fun _ h =>
  have hc := fun x hx => C11_no_key_no_marker x (hasKeyList_false.1 h x hx)
  ⟨hasOutTrueList_false.2 fun x hx => (hc x hx).1, hasOutFalseList_false.2 fun x hx => (hc x hx).2⟩
theorem C11_no_key_no_marker_fields : ∀ (kvs : Fields), hasKeyFields "$output" kvs = false →
    hasOutTrueFields kvs = false ∧ hasOutFalseFields kvs = false := fun _ h =>
  have hc := fun p hp =>
    C11_no_key_no_marker p.2 (Bool.or_eq_false_iff.1 (hasKeyFields_false.1 h p hp)).2
  ⟨hasOutTrueFields_false.2 fun p hp => (hc p hp).1, hasOutFalseFields_false.2 fun p hp => (hc p hp).2⟩

example : hasKey "$output" (.map [("a", .list [.map [("b", .bool true)]])]) = false := by decide

/-- Every document `emit` returns is `finalize v2` of a validated tree `v2` that contains no
    `$output` key at all (hence no marker of either polarity) and no `null`.  (Nothing is claimed
    about `finalize v2` itself: `finalize` turns a key "$$output" into "$output".) -/
theorem C11_emit_no_markers (ds outs : List Val) (h : emit ds = .ok outs) :
    ∀ o ∈ outs, ∃ v2, o = finalize v2 ∧ validate v2 = .ok () ∧ hasKey "$output" v2 = false ∧
      hasOutTrue v2 = false ∧ hasOutFalse v2 = false ∧ noNull v2 = true := by
  intro o ho
  obtain ⟨vs, _, h⟩ := emit_ok h
  obtain ⟨v, _, v2, hf, hv, rfl⟩ := emitFinish_mem vs outs h o ho
  have hk := C11_validate_no_bad_key "$output" (by decide) v2 hv
  obtain ⟨a, b⟩ := C11_no_key_no_marker v2 hk
  exact ⟨v2, rfl, hv, hk, a, b, C11_no_null v v2 hf⟩

/-- provenance of every emitted document: selected (or root) subtree, then hidden parts removed,
    validated, finalised -/
theorem C11_emit_provenance (ds outs : List Val) (h : emit ds = .ok outs) :
    ∀ o ∈ outs, ∃ d ∈ ds, ∃ obj sel v v2, findOutputs d = .ok (obj, sel) ∧
      ((sel = [] ∧ v = obj) ∨ v ∈ sel) ∧ hasOutTrue v = false ∧
      filterOutput v = .ok (some v2) ∧ hidden v = false ∧ validate v2 = .ok () ∧
      o = finalize v2 := by
  intro o ho
  obtain ⟨vs, hs, h⟩ := emit_ok h
  obtain ⟨v, hv, v2, hf, hval, rfl⟩ := emitFinish_mem vs outs h o ho
  obtain ⟨d, hd, obj, sel, hfo, hsel⟩ := emitSelect_mem ds vs hs v hv
  obtain ⟨m1, m2⟩ := C11_markers_stripped d obj sel hfo
  have hclean : hasOutTrue v = false := by
    rcases hsel with ⟨_, rfl⟩ | hm
    · exact m1
    · exact m2 v hm
  have hh : hidden v = false := Bool.eq_false_iff.2 (C11_hidden_not_kept v v2 · hf)
  exact ⟨d, hd, obj, sel, v, v2, hfo, hsel, hclean, hf, hh, hval, rfl⟩

example : emit [.map [("a", .map [("$output", .bool true), ("x", .int 1), ("y", .null)]),
                      ("b", .list [.map [("$output", .bool true)], .str "$$z",
                                   .map [("k", .map [("$output", .bool false), ("h", .int 2)])]])]] =
    .ok [.map [("x", .int 1)], .list [.str "$z", .map []]] := by decide +kernel

/-! # Specification of selection against independent definitions

  Paths are lists of `PathElem` (`.key k` = map key, `.idx i` = list index), always relative to
  the ORIGINAL document (before any marker is removed). -/

/-- the subtree at a path; `none` if the path does not exist -/
def subtreeAt : Val → List PathElem → Option Val
  | v, [] => some v
  | .map kvs, .key k :: p =>
    match fget kvs k with
    | some c => subtreeAt c p
    | none => none
  | .list xs, .idx i :: p =>
    match xs[i]? with
    | some c => subtreeAt c p
    | none => none
  | _, _ :: _ => none

/-! ## Paths, one step at a time -/

/-- one step down -/
def childAt : Val → PathElem → Option Val
  | .map kvs, .key k => fget kvs k
  | .list xs, .idx i => xs[i]?
  | _, _ => none

theorem C11_aux_subtreeAt_cons (t : Val) (e : PathElem) (p : List PathElem) :
    subtreeAt t (e :: p) = match childAt t e with
      | some c => subtreeAt c p
      | none => none := by
  cases t <;> cases e <;> simp only [subtreeAt, childAt]

theorem C11_aux_subtreeAt_append (p q : List PathElem) : ∀ (t : Val),
    subtreeAt t (p ++ q) = match subtreeAt t p with
      | some c => subtreeAt c q
      | none => none := by
  induction p with
  | nil => intro t; rfl
  | cons e p ih =>
    intro t
    rw [List.cons_append, C11_aux_subtreeAt_cons, C11_aux_subtreeAt_cons]
    cases childAt t e with
    | none => rfl
    | some c => exact ih c

theorem C11_aux_childAt_wf {t c : Val} {e : PathElem} (hw : t.WF) (h : childAt t e = some c) :
    c.WF := by
  cases t with
  | map kvs =>
    cases e with
    | key k => exact wf_of_fget hw h
    | idx i => cases h
  | list xs =>
    cases e with
    | key k => cases h
    | idx i => exact wf_list_iff.1 hw c (List.mem_of_getElem? h)
  | _ => cases h

theorem C11_aux_map_subtreeAt_step {α : Type} {t c : Val} {e : PathElem}
    (h : childAt t e = some c) (f : Option Val → α) (l : List (List PathElem)) :
    (l.map (e :: ·)).map (fun p => f (subtreeAt t p)) = l.map (fun p => f (subtreeAt c p)) := by
  rw [List.map_map]
  apply List.map_congr_left
  intro p _
  simp only [Function.comp, C11_aux_subtreeAt_cons, h]

/-! `selectedPaths` and `pathsWhere` collect the paths found in each child `c`, by some `f c`,
  prefix them with the index or key of `c` and concatenate: membership in such a list. -/

section
variable {f : Val → List (List PathElem)} {g : List Val → Nat → List (List PathElem)}
  (hnil : ∀ i, g [] i = [])
  (hcons : ∀ x xs i, g (x :: xs) i = (f x).map (PathElem.idx i :: ·) ++ g xs (i + 1))
include hnil hcons

theorem C11_aux_mem_idxPaths (p : List PathElem) : ∀ (xs : List Val) (i : Nat),
    p ∈ g xs i ↔ ∃ j c q, p = .idx (i + j) :: q ∧ xs[j]? = some c ∧ q ∈ f c
  | [], i => by simp [hnil]
  | x :: xs, i => by
    simp only [hcons, List.mem_append, C11_aux_mem_idxPaths p xs (i + 1), List.mem_map]
    constructor
    · rintro (⟨q, hq, rfl⟩ | ⟨j, c, q, rfl, hc, hq⟩)
      · exact ⟨0, x, q, rfl, rfl, hq⟩
      · exact ⟨j + 1, c, q, by congr 2; omega, by simpa using hc, hq⟩
    · rintro ⟨j, c, q, rfl, hc, hq⟩
      cases j with
      | zero => cases hc; exact Or.inl ⟨q, hq, rfl⟩
      | succ j => exact Or.inr ⟨j, c, q, by congr 2; omega, by simpa using hc, hq⟩

theorem C11_aux_cons_mem_idxPaths (xs : List Val) (e : PathElem) (q : List PathElem) :
    e :: q ∈ g xs 0 ↔ ∃ c, childAt (.list xs) e = some c ∧ q ∈ f c := by
  rw [C11_aux_mem_idxPaths hnil hcons]
  constructor
  · rintro ⟨j, c, q', heq, hc, hq⟩
    cases heq
    exact ⟨c, by simpa [childAt] using hc, hq⟩
  · rintro ⟨c, hc, hq⟩
    cases e with
    | key k => cases hc
    | idx i => exact ⟨i, c, q, by simp, hc, hq⟩

theorem C11_aux_nil_not_mem_idxPaths (xs : List Val) (i : Nat) : [] ∉ g xs i := fun h => by
  obtain ⟨_, _, _, h, _⟩ := (C11_aux_mem_idxPaths hnil hcons [] xs i).1 h; cases h

end

section
variable {f : Val → List (List PathElem)} {g : Fields → List (List PathElem)} (hnil : g [] = [])
  (hcons : ∀ k v rest, g ((k, v) :: rest) = (f v).map (PathElem.key k :: ·) ++ g rest)
include hnil hcons

theorem C11_aux_mem_keyPaths (p : List PathElem) : ∀ (kvs : Fields),
    p ∈ g kvs ↔ ∃ k c q, p = .key k :: q ∧ (k, c) ∈ kvs ∧ q ∈ f c
  | [] => by simp [hnil]
  | (k, v) :: rest => by
    simp only [hcons, List.mem_append, C11_aux_mem_keyPaths p rest, List.mem_map,
      List.mem_cons]
    constructor
    · rintro (⟨q, hq, rfl⟩ | ⟨k', c, q, rfl, hc, hq⟩)
      · exact ⟨k, v, q, rfl, Or.inl rfl, hq⟩
      · exact ⟨k', c, q, rfl, Or.inr hc, hq⟩
    · rintro ⟨k', c, q, rfl, hc | hc, hq⟩
      · cases hc; exact Or.inl ⟨q, hq, rfl⟩
      · exact Or.inr ⟨k', c, q, rfl, hc, hq⟩

theorem C11_aux_cons_mem_keyPaths {kvs : Fields} (hs : Fields.SortedKeys kvs)
    (e : PathElem) (q : List PathElem) :
    e :: q ∈ g kvs ↔ ∃ c, childAt (.map kvs) e = some c ∧ q ∈ f c := by
  rw [C11_aux_mem_keyPaths hnil hcons]
  constructor
  · rintro ⟨k, c, q', heq, hc, hq⟩
    cases heq
    exact ⟨c, fget_of_mem_sorted hs hc, hq⟩
  · rintro ⟨c, hc, hq⟩
    cases e with
    | key k => exact ⟨k, c, q, rfl, fget_mem hc, hq⟩
    | idx i => cases hc

theorem C11_aux_nil_not_mem_keyPaths (kvs : Fields) : [] ∉ g kvs := fun h => by
  obtain ⟨_, _, _, h, _⟩ := (C11_aux_mem_keyPaths hnil hcons [] kvs).1 h; cases h

end

theorem C11_aux_nil_mem_ite (b : Bool) :
    ([] : List PathElem) ∈ (if b then [[]] else []) ↔ b = true := by
  cases b <;> simp

theorem C11_aux_cons_not_mem_ite (b : Bool) (e : PathElem) (q : List PathElem) :
    e :: q ∉ (if b then [[]] else []) := by
  cases b <;> simp

/-- a container that carries the selection marker: a map with `$output: true`, a list with a
    `{$output: true}` entry -/
def carriesTrue : Val → Bool
  | .map kvs => fhasBool kvs "$output" true
  | .list xs => hasListMapBool xs "$output" true
  | _ => false

mutual
/-- Paths of the selected containers, in output order.  A map: itself first (if marked), then
    its children in key order.  A list: its children in index order, then itself (if marked).
    The `{$output: true}` entries of a list ARE the list's marker: they are not visited. -/
def selectedPaths : Val → List (List PathElem)
  | .map kvs => (if fhasBool kvs "$output" true then [[]] else []) ++ selectedPathsFields kvs
  | .list xs => selectedPathsList xs 0 ++ (if hasListMapBool xs "$output" true then [[]] else [])
  | _ => []
/-- entries of a list, the head having index `i` -/
def selectedPathsList : List Val → Nat → List (List PathElem)
  | [], _ => []
  | x :: xs, i =>
    (if isTrueMarker x then [] else (selectedPaths x).map (PathElem.idx i :: ·)) ++
      selectedPathsList xs (i + 1)
def selectedPathsFields : Fields → List (List PathElem)
  | [] => []
  | (k, v) :: rest => (selectedPaths v).map (PathElem.key k :: ·) ++ selectedPathsFields rest
end

mutual
/-- The value with every selection marker removed: the key `$output` of every map carrying
    `$output: true`, and every `{$output: true}` entry of a list.  Nothing else changes; in
    particular a selected subtree STAYS in its parent (stripped). -/
def stripOut : Val → Val
  | .map kvs =>
    .map (if fhasBool kvs "$output" true then fdel (stripOutFields kvs) "$output"
          else stripOutFields kvs)
  | .list xs => .list (stripOutList xs)
  | v => v
def stripOutList : List Val → List Val
  | [] => []
  | x :: xs => if isTrueMarker x then stripOutList xs else stripOut x :: stripOutList xs
def stripOutFields : Fields → Fields
  | [] => []
  | (k, v) :: rest => (k, stripOut v) :: stripOutFields rest
end

mutual
/-- some list (outside the consumed marker entries) has a marker entry with extra keys: the only
    way `findOutputs` fails -/
def hasBadMarker : Val → Bool
  | .map kvs => hasBadMarkerFields kvs
  | .list xs => hasBadMarkerList xs
  | _ => false
def hasBadMarkerList : List Val → Bool
  | [] => false
  | x :: xs => (if isTrueMarker x then isBadMarker true x else hasBadMarker x) || hasBadMarkerList xs
def hasBadMarkerFields : Fields → Bool
  | [] => false
  | (_, v) :: rest => hasBadMarker v || hasBadMarkerFields rest
end

mutual
/-- the stripped selected subtrees by direct recursion (auxiliary; see `C11_aux_selDocs_paths`) -/
def selDocs : Val → List Val
  | .map kvs => (if fhasBool kvs "$output" true then [stripOut (.map kvs)] else []) ++ selDocsFields kvs
  | .list xs => selDocsList xs ++ (if hasListMapBool xs "$output" true then [stripOut (.list xs)] else [])
  | _ => []
def selDocsList : List Val → List Val
  | [] => []
  | x :: xs => (if isTrueMarker x then [] else selDocs x) ++ selDocsList xs
def selDocsFields : Fields → List Val
  | [] => []
  | (_, v) :: rest => selDocs v ++ selDocsFields rest
end

/-- running example: a marked root map; a marked list (two marker entries) holding a marked map
    one level down; an unmarked map holding a marked map -/
def c11_ex : Val :=
  .map [("$output", .bool true),
        ("a", .list [.map [("$output", .bool true)],
                     .map [("m", .map [("$output", .bool true), ("x", .int 1)])],
                     .map [("$output", .bool true)], .int 2]),
        ("b", .map [("c", .map [("$output", .bool true), ("y", .null)])])]

example : selectedPaths c11_ex =
      [[], [.key "a", .idx 1, .key "m"], [.key "a"], [.key "b", .key "c"]] ∧
    stripOut c11_ex =
      .map [("a", .list [.map [("m", .map [("x", .int 1)])], .int 2]),
            ("b", .map [("c", .map [("y", .null)])])] ∧
    subtreeAt c11_ex [.key "a", .idx 1, .key "m"] = some (.map [("$output", .bool true), ("x", .int 1)]) ∧
    subtreeAt c11_ex [.key "a", .idx 7] = none := by decide +kernel

mutual
/-- `findOutputs` in closed form on a well-formed tree: it fails exactly on `hasBadMarker`, and else returns
    `stripOut v` with the documents `selDocs v`.  The companions carry what the caller has established of
    `skip`: it is set whenever the list has a marker entry, and a skipped `$output` entry of a map is
    `true`.  The second is the one place where sortedness is used: a map with a second `$output` key would
    lose that entry too (the counterexample below `C11_selected_spec`). -/
theorem C11_findOutputs_eq : ∀ (v : Val), v.wfB = true →
    findOutputs v =
      if hasBadMarker v then .error .extraKeys else .ok (stripOut v, selDocs v)
  | .map kvs, hw => by
    simp only [Val.wfB, Bool.and_eq_true] at hw
    rw [os_findOutputs_map_eq, C11_findOutputs_eq_fields kvs _ hw.2
      (o_fhasBool_sorted_mem kvs _ _ hw.1)]
    rw [hasBadMarker, selDocs, stripOut]
    cases hasBadMarkerFields kvs <;> cases fhasBool kvs "$output" true <;> rfl
  | .list xs, hw => by
    simp only [Val.wfB] at hw
    rw [os_findOutputs_list_eq, C11_findOutputs_eq_list xs _ hw id]
    rw [hasBadMarker, selDocs, stripOut]
    cases hasBadMarkerList xs <;> cases hasListMapBool xs "$output" true <;>
      simp only [Bool.false_eq_true, if_false, if_true, List.append_nil]
  | .null, _ | .bool _, _ | .int _, _ | .flt _, _ | .str _, _ => rfl
termination_by structural x => x
theorem C11_findOutputs_eq_list : ∀ (xs : List Val) (skip : Bool), Val.wfListB xs = true →
    (hasListMapBool xs "$output" true = true → skip = true) →
    findOutputsList xs skip =
      if hasBadMarkerList xs then .error .extraKeys else .ok (stripOutList xs, selDocsList xs)
  | [], skip, _, _ => rfl
  | x :: xs, skip, hw, hinv => by
    simp only [Val.wfListB, Bool.and_eq_true] at hw
    rw [o_hasListMapBool_cons, Bool.or_eq_true] at hinv
    have ih2 := C11_findOutputs_eq_list xs skip hw.2 (fun hx => hinv (Or.inr hx))
    cases hm : isTrueMarker x with
    | true =>
      cases hinv (Or.inl hm)
      cases x with
      | map m =>
        rw [os_findOutputsList_marker_eq m xs hm, ih2, hasBadMarkerList, stripOutList, selDocsList,
          hm, isBadMarker, show fhasBool m "$output" true = true from hm]
        by_cases hl : (fdel m "$output").length > 0
        · rw [if_pos hl, decide_eq_true hl]; rfl
        · rw [if_neg hl, decide_eq_false hl]; rfl
      | _ => cases hm
    | false =>
      rw [os_findOutputsList_step_eq x xs skip (fun h => Bool.false_ne_true (hm.symm.trans h.2)),
        C11_findOutputs_eq x hw.1, ih2]
      rw [hasBadMarkerList, stripOutList, selDocsList, hm]
      cases hasBadMarker x <;> cases hasBadMarkerList xs <;> rfl
termination_by structural x => x
theorem C11_findOutputs_eq_fields : ∀ (kvs : Fields) (skip : Bool), Val.wfFieldsB kvs = true →
    (skip = true → ∀ kv ∈ kvs, kv.1 = "$output" → kv.2 = .bool true) →
    findOutputsFields kvs skip =
      if hasBadMarkerFields kvs then .error .extraKeys
      else .ok (if skip then fdel (stripOutFields kvs) "$output" else stripOutFields kvs,
                selDocsFields kvs)
  | [], skip, _, _ => by cases skip <;> rfl
  | (k, v) :: rest, skip, hw, hinv => by
    simp only [Val.wfFieldsB, Bool.and_eq_true] at hw
    have ih2 := C11_findOutputs_eq_fields rest skip hw.2
      (fun hs kv hm => hinv hs kv (List.mem_cons_of_mem _ hm))
    by_cases hc : skip = true ∧ k = "$output"
    · rw [os_findOutputsFields_skip_eq k v rest skip hc, ih2]
      cases hinv hc.1 (k, v) List.mem_cons_self hc.2
      obtain ⟨rfl, rfl⟩ := hc
      rw [hasBadMarkerFields, stripOutFields, selDocsFields, fdel, if_pos rfl]
      rfl
    · rw [os_findOutputsFields_step_eq k v rest skip hc, C11_findOutputs_eq v hw.1, ih2]
      rw [hasBadMarkerFields, stripOutFields, selDocsFields]
      cases hasBadMarker v <;> cases hasBadMarkerFields rest <;> try rfl
      cases skip with
      | false => rfl
      | true => rw [fdel, if_neg fun hk => hc ⟨rfl, hk⟩]; rfl
termination_by structural x => x
end

example : c11_ex.wfB = true ∧ hasBadMarker c11_ex = false := by decide +kernel
example : hasBadMarker (.list [.map [("$output", .bool true), ("x", .int 1)]]) = true ∧
    findOutputs (.list [.map [("$output", .bool true), ("x", .int 1)]]) = .error .extraKeys := by
  decide

mutual
/-- the companions walk a suffix `rest` of the entries of the container `all`, at offset `i` in a list, so
    that the paths stay relative to `all` and `subtreeAt` steps through `all` itself -/
theorem C11_aux_selDocs_paths : ∀ (v : Val), v.wfB = true →
    (selectedPaths v).map (fun p => (subtreeAt v p).map stripOut) = (selDocs v).map some
  | .map kvs, hw => by
    simp only [Val.wfB, Bool.and_eq_true] at hw
    have ih := C11_aux_selDocs_paths_fields kvs kvs hw.2
      (fun kv hm => fget_of_mem_sorted (sortedKeysB_iff.1 hw.1) hm)
    simp only [selectedPaths, selDocs, List.map_append, ih]
    cases fhasBool kvs "$output" true <;> rfl
  | .list xs, hw => by
    simp only [Val.wfB] at hw
    have ih := C11_aux_selDocs_paths_list xs xs 0 hw (fun j => by simp)
    simp only [selectedPaths, selDocs, List.map_append, ih]
    cases hasListMapBool xs "$output" true <;> rfl
  | .null, _ | .bool _, _ | .int _, _ | .flt _, _ | .str _, _ => rfl
termination_by structural x => x
theorem C11_aux_selDocs_paths_list : ∀ (all rest : List Val) (i : Nat),
    Val.wfListB rest = true → (∀ j, rest[j]? = all[i + j]?) →
    (selectedPathsList rest i).map (fun p => (subtreeAt (.list all) p).map stripOut) =
      (selDocsList rest).map some
  | _, [], _, _, _ => rfl
  | all, x :: xs, i, hw, hidx => by
    simp only [Val.wfListB, Bool.and_eq_true] at hw
    have hx : all[i]? = some x := by have := hidx 0; simpa using this.symm
    have ih2 := C11_aux_selDocs_paths_list all xs (i + 1) hw.2 (fun j => by
      have := hidx (j + 1)
      rw [List.getElem?_cons_succ] at this
      rw [this]; congr 1; omega)
    simp only [selectedPathsList, selDocsList, List.map_append, ih2]
    congr 1
    cases isTrueMarker x with
    | true => rfl
    | false => exact (C11_aux_map_subtreeAt_step (t := .list all) (e := .idx i) hx _ _).trans (C11_aux_selDocs_paths x hw.1)
termination_by structural _ rest => rest
theorem C11_aux_selDocs_paths_fields : ∀ (all rest : Fields),
    Val.wfFieldsB rest = true → (∀ kv ∈ rest, fget all kv.1 = some kv.2) →
    (selectedPathsFields rest).map (fun p => (subtreeAt (.map all) p).map stripOut) =
      (selDocsFields rest).map some
  | _, [], _, _ => rfl
  | all, (k, v) :: rest, hw, hget => by
    simp only [Val.wfFieldsB, Bool.and_eq_true] at hw
    have hk : fget all k = some v := hget (k, v) List.mem_cons_self
    have ih2 := C11_aux_selDocs_paths_fields all rest hw.2
      (fun kv hm => hget kv (List.mem_cons_of_mem _ hm))
    simp only [selectedPathsFields, selDocsFields, List.map_append, ih2]
    congr 1
    exact (C11_aux_map_subtreeAt_step (t := .map all) (e := .key k) hk _ _).trans (C11_aux_selDocs_paths v hw.1)
termination_by structural _ rest => rest
end

/-- **Selection, specified.**  When `findOutputs` succeeds on a well-formed tree, the parent
    document is the tree with all selection markers removed (selected subtrees stay in it), and
    the selected documents are exactly the (stripped) subtrees at `selectedPaths v`: every
    path exists, each is listed once, in the documented order. -/
theorem C11_selected_spec (v v' : Val) (outs : List Val) (hw : v.WF)
    (h : findOutputs v = .ok (v', outs)) :
    v' = stripOut v ∧
    outs.map some = (selectedPaths v).map (fun p => (subtreeAt v p).map stripOut) := by
  rw [C11_findOutputs_eq v hw] at h
  split at h
  · cases h
  · cases h
    exact ⟨rfl, (C11_aux_selDocs_paths v hw).symm⟩

example : c11_ex.wfB = true ∧
    findOutputs c11_ex = .ok (stripOut c11_ex,
      [stripOut c11_ex, .map [("x", .int 1)], .list [.map [("m", .map [("x", .int 1)])], .int 2],
       .map [("y", .null)]]) ∧
    (selectedPaths c11_ex).map (fun p => (subtreeAt c11_ex p).map stripOut) =
      [some (stripOut c11_ex), some (.map [("x", .int 1)]),
       some (.list [.map [("m", .map [("x", .int 1)])], .int 2]), some (.map [("y", .null)])] := by
  decide +kernel

/-- well-formedness is needed (same counterexample as for `C11_selected_count_partial`): the
    second `$output` entry is skipped together with the marker -/
example : ∃ v v' outs, findOutputs v = .ok (v', outs) ∧ outs.length ≠ (selectedPaths v).length :=
  ⟨.map [("$output", .bool true), ("$output", .map [("$output", .bool true)])], .map [], [.map []],
    by decide, by decide⟩

/-! ## The number of selected subtrees -/

/-- Without well-formedness (sorted, hence duplicate-free keys) the count is wrong: a second
    `$output` entry is skipped together with the marker, so markers below it are never seen. -/
example : ∃ v v' outs, findOutputs v = .ok (v', outs) ∧ outs.length ≠ countSel v :=
  ⟨.map [("$output", .bool true), ("$output", .map [("$output", .bool true)])], .map [], [.map []],
    by decide, by decide⟩

theorem C11_aux_length_selDocs_all :
    (∀ (v : Val), (selDocs v).length = countSel v) ∧
    (∀ (xs : List Val), (selDocsList xs).length = countSelList xs) ∧
    (∀ (kvs : Fields), (selDocsFields kvs).length = countSelFields kvs) := by
  apply Val.induction₃
  case map =>
    intro kvs ih
    simp only [selDocs, countSel, List.length_append, ih]
    split <;> rfl
  case list =>
    intro xs ih
    simp only [selDocs, countSel, List.length_append, ih, Nat.add_comm]
    split <;> rfl
  case lcons =>
    intro x xs ih1 ih2
    simp only [selDocsList, countSelList, List.length_append, ih2]
    split
    · rfl
    · rw [ih1]
  case fcons =>
    intro k v rest ih1 ih2
    simp only [selDocsFields, countSelFields, List.length_append, ih1, ih2]
  all_goals intros; rfl

/-- `_partial`: needs `Val.WF` (see the counterexample above) -/
theorem C11_selected_count_partial : ∀ (v v' : Val) (outs : List Val), v.wfB = true →
    findOutputs v = .ok (v', outs) → outs.length = countSel v := by
  intro v v' outs hw h
  rw [C11_findOutputs_eq v hw] at h
  split at h
  · cases h
  · cases h; exact C11_aux_length_selDocs_all.1 v

theorem C11_selected_count_list : ∀ (xs : List Val) (skip : Bool) (r outs : List Val),
    Val.wfListB xs = true → (hasListMapBool xs "$output" true = true → skip = true) →
    findOutputsList xs skip = .ok (r, outs) → outs.length = countSelList xs := by
  intro xs skip r outs hw hinv h
  rw [C11_findOutputs_eq_list xs skip hw hinv] at h
  split at h
  · cases h
  · cases h; exact C11_aux_length_selDocs_all.2.1 xs

theorem C11_selected_count_fields : ∀ (kvs : Fields) (skip : Bool) (r : Fields) (outs : List Val),
    Val.wfFieldsB kvs = true →
    (skip = true → ∀ kv ∈ kvs, kv.1 = "$output" → kv.2 = .bool true) →
    findOutputsFields kvs skip = .ok (r, outs) → outs.length = countSelFields kvs := by
  intro kvs skip r outs hw hinv h
  rw [C11_findOutputs_eq_fields kvs skip hw hinv] at h
  split at h
  · cases h
  · cases h; exact C11_aux_length_selDocs_all.2.2 kvs

example :
    let v := Val.map [("$output", .bool true), ("a", .list [.map [("$output", .bool true)], .int 1]),
                      ("b", .map [("$output", .bool true), ("c", .int 2)])]
    v.wfB = true ∧ findOutputs v =
      .ok (.map [("a", .list [.int 1]), ("b", .map [("c", .int 2)])],
           [.map [("a", .list [.int 1]), ("b", .map [("c", .int 2)])], .list [.int 1],
            .map [("c", .int 2)]]) ∧ countSel v = 3 := by
  decide +kernel

/-! ## `selectedPaths` is exactly the set of marked containers -/

/-- the path exists and does not enter a `{$output: true}` entry of a list (those entries are
    consumed as the list's marker) -/
def liveAt : Val → List PathElem → Bool
  | _, [] => true
  | .map kvs, .key k :: p =>
    match fget kvs k with
    | some c => liveAt c p
    | none => false
  | .list xs, .idx i :: p =>
    match xs[i]? with
    | some c => !isTrueMarker c && liveAt c p
    | none => false
  | _, _ :: _ => false

theorem C11_aux_liveAt_cons (t : Val) (e : PathElem) (p : List PathElem) :
    liveAt t (e :: p) = match childAt t e with
      | some c => !(t.isList && isTrueMarker c) && liveAt c p
      | none => false := by
  cases t <;> cases e <;> simp only [liveAt, childAt, Val.isList, Bool.false_and, Bool.true_and,
    Bool.not_false]

theorem C11_aux_selectedPathsList_cons (x : Val) (xs : List Val) (i : Nat) :
    selectedPathsList (x :: xs) i =
      (if isTrueMarker x then [] else selectedPaths x).map (PathElem.idx i :: ·) ++
        selectedPathsList xs (i + 1) := by
  rw [selectedPathsList]; cases isTrueMarker x <;> rfl

theorem C11_aux_mem_selectedPathsList (p : List PathElem) (xs : List Val) (i : Nat) :
    p ∈ selectedPathsList xs i ↔
      ∃ j c q, p = .idx (i + j) :: q ∧ xs[j]? = some c ∧
        q ∈ (if isTrueMarker c then [] else selectedPaths c) :=
  C11_aux_mem_idxPaths (fun _ => rfl) C11_aux_selectedPathsList_cons p xs i

theorem C11_aux_mem_selectedPathsFields (p : List PathElem) (kvs : Fields) :
    p ∈ selectedPathsFields kvs ↔
      ∃ k c q, p = .key k :: q ∧ (k, c) ∈ kvs ∧ q ∈ selectedPaths c :=
  C11_aux_mem_keyPaths rfl (fun _ _ _ => rfl) p kvs

theorem C11_aux_nil_mem_selectedPaths (v : Val) : [] ∈ selectedPaths v ↔ carriesTrue v = true := by
  have hf := C11_aux_nil_not_mem_keyPaths (f := selectedPaths) (g := selectedPathsFields) rfl
    (fun _ _ _ => rfl)
  have hl : ∀ xs i, [] ∉ selectedPathsList xs i := fun xs i h => by
    obtain ⟨_, _, _, h, _⟩ := (C11_aux_mem_selectedPathsList [] xs i).1 h; cases h
  cases v <;> simp only [selectedPaths, carriesTrue, List.mem_append, hf, hl, or_false, false_or,
    List.not_mem_nil, Bool.false_eq_true, C11_aux_nil_mem_ite]

theorem C11_aux_cons_mem_selectedPaths (e : PathElem) (q : List PathElem) (v : Val) (hw : v.WF) :
    e :: q ∈ selectedPaths v ↔ ∃ c, childAt v e = some c ∧
      q ∈ (if v.isList && isTrueMarker c then [] else selectedPaths c) := by
  cases v with
  | map kvs =>
    simp only [selectedPaths, List.mem_append, C11_aux_cons_not_mem_ite, false_or]
    exact C11_aux_cons_mem_keyPaths rfl (fun _ _ _ => rfl) (wf_map_iff.1 hw).1 e q
  | list xs =>
    simp only [selectedPaths, List.mem_append, C11_aux_cons_not_mem_ite, or_false]
    exact C11_aux_cons_mem_idxPaths (fun _ => rfl) C11_aux_selectedPathsList_cons xs e q
  | null | bool _ | int _ | flt _ | str _ => simp [selectedPaths, childAt]

/-- **exactly the marked subtrees**: a path is listed iff it leads (without entering a consumed
    marker entry) to a map carrying `$output: true` or a list carrying a `{$output: true}` entry -/
theorem C11_selectedPaths_mem : ∀ (p : List PathElem) (v : Val), v.WF →
    (p ∈ selectedPaths v ↔
      liveAt v p = true ∧ ∃ t, subtreeAt v p = some t ∧ carriesTrue t = true)
  | [], v, _ => by simp [C11_aux_nil_mem_selectedPaths, liveAt, subtreeAt]
  | e :: q, v, hw => by
    rw [C11_aux_cons_mem_selectedPaths e q v hw, C11_aux_subtreeAt_cons, C11_aux_liveAt_cons]
    cases hc : childAt v e with
    | none => simp
    | some c =>
      simp only [Option.some.injEq, exists_eq_left']
      cases v.isList && isTrueMarker c with
      | true => simp
      | false => simpa using C11_selectedPaths_mem q c (C11_aux_childAt_wf hw hc)

example : liveAt c11_ex [.key "a", .idx 1, .key "m"] = true ∧
    liveAt c11_ex [.key "a", .idx 0] = false ∧
    (subtreeAt c11_ex [.key "a", .idx 0]).map carriesTrue = some true ∧
    [PathElem.key "a", .idx 0] ∉ selectedPaths c11_ex := by decide

mutual
/-- **each once**: no path is listed twice -/
theorem C11_selectedPaths_nodup : ∀ (v : Val), v.wfB = true → (selectedPaths v).Nodup
  | .map kvs, hw => by
    simp only [Val.wfB, Bool.and_eq_true] at hw
    simp only [selectedPaths]
    refine List.nodup_append.2 ⟨by split <;> simp, C11_selectedPaths_nodup_fields kvs hw.1 hw.2, ?_⟩
    rintro a ha _ hb rfl
    obtain ⟨_, _, _, rfl, _⟩ := (C11_aux_mem_selectedPathsFields a kvs).1 hb
    exact C11_aux_cons_not_mem_ite _ _ _ ha
  | .list xs, hw => by
    simp only [Val.wfB] at hw
    simp only [selectedPaths]
    refine List.nodup_append.2 ⟨C11_selectedPaths_nodup_list xs 0 hw, by split <;> simp, ?_⟩
    rintro a ha _ hb rfl
    obtain ⟨_, _, _, rfl, _⟩ := (C11_aux_mem_selectedPathsList a xs 0).1 ha
    exact C11_aux_cons_not_mem_ite _ _ _ hb
  | .null, _ | .bool _, _ | .int _, _ | .flt _, _ | .str _, _ => List.nodup_nil
termination_by structural x => x
theorem C11_selectedPaths_nodup_list : ∀ (xs : List Val) (i : Nat), Val.wfListB xs = true →
    (selectedPathsList xs i).Nodup
  | [], _, _ => List.nodup_nil
  | x :: xs, i, hw => by
    simp only [Val.wfListB, Bool.and_eq_true] at hw
    simp only [selectedPathsList]
    refine List.nodup_append.2 ⟨?_, C11_selectedPaths_nodup_list xs (i + 1) hw.2, ?_⟩
    · split
      · exact List.nodup_nil
      · exact os_nodup_map_cons _ _ (C11_selectedPaths_nodup x hw.1)
    · rintro a ha _ hb rfl
      obtain ⟨j, _, _, rfl, _⟩ := (C11_aux_mem_selectedPathsList a xs (i + 1)).1 hb
      split at ha
      · cases ha
      · obtain ⟨_, _, heq⟩ := List.mem_map.1 ha
        have := PathElem.idx.inj (List.cons.inj heq).1
        omega
termination_by structural x => x
theorem C11_selectedPaths_nodup_fields : ∀ (kvs : Fields), Fields.sortedKeysB kvs = true →
    Val.wfFieldsB kvs = true → (selectedPathsFields kvs).Nodup
  | [], _, _ => List.nodup_nil
  | (k, v) :: rest, hs, hw => by
    simp only [Val.wfFieldsB, Bool.and_eq_true] at hw
    simp only [selectedPathsFields]
    refine List.nodup_append.2 ⟨os_nodup_map_cons _ _ (C11_selectedPaths_nodup v hw.1),
      C11_selectedPaths_nodup_fields rest (o_sorted_tail hs) hw.2, ?_⟩
    rintro a ha _ hb rfl
    obtain ⟨k', c, _, rfl, hc, _⟩ := (C11_aux_mem_selectedPathsFields a rest).1 hb
    obtain ⟨_, _, heq⟩ := List.mem_map.1 ha
    cases heq
    exact String.lt_irrefl _ (sorted_head_lt (sortedKeysB_iff.1 hs) (k, c) hc)
termination_by structural x => x
end

/-! # Specification of hiding against independent definitions

  `prune`, `filterFails` and **Hiding, specified** (`C11_filterOutput_eq`: `filterOutput` fails exactly on
  `filterFails`; otherwise a hidden root yields nothing and any other root yields `prune`) are in
  Lemmas/C11Spec.lean. -/

example : filterFails (.map [("a", .list [.map [("$output", .bool false), ("x", .int 1)]])]) = true ∧
    filterOutput (.map [("a", .list [.map [("$output", .bool false), ("x", .int 1)]])]) =
      .error .extraKeys ∧
    -- below a hidden map the same entry is never looked at
    filterOutput (.map [("$output", .bool false),
      ("a", .list [.map [("$output", .bool false), ("x", .int 1)]])]) = .ok none := by decide

/-! ## Nothing hidden survives -/

/-- Without well-formedness a shadowed second `$output` key can surface after the first one
    has been dropped. -/
example : ∃ v r, filterOutput v = .ok (some r) ∧ hasOutFalse r = true :=
  ⟨.map [("$output", .null), ("$output", .bool false)], .map [("$output", .bool false)],
    by decide, by decide⟩

theorem C11_aux_fget_pruneFields_inv (kvs : Fields) (k : String) (s : Val)
    (hs : Fields.SortedKeys kvs) (h : fget (pruneFields kvs) k = some s) :
    ∃ c, fget kvs k = some c ∧ hidden c = false ∧ s = prune c := by
  rw [pruneFields_eq, fget_filterMapVal _ (distinctKeys_of_sorted hs)] at h
  cases hc : fget kvs k with
  | none => rw [hc] at h; cases h
  | some c =>
    rw [hc, Option.bind_some] at h
    cases hh : hidden c with
    | true => rw [hh] at h; cases h
    | false => rw [hh] at h; cases h; exact ⟨c, rfl, hh, rfl⟩

theorem C11_aux_fhasBool_pruneFields (kvs : Fields) (b : Bool)
    (hs : Fields.SortedKeys kvs) (hb : fhasBool kvs "$output" b = false) :
    fhasBool (pruneFields kvs) "$output" b = false := by
  apply Bool.eq_false_iff.2
  intro hf
  obtain ⟨c, hc, _, hp⟩ := C11_aux_fget_pruneFields_inv kvs _ _ hs (fhasBool_iff.1 hf)
  cases c <;> cases hp
  rw [fhasBool_iff.2 hc] at hb
  cases hb

theorem hasOutFalse_prune (v : Val) : v.WF → hidden v = false → hasOutFalse (prune v) = false := by
  induction v using Val.induction_mem with
  | map kvs ih =>
    intro hw hh
    obtain ⟨hs, hw⟩ := wf_map_iff.1 hw
    have := hasOutFalseFields_false.2
      (pruneFields_forall (P := (hasOutFalse · = false)) fun p hp => ih p hp (hw p hp))
    rw [prune, hasOutFalse, this, C11_aux_fhasBool_pruneFields kvs false hs hh]
    rfl
  | list xs ih =>
    intro hw _
    have := hasOutFalseList_false.2
      (pruneList_forall (P := (hasOutFalse · = false)) fun x hx => ih x hx (wf_list_iff.1 hw x hx))
    rw [prune, hasOutFalse, this, C11_aux_hasOutFalseList _ this]
    rfl
  | _ => exact fun _ _ => rfl

/-- `_partial`: needs `Val.WF` (see the counterexample above) -/
theorem C11_hidden_absent_partial (v : Val) : ∀ (r : Val), v.wfB = true →
    filterOutput v = .ok (some r) → hasOutFalse r = false ∧ noNull r = true := fun r hw h => by
  obtain ⟨_, hh, rfl⟩ := filterOutput_some h
  exact ⟨hasOutFalse_prune v hw hh, noNull_prune v hh⟩

theorem C11_hidden_absent_list : ∀ (xs rs : List Val), Val.wfListB xs = true →
    filterOutputList xs = .ok rs → hasOutFalseList rs = false ∧ noNullList rs = true :=
  fun xs rs hw h => ⟨(filterOutputList_ok_iff.1 h).2 ▸ hasOutFalseList_false.2
    (pruneList_forall (P := (hasOutFalse · = false)) fun x hx =>
      hasOutFalse_prune x (wfListB_iff.1 hw x hx)), C11_no_null_list xs rs h⟩
theorem C11_hidden_absent_fields : ∀ (kvs fs : Fields), Val.wfFieldsB kvs = true →
    filterOutputFields kvs = .ok fs → hasOutFalseFields fs = false ∧ noNullFields fs = true :=
  fun kvs fs hw h => ⟨(filterOutputFields_ok_iff.1 h).2 ▸ hasOutFalseFields_false.2
    (pruneFields_forall (P := (hasOutFalse · = false)) fun p hp =>
      hasOutFalse_prune p.2 (wfFieldsB_iff.1 hw p hp)), C11_no_null_fields kvs fs h⟩

example :
    let v := Val.map [("a", .null), ("b", .map [("$output", .bool false), ("x", .int 1)]),
                      ("c", .list [.int 1, .null, .list [.map [("$output", .bool false)]]])]
    v.wfB = true ∧ filterOutput v = .ok (some (.map [("c", .list [.int 1])])) := by decide +kernel

/-! # Root fallback -/

mutual
theorem C11_aux_no_paths : ∀ (v : Val), selectedPaths v = [] →
    stripOut v = v ∧ hasBadMarker v = false ∧ hasOutTrue v = false
  | .map kvs, h => by
    simp only [selectedPaths, List.append_eq_nil_iff] at h
    have hs : fhasBool kvs "$output" true = false := by
      cases hs : fhasBool kvs "$output" true with
      | false => rfl
      | true => rw [hs] at h; simp at h
    obtain ⟨a, b, c⟩ := C11_aux_no_paths_fields kvs h.2
    simp only [stripOut, hs, Bool.false_eq_true, if_false, a, hasBadMarker, b, hasOutTrue, c,
      Bool.or_self, and_self]
  | .list xs, h => by
    simp only [selectedPaths, List.append_eq_nil_iff] at h
    have hs : hasListMapBool xs "$output" true = false := by
      cases hs : hasListMapBool xs "$output" true with
      | false => rfl
      | true => rw [hs] at h; simp at h
    obtain ⟨a, b, c⟩ := C11_aux_no_paths_list xs 0 h.1 hs
    simp only [stripOut, a, hasBadMarker, b, hasOutTrue, c, hs, Bool.or_self, and_self]
  | .null, _ | .bool _, _ | .int _, _ | .flt _, _ | .str _, _ => ⟨rfl, rfl, rfl⟩
termination_by structural x => x
theorem C11_aux_no_paths_list : ∀ (xs : List Val) (i : Nat), selectedPathsList xs i = [] →
    hasListMapBool xs "$output" true = false →
    stripOutList xs = xs ∧ hasBadMarkerList xs = false ∧ hasOutTrueList xs = false
  | [], _, _, _ => ⟨rfl, rfl, rfl⟩
  | x :: xs, i, h, hs => by
    rw [o_hasListMapBool_cons, Bool.or_eq_false_iff, ← C11_aux_isTrueMarker_eq] at hs
    simp only [selectedPathsList, hs.1, Bool.false_eq_true, if_false, List.append_eq_nil_iff,
      List.map_eq_nil_iff] at h
    obtain ⟨a1, b1, c1⟩ := C11_aux_no_paths x h.1
    obtain ⟨a2, b2, c2⟩ := C11_aux_no_paths_list xs (i + 1) h.2 hs.2
    simp only [stripOutList, hs.1, Bool.false_eq_true, if_false, a1, a2, hasBadMarkerList, b1, b2,
      hasOutTrueList, c1, c2, Bool.or_self, and_self]
termination_by structural x => x
theorem C11_aux_no_paths_fields : ∀ (kvs : Fields), selectedPathsFields kvs = [] →
    stripOutFields kvs = kvs ∧ hasBadMarkerFields kvs = false ∧ hasOutTrueFields kvs = false
  | [], _ => ⟨rfl, rfl, rfl⟩
  | (k, v) :: rest, h => by
    simp only [selectedPathsFields, List.append_eq_nil_iff, List.map_eq_nil_iff] at h
    obtain ⟨a1, b1, c1⟩ := C11_aux_no_paths v h.1
    obtain ⟨a2, b2, c2⟩ := C11_aux_no_paths_fields rest h.2
    simp only [stripOutFields, a1, a2, hasBadMarkerFields, b1, b2, hasOutTrueFields, c1, c2,
      Bool.or_self, and_self]
termination_by structural x => x
end

mutual
theorem C11_aux_paths_of_no_marker : ∀ (v : Val), hasOutTrue v = false → selectedPaths v = []
  | .map kvs, h => by
    simp only [hasOutTrue, Bool.or_eq_false_iff] at h
    simp only [selectedPaths, h.1, Bool.false_eq_true, if_false, List.nil_append,
      C11_aux_paths_of_no_marker_fields kvs h.2]
  | .list xs, h => by
    simp only [hasOutTrue, Bool.or_eq_false_iff] at h
    simp only [selectedPaths, h.1, Bool.false_eq_true, if_false, List.append_nil,
      C11_aux_paths_of_no_marker_list xs 0 h.2]
  | .null, _ | .bool _, _ | .int _, _ | .flt _, _ | .str _, _ => rfl
termination_by structural x => x
theorem C11_aux_paths_of_no_marker_list : ∀ (xs : List Val) (i : Nat), hasOutTrueList xs = false →
    selectedPathsList xs i = []
  | [], _, _ => rfl
  | x :: xs, i, h => by
    simp only [hasOutTrueList, Bool.or_eq_false_iff] at h
    simp only [selectedPathsList, C11_aux_paths_of_no_marker x h.1, List.map_nil, ite_self,
      List.nil_append, C11_aux_paths_of_no_marker_list xs (i + 1) h.2]
termination_by structural x => x
theorem C11_aux_paths_of_no_marker_fields : ∀ (kvs : Fields), hasOutTrueFields kvs = false →
    selectedPathsFields kvs = []
  | [], _ => rfl
  | (k, v) :: rest, h => by
    simp only [hasOutTrueFields, Bool.or_eq_false_iff] at h
    simp only [selectedPathsFields, C11_aux_paths_of_no_marker v h.1, List.map_nil, List.nil_append,
      C11_aux_paths_of_no_marker_fields rest h.2]
termination_by structural x => x
end

/-- "no marker" in terms of paths and in terms of `hasOutTrue` -/
theorem C11_selectedPaths_nil_iff (v : Val) : selectedPaths v = [] ↔ hasOutTrue v = false :=
  ⟨fun h => (C11_aux_no_paths v h).2.2, C11_aux_paths_of_no_marker v⟩

/-- the paths whose subtrees are handed to the hiding / validation / finalisation stage:
    the selected ones, or the document root when nothing is selected -/
def emittedPaths (d : Val) : List (List PathElem) :=
  if selectedPaths d = [] then [[]] else selectedPaths d

/-- the candidate documents at those paths, selection markers removed -/
def docCandidates (d : Val) : List Val :=
  (emittedPaths d).filterMap fun p => (subtreeAt d p).map stripOut

/-- what the output stage makes of one candidate: nothing if it is hidden, else its hidden
    parts removed and `$$` unescaped -/
def renderDoc (v : Val) : Option Val := if hidden v then none else some (finalize (prune v))

theorem C11_aux_docCandidates (d : Val) (hw : d.WF) :
    docCandidates d = if selectedPaths d = [] then [d] else selDocs d := by
  unfold docCandidates emittedPaths
  split
  · rename_i h
    simp [subtreeAt, (C11_aux_no_paths d h).1]
  · exact filterMap_of_map_some _ _ _ (C11_aux_selDocs_paths d hw)

theorem C11_aux_selDocs_nil (d : Val) (hw : d.WF) : selDocs d = [] ↔ selectedPaths d = [] := by
  have := C11_aux_selDocs_paths d hw
  constructor
  · intro h; rw [h] at this; simpa using this
  · intro h; rw [h] at this; simpa using this.symm

/-- **`emit` on one processed document**, as an equation: selection fails only on a marker
    entry with extra keys; otherwise the candidates (`docCandidates`: the stripped subtrees at
    `emittedPaths`) go through the second loop of `emit` (`emitFinish`, see `emit_eq`). -/
theorem C11_emit_doc_eq (d : Val) (hw : d.WF) :
    emit [d] = if hasBadMarker d then .error .extraKeys else emitFinish (docCandidates d) := by
  rw [os_emit_eq, os_emitSelect_single, C11_findOutputs_eq d hw, C11_aux_docCandidates d hw]
  cases hasBadMarker d with
  | true => rfl
  | false =>
    simp only [Bool.false_eq_true, if_false, List.isEmpty_iff, C11_aux_selDocs_nil d hw]
    by_cases hp : selectedPaths d = []
    · simp only [hp, if_true, (C11_aux_no_paths d hp).1]
    · simp only [hp, if_false]

theorem C11_aux_render_eq (c : Val) (h : filterFails c = false) :
    (match filterOutput c with
     | .ok (some v2) => some (finalize v2)
     | _ => none) = renderDoc c := by
  rw [C11_filterOutput_eq c]
  simp only [h, Bool.false_eq_true, if_false, renderDoc]
  cases hidden c <;> rfl

theorem C11_aux_candidate_ok (c : Val) :
    (∃ r, filterOutput c = .ok r ∧ ∀ v2, r = some v2 → validate v2 = .ok ()) ↔
      filterFails c = false ∧ (hidden c = false → clean (prune c) = true) := by
  rw [C11_filterOutput_eq c]
  cases filterFails c <;> cases hidden c <;> simp [validate_iff]

/-- when `emit` succeeds on one processed document, and what it returns: the candidates in
    order, hidden ones dropped, the others pruned and finalised -/
theorem C11_emit_doc_spec (d : Val) (hw : d.WF) (outs : List Val) :
    emit [d] = .ok outs ↔
      hasBadMarker d = false ∧
      (∀ c ∈ docCandidates d, filterFails c = false ∧
        (hidden c = false → clean (prune c) = true)) ∧
      outs = (docCandidates d).filterMap renderDoc := by
  rw [C11_emit_doc_eq d hw]
  cases hasBadMarker d with
  | true => simp
  | false =>
    simp only [Bool.false_eq_true, if_false, os_emitFinish_ok_iff, C11_aux_candidate_ok, true_and]
    refine and_congr_right fun h3 => ?_
    exact iff_of_eq (congrArg (outs = ·)
      (filterMap_congr_mem _ _ _ (fun c hc => C11_aux_render_eq c (h3 c hc).1)))

example : docCandidates c11_ex = [stripOut c11_ex, .map [("x", .int 1)],
      .list [.map [("m", .map [("x", .int 1)])], .int 2], .map [("y", .null)]] ∧
    emit [c11_ex] =
      .ok [.map [("a", .list [.map [("m", .map [("x", .int 1)])], .int 2]), ("b", .map [("c", .map [])])],
           .map [("x", .int 1)], .list [.map [("m", .map [("x", .int 1)])], .int 2], .map []] := by
  decide +kernel

/-- **Root fallback.**  (1) Without any marker the document root is the single candidate, and
    `emit` is: hide, validate, finalise the root.  (2) With markers the candidates are exactly the
    selected subtrees; the root is among them only if it carries the marker itself.  (3) In both
    cases the outputs are the rendered candidates, in order. -/
theorem C11_root_fallback_spec (d : Val) (hw : d.WF) :
    (hasOutTrue d = false →
      emittedPaths d = [[]] ∧ docCandidates d = [d] ∧
      emit [d] =
        match filterOutput d with
        | .error e => .error e
        | .ok none => .ok []
        | .ok (some v2) =>
          match validate v2 with
          | .error e => .error e
          | .ok _ => .ok [finalize v2]) ∧
    (hasOutTrue d = true →
      emittedPaths d = selectedPaths d ∧ ([] ∈ emittedPaths d ↔ carriesTrue d = true)) ∧
    (∀ outs, emit [d] = .ok outs → outs = (docCandidates d).filterMap renderDoc) := by
  refine ⟨?_, ?_, ?_⟩
  · intro h
    have hp := (C11_selectedPaths_nil_iff d).2 h
    have hc : docCandidates d = [d] := by rw [C11_aux_docCandidates d hw, hp]; rfl
    refine ⟨by simp [emittedPaths, hp], hc, ?_⟩
    rw [C11_emit_doc_eq d hw, (C11_aux_no_paths d hp).2.1, hc, os_emitFinish_cons]
    simp only [Bool.false_eq_true, if_false, os_emitFinish_nil]
    cases filterOutput d with
    | error e => rfl
    | ok r =>
      cases r with
      | none => rfl
      | some v2 => simp only []; cases validate v2 <;> rfl
  · intro h
    have hp : selectedPaths d ≠ [] := by
      intro hp; rw [(C11_selectedPaths_nil_iff d).1 hp] at h; cases h
    have he : emittedPaths d = selectedPaths d := by simp [emittedPaths, hp]
    refine ⟨he, ?_⟩
    rw [he, C11_selectedPaths_mem [] d hw]
    simp [liveAt, subtreeAt]
  · intro outs h
    exact ((C11_emit_doc_spec d hw outs).1 h).2.2

/-- second running example: no selection marker; a hidden map, a hidden list inside a list, a
    `null`, an escaped dollar -/
def c11_ex2 : Val :=
  .map [("k", .map [("$output", .bool false), ("h", .int 2)]),
        ("l", .list [.null, .int 1, .list [.map [("$output", .bool false)]], .str "$$z"])]

example : c11_ex2.wfB = true ∧ hasOutTrue c11_ex2 = false ∧ emittedPaths c11_ex2 = [[]] ∧
    emit [c11_ex2] = .ok [.map [("l", .list [.int 1, .str "$z"])]] := by decide +kernel
example : hasOutTrue c11_ex = true ∧ carriesTrue c11_ex = true ∧ [] ∈ emittedPaths c11_ex := by
  decide
/-- markers below an unmarked root: the root is not emitted; and a subtree selected below a hidden
    map IS emitted (selection does not look at `$output: false`) -/
example : emit [.map [("a", .int 1), ("h", .map [("$output", .bool false),
      ("s", .map [("$output", .bool true), ("x", .int 1)])])]] = .ok [.map [("x", .int 1)]] := by
  decide +kernel

theorem C11_aux_emit_each (ps : List Val) (oss : List (List Val)) (hw : ∀ p ∈ ps, p.WF)
    (h : ps.mapM (fun p => emit [p]) = .ok oss) :
    oss.flatten = ps.flatMap fun p => (docCandidates p).filterMap renderDoc := by
  rw [os_mapM_ok_map _ (fun p => (docCandidates p).filterMap renderDoc) _ _ ?_ h, List.flatMap_def]
  intro p hp o ho
  exact ((C11_emit_doc_spec p (hw p hp) o).1 ho).2.2

/-- **Order across a stream** (`outputDocuments`): the merged documents are processed in
    document order (each into zero or more documents), every processed document `p` is emitted on
    its own (`emit [p]`), and the results are concatenated in that order.  When the processed
    documents are well-formed, each contributes its rendered candidates in the per-document
    order of `selectedPaths` (map: itself, then children by key; list: children by index, then
    itself). -/
theorem C11_order_stable (docs : List Val) (env : Vars) (outs : List Val)
    (h : outputDocuments docs env = .ok outs) :
    ∃ pss, docs.mapM (processDoc docs env) = .ok pss ∧
      (∃ oss, pss.flatten.mapM (fun p => emit [p]) = .ok oss ∧ outs = oss.flatten) ∧
      ((∀ p ∈ pss.flatten, p.WF) →
        outs = pss.flatten.flatMap fun p => (docCandidates p).filterMap renderDoc) := by
  obtain ⟨pss, h1, oss, h2, rfl⟩ := os_outputDocuments_stream docs env outs h
  exact ⟨pss, h1, ⟨oss, h2, rfl⟩, fun hw => C11_aux_emit_each _ oss hw h2⟩

/-- the same one level down: `emit` on the processed documents of one merged document -/
theorem C11_order_stable_emit (ps outs : List Val) (hw : ∀ p ∈ ps, p.WF)
    (h : emit ps = .ok outs) :
    outs = ps.flatMap fun p => (docCandidates p).filterMap renderDoc := by
  obtain ⟨oss, h2, rfl⟩ := (os_emit_ok_iff ps outs).1 h
  exact C11_aux_emit_each ps oss hw h2

example : outputDocuments [c11_ex2, c11_ex] [] =
    .ok [.map [("l", .list [.int 1, .str "$z"])],
         .map [("a", .list [.map [("m", .map [("x", .int 1)])], .int 2]), ("b", .map [("c", .map [])])],
         .map [("x", .int 1)], .list [.map [("m", .map [("x", .int 1)])], .int 2], .map []] := by
  decide +kernel
example : outputDocuments [.map [("a", .int 1)], .null, .int 3] [] =
    .ok [.map [("a", .int 1)], .int 3] := by decide +kernel

/-! # Duplicate and malformed markers -/

/-- the marker entry of a list -/
def trueMarker : Val := .map [("$output", .bool true)]

/-- **Duplicate list markers are idempotent** (no well-formedness needed): in a list that
    already has a `{$output: true}` entry, a further clean marker entry `m` anywhere changes
    neither the parent document nor the selected documents — it is consumed like the first. -/
theorem C11_duplicate_markers (m : Fields) (a b : List Val)
    (hm : fhasBool m "$output" true = true) (hl : (fdel m "$output").length = 0)
    (h : hasListMapBool (a ++ b) "$output" true = true) :
    findOutputs (.list (a ++ .map m :: b)) = findOutputs (.list (a ++ b)) := by
  have h' : hasListMapBool (a ++ .map m :: b) "$output" true = true := by
    rw [os_hasListMapBool_append, o_hasListMapBool_cons]
    simp only [isMarker, hm, Bool.true_or, Bool.or_true]
  rw [os_findOutputs_list_eq, os_findOutputs_list_eq, h, h',
    os_findOutputsList_insert_marker m hm hl a b]

/-- in particular two leading `{$output: true}` entries: both are removed, nothing fails, the
    list is selected ONCE (last, after the documents selected inside it) -/
theorem C11_duplicate_markers_spec (xs : List Val) (hw : (Val.list xs).WF)
    (hb : hasBadMarkerList xs = false) :
    findOutputs (.list (trueMarker :: trueMarker :: xs)) =
      .ok (.list (stripOutList xs), selDocsList xs ++ [.list (stripOutList xs)]) ∧
    findOutputs (.list (trueMarker :: trueMarker :: xs)) = findOutputs (.list (trueMarker :: xs)) := by
  have hw1 : (Val.list (trueMarker :: xs)).WF :=
    wf_list_iff.2 (List.forall_mem_cons.2 ⟨by decide, wf_list_iff.1 hw⟩)
  have hm : isTrueMarker trueMarker = true := by decide
  have hbm : isBadMarker true trueMarker = false := by decide
  have hs : hasListMapBool (trueMarker :: xs) "$output" true = true := by
    rw [o_hasListMapBool_cons]; simp only [← C11_aux_isTrueMarker_eq, hm, Bool.true_or]
  have h2 : findOutputs (.list (trueMarker :: trueMarker :: xs)) =
      findOutputs (.list (trueMarker :: xs)) :=
    C11_duplicate_markers [("$output", .bool true)] [trueMarker] xs (by decide) (by decide) hs
  refine ⟨?_, h2⟩
  rw [h2, C11_findOutputs_eq _ hw1]
  simp only [hasBadMarker, hasBadMarkerList, hm, if_true, hbm, Bool.false_or, hb,
    Bool.false_eq_true, if_false, stripOut, stripOutList, selDocs, selDocsList, List.nil_append,
    hs]

example : findOutputs (.list [trueMarker, .int 1, trueMarker, .map [("a", trueMarker)], trueMarker]) =
    .ok (.list [.int 1, .map [("a", .map [])]], [.map [], .list [.int 1, .map [("a", .map [])]]]) := by
  decide
example : (Val.list [.int 1, .map [("a", trueMarker)]]).wfB = true ∧
    hasBadMarkerList [.int 1, .map [("a", trueMarker)]] = false := by decide

/-- the full statement "a non-boolean `$output` is left in place and rejected" is FALSE: when
    its value is hidden (`null`, a map with `$output: false`, a list with such an entry) the key
    is dropped together with the value and the document passes -/
theorem C11_nonbool_marker_counterexample :
    emit [.map [("$output", .null), ("a", .int 1)]] = .ok [.map [("a", .int 1)]] ∧
    emit [.map [("$output", .map [("$output", .bool false)]), ("a", .int 1)]] =
      .ok [.map [("a", .int 1)]] := by decide +kernel

theorem C11_aux_fget_stripOutFields (kvs : Fields) (k : String) :
    fget (stripOutFields kvs) k = (fget kvs k).map stripOut := by
  rw [map_of_eqns stripOutFields.eq_1 (fun p l => stripOutFields.eq_2 p.1 p.2 l) kvs]
  exact fget_map_entries (g := id) (fun _ _ => Iff.rfl) kvs k

theorem C11_aux_fget_pruneFields (kvs : Fields) (k : String) (x : Val)
    (h : fget kvs k = some x) (hh : hidden x = false) :
    fget (pruneFields kvs) k = some (prune x) := by
  rw [pruneFields_eq]
  exact fget_filterMapVal_of_some h (by rw [hh]; rfl)

theorem C11_aux_not_clean_of_key (kvs : Fields) (k : String) (y : Val) (hk : badString k = true)
    (h : fget kvs k = some y) : cleanFields kvs = false :=
  Bool.eq_false_iff.2 fun hc => by
    have := cleanFields_iff.1 hc _ (fget_mem h)
    simp [hk] at this

/-- **A non-boolean `$output`** is no marker of either polarity; selection leaves it in place
    (its value is stripped like any other child), and so does hiding unless the value itself is
    hidden. -/
theorem C11_nonbool_marker_kept (kvs : Fields) (x : Val) (hx : fget kvs "$output" = some x)
    (hnb : ∀ b, x ≠ .bool b) :
    carriesTrue (.map kvs) = false ∧ hidden (.map kvs) = false ∧
    stripOut (.map kvs) = .map (stripOutFields kvs) ∧
    fget (stripOutFields kvs) "$output" = some (stripOut x) ∧
    (hidden x = false → fget (pruneFields kvs) "$output" = some (prune x)) := by
  have hb : ∀ b, fhasBool kvs "$output" b = false := fun b =>
    Bool.eq_false_iff.2 fun h => hnb b (Option.some.inj (hx.symm.trans (fhasBool_iff.1 h)))
  refine ⟨hb true, hb false, ?_, ?_, C11_aux_fget_pruneFields kvs _ x hx⟩
  · simp only [stripOut, hb true, Bool.false_eq_true, if_false]
  · rw [C11_aux_fget_stripOutFields, hx]; rfl

/-- `_partial` (see `C11_nonbool_marker_counterexample`; the hypothesis `hidden x = false`
    excludes exactly the failing class): a candidate document that is a map whose `$output` is
    neither a boolean nor hidden makes `emit` fail — the key reaches `validate`, which rejects it
    (`validate_iff`: the pruned candidate is not `clean`). -/
theorem C11_nonbool_marker_partial (d : Val) (hw : d.WF) (kvs : Fields) (x : Val)
    (hc : .map kvs ∈ docCandidates d) (hx : fget kvs "$output" = some x)
    (hnb : ∀ b, x ≠ .bool b) (hh : hidden x = false) :
    clean (prune (.map kvs)) = false ∧ validate (prune (.map kvs)) ≠ .ok () ∧
    ∃ e, emit [d] = .error e := by
  obtain ⟨_, h2, _, _, h5⟩ := C11_nonbool_marker_kept kvs x hx hnb
  have hcl : clean (prune (.map kvs)) = false := by
    simp only [prune, clean]
    exact C11_aux_not_clean_of_key _ "$output" _ (by decide) (h5 hh)
  refine ⟨hcl, ?_, ?_⟩
  · intro hv; rw [(validate_iff _).1 hv] at hcl; cases hcl
  · cases he : emit [d] with
    | error e => exact ⟨e, rfl⟩
    | ok outs =>
      have := ((C11_emit_doc_spec d hw outs).1 he).2.1 _ hc
      rw [this.2 h2] at hcl; cases hcl

/-- the root case: no selection marker anywhere, `$output` non-boolean and not hidden -/
theorem C11_nonbool_marker_root (kvs : Fields) (x : Val) (hw : (Val.map kvs).WF)
    (hm : hasOutTrue (.map kvs) = false) (hx : fget kvs "$output" = some x)
    (hnb : ∀ b, x ≠ .bool b) (hh : hidden x = false) :
    ∃ e, emit [.map kvs] = .error e := by
  have hc := ((C11_root_fallback_spec (.map kvs) hw).1 hm).2.1
  exact (C11_nonbool_marker_partial (.map kvs) hw kvs x (by rw [hc]; exact List.mem_singleton.2 rfl)
    hx hnb hh).2.2

example : emit [.map [("$output", .str "yes"), ("a", .int 1)]] = .error .invalidDirective ∧
    emit [.map [("$output", .list [.int 1]), ("a", .int 1)]] = .error .invalidDirective ∧
    hidden (.str "yes") = false ∧ hasOutTrue (.map [("$output", .str "yes"), ("a", .int 1)]) = false :=
  by decide +kernel
/-- (when the non-boolean value is itself a marked map, that map is selected and the root — with
    its stray `$output` key — is not a candidate at all) -/
example : emit [.map [("$output", .map [("$output", .bool true)]), ("a", .int 1)]] = .ok [.map []] := by
  decide

/-! # Hidden paths: which nodes of a candidate survive `prune` -/

/-- a container that carries the hiding marker: a map with `$output: false`, a list with a
    `{$output: false}` entry (`hidden` = `carriesFalse` or `null`) -/
def carriesFalse : Val → Bool
  | .map kvs => fhasBool kvs "$output" false
  | .list xs => hasListMapBool xs "$output" false
  | _ => false

theorem C11_hidden_eq (v : Val) : hidden v = (carriesFalse v || v.isNull) := by
  cases v <;> simp [hidden, carriesFalse, Val.isNull]

mutual
/-- the paths of all nodes of `v` satisfying `P`, in pre-order -/
def pathsWhere (P : Val → Bool) : Val → List (List PathElem)
  | .map kvs => (if P (.map kvs) then [[]] else []) ++ pathsWhereFields P kvs
  | .list xs => (if P (.list xs) then [[]] else []) ++ pathsWhereList P xs 0
  | v => if P v then [[]] else []
def pathsWhereList (P : Val → Bool) : List Val → Nat → List (List PathElem)
  | [], _ => []
  | x :: xs, i => (pathsWhere P x).map (PathElem.idx i :: ·) ++ pathsWhereList P xs (i + 1)
def pathsWhereFields (P : Val → Bool) : Fields → List (List PathElem)
  | [] => []
  | (k, v) :: rest => (pathsWhere P v).map (PathElem.key k :: ·) ++ pathsWhereFields P rest
end

/-- **the hidden paths** of a tree: the maps with `$output: false` and the lists with a
    `{$output: false}` entry (all of them, also below one another) -/
def hiddenPaths (v : Val) : List (List PathElem) := pathsWhere carriesFalse v

theorem C11_aux_nil_mem_pathsWhere (P : Val → Bool) (v : Val) :
    [] ∈ pathsWhere P v ↔ P v = true := by
  have hf := C11_aux_nil_not_mem_keyPaths (f := pathsWhere P) (g := pathsWhereFields P) rfl
    (fun _ _ _ => rfl)
  have hl := C11_aux_nil_not_mem_idxPaths (f := pathsWhere P) (g := pathsWhereList P) (fun _ => rfl)
    (fun _ _ _ => rfl)
  cases v <;> simp only [pathsWhere, List.mem_append, hf, hl, or_false, C11_aux_nil_mem_ite]

theorem C11_aux_cons_mem_pathsWhere (P : Val → Bool) (e : PathElem) (q : List PathElem) (v : Val)
    (hw : v.WF) :
    e :: q ∈ pathsWhere P v ↔ ∃ c, childAt v e = some c ∧ q ∈ pathsWhere P c := by
  cases v with
  | map kvs =>
    simp only [pathsWhere, List.mem_append, C11_aux_cons_not_mem_ite, false_or]
    exact C11_aux_cons_mem_keyPaths rfl (fun _ _ _ => rfl) (wf_map_iff.1 hw).1 e q
  | list xs =>
    simp only [pathsWhere, List.mem_append, C11_aux_cons_not_mem_ite, false_or]
    exact C11_aux_cons_mem_idxPaths (fun _ => rfl) (fun _ _ _ => rfl) xs e q
  | null | bool _ | int _ | flt _ | str _ => simp [pathsWhere, childAt]

/-- `pathsWhere P` lists exactly the nodes satisfying `P` -/
theorem C11_pathsWhere_mem (P : Val → Bool) : ∀ (p : List PathElem) (v : Val), v.WF →
    (p ∈ pathsWhere P v ↔ ∃ t, subtreeAt v p = some t ∧ P t = true)
  | [], v, _ => by simp [C11_aux_nil_mem_pathsWhere, subtreeAt]
  | e :: q, v, hw => by
    rw [C11_aux_cons_mem_pathsWhere P e q v hw, C11_aux_subtreeAt_cons]
    cases hc : childAt v e with
    | none => simp
    | some c =>
      simp only [Option.some.injEq, exists_eq_left']
      exact C11_pathsWhere_mem P q c (C11_aux_childAt_wf hw hc)

/-- so: `p` is a hidden path iff the node at `p` is a map with `$output: false` or a list with a
    `{$output: false}` entry -/
theorem C11_hiddenPaths_mem (v : Val) (hw : v.WF) (p : List PathElem) :
    p ∈ hiddenPaths v ↔ ∃ t, subtreeAt v p = some t ∧ carriesFalse t = true :=
  C11_pathsWhere_mem carriesFalse p v hw

example : hiddenPaths c11_ex2 = [[.key "k"], [.key "l", .idx 2], [.key "l", .idx 2, .idx 0]] := by
  decide

/-- where a step lands after pruning: keys are unchanged, a list index is lowered by the number
    of hidden entries before it -/
def keptElem : Val → PathElem → PathElem
  | .list xs, .idx i => .idx ((xs.take i).countP (fun x => !hidden x))
  | _, e => e

/-- the image in `prune t` of a path of `t`; `none` if the path does not exist in `t` or leads
    through (or to) a hidden node below the root -/
def keptPath : Val → List PathElem → Option (List PathElem)
  | _, [] => some []
  | t, e :: p =>
    match childAt t e with
    | some c => if hidden c then none else (keptPath c p).map (keptElem t e :: ·)
    | none => none

theorem C11_aux_pruneList_getElem : ∀ (xs : List Val) (i : Nat) (c : Val),
    xs[i]? = some c → hidden c = false →
    (pruneList xs)[(xs.take i).countP (fun x => !hidden x)]? = some (prune c)
  | [], i, c, h, _ => by simp at h
  | x :: xs, 0, c, h, hh => by
    simp only [List.getElem?_cons_zero, Option.some.injEq] at h
    subst h
    simp [pruneList, hh]
  | x :: xs, i + 1, c, h, hh => by
    simp only [List.getElem?_cons_succ] at h
    have ih := C11_aux_pruneList_getElem xs i c h hh
    simp only [List.take_succ_cons, List.countP_cons, pruneList]
    cases hx : hidden x with
    | true => simpa using ih
    | false => simpa using ih

theorem C11_aux_pruneList_getElem_inv : ∀ (xs : List Val) (j : Nat) (s : Val),
    (pruneList xs)[j]? = some s →
    ∃ i c, xs[i]? = some c ∧ hidden c = false ∧ s = prune c ∧
      (xs.take i).countP (fun x => !hidden x) = j
  | [], j, s, h => by simp [pruneList] at h
  | x :: xs, j, s, h => by
    simp only [pruneList] at h
    cases hx : hidden x with
    | true =>
      rw [hx] at h
      simp only [if_true] at h
      obtain ⟨i, c, h1, h2, h3, h4⟩ := C11_aux_pruneList_getElem_inv xs j s h
      exact ⟨i + 1, c, by simpa using h1, h2, h3, by simp [List.take_succ_cons, hx, h4]⟩
    | false =>
      rw [hx] at h
      simp only [Bool.false_eq_true, if_false] at h
      cases j with
      | zero =>
        simp only [List.getElem?_cons_zero, Option.some.injEq] at h
        exact ⟨0, x, rfl, hx, h.symm, by simp⟩
      | succ j =>
        simp only [List.getElem?_cons_succ] at h
        obtain ⟨i, c, h1, h2, h3, h4⟩ := C11_aux_pruneList_getElem_inv xs j s h
        exact ⟨i + 1, c, by simpa using h1, h2, h3,
          by simp [List.take_succ_cons, hx, h4]⟩

theorem C11_aux_childAt_prune (t c : Val) (e : PathElem) (h : childAt t e = some c)
    (hh : hidden c = false) : childAt (prune t) (keptElem t e) = some (prune c) := by
  cases t with
  | map kvs =>
    cases e with
    | key k => exact C11_aux_fget_pruneFields kvs k c h hh
    | idx i => cases h
  | list xs =>
    cases e with
    | key k => cases h
    | idx i => exact C11_aux_pruneList_getElem xs i c h hh
  | _ => cases h

theorem C11_aux_childAt_prune_inv (t s : Val) (e' : PathElem) (hw : t.WF)
    (h : childAt (prune t) e' = some s) :
    ∃ e c, childAt t e = some c ∧ hidden c = false ∧ s = prune c ∧ keptElem t e = e' := by
  cases t with
  | map kvs =>
    cases e' with
    | key k =>
      obtain ⟨c, h1, h2, h3⟩ := C11_aux_fget_pruneFields_inv kvs k s (wf_map_iff.1 hw).1 h
      exact ⟨.key k, c, h1, h2, h3, rfl⟩
    | idx i => cases h
  | list xs =>
    cases e' with
    | key k => cases h
    | idx j =>
      obtain ⟨i, c, h1, h2, h3, h4⟩ := C11_aux_pruneList_getElem_inv xs j s h
      exact ⟨.idx i, c, h1, h2, h3, by simp only [keptElem, h4]⟩
  | _ => cases h

/-- `p` exists in `t` but a node on the way (the root excluded, the end point included) is
    hidden -/
def droppedAt (t : Val) (p : List PathElem) : Prop :=
  ∃ q r c, p = q ++ r ∧ q ≠ [] ∧ subtreeAt t q = some c ∧ hidden c = true

theorem C11_aux_droppedAt_cons (t c : Val) (e : PathElem) (p : List PathElem)
    (hc : childAt t e = some c) :
    droppedAt t (e :: p) ↔ hidden c = true ∨ droppedAt c p := by
  constructor
  · rintro ⟨q, r, c', heq, hq, hs, hh⟩
    cases q with
    | nil => exact absurd rfl hq
    | cons e' q' =>
      simp only [List.cons_append, List.cons.injEq] at heq
      obtain ⟨rfl, rfl⟩ := heq
      rw [C11_aux_subtreeAt_cons, hc] at hs
      cases q' with
      | nil =>
        simp only [subtreeAt, Option.some.injEq] at hs
        subst hs; exact Or.inl hh
      | cons e2 q2 => exact Or.inr ⟨e2 :: q2, r, c', rfl, by simp, hs, hh⟩
  · rintro (hh | ⟨q, r, c', rfl, hq, hs, hh⟩)
    · exact ⟨[e], p, c, rfl, by simp, by rw [C11_aux_subtreeAt_cons, hc]; rfl, hh⟩
    · exact ⟨e :: q, r, c', rfl, by simp, by rw [C11_aux_subtreeAt_cons, hc]; exact hs, hh⟩

/-- **which paths are lost**: exactly those that do not exist or are dropped -/
theorem C11_keptPath_none : ∀ (p : List PathElem) (t : Val),
    keptPath t p = none ↔ subtreeAt t p = none ∨ droppedAt t p
  | [], t => by
    simp only [keptPath, subtreeAt, reduceCtorEq, false_or, false_iff]
    rintro ⟨q, r, _, heq, hq, _⟩
    cases q with
    | nil => exact hq rfl
    | cons _ _ => cases heq
  | e :: p, t => by
    rw [C11_aux_subtreeAt_cons]
    simp only [keptPath]
    cases hc : childAt t e with
    | none =>
      simp only [true_or]
    | some c =>
      simp only [C11_aux_droppedAt_cons t c e p hc]
      cases hh : hidden c with
      | true => simp
      | false =>
        simp only [Bool.false_eq_true, if_false, Option.map_eq_none_iff, false_or]
        exact C11_keptPath_none p c

/-- **the nodes that are kept** sit, pruned, at the translated path -/
theorem C11_keptPath_some : ∀ (p p' : List PathElem) (t : Val), keptPath t p = some p' →
    ∃ s, subtreeAt t p = some s ∧ subtreeAt (prune t) p' = some (prune s)
  | [], p', t, h => by
    simp only [keptPath, Option.some.injEq] at h
    subst h
    exact ⟨t, rfl, rfl⟩
  | e :: p, p', t, h => by
    simp only [keptPath] at h
    cases hc : childAt t e with
    | none => rw [hc] at h; cases h
    | some c =>
      rw [hc] at h
      simp only at h
      cases hh : hidden c with
      | true => rw [hh] at h; cases h
      | false =>
        rw [hh] at h
        simp only [Bool.false_eq_true, if_false, Option.map_eq_some_iff] at h
        obtain ⟨p1, h1, rfl⟩ := h
        obtain ⟨s, h2, h3⟩ := C11_keptPath_some p p1 c h1
        refine ⟨s, ?_, ?_⟩
        · rw [C11_aux_subtreeAt_cons, hc]; exact h2
        · rw [C11_aux_subtreeAt_cons, C11_aux_childAt_prune t c e hc hh]; exact h3

/-- **nothing else is there**: every node of `prune t` is the image of a kept node of `t` -/
theorem C11_keptPath_surj : ∀ (p' : List PathElem) (t s : Val), t.WF →
    subtreeAt (prune t) p' = some s → ∃ p, keptPath t p = some p'
  | [], t, s, _, _ => ⟨[], rfl⟩
  | e' :: p1', t, s, hw, h => by
    rw [C11_aux_subtreeAt_cons] at h
    cases hc : childAt (prune t) e' with
    | none => rw [hc] at h; cases h
    | some s1 =>
      rw [hc] at h
      obtain ⟨e, c, h1, h2, rfl, rfl⟩ := C11_aux_childAt_prune_inv t s1 e' hw hc
      obtain ⟨p1, h3⟩ := C11_keptPath_surj p1' c s (C11_aux_childAt_wf hw h1) h
      exact ⟨e :: p1, by simp only [keptPath, h1, h2, Bool.false_eq_true, if_false, h3]; rfl⟩

/-- "dropped" in terms of `hiddenPaths`: a non-empty prefix of the path is a hidden path, or
    leads to a `null` -/
theorem C11_droppedAt_iff (t : Val) (hw : t.WF) (p : List PathElem) :
    droppedAt t p ↔
      ∃ q r, p = q ++ r ∧ q ≠ [] ∧ (q ∈ hiddenPaths t ∨ subtreeAt t q = some .null) := by
  constructor
  · rintro ⟨q, r, c, rfl, hq, hs, hh⟩
    refine ⟨q, r, rfl, hq, ?_⟩
    rw [C11_hidden_eq, Bool.or_eq_true] at hh
    rcases hh with hh | hh
    · exact Or.inl ((C11_hiddenPaths_mem t hw q).2 ⟨c, hs, hh⟩)
    · cases c with
      | null => exact Or.inr hs
      | _ => cases hh
  · rintro ⟨q, r, rfl, hq, h | h⟩
    · obtain ⟨c, hs, hh⟩ := (C11_hiddenPaths_mem t hw q).1 h
      exact ⟨q, r, c, rfl, hq, hs, by rw [C11_hidden_eq, hh]; rfl⟩
    · exact ⟨q, r, .null, rfl, hq, h, rfl⟩

/-- **Hiding, specified.**  For a candidate `t` (a selected subtree or the root):
    (1) `filterOutput` returns nothing for a hidden `t`, else `prune t`;
    (2) the paths of `t` that are lost are exactly the non-existent ones and those with a
        non-empty prefix in `hiddenPaths t` (or at a `null`): nothing at or below a hidden path
        survives;
    (3) every other node of `t` is in `prune t`, pruned, at the translated path;
    (4) `prune t` has no other nodes. -/
theorem C11_hidden_spec (t : Val) (hw : t.WF) :
    (∀ r, filterOutput t = .ok r → r = if hidden t then none else some (prune t)) ∧
    (∀ p, keptPath t p = none ↔ subtreeAt t p = none ∨
      ∃ q r, p = q ++ r ∧ q ≠ [] ∧ (q ∈ hiddenPaths t ∨ subtreeAt t q = some .null)) ∧
    (∀ p p', keptPath t p = some p' →
      ∃ s, subtreeAt t p = some s ∧ subtreeAt (prune t) p' = some (prune s)) ∧
    (∀ p' s, subtreeAt (prune t) p' = some s → ∃ p, keptPath t p = some p') := by
  refine ⟨fun _ h => (filterOutput_ok_iff.1 h).2, fun p => ?_, fun p p' => C11_keptPath_some p p' t,
    fun p' s => C11_keptPath_surj p' t s hw⟩
  rw [C11_keptPath_none p t, C11_droppedAt_iff t hw p]

/-- **A hidden root yields no document**: `filterOutput` returns nothing (a hidden list whose
    marker entry has extra keys is rejected instead), so a document without selection markers
    whose root is hidden produces no output at all. -/
theorem C11_hidden_root (t : Val) (hh : hidden t = true) :
    (filterOutput t = .ok none ∨ filterOutput t = .error .extraKeys) ∧
    (∀ r, filterOutput t = .ok r → r = none) ∧
    renderDoc t = none ∧
    (t.WF → hasOutTrue t = false → emit [t] = .ok [] ∨ emit [t] = .error .extraKeys) := by
  have h1 : filterOutput t = .ok none ∨ filterOutput t = .error .extraKeys := by
    rw [C11_filterOutput_eq t, hh]
    cases filterFails t
    · left; rfl
    · right; rfl
  refine ⟨h1, ?_, by simp [renderDoc, hh], ?_⟩
  · intro r h
    rcases h1 with h1 | h1 <;> rw [h1] at h <;> cases h
    rfl
  · intro hw hm
    rw [((C11_root_fallback_spec t hw).1 hm).2.2]
    rcases h1 with h1 | h1 <;> rw [h1]
    · left; rfl
    · right; rfl

example : prune c11_ex2 = .map [("l", .list [.int 1, .str "$$z"])] ∧
    keptPath c11_ex2 [.key "l", .idx 3] = some [.key "l", .idx 1] ∧
    subtreeAt (prune c11_ex2) [.key "l", .idx 1] = some (.str "$$z") ∧
    keptPath c11_ex2 [.key "l", .idx 2, .idx 0] = none ∧
    keptPath c11_ex2 [.key "k", .key "h"] = none ∧ keptPath c11_ex2 [.key "l", .idx 0] = none := by
  decide
example : hidden (.list [.int 1, .map [("$output", .bool false)]]) = true ∧
    emit [.list [.int 1, .map [("$output", .bool false)]]] = .ok [] ∧
    emit [.list [.int 1, .map [("$output", .bool false), ("x", .int 1)]]] = .error .extraKeys := by
  decide

end Bkl
