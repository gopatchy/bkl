/-
  C08 — "Every invocation terminates with complete output or a reported error …  Reference
  cycles of every kind — $merge/$replace loops, self-referential interpolation, a subtree merged
  into itself, $parent cycles between files — are reported as errors."

  Every model function is total (structural recursion, fuel recursion with fuel = the depth
  guard 1000 of the Go code, or well-founded recursion), so "terminates" holds by construction
  (`C08_total`).  The theorems below say what the depth guard turns the cyclic inputs into, for
  EVERY fuel:

  * forwarding references (`$merge:k` / `$replace:k` strings, `{$replace: k}` maps,
    `[…, {$replace: k}, …]` lists): every closed system — cycles of any length, lassos, any
    mixture of the forms — is `circularRef`, also under `processDoc` / `outputDocument`; embedded
    in a larger document it still makes the document an error (`C08_forwarding_closed_is_error`,
    `C08_map_replace_cycle_2`; `C08_mixed_cycle` + `_entry`, `_embedded`, `_list`; the n-cycles of
    one form: `C08_string_cycle`, `C08_string_replace_cycle`, `C08_map_replace_cycle_n`,
    `C08_list_replace_cycle_n`);
  * interpolation cycles are `circularRef` (`C08_interp_cycle`, `…_2`, `…_general`, `…_doc`);
  * `$parent` cycles between files are `circularRef` (`C08_parent_cycle`, `…_general`, `…_list`);
  * a map key that evaluates to a non-string is `invalidType` (`C08_key_not_string_is_error`);
  * FALSE as worded: the MAP form of a `$merge` loop, `a: {$merge: b}, b: {$merge: a}` (and the
    self-loop `a: {$merge: a}`), is NOT reported: the host is expanded in place after its
    `$merge` key was deleted, so the second visit finds an empty map and the evaluation ends
    with `{a: {}, b: {}}` (`C08_map_cycle_2_false`, `C08_map_cycle_2_partial`,
    `C08_map_self_cycle_false`, `C08_map_self_cycle_partial`).  The Go binary agrees.  With
    content in the hosts the loop is reported, as `uselessOverride` (`C08_map_cycle_2_with_keys`).
    For every n: the n-cycle `kᵢ: {$merge: kᵢ₊₁, …contents}` with int-valued contents (at least one
    host non-empty) IS an error for every fuel — `uselessOverride` as soon as the fuel is at least
    n + 1, `circularRef` or `uselessOverride` below (`C08_map_merge_cycle_partial`); without
    contents it is NOT an error, the value is `{kᵢ: {}}` (`C08_map_merge_cycle_empty_value`,
    `C08_map_merge_cycle_3_false`);
  * likewise "a subtree merged into itself" (`a: {$merge: [], x: 1}`) is evaluated once and
    yields a finite value (`C08_self_merge_value`);
  * `$repeat: n` with `n ≤ 0` yields zero copies and no error at document level and nested
    (`C08_repeat_negative`, `…_list_doc`, `…_named`, `…_list_entry`, `…_map_value`); a
    non-integer count is an error (`C08_repeat_nonint_is_error`);
  * `outputDocuments` returns a value or one of 15 error classes (`C08_evaluation_total_status`,
    `C08_error_is_reported`, `C08_never_produced`; per stage: `C08_error_classes_by_stage`).
    `marshal` is never produced; `unknownFormat` IS (`C08_unknownFormat_is_produced`).

  Helper lemmas: `BklProofs/Lemmas/Cycles.lean`, `CyclesFS.lean` (closed systems of forwarding references,
  `$parent` cycles), `C08Cycles.lean` (cycles of arbitrary length, nested `$repeat` counts), `C08Errors.lean` (which
  errors each phase can return); the section on `$repeat` counts rests on C12's theorems.
-/
import BklProofs.Lemmas.CyclesFS
import BklProofs.Lemmas.C08Cycles
import BklProofs.Lemmas.C08Errors
import BklProofs.C12   -- the section on `$repeat` counts (≤ 0 or not integers) rests on C12's theorems
import BklProofs.Lemmas.EscapeProc
import BklProofs.Lemmas.C14Codec
namespace Bkl

/-! ## forwarding references: `$merge:` / `$replace:` strings, `$replace` maps

  The n-cycles of one form (`C08_string_cycle`, `C08_string_replace_cycle`, …) stand below, under "forwarding
  cycles of arbitrary length", as instances of the n-cycle of any mixture of forms. -/

/-- The general statement.  A document `kvs` is a *closed system of forwarding references*
    (`RefClosed`) if every entry value, evaluated against this root, resolves a simple key of the
    same document and continues with the referenced value (`NextRef`: this is what `$merge:k`,
    `$replace:k` and `{$replace: k}` do).  Then the evaluation is `circularRef` for every fuel:
    every n-cycle, every lasso into a cycle, every mixture of the three forms. -/
theorem C08_forwarding_closed_is_error {kvs : Fields} (H : RefClosed kvs) (hne : kvs ≠ [])
    (h0 : fget kvs "$merge" = none) (h1 : fget kvs "$replace" = none)
    (fuel : Nat) (docs : List Val) :
    process1 fuel docs (.map kvs) (some []) (.map kvs) = .error .circularRef :=
  refClosed_doc_error H hne h0 h1 fuel docs (some [])

/-- … and each single entry is `circularRef` wherever it is evaluated. -/
theorem C08_forwarding_closed_entry_is_error {kvs : Fields} (H : RefClosed kvs)
    (fuel : Nat) (docs : List Val) (loc : Loc) (p : String × Val) (hp : p ∈ kvs) :
    process1 fuel docs (.map kvs) loc p.2 = .error .circularRef :=
  refClosed_entry_error H fuel docs loc p hp

-- non-vacuity: a lasso `c → a ⇄ b` mixing the three forms
example : RefClosed [("a", .str "$merge:b"), ("b", .map [("$replace", .str "a")]),
    ("c", .str "$replace:a")] ∧
    fget [("a", Val.str "$merge:b"), ("b", .map [("$replace", .str "a")]),
      ("c", .str "$replace:a")] "$merge" = none ∧
    fget [("a", Val.str "$merge:b"), ("b", .map [("$replace", .str "a")]),
      ("c", .str "$replace:a")] "$replace" = none := by
  refine ⟨?_, by decide, by decide⟩
  intro p hp
  simp only [List.mem_cons, List.not_mem_nil, or_false] at hp
  rcases hp with rfl | rfl | rfl
  · exact ⟨"b", _, (forwards_str_merge "b").nextRef _, simpleKey_b, rfl⟩
  · exact ⟨"a", _, Forwards.nextRef (forwards_map_replace rfl rfl) _, simpleKey_a, rfl⟩
  · exact ⟨"a", _, (forwards_str_replace "a").nextRef _, simpleKey_a, rfl⟩

/-- a key is simple as soon as it is a plain YAML scalar without a dot -/
theorem C08_simple_key_of_plain {k : String} (h1 : isPlainRef k = true) (h2 : '.' ∉ k.toList) :
    SimpleKey k := simpleKey_of_plain h1 h2

example : isPlainRef "c" = true ∧ '.' ∉ "c".toList := ⟨isPlainRef_c, by decide⟩

/-- `a: {$replace: b}, b: {$replace: a}` is `circularRef` for every fuel. -/
theorem C08_map_replace_cycle_2 (fuel : Nat) (docs : List Val) :
    process1 fuel docs
      (.map [("a", .map [("$replace", .str "b")]), ("b", .map [("$replace", .str "a")])])
      (some [])
      (.map [("a", .map [("$replace", .str "b")]), ("b", .map [("$replace", .str "a")])]) =
      .error .circularRef := by
  refine C08_forwarding_closed_is_error ?_ (by decide) (by decide) (by decide) fuel docs
  intro p hp
  simp only [List.mem_cons, List.not_mem_nil, or_false] at hp
  rcases hp with rfl | rfl
  · exact ⟨"b", _, Forwards.nextRef (forwards_map_replace rfl rfl) _, simpleKey_b, rfl⟩
  · exact ⟨"a", _, Forwards.nextRef (forwards_map_replace rfl rfl) _, simpleKey_a, rfl⟩

/-! ## the MAP form of a `$merge` loop is not reported -/

/-- Exact behaviour: with at least 4 units of fuel the 2-cycle of `$merge` maps evaluates to
    `{a: {}, b: {}}`.  Reduction: host `a` loses `$merge` (root: `a: {}`), receives `b`'s map
    `{$merge: a}` and is evaluated again: it loses `$merge` again, receives its own current
    content `{}`, and ends as `{}`; then host `b` receives `a`'s content `{}`. -/
theorem C08_map_cycle_2_partial (fuel : Nat) (docs : List Val) :
    process1 (fuel + 4) docs mapCycle2 (some []) mapCycle2 =
      .ok (.map [("a", .map []), ("b", .map [])], .map [("a", .map []), ("b", .map [])]) :=
  (cy_empty_cycle_value docs "a" ["b"] (by decide)
    (fun k hk => cy_keys_abc k (List.mem_of_mem_take (i := 2) hk))
    (by decide) (by decide) fuel).trans (congrArg Except.ok (by decide))

/-- The statement "for every fuel the result is an error" is FALSE for the map form. -/
theorem C08_map_cycle_2_false :
    ¬ ∀ fuel, ∃ e, process1 fuel [] mapCycle2 (some []) mapCycle2 = .error e := by
  intro h
  obtain ⟨e, he⟩ := h 4
  rw [C08_map_cycle_2_partial 0 []] at he
  cases he

/-- In particular at the depth limit used by `processDoc` (1000). -/
theorem C08_map_cycle_2_at_depth_limit (docs : List Val) :
    process1 depthLimit docs mapCycle2 (some []) mapCycle2 =
      .ok (.map [("a", .map []), ("b", .map [])], .map [("a", .map []), ("b", .map [])]) :=
  C08_map_cycle_2_partial 996 docs

/-- Exact behaviour of the self-loop: `{a: {}}` (fuel ≥ 3). -/
theorem C08_map_self_cycle_partial (fuel : Nat) (docs : List Val) :
    process1 (fuel + 3) docs mapSelfCycle (some []) mapSelfCycle =
      .ok (.map [("a", .map [])], .map [("a", .map [])]) :=
  (cy_empty_cycle_value docs "a" [] (by decide)
    (fun k hk => cy_keys_abc k (List.mem_of_mem_take (i := 1) hk))
    (by decide) (by decide) fuel).trans (congrArg Except.ok (by decide))

theorem C08_map_self_cycle_false :
    ¬ ∀ fuel, ∃ e, process1 fuel [] mapSelfCycle (some []) mapSelfCycle = .error e := by
  intro h
  obtain ⟨e, he⟩ := h 3
  rw [C08_map_self_cycle_partial 0 []] at he
  cases he

/-- When the hosts of the loop carry content, the second visit of `a` merges `a`'s content into
    itself and the ordinary merge rules report a useless override: an error, though not
    `circularRef`. -/
theorem C08_map_cycle_2_with_keys (fuel : Nat) (docs : List Val) :
    process1 (fuel + 3) docs mapCycle2Keys (some []) mapCycle2Keys = .error .uselessOverride := by
  obtain ⟨e, he, _, h2⟩ := cy_content_cycle_error docs
    (fun k => if k = "a" then [("x", .int 1)] else [("y", .int 2)]) "a" ["b"] (by decide)
    (List.forall_mem_cons.2
      ⟨⟨simpleKey_a, by decide, cy_intContent_cons (by decide) 1 cy_intContent_nil⟩,
       List.forall_mem_singleton.2
        ⟨simpleKey_b, by decide, cy_intContent_cons (by decide) 2 cy_intContent_nil⟩⟩)
    (by decide) (by decide) ⟨"a", by decide, by decide⟩ (fuel + 3)
  rw [← h2 (Nat.le_add_left _ _)]
  exact he

/-! ## interpolation cycles -/

/-- A closed system of interpolations — every entry is `$"{k}"` for a plain key `k` of the same
    document — is `circularRef` for every fuel, stream and variable context. -/
theorem C08_interp_cycle_general {kvs : Fields} (H : InterpClosed kvs)
    (fuel : Nat) (docs : List Val) (ec : Vars) (k : String) (s : String)
    (hp : (k, Val.str s) ∈ kvs) :
    process2String fuel docs (.map kvs) ec s = .error .circularRef := by
  obtain ⟨s', hs, herr⟩ := interpClosed_entry_error H fuel docs ec _ hp
  cases hs; exact herr

example : InterpClosed [("a", .str "$\"{b}\""), ("b", .str "$\"{a}\"")] := interpClosed_2

/-- `a: $"{a}"` -/
theorem C08_interp_cycle (fuel : Nat) (docs : List Val) (ec : Vars) :
    process2String fuel docs (.map [("a", .str "$\"{a}\"")]) ec "$\"{a}\"" =
      .error .circularRef :=
  C08_interp_cycle_general interpClosed_1 fuel docs ec "a" _ (.head _)

/-- `a: $"{b}", b: $"{a}"` -/
theorem C08_interp_cycle_2 (fuel : Nat) (docs : List Val) (ec : Vars) :
    process2String fuel docs (.map [("a", .str "$\"{b}\""), ("b", .str "$\"{a}\"")]) ec
      "$\"{b}\"" = .error .circularRef ∧
    process2String fuel docs (.map [("a", .str "$\"{b}\""), ("b", .str "$\"{a}\"")]) ec
      "$\"{a}\"" = .error .circularRef :=
  ⟨C08_interp_cycle_general interpClosed_2 fuel docs ec "a" _ (.head _),
   C08_interp_cycle_general interpClosed_2 fuel docs ec "b" _ (.tail _ (.head _))⟩

/-- The whole document: a (sorted, non-empty) closed system of interpolations without
    `$encode` / `$decode` / `$value` keys is `circularRef` under `process2`, for every fuel. -/
theorem C08_interp_cycle_doc {kvs : Fields} (H : InterpClosed kvs) (hne : kvs ≠ [])
    (hs : Fields.sortedKeysB kvs = true) (h1 : fget kvs "$encode" = none)
    (h2 : fget kvs "$decode" = none) (h3 : fget kvs "$value" = none)
    (fuel : Nat) (docs : List Val) (ec : Vars) :
    process2 fuel docs (.map kvs) ec (.map kvs) = .error .circularRef := by
  cases fuel with
  | zero => exact process2_zero _ _ _ _
  | succ n =>
    rw [process2_map_noRepeat _ _ _ _ _ hs (fun q hq m e => by
        obtain ⟨k, v, hv, _⟩ := H q hq
        rw [hv] at e; cases e),
      mapBodyM_plain _ ec h1 h2 h3]
    cases kvs with
    | nil => exact absurd rfl hne
    | cons p rest =>
      rw [List.mapM_cons, entryOut, interpClosed_entry_error2 H n docs ec p List.mem_cons_self]
      rfl

example : Fields.sortedKeysB [("a", .str "$\"{b}\""), ("b", .str "$\"{a}\"")] = true ∧
    fget [("a", Val.str "$\"{b}\""), ("b", .str "$\"{a}\"")] "$encode" = none ∧
    fget [("a", Val.str "$\"{b}\""), ("b", .str "$\"{a}\"")] "$decode" = none ∧
    fget [("a", Val.str "$\"{b}\""), ("b", .str "$\"{a}\"")] "$value" = none := by decide

/-- `a: $"{a}"` as a document -/
theorem C08_interp_cycle_doc_1 (fuel : Nat) (docs : List Val) (ec : Vars) :
    process2 fuel docs (.map [("a", .str "$\"{a}\"")]) ec (.map [("a", .str "$\"{a}\"")]) =
      .error .circularRef :=
  C08_interp_cycle_doc interpClosed_1 (by decide) (by decide) (by decide) (by decide) (by decide)
    fuel docs ec

/-! ## a subtree merged into itself is evaluated once -/

/-- `$merge: []` refers to the whole document.  The host first loses its `$merge` key, then
    receives a copy of the root as it is at that moment (`{a: {x: 1}}`); the copy contains no
    reference any more, so the expansion does not recur: the result is the finite value
    `{a: {a: {x: 1}, x: 1}}` (fuel ≥ 5), not an error. -/
theorem C08_self_merge_value (fuel : Nat) (docs : List Val) :
    process1 (fuel + 5) docs selfMerge (some []) selfMerge =
      .ok (.map [("a", .map [("a", .map [("x", .int 1)]), ("x", .int 1)])],
           .map [("a", .map [("a", .map [("x", .int 1)]), ("x", .int 1)])]) := by
  unfold selfMerge
  rw [process1_map_plain (by decide) (by decide), foldlM_cons]
  have hn : mergeFields [("x", Val.int 1)] [("a", .map [("x", .int 1)])] =
      .ok [("a", .map [("x", .int 1)]), ("x", .int 1)] := by
    rw [mergeFields_cons, if_neg (by decide)]
    have h1 : fget [("x", Val.int 1)] "a" = none := by decide
    have h2 : fset [("x", Val.int 1)] "a" (.map [("x", .int 1)]) =
        [("a", .map [("x", .int 1)]), ("x", .int 1)] := by decide
    simp only [h1, h2, mergeFields_nil]
  have ha : process1 (fuel + 4) docs (.map [("a", .map [("$merge", .list []), ("x", .int 1)])])
      (some [.key "a"]) (.map [("$merge", .list []), ("x", .int 1)]) =
      .ok (.map [("a", .map [("x", .int 1)]), ("x", .int 1)],
           .map [("a", .map [("a", .map [("x", .int 1)]), ("x", .int 1)])]) := by
    have hr : fhasBool [("a", Val.map [("x", .int 1)])] "$replace" true = false := by
      decide +kernel
    -- `[]` denotes the whole document: the host, stripped of its `$merge` key, receives a copy of it
    rw [process1_merge_top (x := .map [("$merge", .list []), ("x", .int 1)]) (ks := [])
      (by decide +kernel) (by decide +kernel) (fun r d => get_list_nil r d),
      show fdel [("$merge", Val.list []), ("x", .int 1)] "$merge" = [("x", .int 1)] from by
        decide +kernel,
      show fset [("a", Val.map [("$merge", .list []), ("x", .int 1)])] "a" (.map [("x", .int 1)]) =
        [("a", .map [("x", .int 1)])] from by decide +kernel,
      show getPath (Val.map [("a", .map [("x", .int 1)])]) [] = .ok _ from rfl, ok_bind,
      merge_map_map, mergeMapMap_noreplace hr, hn]
    simp only [Except.map, ok_bind, mergesInPlace, hr, Bool.not_false, if_true]
    rw [show fset [("a", Val.map [("$merge", .list []), ("x", .int 1)])] "a"
        (.map [("a", .map [("x", .int 1)]), ("x", .int 1)]) =
      [("a", .map [("a", .map [("x", .int 1)]), ("x", .int 1)])] from by decide +kernel]
    rw [e_process1_plain (fuel + 3) docs _ _ _ (by decide +kernel) (by decide +kernel)
      (by
        show depth (.map [("a", .map [("x", .int 1)]), ("x", .int 1)]) < fuel + 3
        have : depth (.map [("a", .map [("x", .int 1)]), ("x", .int 1)]) = 2 := by decide
        omega)]
    exact congrArg Except.ok (by decide)
  rw [mapStep_ok (loc := some []) (by decide) ha rfl]
  rfl

/-- so this kind of "cycle" is not an error either -/
theorem C08_self_merge_not_error :
    ¬ ∀ fuel, ∃ e, process1 fuel [] selfMerge (some []) selfMerge = .error e := by
  intro h
  obtain ⟨e, he⟩ := h 5
  rw [C08_self_merge_value 0 []] at he
  cases he

/-! ## `$parent` cycles between files -/

/-- the cycle check: a file that is already on the chain of children is `circularRef` -/
theorem C08_parent_chain_is_error (fs : FS) (cfg : RootCfg) (fuel : Nat) (path : Comps)
    (c : Option String) (ids : List String) (chain : List Comps) (h : path ∈ chain) :
    loadFileAndParents fs cfg (fuel + 1) path c ids chain = .error .circularRef :=
  C03_cycle_is_error fs cfg fuel path c ids chain h

example : (["w", "p.yaml"] : Comps) ∈ [["w", "q.yaml"], ["w", "p.yaml"]] := by decide

/-- the depth guard -/
theorem C08_parent_no_fuel (fs : FS) (cfg : RootCfg) (path : Comps) (c : Option String)
    (ids : List String) (chain : List Comps) :
    loadFileAndParents fs cfg 0 path c ids chain = .error .circularRef :=
  rfl

/-- General form.  Let `S` be a set of files such that every file in `S` loads and its first
    parent (`ParentEdge`) is again in `S` — a cycle, or any path leading into one.  Then loading
    any file of `S` is `circularRef`, for every fuel, child id and chain. -/
theorem C08_parent_cycle_general {fs : FS} {cfg : RootCfg} {S : Comps → Prop}
    (H : ParentClosed fs cfg S) (fuel : Nat) (p : Comps) (hp : S p) (c : Option String)
    (ids : List String) (chain : List Comps) :
    loadFileAndParents fs cfg fuel p c ids chain = .error .circularRef :=
  parentClosed_error H fuel p hp c ids chain

/-- The n-cycle `p₀ → p₁ → … → pₙ₋₁ → p₀` of first parents. -/
theorem C08_parent_cycle_list (fs : FS) (cfg : RootCfg) (ps : List Comps)
    (H : ∀ e ∈ ps.zip (rot1 ps), ParentEdge fs cfg e.1 e.2)
    (fuel : Nat) (p : Comps) (hp : p ∈ ps) :
    loadFileAndParents fs cfg fuel p none [] [] = .error .circularRef := by
  refine C08_parent_cycle_general (S := fun x => x ∈ ps) ?_ fuel p hp none [] []
  intro x hx
  obtain ⟨q, hq⟩ := exists_zip_of_mem ps (rot1 ps) (length_rot1 ps).symm x hx
  exact ⟨q, H (x, q) hq, mem_rot1.1 (List.of_mem_zip hq).2⟩

/-- Two files naming each other as parent: `p` has parent `q` and `q` has parent `p`. -/
theorem C08_parent_cycle (fs : FS) (cfg : RootCfg) (p q : Comps) (docsP docsQ : List Val)
    (hlp : ∀ fid, loadFile fs cfg p fid = .ok docsP)
    (hlq : ∀ fid, loadFile fs cfg q fid = .ok docsQ)
    (hpp : fileParents fs cfg p docsP = .ok [q]) (hpq : fileParents fs cfg q docsQ = .ok [p])
    (fuel : Nat) :
    loadFileAndParents fs cfg fuel p none [] [] = .error .circularRef := by
  refine C08_parent_cycle_list fs cfg [p, q] ?_ fuel p (by simp)
  intro e he
  have hz : [p, q].zip (rot1 [p, q]) = [(p, q), (q, p)] := rfl
  rw [hz] at he
  simp only [List.mem_cons, List.not_mem_nil, or_false] at he
  rcases he with rfl | rfl
  · exact ⟨docsP, [], hlp, hpp⟩
  · exact ⟨docsQ, [], hlq, hpq⟩

-- non-vacuity: the file system `fsPQ` = { /w/p.yaml: {$parent: q}, /w/q.yaml: {$parent: p} }
example :
    (∀ fid, loadFile fsPQ cfgPQ ["w", "p.yaml"] fid = .ok [.map [("$parent", .str "q")]]) ∧
    (∀ fid, loadFile fsPQ cfgPQ ["w", "q.yaml"] fid = .ok [.map [("$parent", .str "p")]]) ∧
    fileParents fsPQ cfgPQ ["w", "p.yaml"] [.map [("$parent", .str "q")]] = .ok [["w", "q.yaml"]] ∧
    fileParents fsPQ cfgPQ ["w", "q.yaml"] [.map [("$parent", .str "p")]] = .ok [["w", "p.yaml"]] :=
  ⟨fsPQ_load_p, fsPQ_load_q, fsPQ_parents_p, fsPQ_parents_q⟩

/-- … so loading `/w/p.yaml` (as `bkl /w/p.yaml` does, with `loadFuel`) reports the cycle -/
theorem C08_parent_cycle_concrete (fuel : Nat) :
    loadFileAndParents fsPQ cfgPQ fuel ["w", "p.yaml"] none [] [] = .error .circularRef :=
  C08_parent_cycle fsPQ cfgPQ ["w", "p.yaml"] ["w", "q.yaml"] _ _ fsPQ_load_p fsPQ_load_q
    fsPQ_parents_p fsPQ_parents_q fuel

theorem C08_parent_cycle_mergeFileLayers (st : PState) :
    mergeFileLayers fsPQ cfgPQ st ["w", "p.yaml"] = .error .circularRef := by
  unfold mergeFileLayers
  rw [C08_parent_cycle_concrete]; rfl

/-! ## a map key that evaluates to a non-string is an error, not a crash -/

/-- `{"$merge:a": 1, a: 5}`: the key `$merge:a` resolves to the int 5.  (The `process2`
    counterpart, a key `$env:X` bound to a non-string, is `C13_env_in_key`.) -/
theorem C08_key_not_string_is_error (fuel : Nat) (docs : List Val) :
    process1 (fuel + 3) docs (.map [("$merge:a", .int 1), ("a", .int 5)]) (some [])
      (.map [("$merge:a", .int 1), ("a", .int 5)]) = .error .invalidType := by
  rw [process1_map_plain (by decide) (by decide), foldlM_cons]
  have hk : process1 (fuel + 2) docs (.map [("$merge:a", .int 1), ("a", .int 5)]) none
      (.str "$merge:a") = .ok (.int 5, .map [("$merge:a", .int 1), ("a", .int 5)]) := by
    rw [process1_str_merge stripPrefix_merge_a,
      get_simpleKey simpleKey_a docs (v := .int 5) (by decide), ok_bind, process1_int]
  simp only [mapStep_eq, process1_int, ok_bind, Val.isNull, Bool.false_eq_true, if_false, hk]
  rfl

/-! ## no reference, no lookup -/

/-- The positive side of the open finding (the depth guard bounds depth, not branching: a
    `$merge` host whose target contains the host, in a document with further references, makes
    the evaluation grow exponentially).  A reference-free value — no `$merge` / `$replace` key,
    no `$merge:` / `$replace:` string — never triggers a lookup: for every fuel the evaluated
    value (or error) is the same for all streams, roots and locations, and the root is handed
    back unchanged. -/
theorem C08_no_reference_no_lookup (fuel : Nat) (v : Val) (hv : refFree v = true)
    (docs₁ docs₂ : List Val) (root₁ root₂ : Val) (loc₁ loc₂ : Loc) :
    Except.map Prod.fst (process1 fuel docs₁ root₁ loc₁ v) =
      Except.map Prod.fst (process1 fuel docs₂ root₂ loc₂ v) ∧
    ∀ x r', process1 fuel docs₁ root₁ loc₁ v = .ok (x, r') → r' = root₁ := by
  rw [process1_refFree fuel v hv docs₁ root₁ loc₁, process1_refFree fuel v hv docs₂ root₂ loc₂]
  cases process1 fuel [] .null none v with
  | error e => exact ⟨rfl, fun x r' h => by cases h⟩
  | ok r => exact ⟨rfl, fun x r' h => by cases h; rfl⟩

/-- the same as a rewrite rule -/
theorem C08_no_reference_no_lookup_eq (fuel : Nat) (v : Val) (hv : refFree v = true)
    (docs : List Val) (root : Val) (loc : Loc) :
    process1 fuel docs root loc v =
      Except.map (fun r => (r.1, root)) (process1 fuel [] .null none v) :=
  process1_refFree fuel v hv docs root loc

example : refFree (.map [("k", .list [.str "x$merge:", .map [("$merger", .null)]])]) = true := by
  decide +kernel

/-- plain data (C06: nothing recognised by the evaluator) is reference-free -/
theorem C08_plain_is_refFree (v : Val) (h : plain v = true) : refFree v = true :=
  plain_refFree v h

/-! ## totality -/

/-- Totality is by construction: `process1`, `process2`, `process2String`, `loadFileAndParents`
    recurse structurally on the fuel (= the depth guards of the Go code), `merge` and `get` by
    well-founded recursion, `outputDocuments` is a composition of these; Lean accepted all of
    them without `partial`, so each call denotes a value — a result or a reported error. -/
theorem C08_total :
    (∀ fuel docs root loc v, ∃ r, process1 fuel docs root loc v = r) ∧
    (∀ fuel docs root ec v, ∃ r, process2 fuel docs root ec v = r) ∧
    (∀ d s, ∃ r, merge d s = r) ∧
    (∀ docs env, ∃ r, outputDocuments docs env = r) ∧
    (∀ fs cfg fuel p c ids chain, ∃ r, loadFileAndParents fs cfg fuel p c ids chain = r) :=
  ⟨fun _ _ _ _ _ => ⟨_, rfl⟩, fun _ _ _ _ _ => ⟨_, rfl⟩, fun _ _ => ⟨_, rfl⟩,
   fun _ _ => ⟨_, rfl⟩, fun _ _ _ _ _ _ _ => ⟨_, rfl⟩⟩

/-! ## forwarding cycles of arbitrary length, any mixture of forms -/

/-- "Every key of `S` forwards to another key of `S`" (`cy_FwdClosed kvs S`: the value under
    each `k ∈ S` is one of the forwarding forms `cy_Fwd` and refers to a simple key of `S`), and
    every key of the document is in `S`.  Then the document is `circularRef` for every fuel, and
    `processDoc` / `outputDocument` report `circularRef`. -/
theorem C08_mixed_cycle {kvs : Fields} {S : String → Prop} (H : cy_FwdClosed kvs S)
    (hall : ∀ p ∈ kvs, S p.1) (hne : kvs ≠ [])
    (h0 : fget kvs "$merge" = none) (h1 : fget kvs "$replace" = none)
    (fuel : Nat) (docs : List Val) (env : Vars) :
    process1 fuel docs (.map kvs) (some []) (.map kvs) = .error .circularRef ∧
    processDoc docs env (.map kvs) = .error .circularRef ∧
    outputDocument docs env (.map kvs) = .error .circularRef :=
  ⟨cy_fwdClosed_doc_error H hall hne h0 h1 fuel docs (some []),
   cy_processDoc_error env (cy_fwdClosed_doc_error H hall hne h0 h1 depthLimit docs (some []))⟩

/-- … each member of the closed system is `circularRef` wherever it is evaluated, whatever the
    other keys of the document hold … -/
theorem C08_mixed_cycle_entry {kvs : Fields} {S : String → Prop} (H : cy_FwdClosed kvs S)
    (fuel : Nat) (docs : List Val) (loc : Loc) (k : String) (v : Val) (hk : S k)
    (hv : fget kvs k = some v) :
    process1 fuel docs (.map kvs) loc v = .error .circularRef :=
  cy_fwdClosed_entry_error H fuel docs loc k v hk hv

/-- … and a document that merely CONTAINS a closed system among its top-level keys is an error
    for every fuel (the keys before the first member are evaluated first and may fail with an
    error of their own; their in-place expansions cannot touch the members). -/
theorem C08_mixed_cycle_embedded {kvs : Fields} {S : String → Prop} (H : cy_FwdClosed kvs S)
    (k0 : String) (hk0 : S k0)
    (h0 : fget kvs "$merge" = none) (h1 : fget kvs "$replace" = none)
    (fuel : Nat) (docs : List Val) (env : Vars) :
    (∃ e, process1 fuel docs (.map kvs) (some []) (.map kvs) = .error e) ∧
    (∃ e, processDoc docs env (.map kvs) = .error e) := by
  refine ⟨cy_fwdClosed_embedded_error H k0 hk0 h0 h1 fuel docs, ?_⟩
  obtain ⟨e, he⟩ := cy_fwdClosed_embedded_error H k0 hk0 h0 h1 depthLimit docs
  exact ⟨e, (cy_processDoc_error env he).1⟩

-- non-vacuity: the lasso `a → b → c → d → b` plus an unrelated key `A`, all four forms
example : cy_FwdClosed
    [("A", .int 1), ("a", .str "$merge:b"), ("b", .map [("$replace", .str "c")]),
     ("c", .list [.int 7, .map [("$replace", .str "d")]]), ("d", .str "$replace:b")]
    (· ∈ ["a", "b", "c", "d"]) := by
  intro k hk
  simp only [List.mem_cons, List.not_mem_nil, or_false] at hk
  rcases hk with rfl | rfl | rfl | rfl
  · exact ⟨_, "b", by decide +kernel, .strMerge "b", simpleKey_b, by decide +kernel⟩
  · exact ⟨_, "c", by decide +kernel, cy_fwd_map1 "c", simpleKey_c, by decide +kernel⟩
  · exact ⟨_, "d", by decide +kernel,
      .listReplace [.int 7] [] "d" (by intro x hx; simp at hx; subst hx; rfl), simpleKey_d,
      by decide +kernel⟩
  · exact ⟨_, "b", by decide +kernel, .strReplace "b", simpleKey_b, by decide +kernel⟩

/-- The n-cycle `k₀ ↦ f k₁, …, kₙ₋₁ ↦ f k₀` in which every link `f k` is ANY forwarding form
    referring to `k` (the forms may differ from key to key), for every n ≥ 1. -/
theorem C08_mixed_cycle_list (f : String → Val) (ks : List String) (hne : ks ≠ [])
    (hk : ∀ k ∈ ks, SimpleKey k) (hf : ∀ k ∈ ks, cy_Fwd (f k) k)
    (hm : "$merge" ∉ ks) (hr : "$replace" ∉ ks) (fuel : Nat) (docs : List Val) (env : Vars) :
    process1 fuel docs (.map (cycleFields f ks)) (some []) (.map (cycleFields f ks)) =
      .error .circularRef ∧
    processDoc docs env (.map (cycleFields f ks)) = .error .circularRef ∧
    outputDocument docs env (.map (cycleFields f ks)) = .error .circularRef :=
  C08_mixed_cycle (cy_cycleFields_fwdClosed f ks hk hf) (cycleFields_keys f ks)
    (cycleFields_ne_nil f hne) (cycleFields_fget_none f ks hm) (cycleFields_fget_none f ks hr)
    fuel docs env

/-- The n-cycle of `$merge:` strings, for every n ≥ 1 and all simple key names
    `k₀ … kₙ₋₁` (distinctness and sortedness are not even needed):
    `k₀: $merge:k₁, k₁: $merge:k₂, …, kₙ₋₁: $merge:k₀` is `circularRef` for every fuel. -/
theorem C08_string_cycle (ks : List String) (hne : ks ≠ []) (hk : ∀ k ∈ ks, SimpleKey k)
    (hm : "$merge" ∉ ks) (hr : "$replace" ∉ ks) (fuel : Nat) (docs : List Val) :
    process1 fuel docs (.map (cycleFields (fun k => .str ("$merge:" ++ k)) ks)) (some [])
      (.map (cycleFields (fun k => .str ("$merge:" ++ k)) ks)) = .error .circularRef :=
  (C08_mixed_cycle_list _ ks hne hk (fun k _ => .strMerge k) hm hr fuel docs []).1

/-- The same for `$replace:` strings. -/
theorem C08_string_replace_cycle (ks : List String) (hne : ks ≠ [])
    (hk : ∀ k ∈ ks, SimpleKey k) (hm : "$merge" ∉ ks) (hr : "$replace" ∉ ks)
    (fuel : Nat) (docs : List Val) :
    process1 fuel docs (.map (cycleFields (fun k => .str ("$replace:" ++ k)) ks)) (some [])
      (.map (cycleFields (fun k => .str ("$replace:" ++ k)) ks)) = .error .circularRef :=
  (C08_mixed_cycle_list _ ks hne hk (fun k _ => .strReplace k) hm hr fuel docs []).1

-- non-vacuity: the 5-cycle a → b → c → d → e → a (sorted keys), and the simple keys "a" … "e"
example : cycleFields (fun k => .str ("$merge:" ++ k)) ["a", "b", "c", "d", "e"] =
    [("a", .str "$merge:b"), ("b", .str "$merge:c"), ("c", .str "$merge:d"),
     ("d", .str "$merge:e"), ("e", .str "$merge:a")] := by decide +kernel
example : (∀ k ∈ ["a", "b", "c", "d", "e"], SimpleKey k) ∧
    "$merge" ∉ ["a", "b", "c", "d", "e"] ∧ "$replace" ∉ ["a", "b", "c", "d", "e"] :=
  ⟨simpleKey_abcde, by decide, by decide⟩

/-- the 5-cycle as a concrete document -/
theorem C08_string_cycle_5 (fuel : Nat) (docs : List Val) :
    process1 fuel docs
      (.map [("a", .str "$merge:b"), ("b", .str "$merge:c"), ("c", .str "$merge:d"),
        ("d", .str "$merge:e"), ("e", .str "$merge:a")]) (some [])
      (.map [("a", .str "$merge:b"), ("b", .str "$merge:c"), ("c", .str "$merge:d"),
        ("d", .str "$merge:e"), ("e", .str "$merge:a")]) = .error .circularRef :=
  (by decide +kernel : cycleFields (fun k => .str ("$merge:" ++ k)) ["a", "b", "c", "d", "e"] =
      [("a", .str "$merge:b"), ("b", .str "$merge:c"), ("c", .str "$merge:d"),
       ("d", .str "$merge:e"), ("e", .str "$merge:a")]) ▸
    C08_string_cycle ["a", "b", "c", "d", "e"] (by decide) simpleKey_abcde (by decide) (by decide)
      fuel docs

/-- `a1: {$replace: a2}, …, an: {$replace: a1}` (map form) is `circularRef`, for every n ≥ 1,
    all simple keys and every fuel. -/
theorem C08_map_replace_cycle_n (ks : List String) (hne : ks ≠ [])
    (hk : ∀ k ∈ ks, SimpleKey k) (hm : "$merge" ∉ ks) (hr : "$replace" ∉ ks)
    (fuel : Nat) (docs : List Val) (env : Vars) :
    process1 fuel docs (.map (cycleFields (fun k => .map [("$replace", .str k)]) ks)) (some [])
      (.map (cycleFields (fun k => .map [("$replace", .str k)]) ks)) = .error .circularRef ∧
    processDoc docs env (.map (cycleFields (fun k => .map [("$replace", .str k)]) ks)) =
      .error .circularRef ∧
    outputDocument docs env (.map (cycleFields (fun k => .map [("$replace", .str k)]) ks)) =
      .error .circularRef :=
  C08_mixed_cycle_list _ ks hne hk (fun k _ => cy_fwd_map1 k) hm hr fuel docs env

/-- the same for the list-entry form `a1: [{$replace: a2}], …, an: [{$replace: a1}]` -/
theorem C08_list_replace_cycle_n (ks : List String) (hne : ks ≠ [])
    (hk : ∀ k ∈ ks, SimpleKey k) (hm : "$merge" ∉ ks) (hr : "$replace" ∉ ks)
    (fuel : Nat) (docs : List Val) (env : Vars) :
    process1 fuel docs (.map (cycleFields (fun k => .list [.map [("$replace", .str k)]]) ks))
      (some []) (.map (cycleFields (fun k => .list [.map [("$replace", .str k)]]) ks)) =
      .error .circularRef ∧
    processDoc docs env (.map (cycleFields (fun k => .list [.map [("$replace", .str k)]]) ks)) =
      .error .circularRef ∧
    outputDocument docs env
      (.map (cycleFields (fun k => .list [.map [("$replace", .str k)]]) ks)) =
      .error .circularRef :=
  C08_mixed_cycle_list _ ks hne hk (fun k _ => cy_fwd_list1 k) hm hr fuel docs env

-- non-vacuity: the 4-cycle of `$replace` maps
example : cycleFields (fun k => .map [("$replace", .str k)]) ["a", "b", "c", "d"] =
    [("a", .map [("$replace", .str "b")]), ("b", .map [("$replace", .str "c")]),
     ("c", .map [("$replace", .str "d")]), ("d", .map [("$replace", .str "a")])] := by
  decide
example : (∀ k ∈ ["a", "b", "c", "d"], SimpleKey k) ∧
    "$merge" ∉ ["a", "b", "c", "d"] ∧ "$replace" ∉ ["a", "b", "c", "d"] :=
  ⟨fun k hk => simpleKey_abcde k (List.mem_of_mem_take (i := 4) hk), by decide,
   by decide⟩

/-- the 3-cycle of `$replace` maps as a concrete document -/
theorem C08_map_replace_cycle_3 (fuel : Nat) (docs : List Val) :
    process1 fuel docs
      (.map [("a", .map [("$replace", .str "b")]), ("b", .map [("$replace", .str "c")]),
        ("c", .map [("$replace", .str "a")])]) (some [])
      (.map [("a", .map [("$replace", .str "b")]), ("b", .map [("$replace", .str "c")]),
        ("c", .map [("$replace", .str "a")])]) = .error .circularRef :=
  (by decide : cycleFields (fun k => .map [("$replace", .str k)]) ["a", "b", "c"] =
      [("a", .map [("$replace", .str "b")]), ("b", .map [("$replace", .str "c")]),
       ("c", .map [("$replace", .str "a")])]) ▸
    (C08_map_replace_cycle_n ["a", "b", "c"] (by decide)
      (fun k hk => simpleKey_abcde k (List.mem_of_mem_take (i := 3) hk)) (by decide) (by decide)
      fuel docs []).1

/-! ## the MAP form of a `$merge` n-cycle -/

/-- `k₀: {$merge: k₁, …c k₀}, …, kₙ₋₁: {$merge: k₀, …c kₙ₋₁}` (`cy_mergeCycle c ks`; distinct
    simple keys) where the contents `c k` are int-valued (any number of keys other than `$merge`)
    and at least one host has contents.  The first host collects the contents of all hosts on
    its way round the cycle and is finally merged into itself: an error for EVERY fuel —
    `uselessOverride` as soon as the fuel is at least n + 1, `circularRef` or (when two hosts
    carry the same key with the same value) `uselessOverride` below.  The hypothesis excludes
    exactly the content-free cycles, which are not errors (`C08_map_merge_cycle_empty_value`). -/
theorem C08_map_merge_cycle_partial (docs : List Val) (c : String → Fields) (k0 : String)
    (tl : List String) (hnd : (k0 :: tl).Nodup)
    (hk : ∀ k ∈ k0 :: tl, SimpleKey k ∧ k ≠ "$delete" ∧ cy_IntContent (c k))
    (hm : "$merge" ∉ k0 :: tl) (hr : "$replace" ∉ k0 :: tl)
    (hne : ∃ k ∈ k0 :: tl, c k ≠ []) (fuel : Nat) :
    ∃ e, process1 fuel docs (.map (cy_mergeCycle c (k0 :: tl))) (some [])
        (.map (cy_mergeCycle c (k0 :: tl))) = .error e ∧
      (e = .circularRef ∨ e = .uselessOverride) ∧
      ((k0 :: tl).length + 1 ≤ fuel → e = .uselessOverride) :=
  cy_content_cycle_error docs c k0 tl hnd hk hm hr hne fuel

/-- hence `processDoc` reports an error; `uselessOverride` for every cycle shorter than the
    depth limit -/
theorem C08_map_merge_cycle_partial_doc (docs : List Val) (env : Vars) (c : String → Fields)
    (k0 : String) (tl : List String) (hnd : (k0 :: tl).Nodup)
    (hk : ∀ k ∈ k0 :: tl, SimpleKey k ∧ k ≠ "$delete" ∧ cy_IntContent (c k))
    (hm : "$merge" ∉ k0 :: tl) (hr : "$replace" ∉ k0 :: tl)
    (hne : ∃ k ∈ k0 :: tl, c k ≠ []) :
    ∃ e, processDoc docs env (.map (cy_mergeCycle c (k0 :: tl))) = .error e ∧
      (e = .circularRef ∨ e = .uselessOverride) ∧
      ((k0 :: tl).length < depthLimit → e = .uselessOverride) := by
  obtain ⟨e, he, h1, h2⟩ := cy_content_cycle_error docs c k0 tl hnd hk hm hr hne depthLimit
  exact ⟨e, (cy_processDoc_error env he).1, h1, fun hl => h2 (by omega)⟩

/-- the shape of the document -/
theorem C08_map_merge_cycle_shape (c : String → Fields) (ks : List String) :
    cy_mergeCycle c ks =
      (ks.zip (rot1 ks)).map fun p => (p.1, .map (("$merge", .str p.2) :: c p.1)) :=
  cy_mergeCycle_eq_zip c ks

-- non-vacuity: `a: {$merge: b, x: 1}, b: {$merge: c}, c: {$merge: a, y: 3, z: 4}`
example : cy_mergeCycle
    (fun k => if k = "a" then [("x", .int 1)] else if k = "c" then [("y", .int 3), ("z", .int 4)]
      else []) ["a", "b", "c"] =
    [("a", .map [("$merge", .str "b"), ("x", .int 1)]), ("b", .map [("$merge", .str "c")]),
     ("c", .map [("$merge", .str "a"), ("y", .int 3), ("z", .int 4)])] := by decide
example : (["a", "b", "c"] : List String).Nodup ∧
    (∀ k ∈ ["a", "b", "c"], SimpleKey k ∧ k ≠ "$delete" ∧ cy_IntContent
      ((fun k => if k = "a" then [("x", .int 1)]
        else if k = "c" then [("y", .int 3), ("z", .int 4)] else []) k)) ∧
    "$merge" ∉ ["a", "b", "c"] ∧ "$replace" ∉ ["a", "b", "c"] ∧
    (∃ k ∈ ["a", "b", "c"], (fun k => if k = "a" then [("x", Val.int 1)]
        else if k = "c" then [("y", .int 3), ("z", .int 4)] else []) k ≠ []) := by
  refine ⟨by decide, ?_, by decide, by decide, ⟨"a", by decide, by decide⟩⟩
  exact List.forall_mem_cons.2
    ⟨⟨simpleKey_a, by decide, cy_intContent_cons (by decide) 1 cy_intContent_nil⟩,
     List.forall_mem_cons.2 ⟨⟨simpleKey_b, by decide, cy_intContent_nil⟩,
      List.forall_mem_singleton.2 ⟨simpleKey_c, by decide,
        cy_intContent_cons (by decide) 3
          (cy_intContent_cons (by decide) 4 cy_intContent_nil)⟩⟩⟩

/-- Exact behaviour WITHOUT contents, for every n ≥ 1: the cycle `kᵢ: {$merge: kᵢ₊₁}` evaluates
    (fuel ≥ n + 2) to `{kᵢ: {}}` — every host loses its `$merge` key, walks round the cycle and
    finally receives the empty content of a host that was emptied before (or of itself). -/
theorem C08_map_merge_cycle_empty_value (docs : List Val) (k0 : String) (tl : List String)
    (hnd : (k0 :: tl).Nodup)
    (hk : ∀ k ∈ k0 :: tl, SimpleKey k ∧ k ≠ "$delete" ∧ refStr k = false)
    (hm : "$merge" ∉ k0 :: tl) (hr : "$replace" ∉ k0 :: tl) (fuel : Nat) :
    process1 (fuel + (k0 :: tl).length + 2) docs
        (.map (cy_mergeCycle (fun _ => []) (k0 :: tl))) (some [])
        (.map (cy_mergeCycle (fun _ => []) (k0 :: tl))) =
      .ok (.map (cy_emptied [] (k0 :: tl)),
           .map (cy_emptied (cy_mergeCycle (fun _ => []) (k0 :: tl)) (k0 :: tl))) :=
  cy_empty_cycle_value docs k0 tl hnd hk hm hr fuel

/-- for increasing keys the value is literally `{k₀: {}, k₁: {}, …}` -/
theorem C08_map_merge_cycle_empty_value_sorted (ks : List String) (h : ks.Pairwise (· < ·)) :
    cy_emptied [] ks = ks.map fun k => (k, Val.map []) :=
  cy_emptied_sorted ks h

/-- so the statement "a map-form `$merge` n-cycle is an error for every fuel" is FALSE for
    every n ≥ 1 … -/
theorem C08_map_merge_cycle_empty_false (docs : List Val) (k0 : String) (tl : List String)
    (hnd : (k0 :: tl).Nodup)
    (hk : ∀ k ∈ k0 :: tl, SimpleKey k ∧ k ≠ "$delete" ∧ refStr k = false)
    (hm : "$merge" ∉ k0 :: tl) (hr : "$replace" ∉ k0 :: tl) :
    ¬ ∀ fuel, ∃ e, process1 fuel docs (.map (cy_mergeCycle (fun _ => []) (k0 :: tl))) (some [])
      (.map (cy_mergeCycle (fun _ => []) (k0 :: tl))) = .error e := by
  intro h
  obtain ⟨e, he⟩ := h (0 + (k0 :: tl).length + 2)
  rw [cy_empty_cycle_value docs k0 tl hnd hk hm hr 0] at he
  cases he

/-- … concretely for n = 3, `cy_mapCycle3 = {a: {$merge: b}, b: {$merge: c}, c: {$merge: a}}`:
    the value is `{a: {}, b: {}, c: {}}` (fuel ≥ 5) … -/
theorem C08_map_merge_cycle_3_value (fuel : Nat) (docs : List Val) :
    ∃ root', process1 (fuel + 5) docs cy_mapCycle3 (some []) cy_mapCycle3 =
      .ok (.map [("a", .map []), ("b", .map []), ("c", .map [])], root') :=
  ⟨_, (cy_empty_cycle_value docs "a" ["b", "c"] (by decide) cy_keys_abc
    (by decide) (by decide) fuel).trans
    (congrArg (fun x => Except.ok (Val.map x, _)) (by decide))⟩

/-- … not an error. -/
theorem C08_map_merge_cycle_3_false :
    ¬ ∀ fuel, ∃ e, process1 fuel [] cy_mapCycle3 (some []) cy_mapCycle3 = .error e := by
  intro h
  obtain ⟨e, he⟩ := h 5
  obtain ⟨r, hr⟩ := C08_map_merge_cycle_3_value 0 []
  rw [hr] at he
  cases he

/-- with contents the 3-cycle is reported, at the depth limit as `uselessOverride` -/
theorem C08_map_merge_cycle_3_with_keys (docs : List Val) (env : Vars) :
    processDoc docs env
      (.map [("a", .map [("$merge", .str "b"), ("x", .int 1)]), ("b", .map [("$merge", .str "c")]),
        ("c", .map [("$merge", .str "a"), ("y", .int 3), ("z", .int 4)])]) =
      .error .uselessOverride := by
  obtain ⟨e, he, _, h2⟩ := C08_map_merge_cycle_partial_doc docs env
    (fun k => if k = "a" then [("x", .int 1)] else if k = "c" then [("y", .int 3), ("z", .int 4)]
      else []) "a" ["b", "c"] (by decide)
    (List.forall_mem_cons.2
      ⟨⟨simpleKey_a, by decide, cy_intContent_cons (by decide) 1 cy_intContent_nil⟩,
       List.forall_mem_cons.2 ⟨⟨simpleKey_b, by decide, cy_intContent_nil⟩,
        List.forall_mem_singleton.2 ⟨simpleKey_c, by decide,
          cy_intContent_cons (by decide) 3
            (cy_intContent_cons (by decide) 4 cy_intContent_nil)⟩⟩⟩)
    (by decide) (by decide) ⟨"a", by decide, by decide⟩
  rw [← h2 (by decide)]
  exact he

/-! ## `$repeat` with a count ≤ 0: zero copies, no error -/

/-- Document level, map document.  If phase 3 turns the merged document into a map with
    `$repeat: n`, `n ≤ 0` (in particular every negative count), no document is generated and
    nothing is reported: `processDoc` and `outputDocument` return the empty list.  (`C12_doc_int`:
    the count is `n.toNat`.) -/
theorem C08_repeat_negative (docs : List Val) (env : Vars) (data : Val) (kvs : Fields)
    (rt : Val) (n : Int)
    (h1 : process1 depthLimit docs data (some []) data = .ok (.map kvs, rt))
    (hr : fget kvs "$repeat" = some (.int n)) (hn : n ≤ 0) :
    processDoc docs env data = .ok [] ∧ outputDocument docs env data = .ok [] := by
  have h : processDoc docs env data = .ok [] := by
    rw [C12_doc_int_order docs env data kvs rt n h1 hr, cy_range_nonpos hn]; rfl
  exact ⟨h, by rw [outputDocument_eq, h]; rfl⟩

/-- the `process1` hypothesis discharged for reference-free documents (`C12_doc_int_order_closed`) -/
theorem C08_repeat_negative_closed (docs : List Val) (env : Vars) (kvs : Fields) (n : Int)
    (hp : allStr p1OK (.map kvs) = true) (hw : Val.wfB (.map kvs) = true)
    (hd : depth (.map kvs) < depthLimit) (hr : fget kvs "$repeat" = some (.int n)) (hn : n ≤ 0) :
    processDoc docs env (.map kvs) = .ok [] ∧ outputDocument docs env (.map kvs) = .ok [] :=
  C08_repeat_negative docs env (.map kvs) (dropNullsFields kvs) (.map kvs) n
    (process1_p1 depthLimit docs (.map kvs) (some []) (.map kvs) hp hw hd)
    (fget_dropNullsFields_int hr) hn

/-- `{$repeat: -3, a: 1}`: no output, no error -/
theorem C08_repeat_negative_example (docs : List Val) (env : Vars) :
    outputDocument docs env (.map [("$repeat", .int (-3)), ("a", .int 1)]) = .ok [] :=
  (C08_repeat_negative_closed docs env _ (-3) (by decide) (by decide) (by decide) (by decide)
    (by decide)).2

/-- Document level, list document `[{$repeat: n}, …]`. -/
theorem C08_repeat_negative_list_doc (docs : List Val) (env : Vars) (data : Val)
    (xs rest : List Val) (rt : Val) (n : Int)
    (h1 : process1 depthLimit docs data (some []) data = .ok (.list xs, rt))
    (hp : popListMapValue xs "$repeat" = .ok (.int n, rest)) (hn : n ≤ 0) :
    processDoc docs env data = .ok [] ∧ outputDocument docs env data = .ok [] := by
  have h : processDoc docs env data = .ok [] := by
    rw [processDoc_ok h1]
    simp only [ok_bind, repeatDoc, hp, Val.isNull, Bool.not_false, if_true]
    rw [C12_doc_int, cy_range_nonpos hn]
    rfl
  exact ⟨h, by rw [outputDocument_eq, h]; rfl⟩

example : popListMapValue [.map [("$repeat", .int (-1))], .int 5] "$repeat" =
    .ok (.int (-1), [.int 5]) := by
  simp [popListMapValue, fget, Val.isNull, R_pure, ok_bind]

/-- Document level, named counts `$repeat: {i: …, j: …}`: one count ≤ 0 (all counts integers)
    empties the cartesian product. -/
theorem C08_repeat_negative_named (data : Val) (ec : Vars) (rs : Fields)
    (h : ∀ kv ∈ rs, ∃ n, kv.2 = Val.int n) (hneg : ∃ kv ∈ rs, ∃ n, kv.2 = Val.int n ∧ n ≤ 0) :
    repeatGen data ec (.map rs) = .ok [] := by
  obtain ⟨pairs, hp, hl⟩ := C12_doc_named_length data ec rs h
  have : (rs.map fun kv => countOf kv.2).prod = 0 := by
    apply cy_prod_zero
    obtain ⟨kv, hkv, n, hn, hn0⟩ := hneg
    refine ⟨countOf kv.2, List.mem_map_of_mem hkv, ?_⟩
    rw [hn]
    show n.toNat = 0
    omega
  rw [this] at hl
  rw [hp, List.eq_nil_of_length_eq_zero hl]

example : (∀ kv ∈ ([("i", .int 2), ("j", .int (-1))] : Fields), ∃ n, kv.2 = Val.int n) ∧
    ∃ kv ∈ ([("i", .int 2), ("j", .int (-1))] : Fields), ∃ n, kv.2 = Val.int n ∧ n ≤ 0 := by
  refine ⟨?_, ("j", .int (-1)), by simp, -1, rfl, by decide⟩
  intro kv hkv
  simp only [List.mem_cons, List.not_mem_nil, or_false] at hkv
  rcases hkv with rfl | rfl <;> exact ⟨_, rfl⟩

/-- Nested, list entry: `{$repeat: n, …}` with `n ≤ 0` anywhere in a list contributes nothing —
    the list evaluates exactly as without the entry (for every fuel; in particular the entry
    itself causes no error). -/
theorem C08_repeat_negative_list_entry (fuel : Nat) (docs : List Val) (root : Val) (ec : Vars)
    (pre post : List Val) (m : Fields) (n : Int)
    (hr : fget m "$repeat" = some (.int n)) (hn : n ≤ 0) :
    process2 fuel docs root ec (.list (pre ++ .map m :: post)) =
      process2 fuel docs root ec (.list (pre ++ post)) :=
  cy_process2_list_drop docs root ec m n hr hn fuel pre post

/-- Nested, map value: `k: {$repeat: n, …}` with `n ≤ 0` anywhere in a map contributes nothing. -/
theorem C08_repeat_negative_map_value (fuel : Nat) (docs : List Val) (root : Val) (ec : Vars)
    (pre post : Fields) (k : String) (m : Fields) (n : Int)
    (hr : fget m "$repeat" = some (.int n)) (hn : n ≤ 0) :
    process2 fuel docs root ec (.map (pre ++ (k, .map m) :: post)) =
      process2 fuel docs root ec (.map (pre ++ post)) := by
  cases fuel with
  | zero => rw [process2_zero, process2_zero]
  | succ f => exact cy_process2_map_drop f docs root ec pre post k m n hr hn

/-- alone: `[{$repeat: n, …}]` is `[]` and `{k: {$repeat: n, …}}` is `{}` -/
theorem C08_repeat_negative_nested_alone (fuel : Nat) (docs : List Val) (root : Val) (ec : Vars)
    (k : String) (m : Fields) (n : Int) (hr : fget m "$repeat" = some (.int n)) (hn : n ≤ 0) :
    process2 (fuel + 1) docs root ec (.list [.map m]) = .ok (.list []) ∧
    process2 (fuel + 1) docs root ec (.map [(k, .map m)]) = .ok (.map []) :=
  ⟨(cy_process2_list_drop docs root ec m n hr hn (fuel + 1) [] []).trans
      (process2_list_nil fuel docs root ec),
   (cy_process2_map_drop fuel docs root ec [] [] k m n hr hn).trans
      (process2_map_nil fuel docs root ec)⟩

example : fget [("$repeat", Val.int (-2)), ("x", .int 1)] "$repeat" = some (.int (-2)) ∧
    (-2 : Int) ≤ 0 := by decide

/-- A count that is neither an integer nor a map of named counts is an error, at document level
    `invalidRepeat` (`C12_nonint_error`) … -/
theorem C08_repeat_nonint_is_error (docs : List Val) (env : Vars) (data : Val) (kvs : Fields)
    (rt : Val) (v : Val)
    (h1 : process1 depthLimit docs data (some []) data = .ok (.map kvs, rt))
    (hr : fget kvs "$repeat" = some v) (hv1 : ∀ n, v ≠ .int n) (hv2 : ∀ rs, v ≠ .map rs) :
    processDoc docs env data = .error .invalidRepeat ∧
    outputDocument docs env data = .error .invalidRepeat := by
  have h : processDoc docs env data = .error .invalidRepeat := by
    rw [processDoc_ok h1]
    simp only [repeatDoc, hr, C12_nonint_error _ env v hv1 hv2]
    rfl
  exact ⟨h, by rw [outputDocument_eq, h]; rfl⟩

/-- … and nested `invalidType` (`C12_nonint_error_nested`, `C12_nonint_error_map_nested`). -/
theorem C08_repeat_nonint_nested_is_error (fuel : Nat) (docs : List Val) (root : Val) (ec : Vars)
    (k : String) (m : Fields) (r : Val) (hr : fget m "$repeat" = some r) (hni : ∀ n, r ≠ .int n) :
    process2 (fuel + 1) docs root ec (.list [.map m]) = .error .invalidType ∧
    process2 (fuel + 1) docs root ec (.map [(k, .map m)]) = .error .invalidType :=
  ⟨C12_nonint_error_nested fuel docs root ec m r hr hni,
   C12_nonint_error_map_nested fuel docs root ec k m r hr hni⟩

example : (∀ n, Val.flt "1.5" ≠ .int n) ∧ (∀ rs, Val.flt "1.5" ≠ .map rs) :=
  ⟨fun _ h => (by cases h), fun _ h => (by cases h)⟩

/-! ## the evaluation is total, and every error it returns is one of 15 classes -/

/-- `outputDocuments` is a total function of the stream and the environment: every invocation
    denotes complete output (`.ok`) or a reported error, and a reported error is one of the 15
    classes `cy_reported` (`circularRef`, `extraKeys`, `invalidArguments`, `invalidDirective`,
    `invalidType`, `invalidRepeat`, `refNotFound`, `missingMatch`, `multiMatch`, `noMatchFound`,
    `requiredField`, `unknownFormat`, `uselessOverride`, `variableNotFound`, and the model's own
    `unmodelled`). -/
theorem C08_evaluation_total_status (docs : List Val) (env : Vars) :
    (∃ outs, outputDocuments docs env = .ok outs) ∨
    (∃ e, outputDocuments docs env = .error e ∧ cy_reported e = true) := by
  cases h : outputDocuments docs env with
  | ok outs => exact Or.inl ⟨outs, rfl⟩
  | error e => exact Or.inr ⟨e, rfl, (cy_rep_outputDocuments docs env).rep e h⟩

/-- the classes, spelled out (so that the statements of this section do not depend on reading the
    lemma file) -/
theorem C08_error_classes_spec (e : Err) :
    (cy_p1Err e = true ↔ e ∈ [Err.circularRef, .extraKeys, .invalidType, .refNotFound,
      .missingMatch, .multiMatch, .noMatchFound, .uselessOverride, .unmodelled]) ∧
    (cy_emitErr e = true ↔ e ∈ [Err.extraKeys, .requiredField, .invalidDirective]) ∧
    (cy_reported e = true ↔ e ∈ [Err.circularRef, .extraKeys, .invalidArguments,
      .invalidDirective, .invalidType, .invalidRepeat, .refNotFound, .missingMatch, .multiMatch,
      .noMatchFound, .requiredField, .unknownFormat, .uselessOverride, .variableNotFound,
      .unmodelled]) := by
  cases e <;> decide +kernel

/-- the finite list, explicitly -/
theorem C08_error_is_reported (docs : List Val) (env : Vars) (e : Err)
    (h : outputDocuments docs env = .error e) :
    e ∈ [Err.circularRef, .extraKeys, .invalidArguments, .invalidDirective, .invalidType,
      .invalidRepeat, .refNotFound, .missingMatch, .multiMatch, .noMatchFound, .requiredField,
      .unknownFormat, .uselessOverride, .variableNotFound, .unmodelled] :=
  (C08_error_classes_spec e).2.2.1 ((cy_rep_outputDocuments docs env).rep e h)

/-- the other 12 constructors — `marshal`, `unmarshal`, the file and command-line errors and
    `other` — are never produced by `outputDocuments` -/
theorem C08_never_produced (docs : List Val) (env : Vars) :
    ∀ e ∈ [Err.conflictingParent, .extraEntries, .invalidIndex, .invalidFilename, .invalidParent,
      .marshal, .missingEnv, .missingFile, .noCloneFound, .outputFile, .unmarshal, .other],
      outputDocuments docs env ≠ .error e := by
  intro e he h
  have h' := (cy_rep_outputDocuments docs env).rep e h
  clear h; revert e; decide

/-- Per stage.  Phase 3 (`process1`, hence `get` and `merge`) returns only `circularRef`,
    `extraKeys`, `invalidType`, `refNotFound`, `missingMatch`, `multiMatch`, `noMatchFound`,
    `uselessOverride`, `unmodelled`; the output stage (`emit`: selection, hiding, validation)
    only `extraKeys`, `requiredField`, `invalidDirective`; `repeatDoc`, `process2`, `processDoc`
    and `outputDocument` stay within the 15 classes. -/
theorem C08_error_classes_by_stage (fuel : Nat) (docs : List Val) (root : Val) (loc : Loc)
    (ec : Vars) (v : Val) (vs : List Val) (e : Err) :
    (process1 fuel docs root loc v = .error e → cy_p1Err e = true) ∧
    (emit vs = .error e → cy_emitErr e = true) ∧
    (repeatDoc v ec = .error e → cy_reported e = true) ∧
    (process2 fuel docs root ec v = .error e → cy_reported e = true) ∧
    (processDoc docs ec v = .error e → cy_reported e = true) ∧
    (outputDocument docs ec v = .error e → cy_reported e = true) :=
  ⟨(cy_rep_process1 fuel docs root loc v).rep e, (cy_rep_emit vs).rep e,
   (cy_rep_repeatDoc v ec).rep e, (cy_rep_process2 fuel docs root ec v).rep e,
   (cy_rep_processDoc docs ec v).rep e, (cy_rep_outputDocument docs ec v).rep e⟩

/-- `{$decode: xml, $value: "1"}`: an unknown `$decode` format is reported as `unknownFormat` by
    the pipeline (`C14_decode_bad_args_model`) -/
theorem cy_unknownFormat_witness (docs : List Val) (env : Vars) :
    outputDocument docs env (.map [("$decode", .str "xml"), ("$value", .str "1")]) =
      .error .unknownFormat := by
  have h1 := process1_p1 depthLimit docs (.map [("$decode", .str "xml"), ("$value", .str "1")])
    (some []) (.map [("$decode", .str "xml"), ("$value", .str "1")]) (by decide +kernel) (by decide +kernel)
    (by decide +kernel)
  have hd : dropNulls (.map [("$decode", .str "xml"), ("$value", .str "1")]) =
      .map [("$decode", .str "xml"), ("$value", .str "1")] := by decide +kernel
  rw [hd] at h1
  have h2 : process2 depthLimit docs (.map [("$decode", .str "xml"), ("$value", .str "1")]) env
      (.map [("$decode", .str "xml"), ("$value", .str "1")]) = .error .unknownFormat :=
    (C14_decode_bad_args_model 999 docs _ env [("$decode", .str "xml"), ("$value", .str "1")]
      (by decide +kernel)
      (by
        intro p hp m hm
        simp only [List.mem_cons, List.not_mem_nil, or_false] at hp
        rcases hp with rfl | rfl <;> cases hm)
      (by decide +kernel)).2.2.2.2 "xml" "1" rfl rfl (by decide +kernel) (by decide +kernel)
  have h3 : processDoc docs env (.map [("$decode", .str "xml"), ("$value", .str "1")]) =
      .error .unknownFormat := by
    rw [processDoc_single h1 (C12_repeatDoc_no_repeat_map _ _ (by decide +kernel)), h2]
    rfl
  rw [outputDocument_eq, h3]; rfl

/-- `unknownFormat` is NOT among the never-produced classes: `{$decode: xml, $value: "1"}` makes
    the pipeline return it (so the list of 15 cannot be shortened by it) -/
theorem C08_unknownFormat_is_produced (env : Vars) :
    outputDocuments [.map [("$decode", .str "xml"), ("$value", .str "1")]] env =
      .error .unknownFormat :=
  cy_outputDocuments_single_error [] [] rfl (fun x hx => by cases hx)
    (cy_unknownFormat_witness _ env)

end Bkl
