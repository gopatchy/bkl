/-
  C14 — "$encode produces the named standard encodings and $decode inverts them".
  Model: Bkl/Encode.lean (`encodeAny`, `encodeList`, `encodeString`, `base64`, `sha256Hex`, `fmtV`).
  Specification functions (`encStep`, `joinSpec`, `prefixSpec`, `flattenSpec`, `valuesSpec`,
  `tolistSpec`, `b64Idx`, `b64DecodeChars`) are written independently of the model in
  BklProofs/Lemmas/Encode.lean; `C14_tolist` and `C14_prefix` stand there, in front of their instances
  `tolist:=` and `prefix:--` that `flags` is made of.
  `String.splitOn ":"` (argument parsing) is characterised once and for all by `splitOn_colon`,
  so the transform theorems are generic in the delimiter / prefix argument.
  The abstract text codec `TextCodec` around `$encode`/`$decode` is in BklProofs/Lemmas/C14Codec.lean
  (`C14_process2_directive_dispatch` and `C14_decode_bad_args_model` stand there); its JSON instance
  `js_textCodec` stands here, in front of `C14_json_codec`, over the round trip proved in
  BklProofs/Lemmas/Json.lean.
-/
import BklProofs.Lemmas.Json
import BklProofs.Lemmas.C14Codec
import BklProofs.Lemmas.EscapeProc
namespace Bkl

/-! ## C14_stack — a list of specs is applied left to right, stopping at the first failure -/

theorem C14_stack_nil (obj : Val) : encodeAny obj (.list []) = .ok obj := by
  rw [encodeAny, encodeList]

theorem C14_stack_cons (obj sp : Val) (rest : List Val) :
    encodeAny obj (.list (sp :: rest)) =
      match encodeAny obj sp with
      | .ok v => encodeAny v (.list rest)
      | e => e := by
  rw [encodeAny, encodeList]
  cases encodeAny obj sp <;> simp only [encodeAny]

/-- the whole stack is the left fold of `encStep` (defined in Lemmas/Encode.lean) -/
theorem C14_stack (obj : Val) (specs : List Val) :
    encodeAny obj (.list specs) = specs.foldl encStep (.ok obj) := by
  induction specs generalizing obj with
  | nil => exact C14_stack_nil obj
  | cons sp rest ih =>
    rw [C14_stack_cons, List.foldl_cons, encStep]
    cases encodeAny obj sp with
    | ok v => exact ih v
    | _ => exact (encStep_foldl_stop (by intro v h; cases h) rest).symm

/-- two string transforms: apply `a`, then `b` to its result -/
theorem C14_stack_two (obj : Val) (a b : String) :
    encodeAny obj (.list [.str a, .str b]) =
      match encodeString obj a with
      | .ok v => encodeString v b
      | e => e := by
  rw [C14_stack_cons, encodeAny]
  cases encodeString obj a with
  | ok v =>
    show encodeAny v (.list [.str b]) = encodeString v b
    rw [C14_stack_cons, encodeAny]
    cases encodeString v b with
    | ok w => exact C14_stack_nil w
    | _ => rfl
  | _ => rfl

/-! ## the list / map transforms against independent specifications

  `encodeString_eq` (Lemmas/Encode.lean): `encodeString obj spec` is the row of the table `encodeCmd` for the
  command and the arguments that `spec.splitOn ":"` gives.  Each theorem below names the split and reads its row. -/

/-- `join` without argument: concatenation of the `%v` renderings -/
theorem C14_join_nodelim (obj : Val) : encodeString obj "join" = joinSpec "" obj :=
  encodeString_eq obj (splitOn_colon_none _ (by decide))

/-- `join:d` for every delimiter `d` without ':' -/
theorem C14_join (obj : Val) (d : String) (hd : ':' ∉ d.toList) :
    encodeString obj ("join:" ++ d) = joinSpec d obj :=
  encodeString_eq obj (splitOn_colon_two "join" d (by decide) hd)

example : ':' ∉ ",".toList := by decide   -- non-vacuity of `hd`
example : encodeString (.list [.int 1, .str "b", .bool true]) "join:," = .ok (.str "1,b,true") :=
  (C14_join _ "," (by decide)).trans (by decide)
example : encodeString (.list [.str "a", .str "b"]) "join:-" = .ok (.str "a-b") :=
  (C14_join _ "-" (by decide)).trans (by decide)

example : ':' ∉ "--".toList := by decide
example : encodeString (.list [.str "a", .int 2]) "prefix:p-" = .ok (.list [.str "p-a", .str "p-2"]) :=
  (C14_prefix _ "p-" (by decide)).trans (by decide)

theorem C14_flatten (obj : Val) : encodeString obj "flatten" = flattenSpec obj :=
  encodeString_eq obj (splitOn_colon_none _ (by decide))

example : encodeString (.list [.list [.int 1, .int 2], .int 3, .list []]) "flatten"
    = .ok (.list [.int 1, .int 2, .int 3]) := by rw [C14_flatten]; rfl

theorem C14_values (obj : Val) : encodeString obj "values" = valuesSpec obj :=
  encodeString_eq obj (splitOn_colon_none _ (by decide))

example : encodeString (.map [("a", .int 1), ("b", .str "x")]) "values"
    = .ok (.list [.int 1, .str "x"]) := by rw [C14_values]; rfl

example : ':' ∉ "=".toList := by decide
/-- test: list values fan out, the empty string gives the bare key, keys in order -/
example : encodeString (.map [("a", .int 1), ("b", .list [.str "x", .str "y"]), ("c", .str "")])
    "tolist:=" = .ok (.list [.str "a=1", .str "b=x", .str "b=y", .str "c"]) :=
  (C14_tolist _ "=" (by decide)).trans (by decide)

/-- `tolist::` (delimiter ':') has three parts and is rejected -/
theorem C14_tolist_colon (obj : Val) : encodeString obj "tolist::" = .err .invalidArguments :=
  encodeString_eq obj parts_tolist_colon

/-! ## C14_flags_def — `flags` is exactly `[tolist:=, prefix:--]` -/

theorem C14_flags_def (obj : Val) :
    encodeString obj "flags" = encodeAny obj (.list [.str "tolist:=", .str "prefix:--"]) := by
  rw [C14_stack_two, encodeString_tolist_eq, encodeString_flags, flagsSpec]
  cases tolistSpec "=" obj <;> simp only [encodeString_prefix_dd]

example : encodeString (.map [("a", .int 1), ("v", .str "")]) "flags"
    = .ok (.list [.str "--a=1", .str "--v"]) := by
  rw [C14_flags_def, C14_stack_two, encodeString_tolist_eq]
  exact (encodeString_prefix_dd _).trans (by decide)

/-! ## C14_bad_args_error -/

theorem encodeString_noarg (obj : Val) (cmd : String)
    (hc : cmd ∈ ["base64", "sha256", "flatten", "values", "flags"]) (x : String) :
    encodeString obj (cmd ++ ":" ++ x) = .err .invalidArguments := by
  obtain ⟨p, ps, h⟩ := parts_with_arg cmd x (by revert cmd; decide)
  rw [encodeString_eq obj h]
  simp only [List.mem_cons, List.mem_nil_iff, or_false] at hc
  rcases hc with rfl | rfl | rfl | rfl | rfl <;> rfl

/-- commands that take no argument reject any (generic in the argument text `x`) -/
theorem C14_bad_args_noarg (obj : Val) (x : String) :
    encodeString obj ("base64:" ++ x) = .err .invalidArguments ∧
    encodeString obj ("sha256:" ++ x) = .err .invalidArguments ∧
    encodeString obj ("flatten:" ++ x) = .err .invalidArguments ∧
    encodeString obj ("values:" ++ x) = .err .invalidArguments ∧
    encodeString obj ("flags:" ++ x) = .err .invalidArguments :=
  ⟨encodeString_noarg obj "base64" (by decide) x, encodeString_noarg obj "sha256" (by decide) x,
    encodeString_noarg obj "flatten" (by decide) x, encodeString_noarg obj "values" (by decide) x,
    encodeString_noarg obj "flags" (by decide) x⟩

theorem C14_bad_args_error (obj : Val) :
    encodeString obj "base64:x" = .err .invalidArguments ∧
    encodeString obj "sha256:1" = .err .invalidArguments ∧
    encodeString obj "flatten:x" = .err .invalidArguments ∧
    encodeString obj "values:x" = .err .invalidArguments ∧
    encodeString obj "flags:x" = .err .invalidArguments ∧
    encodeString obj "prefix" = .err .invalidArguments ∧
    encodeString obj "tolist" = .err .invalidArguments ∧
    encodeString obj "join:a:b" = .err .invalidArguments ∧
    encodeString obj "tolist::" = .err .invalidArguments ∧
    encodeString obj "nosuch" = .err .unknownFormat :=
  have hx := C14_bad_args_noarg obj "x"
  ⟨hx.1, (C14_bad_args_noarg obj "1").2.1, hx.2.2.1, hx.2.2.2.1, hx.2.2.2.2,
    encodeString_eq obj (splitOn_colon_none _ (by decide)),
    encodeString_eq obj (splitOn_colon_none _ (by decide)), encodeString_eq obj parts_join_ab, C14_tolist_colon obj,
    encodeString_eq obj (splitOn_colon_none _ (by decide))⟩

/-- a spec that is neither a string nor a list -/
theorem C14_bad_spec_type (obj v : Val) (h1 : ∀ s, v ≠ .str s) (h2 : ∀ l, v ≠ .list l) :
    encodeAny obj v = .err .invalidType := by
  cases v <;> first | rfl | exact absurd rfl (h1 _) | exact absurd rfl (h2 _)

example : (∀ s, Val.int 3 ≠ .str s) ∧ (∀ l, Val.int 3 ≠ .list l) :=
  ⟨fun _ h => (by cases h), fun _ h => (by cases h)⟩

/-- wrong operand type: join/prefix/flatten need a list, values needs a map,
    tolist needs a map or a list of maps -/
theorem C14_bad_operand_type (obj : Val) (d : String) (hd : ':' ∉ d.toList) :
    ((∀ l, obj ≠ .list l) →
      encodeString obj "join" = .err .invalidType ∧
      encodeString obj ("join:" ++ d) = .err .invalidType ∧
      encodeString obj ("prefix:" ++ d) = .err .invalidType ∧
      encodeString obj "flatten" = .err .invalidType) ∧
    ((∀ m, obj ≠ .map m) → encodeString obj "values" = .err .invalidType) ∧
    ((∀ m, obj ≠ .map m) → (∀ l, obj ≠ .list l) →
      encodeString obj ("tolist:" ++ d) = .err .invalidType ∧
      encodeString obj "flags" = .err .invalidType) ∧
    (∀ xs x, obj = .list xs → x ∈ xs → (∀ m, x ≠ .map m) →
      encodeString obj ("tolist:" ++ d) = .err .invalidType) := by
  refine ⟨fun h => ?_, fun h => ?_, fun h h' => ?_, fun xs x e hx hm => ?_⟩
  · rw [C14_join_nodelim, C14_join _ _ hd, C14_prefix _ _ hd, C14_flatten]
    cases obj <;> first | exact absurd rfl (h _) | exact ⟨rfl, rfl, rfl, rfl⟩
  · rw [C14_values]
    cases obj <;> first | exact absurd rfl (h _) | rfl
  · rw [C14_tolist _ _ hd, C14_flags_def, C14_stack_two, encodeString_tolist_eq]
    cases obj <;> first | exact absurd rfl (h _) | exact absurd rfl (h' _) | exact ⟨rfl, rfl⟩
  · rw [e, C14_tolist _ _ hd, tolistSpec, tolistMaps_nonmap d hx hm]

/-! ## C14_base64_rt — the encoder is inverted by an independent RFC 4648 decoder -/

theorem C14_base64_rt (bs : List UInt8) : b64DecodeChars (b64EncodeBytes bs) = some bs :=
  b64_roundtrip bs

/-- at the level of the model's `base64 : String → String` -/
theorem C14_base64_rt_string (s : String) :
    b64DecodeChars (base64 s).toList = some s.toUTF8.toList := by
  rw [base64, String.toList_ofList]
  exact b64_roundtrip _

/-- the alphabet is RFC 4648 Table 1 -/
theorem C14_base64_alphabet : ∀ n, n < 64 → b64Idx (b64Char n) = some n := b64Idx_table

/-- RFC 4648 §10 test vectors (evaluated together, so that the alphabet string is decoded once) -/
theorem base64_rfc4648 : base64 "" = "" ∧ base64 "f" = "Zg==" ∧ base64 "fo" = "Zm8=" ∧
    base64 "foo" = "Zm9v" ∧ base64 "foob" = "Zm9vYg==" ∧ base64 "fooba" = "Zm9vYmE=" ∧
    base64 "foobar" = "Zm9vYmFy" := by decide +kernel

example : base64 "" = "" := base64_rfc4648.1
example : base64 "f" = "Zg==" := base64_rfc4648.2.1
example : base64 "fo" = "Zm8=" := base64_rfc4648.2.2.1
example : base64 "foo" = "Zm9v" := base64_rfc4648.2.2.2.1
example : base64 "foob" = "Zm9vYg==" := base64_rfc4648.2.2.2.2.1
example : base64 "fooba" = "Zm9vYmE=" := base64_rfc4648.2.2.2.2.2.1
example : base64 "foobar" = "Zm9vYmFy" := base64_rfc4648.2.2.2.2.2.2
/-- tests: the decoder on the same vectors, and rejection of malformed input -/
example : b64DecodeChars "Zm9vYmE=".toList = some [102, 111, 111, 98, 97] := by decide
example : b64DecodeChars "Zm9vYg==".toList = some [102, 111, 111, 98] := by decide
example : b64DecodeChars "Zm9".toList = none := by decide
example : b64DecodeChars "Zm=v".toList = none := by decide

/-! ## C14_sha256_vector_* — FIPS 180-4 / NIST test vectors, checked by kernel evaluation
    (`sha256Hex_eq` rewrites the model's loops into folds, `sha256Compress'_eq_L` the compression
    function into its list form) -/

/-- test vector: the empty message -/
theorem C14_sha256_vector_empty :
    sha256Hex "" = "e3b0c44298fc1c149afbf4c8996fb92427ae41e4649b934ca495991b7852b855" := by
  rw [sha256Hex_eq, sha256HexBytes, sha256Compress'_eq_L]
  exact congrArg String.ofList (by decide +kernel)

/-- test vector: "abc" -/
theorem C14_sha256_vector_abc :
    sha256Hex "abc" = "ba7816bf8f01cfea414140de5dae2223b00361a396177a9cb410ff61f20015ad" := by
  rw [sha256Hex_eq, sha256HexBytes, sha256Compress'_eq_L]
  exact congrArg String.ofList (by decide +kernel)

/-- test vector: a two-block message (56 bytes) -/
theorem C14_sha256_vector_two_blocks :
    sha256HexBytes "abcdbcdecdefdefgefghfghighijhijkijkljklmklmnlmnomnopnopq".toUTF8.data.toList
      = "248d6a61d20638b8e5c026930c3e6039a33ce45964ff2167f6ecedd419db06c1" := by
  rw [sha256HexBytes, sha256Compress'_eq_L]
  exact congrArg String.ofList (by decide +kernel)

/-! ## C14_fmtV_scalars — Go's `%v` on scalars -/

theorem C14_fmtV_scalars (i : Int) (s r : String) :
    fmtV (.int i) = toString i ∧ fmtV (.bool true) = "true" ∧ fmtV (.bool false) = "false" ∧
    fmtV (.str s) = s ∧ fmtV (.flt r) = r ∧ fmtV .null = "<nil>" := by
  refine ⟨?_, ?_, ?_, ?_, ?_, ?_⟩ <;> rw [fmtV] <;> rfl

example : fmtV (.int 42) = "42" := by decide
example : fmtV (.int (-7)) = "-7" := by decide
example : fmtV (.int 0) = "0" := by decide
example : fmtV (.list [.int 1, .str "a", .null]) = "[1 a <nil>]" := by decide
example : fmtV (.map [("a", .int 1), ("b", .bool true)]) = "map[a:1 b:true]" := by decide

/-! ## C14_decode_encode — `$decode: f` inverts `$encode: f` for an abstract text codec

  The json / yaml / toml codecs are third-party code outside the model (`encodeString` answers
  `.codec`, `process2` answers `Err.unmodelled`).  `TextCodec` (BklProofs/Lemmas/C14Codec.lean)
  is the interface process2.go uses (`MarshalStream [v]`, `UnmarshalStream` + `normalize`) with
  the single assumption `rt`: a representable value is written as one document that reads back
  as itself.  `encodeWith c` / `decodeWith c` are process2Encode / process2DecodeStringMap with
  that codec plugged in; `encodeModel` / `decodeModel` are the same code as the model has it. -/

/-- `encodeWith c` / `decodeWith c` extend the model conservatively: whenever the model's own
    evaluation does not stop with `unmodelled`, plugging in a codec changes nothing. -/
theorem C14_codec_conservative (c : TextCodec) (fuel : Nat) (docs : List Val) (root : Val)
    (ec : Vars) (rest : Fields) :
    (∀ spec, encodeModel fuel docs root ec rest spec ≠ .error .unmodelled →
      encodeWith c fuel docs root ec rest spec = encodeModel fuel docs root ec rest spec) ∧
    (∀ f, decodeModel rest f ≠ .error .unmodelled →
      decodeWith c fuel docs root ec rest f = decodeModel rest f) :=
  ⟨encodeWith_conservative c fuel docs root ec rest, decodeWith_conservative c fuel docs root ec rest⟩

example : decodeModel [("$value", .int 1)] "json" ≠ .error .unmodelled := by
  intro h; cases h

/-- `$encode: f` with `$value: v`: the codec receives the *evaluation* `w` of `v` (validated),
    and the result is its text. -/
theorem C14_encode_text (c : TextCodec) (fuel : Nat) (docs : List Val) (root : Val) (ec : Vars)
    (v w : Val) (hv : ∀ m, v = .map m → fget m "$repeat" = none)
    (he : process2 fuel docs root ec v = .ok w) (hval : validate w = .ok ()) :
    encodeWith c (fuel + 1) docs root ec [("$value", v)] (.str c.name) =
      match c.enc w with
      | some s => .ok (.str s)
      | none => .error .other := by
  unfold encodeWith
  rw [process2_value_only _ _ _ _ _ hv, he]
  simp only [ok_bind, hval, encodeAny, encodeString_codec w c.isCodec, if_true]
  cases c.enc w <;> rfl

/-- `$decode: f` with a string `$value`: exactly one document, which is then evaluated by
    `process2` (at the depth of the directive map). -/
theorem C14_decode_text (c : TextCodec) (fuel : Nat) (docs : List Val) (root : Val) (ec : Vars)
    (s : String) :
    decodeWith c fuel docs root ec [("$value", .str s)] c.name =
      match c.decs s with
      | none => .error .other
      | some [d] => process2 fuel docs root ec d
      | some _ => .error .unmarshal := by
  simp only [decodeWith, fget, fdel, if_true, List.length_nil, bne_self_eq_false,
    Bool.false_eq_true, if_false]
  rfl

/-- General form: for ANY `v` (directives allowed) whose evaluation `w` validates and is
    representable, decoding the encoding gives the evaluation *of `w`* — the decoded document is
    evaluated once more. -/
theorem C14_decode_encode_eval (c : TextCodec) (fuel : Nat) (docs : List Val) (root : Val)
    (ec : Vars) (v w : Val) (hv : ∀ m, v = .map m → fget m "$repeat" = none)
    (he : process2 fuel docs root ec v = .ok w) (hval : validate w = .ok ()) (hr : c.repr w) :
    (encodeWith c (fuel + 1) docs root ec [("$value", v)] (.str c.name) >>= fun t =>
      decodeWith c (fuel + 1) docs root ec [("$value", t)] c.name)
      = process2 (fuel + 1) docs root ec w := by
  obtain ⟨s, h1, h2⟩ := c.rt w hr
  rw [C14_encode_text c fuel docs root ec v w hv he hval, h1]
  simp only [ok_bind]
  rw [C14_decode_text, h2]

/-- **C14_decode_encode**: for a directive-free (`plain`) well-formed value `v` whose evaluation
    (`v` with nulls dropped, C06) the format can represent, `$decode: f` of `$encode: f` of `v`
    is the evaluation of `v`. -/
theorem C14_decode_encode (c : TextCodec) (fuel : Nat) (docs : List Val) (root : Val) (ec : Vars)
    (v : Val) (hp : plain v = true) (hw : v.WF) (hd : depth v < fuel)
    (hr : c.repr (dropNulls v)) :
    (encodeWith c (fuel + 1) docs root ec [("$value", v)] (.str c.name) >>= fun t =>
      decodeWith c (fuel + 1) docs root ec [("$value", t)] c.name)
      = process2 (fuel + 1) docs root ec v ∧
    process2 (fuel + 1) docs root ec v = .ok (dropNulls v) := by
  have hp' : plain (dropNulls v) = true := e_allStr_dropNulls _ v hp
  have hw' : (dropNulls v).WF := e_wf_dropNulls v hw
  have hd' : depth (dropNulls v) < fuel + 1 := by
    have := e_depth_dropNulls v; omega
  have e1 := e_process2_plain fuel docs root ec v hp hw hd
  have e2 := e_process2_plain (fuel + 1) docs root ec v hp hw (by omega)
  have e3 := e_process2_plain (fuel + 1) docs root ec (dropNulls v) hp' hw' hd'
  rw [dropNulls_idem] at e3
  refine ⟨?_, e2⟩
  rw [C14_decode_encode_eval c fuel docs root ec v (dropNulls v) (cx_plain_noRepeat hp) e1
    (validate_dropNulls_plain hp) hr, e3, e2]

local instance instDecWF_C14 (v : Val) : Decidable v.WF := by unfold Val.WF; infer_instance

/-- non-vacuity: a nested value with a null to drop, for the concrete `c14_toyCodec` -/
example : plain (.map [("a", .int 1), ("b", .list [.str "x", .null, .bool true]), ("c", .null)])
      = true ∧
    (Val.map [("a", .int 1), ("b", .list [.str "x", .null, .bool true]), ("c", .null)]).WF ∧
    depth (.map [("a", .int 1), ("b", .list [.str "x", .null, .bool true]), ("c", .null)]) < 3 ∧
    c14_toyCodec.repr
      (dropNulls (.map [("a", .int 1), ("b", .list [.str "x", .null, .bool true]), ("c", .null)]))
    := by
  exact ⟨by decide +kernel, by decide +kernel, by decide +kernel, Or.inl (by decide +kernel)⟩

/-- … and the round trip on it, through the text `{"a":1,"b":["x",true]}` -/
example :
    encodeWith c14_toyCodec 4 [] .null []
      [("$value", .map [("a", .int 1), ("b", .list [.str "x", .null, .bool true]), ("c", .null)])]
      (.str "json") = .ok (.str "{\"a\":1,\"b\":[\"x\",true]}\n") ∧
    decodeWith c14_toyCodec 4 [] .null [] [("$value", .str "{\"a\":1,\"b\":[\"x\",true]}\n")] "json"
      = .ok (.map [("a", .int 1), ("b", .list [.str "x", .bool true])]) := by
  constructor
  · refine (C14_encode_text c14_toyCodec 3 [] .null [] _ c14_exVal
      (cx_plain_noRepeat (by decide +kernel))
      (e_process2_plain 3 _ _ _ _ (by decide +kernel) (by decide +kernel) (by decide +kernel))
      (e_validate_plain _ (by decide +kernel))).trans ?_
    rw [c14_toyCodec_enc_ex]; rfl
  · refine (C14_decode_text c14_toyCodec 4 [] .null [] c14_exText).trans ?_
    rw [c14_toyCodec_decs_ex]
    exact e_process2_plain 4 _ _ _ c14_exVal (by decide +kernel) (by decide +kernel)
      (by decide +kernel)

/-- The `plain` hypothesis of `C14_decode_encode` cannot simply be dropped: decoding evaluates
    the decoded document again (`C14_decode_encode_eval`), so when the evaluation of `v` is
    itself a directive string the round trip differs from the evaluation of `v`.  Here
    `v = $env:X` with `X = $"{a}"` in the document `{a: 1}`: `v` evaluates to the string `$"{a}"`,
    but `$decode` of its `$encode` gives `"1"`. -/
theorem C14_decode_encode_not_plain_counterexample :
    let root : Val := .map [("a", .int 1)]
    let ec : Vars := [("$env:X", .str "$\"{a}\"")]
    process2 3 [] root ec (.str "$env:X") = .ok (.str "$\"{a}\"") ∧
    (encodeWith c14_toyCodec 3 [] root ec [("$value", .str "$env:X")] (.str c14_toyCodec.name) >>= fun t =>
      decodeWith c14_toyCodec 3 [] root ec [("$value", t)] c14_toyCodec.name) = .ok (.str "1") := by
  intro root ec
  have h0 : ∀ n, process2 (n + 1) [] root ec (.str "$env:X") = .ok (.str "$\"{a}\"") := fun n => by
    rw [process2_str_eq]
    exact process2String_env _ _ _ _ "X"
  refine ⟨h0 2, ?_⟩
  rw [C14_encode_text c14_toyCodec 2 [] root ec _ _ (fun m h => by cases h) (h0 1) rfl,
    c14_toyCodec_enc_str]
  simp only [ok_bind]
  rw [C14_decode_text, c14_toyCodec_decs_str (by decide) (by decide)]
  exact process2String_parts [.ref "a".toList] (by decide +kernel)
    (.cons (interpSeg_ref_val (v := .int 1)
      (getWithVar_simple_key _ _ _ _ _ (by decide +kernel) (by decide) (by decide)) nofun) .nil)

/-- Where the model stops: on the two directive maps of the round trip the model's `process2`
    answers `unmodelled` — exactly the two places where `encodeWith` / `decodeWith` call the
    codec instead. -/
theorem C14_model_stops_at_codec (fuel : Nat) (docs : List Val) (root : Val) (ec : Vars)
    (f s : String) (v : Val) (hf : isCodecFormat f = true)
    (hp : plain v = true) (hw : v.WF) (hd : depth v < fuel) :
    process2 (fuel + 2) docs root ec (.map [("$encode", .str f), ("$value", v)])
      = .error .unmodelled ∧
    process2 (fuel + 1) docs root ec (.map [("$decode", .str f), ("$value", .str s)])
      = .error .unmodelled := by
  constructor
  · have hr : noRepeatEntries [("$encode", .str f), ("$value", v)] :=
      noRepeatEntries_cons nofun (noRepeatEntries_cons (cx_plain_noRepeat hp) noRepeatEntries_nil)
    rw [C14_process2_directive_dispatch _ _ _ _ _ rfl hr]
    show encodeModel (fuel + 1) docs root ec [("$value", v)] (.str f) = _
    rw [encodeModel, process2_value_only _ _ _ _ _ (cx_plain_noRepeat hp),
      e_process2_plain fuel docs root ec v hp hw hd]
    simp only [ok_bind, validate_dropNulls_plain hp, encodeAny, encodeString_codec _ hf]
    rfl
  · have hr : noRepeatEntries [("$decode", .str f), ("$value", .str s)] :=
      noRepeatEntries_cons nofun (noRepeatEntries_cons nofun noRepeatEntries_nil)
    rw [C14_process2_directive_dispatch _ _ _ _ _ rfl hr]
    show decodeModel [("$value", .str s)] f = _
    simp only [decodeModel, fget, fdel, if_true, hf]
    rfl

example : isCodecFormat "yaml" = true := by simp [isCodecFormat]

/-! ## C14_decode_bad_args — the argument checks of `$decode`, in the order of the Go code -/

/-- `$decode: f` (codec-aware version): a missing `$value`, a non-string `$value`, any key beside
    `$decode` / `$value`, an unknown format name, and a text that does not hold exactly one
    document are errors — `invalidType`, `invalidType`, `extraKeys`, `unknownFormat`,
    `unmarshal` respectively, checked in this order. -/
theorem C14_decode_bad_args (c : TextCodec) (fuel : Nat) (docs : List Val) (root : Val) (ec : Vars)
    (rest : Fields) (f : String) :
    (fget rest "$value" = none →
      decodeWith c fuel docs root ec rest f = .error .invalidType) ∧
    (∀ w, fget rest "$value" = some w → (∀ s, w ≠ .str s) →
      decodeWith c fuel docs root ec rest f = .error .invalidType) ∧
    (∀ s, fget rest "$value" = some (.str s) → fdel rest "$value" ≠ [] →
      decodeWith c fuel docs root ec rest f = .error .extraKeys) ∧
    (∀ s, fget rest "$value" = some (.str s) → fdel rest "$value" = [] → f ≠ c.name →
      isCodecFormat f = false → decodeWith c fuel docs root ec rest f = .error .unknownFormat) ∧
    (∀ s ds, fget rest "$value" = some (.str s) → fdel rest "$value" = [] → f = c.name →
      c.decs s = some ds → ds.length ≠ 1 →
      decodeWith c fuel docs root ec rest f = .error .unmarshal) := by
  refine ⟨fun h => ?_, fun w h hw => ?_, fun s h he => ?_, fun s h he hf hc => ?_,
    fun s ds h he hf hd hl => ?_⟩
  · simp only [decodeWith, h]; rfl
  · simp only [decodeWith, h]
    cases w <;> first | exact absurd rfl (hw _) | rfl
  · simp only [decodeWith, h, length_bne_zero he, if_true]; rfl
  · simp only [decodeWith, h, he, List.length_nil, bne_self_eq_false, Bool.false_eq_true,
      if_false, hf, hc]; rfl
  · subst hf
    simp only [decodeWith, h, he, List.length_nil, bne_self_eq_false, Bool.false_eq_true,
      if_false, if_true, hd]
    match ds, hl with
    | [], _ => rfl
    | _ :: _ :: _, _ => rfl
    | [d], hl => exact absurd rfl hl

/-- non-vacuity of each clause, on the concrete codec (the empty text holds no document) -/
example : fget [("x", Val.int 1)] "$value" = none ∧
    (fget [("$value", Val.int 1)] "$value" = some (.int 1) ∧ ∀ s, Val.int 1 ≠ .str s) ∧
    (fget [("$value", Val.str "t"), ("x", .int 1)] "$value" = some (.str "t") ∧
      fdel [("$value", Val.str "t"), ("x", .int 1)] "$value" ≠ []) ∧
    ("xml" ≠ c14_toyCodec.name ∧ isCodecFormat "xml" = false) ∧
    (c14_toyCodec.decs "" = some [] ∧ ([] : List Val).length ≠ 1) := by
  refine ⟨by decide, ⟨by decide, fun s h => by cases h⟩, ⟨by decide, by decide⟩,
    ⟨by decide, by simp [isCodecFormat]⟩, ⟨by simp [c14_toyCodec]; decide, by decide⟩⟩

/-- tests: the four malformed `$decode` maps, evaluated by the model -/
example :
    process2 2 [] .null [] (.map [("$decode", .int 1), ("$value", .str "1")])
      = .error .invalidType ∧
    process2 2 [] .null [] (.map [("$decode", .str "json")]) = .error .invalidType ∧
    process2 2 [] .null [] (.map [("$decode", .str "json"), ("$value", .int 1)])
      = .error .invalidType ∧
    process2 2 [] .null [] (.map [("$decode", .str "json"), ("$value", .str "1"), ("x", .int 1)])
      = .error .extraKeys ∧
    process2 2 [] .null [] (.map [("$decode", .str "xml"), ("$value", .str "1")])
      = .error .unknownFormat := by
  decide +kernel

/-! ## C14_json_decode_encode — with the concrete JSON codec, no codec hypothesis

  `js_textCodec jf fol : TextCodec` plugs the concrete JSON writer and
  reader of Bkl/Json.lean into process2.go's two call sites: `enc v` is
  `jsonMarshalStream([]any{v})` (the compact text and a newline), `decs s` is
  `jsonUnmarshalStream` followed by `normalize`.  Its `rt` field is PROVED
  (`js_loadStream_encodeStream`, BklProofs/Lemmas/Json.lean), on `repr := js_Repr jf fol`, that is
  `v.WF ∧ js_NumsOK jf fol v`: integers in int64, float texts meeting `js_FloatOK` for the two float
  parameters. -/

/-- the JSON codec as process2.go sees it: `MarshalStream([]any{v})`, `UnmarshalStream` +
    `normalize` -/
def js_textCodec (jf fol : String → String) : TextCodec where
  name := "json"
  isCodec := by simp [isCodecFormat]
  enc v := some (jsonEncodeStream jf [v])
  decs s :=
    match jsonLoadStream fol s with
    | .ok vs => some vs
    | .error _ => none
  repr := js_Repr jf fol
  rt := fun v h => ⟨jsonEncodeStream jf [v], rfl, by
    rw [js_loadStream_encodeStream jf fol [v] (by simpa using h)]⟩

/-- the instance: its name, what it writes, what it reads, and its (proved) round trip -/
theorem C14_json_codec (jf fol : String → String) :
    (js_textCodec jf fol).name = "json" ∧
    (∀ v, (js_textCodec jf fol).enc v = some (jsonEncodeStream jf [v])) ∧
    (∀ s vs, (js_textCodec jf fol).decs s = some vs ↔ jsonLoadStream fol s = .ok vs) ∧
    (∀ v, v.WF → js_NumsOK jf fol v →
      ((js_textCodec jf fol).enc v).bind (js_textCodec jf fol).dec = some v) := by
  refine ⟨rfl, fun _ => rfl, ?_, fun v hw hn => (js_textCodec jf fol).rt' v ⟨hw, hn⟩⟩
  intro s vs
  simp only [js_textCodec]
  cases jsonLoadStream fol s with
  | error e => simp
  | ok ws => simp

/-- **C14_json_decode_encode**: for a directive-free (`plain`) well-formed value `v` whose integers
    fit int64 and whose float texts meet the float hypothesis, `$decode: json` of `$encode: json`
    of `v` is the evaluation of `v` (= `v` with its nulls dropped) — outright, with the concrete
    JSON codec. -/
theorem C14_json_decode_encode (jf fol : String → String) (fuel : Nat) (docs : List Val)
    (root : Val) (ec : Vars) (v : Val) (hp : plain v = true) (hw : v.WF) (hd : depth v < fuel)
    (hn : js_NumsOK jf fol v) :
    (encodeWith (js_textCodec jf fol) (fuel + 1) docs root ec [("$value", v)] (.str "json") >>=
      fun t => decodeWith (js_textCodec jf fol) (fuel + 1) docs root ec [("$value", t)] "json")
      = process2 (fuel + 1) docs root ec v ∧
    process2 (fuel + 1) docs root ec v = .ok (dropNulls v) :=
  C14_decode_encode (js_textCodec jf fol) fuel docs root ec v hp hw hd
    ⟨e_wf_dropNulls v hw, js_numsOK_dropNulls jf fol v hn⟩

/-- … and the text in between is the compact JSON text of the evaluated value and a newline -/
theorem C14_json_encode_text (jf fol : String → String) (fuel : Nat) (docs : List Val)
    (root : Val) (ec : Vars) (v : Val) (hp : plain v = true) (hw : v.WF) (hd : depth v < fuel) :
    encodeWith (js_textCodec jf fol) (fuel + 1) docs root ec [("$value", v)] (.str "json")
      = .ok (.str (jsonEncodeStream jf [dropNulls v])) :=
  C14_encode_text (js_textCodec jf fol) fuel docs root ec v (dropNulls v) (cx_plain_noRepeat hp)
    (e_process2_plain fuel docs root ec v hp hw hd) (validate_dropNulls_plain hp)

/-- non-vacuity: a nested value with nulls to drop, a float, escapes in a string -/
example : plain (.map [("a", .int 1), ("b", .list [.str "x\n\"", .null, .flt "1e-07"]), ("c", .null)])
      = true ∧
    (Val.map [("a", .int 1), ("b", .list [.str "x\n\"", .null, .flt "1e-07"]), ("c", .null)]).WF ∧
    depth (.map [("a", .int 1), ("b", .list [.str "x\n\"", .null, .flt "1e-07"]), ("c", .null)]) < 3 ∧
    js_NumsOK js_demoJf js_demoFol
      (.map [("a", .int 1), ("b", .list [.str "x\n\"", .null, .flt "1e-07"]), ("c", .null)]) := by
  refine ⟨by decide +kernel, by decide +kernel, by decide +kernel, ?_⟩
  simp only [js_NumsOK, js_NumsOKFields, js_NumsOKList, and_true, true_and]
  exact ⟨by decide +kernel, js_demo_floatOK _ (by simp)⟩

/-- … the text written for it -/
example : jsonEncodeStream js_demoJf
    [dropNulls (.map [("a", .int 1), ("b", .list [.str "x\n\"", .null, .flt "1e-07"]), ("c", .null)])]
    = "{\"a\":1,\"b\":[\"x\\n\\\"\",1e-7]}\n" := congrArg String.ofList (by decide +kernel)

end Bkl
