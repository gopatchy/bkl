/-
  BklProofs.Lemmas.C01Rejects — one-step "fails iff" characterisations of the list half of
  `merge`, used by the recursive accept/reject boundary `Rejects` of C01 (the map half is
  `mergeMapMap_error_iff`).

  Every lemma here is about the model functions only; the specification predicate `Rejects`
  lives in BklProofs/C01.lean.
-/
import BklProofs.Lemmas.MergeList
namespace Bkl

theorem mergeListList_error_iff (d s : List Val) :
    (∃ err, mergeListList d s = .error err) ↔
      Val.str "$replace" ∉ s ∧
      ((∃ m, Val.map m ∈ s ∧ fhasBool m "$replace" true = true ∧ fdel m "$replace" ≠ []) ∨
       ((∀ m, Val.map m ∈ s → fhasBool m "$replace" true = false) ∧
        ∃ err, mergeEntries (dropRequired d) s = .error err)) := by
  rw [mergeListList_eq, ← any_replace_eq_false_iff, ← any_os_isExtra_iff,
    ← hasListMapBool_eq_false_iff]
  cases s.any (fun x => x == Val.str "$replace") with
  | true =>
    constructor
    · rintro ⟨_, h⟩; cases h
    · rintro ⟨h, _⟩; cases h
  | false =>
    cases hbad : s.any (os_isExtra "$replace" true) with
    | true => exact ⟨fun _ => ⟨rfl, Or.inl rfl⟩, fun _ => ⟨_, rfl⟩⟩
    | false =>
      cases hasListMapBool s "$replace" true with
      | true =>
        constructor
        · rintro ⟨_, h⟩; cases h
        · rintro ⟨_, h | ⟨h, _⟩⟩ <;> cases h
      | false =>
        rw [if_neg Bool.false_ne_true, if_neg Bool.false_ne_true, if_neg Bool.false_ne_true,
          R_map_error_iff]
        constructor
        · intro h; exact ⟨rfl, Or.inr ⟨rfl, h⟩⟩
        · rintro ⟨_, h | ⟨_, h⟩⟩
          · cases h
          · exact h

theorem mergeEntries_delete_error_iff {kvs : Fields} {pat : Val} (d rest : List Val)
    (h1 : fget kvs "$delete" = some pat) :
    (∃ err, mergeEntries d (.map kvs :: rest) = .error err) ↔
      fdel kvs "$delete" ≠ [] ∨ (∀ e ∈ d, matchV e pat = false) ∨
      (∃ err, mergeEntries (d.filter (fun e => !matchV e pat)) rest = .error err) := by
  by_cases hx : (fdel kvs "$delete").length > 0
  · rw [mergeEntries_delete_extra d rest h1 hx]
    exact ⟨fun _ => Or.inl (List.length_pos_iff.1 hx), fun _ => ⟨_, rfl⟩⟩
  · have hx0 : (fdel kvs "$delete").length = 0 := by omega
    have hnil : ¬ fdel kvs "$delete" ≠ [] := fun h => hx (List.length_pos_iff.2 h)
    rw [mergeEntries_delete d rest h1 hx0]
    cases hany : d.any (fun v => matchV v pat) with
    | true =>
      simp only [if_true]
      constructor
      · intro h; exact Or.inr (Or.inr h)
      · rintro (h | h | h)
        · exact absurd h hnil
        · rw [any_eq_false_iff_forall.2 h] at hany; cases hany
        · exact h
    | false =>
      simp only [Bool.false_eq_true, if_false]
      exact ⟨fun _ => Or.inr (Or.inl (any_eq_false_iff_forall.1 hany)), fun _ => ⟨_, rfl⟩⟩

/-- how one element of the accumulated list is transformed by a `$match` entry -/
def matchRel (m upd : Val) (e e' : Val) : Prop :=
  if matchV e m = true then merge e upd = .ok e' else e' = e

theorem matchStep_error_iff (d : List Val) (m upd : Val) (rest : List Val) :
    (∃ err, matchStep d m upd rest = .error err) ↔
      (∀ e ∈ d, matchV e m = false) ∨
      (∃ e ∈ d, matchV e m = true ∧ ∃ err, merge e upd = .error err) ∨
      (∃ d', Pointwise (matchRel m upd) d d' ∧ ∃ err, mergeEntries d' rest = .error err) := by
  have herr := mapM_error_iff (f := fun e => if matchV e m = true then merge e upd else pure e)
    (P := fun e => matchV e m = true ∧ ∃ err, merge e upd = .error err) (fun x => by
      cases hm : matchV x m with
      | true => rw [if_pos rfl]; exact (and_iff_right rfl).symm
      | false =>
        rw [if_neg Bool.false_ne_true]
        constructor
        · rintro ⟨_, h⟩; cases h
        · rintro ⟨h, _⟩; cases h) d
  have hok := mapM_ok_iff_pointwise (Q := matchRel m upd)
    (f := fun e => if matchV e m = true then merge e upd else pure e) (fun x y => by
      unfold matchRel
      cases hm : matchV x m with
      | true => rw [if_pos rfl, if_pos rfl]
      | false =>
        rw [if_neg Bool.false_ne_true, if_neg Bool.false_ne_true]
        constructor
        · intro h; cases h; rfl
        · intro h; rw [h]; rfl) d
  unfold matchStep
  cases hmap : List.mapM (fun e => if matchV e m = true then merge e upd else pure e) d with
  | error e => exact ⟨fun _ => Or.inr (Or.inl (herr.1 ⟨e, hmap⟩)), fun _ => ⟨e, rfl⟩⟩
  | ok d' =>
    cases hany : d.any (fun e => matchV e m) with
    | false => exact ⟨fun _ => Or.inl (any_eq_false_iff_forall.1 hany), fun _ => ⟨_, rfl⟩⟩
    | true =>
      constructor
      · intro h; exact Or.inr (Or.inr ⟨d', (hok d').1 hmap, h⟩)
      · rintro (h | h | ⟨d'', hpw, h⟩)
        · rw [any_eq_false_iff_forall.2 h] at hany; cases hany
        · obtain ⟨_, h'⟩ := herr.2 h
          rw [hmap] at h'; cases h'
        · have := (hok d'').2 hpw
          rw [hmap] at this
          cases this
          exact h

theorem mergeEntries_match_error_iff {kvs : Fields} {m : Val} (d rest : List Val)
    (h1 : fget kvs "$delete" = none) (h2 : fget kvs "$match" = some m) :
    (∃ err, mergeEntries d (.map kvs :: rest) = .error err) ↔
      (∃ v2, fget kvs "$value" = some v2 ∧ fdel (fdel kvs "$match") "$value" ≠ []) ∨
      (∀ e ∈ d, matchV e m = false) ∨
      (∃ e ∈ d, matchV e m = true ∧ ∃ err, merge e (matchPatch kvs) = .error err) ∨
      (∃ d', Pointwise (matchRel m (matchPatch kvs)) d d' ∧
        ∃ err, mergeEntries d' rest = .error err) := by
  have hx : (∃ v2, fget kvs "$value" = some v2 ∧ fdel (fdel kvs "$match") "$value" ≠ []) ↔
      ((fget kvs "$value").isSome ∧ fdel (fdel kvs "$match") "$value" ≠ []) := by
    rw [Option.isSome_iff_exists, exists_and_right]
  rw [mergeEntries_match d rest h1 h2, hx]
  split
  · rename_i h; exact ⟨fun _ => Or.inl h, fun _ => ⟨_, rfl⟩⟩
  · rename_i h; rw [matchStep_error_iff, or_iff_right h]

end Bkl
