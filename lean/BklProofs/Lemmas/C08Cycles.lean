/-
  BklProofs.Lemmas.C08Cycles — helper definitions and lemmas for C08: reference cycles of
  arbitrary length, and nested `$repeat` counts ≤ 0:

  * `cy_Fwd` — the syntactic forwarding forms (`$merge:k`, `$replace:k`, `{$replace: k}` map,
    `[…, {$replace: k}, …]` list) and closed systems of them over a key set `S`
    (`cy_FwdClosed`), also embedded in a larger document;
  * `cy_chain` / `cy_mergeCycle` — the map form of a `$merge` n-cycle
    `k₀: {$merge: k₁, …c k₀}, …, kₙ₋₁: {$merge: k₀, …c kₙ₋₁}` and its evaluation, with
    int-valued contents (error) and without contents (the value `{kᵢ: {}}`);
  * nested `$repeat` entries with a count ≤ 0 vanish (`cy_process2_list_drop`,
    `cy_process2_map_drop`).
-/
import BklProofs.Lemmas.Cycles
import BklProofs.Lemmas.Process2
namespace Bkl

/-! ## syntactic forwarding forms -/

/-- `cy_Fwd v k`: the value `v` is one of the forwarding forms and refers to `k` -/
inductive cy_Fwd : Val → String → Prop
  | strMerge (k : String) : cy_Fwd (.str ("$merge:" ++ k)) k
  | strReplace (k : String) : cy_Fwd (.str ("$replace:" ++ k)) k
  | mapReplace (m : Fields) (k : String) (h0 : fget m "$merge" = none)
      (h : fget m "$replace" = some (.str k)) : cy_Fwd (.map m) k
  | listReplace (pre post : List Val) (k : String)
      (h : ∀ x ∈ pre ++ post, listDirective x = false) :
      cy_Fwd (.list (pre ++ [.map [("$replace", .str k)]] ++ post)) k

/-- the syntactic forms forward: `cy_Fwd` is `FwdForm` (Lemmas/Process1) with the reference a
    string and the prefixes written out, and the list form beside it -/
theorem cy_Fwd.forwards {v : Val} {k : String} (h : cy_Fwd v k) : Forwards v (.str k) := by
  cases h with
  | strMerge => exact forwards_str_merge k
  | strReplace => exact forwards_str_replace k
  | mapReplace m _ h0 h => exact forwards_map_replace h0 h
  | listReplace pre post _ h => exact forwards_list_replace h rfl

theorem cy_fwd_map1 (k : String) : cy_Fwd (.map [("$replace", .str k)]) k :=
  .mapReplace _ k rfl rfl

theorem cy_fwd_list1 (k : String) : cy_Fwd (.list [.map [("$replace", .str k)]]) k :=
  .listReplace [] [] k (by intro x hx; cases hx)

/-- every key of `S` holds a forwarding form that refers to a (simple) key of `S` again -/
def cy_FwdClosed (kvs : Fields) (S : String → Prop) : Prop :=
  ∀ k, S k → ∃ v k', fget kvs k = some v ∧ cy_Fwd v k' ∧ SimpleKey k' ∧ S k'

theorem cy_fwdClosed_entry_error {kvs : Fields} {S : String → Prop} (H : cy_FwdClosed kvs S)
    (fuel : Nat) (docs : List Val) (loc : Loc) (k : String) (v : Val) (hk : S k)
    (hv : fget kvs k = some v) : process1 fuel docs (.map kvs) loc v = .error .circularRef :=
  forwarding_error (V := fun v => ∃ k, S k ∧ fget kvs k = some v)
    (fun v ⟨k, hk, hv⟩ => by
      obtain ⟨v0, k', hv0, hf, hs, hS⟩ := H k hk
      obtain ⟨v', _, hv', _⟩ := H k' hS
      cases hv.symm.trans hv0
      exact ⟨k', v', hf.forwards.nextRef _, hs, hv', k', hS, hv'⟩)
    fuel docs loc v ⟨k, hk, hv⟩

theorem cy_fwdClosed_doc_error {kvs : Fields} {S : String → Prop} (H : cy_FwdClosed kvs S)
    (hall : ∀ p ∈ kvs, S p.1) (hne : kvs ≠ [])
    (h0 : fget kvs "$merge" = none) (h1 : fget kvs "$replace" = none)
    (fuel : Nat) (docs : List Val) (loc : Loc) :
    process1 fuel docs (.map kvs) loc (.map kvs) = .error .circularRef := by
  cases fuel with
  | zero => rfl
  | succ n =>
    cases kvs with
    | nil => exact absurd rfl hne
    | cons p rest =>
      exact process1_map_head_error h0 h1 (cy_fwdClosed_entry_error H n docs _ p.1 p.2
        (hall p List.mem_cons_self) (fget_cons_self _ _ _))

/-! ### a closed system embedded in a larger document -/

theorem cy_getLoc_key (rk : Fields) (k : String) : getLoc (.map rk) [.key k] = fget rk k := by
  simp only [getLoc]
  cases fget rk k <;> rfl

/-- The fold over the entries `l` that remain fails.  An entry outside `S` either fails itself or
    changes the root only below its own key (`mapStep_frame_child`), so the root still agrees with
    `kvs` on `S` when the first member of `S` is reached, and that member is `circularRef`
    (`cy_fwdClosed_entry_error` against the current root). -/
theorem cy_fold_embedded {kvs : Fields} {S : String → Prop} (H : cy_FwdClosed kvs S)
    (k0 : String) (hk0 : S k0) (n : Nat) (docs : List Val) :
    ∀ (l pre : Fields), kvs = pre ++ l → (∀ p ∈ pre, ¬ S p.1) → (∃ p ∈ l, S p.1) →
      ∀ (acc : Fields) (rt : Val), (∀ k, S k → getLoc rt [.key k] = fget kvs k) →
        ∃ e, l.foldlM (mapStep n docs (some [])) (acc, rt) = .error e := by
  intro l
  induction l with
  | nil => intro pre _ _ hex; obtain ⟨p, hp, _⟩ := hex; cases hp
  | cons a tl ih =>
    intro pre hkvs hpre hex acc rt hrt
    obtain ⟨k, v⟩ := a
    -- the root is a map that agrees with `kvs` on `S`
    obtain ⟨v0, _, hv0, _⟩ := H k0 hk0
    have hmap : ∃ rk, rt = .map rk := by
      have h := hrt k0 hk0
      rw [hv0] at h
      cases rt with
      | map rk => exact ⟨rk, rfl⟩
      | _ => simp [getLoc] at h
    obtain ⟨rk, rfl⟩ := hmap
    have hag : ∀ k, S k → fget rk k = fget kvs k := by
      intro k hk; rw [← cy_getLoc_key]; exact hrt k hk
    rw [foldlM_cons]
    by_cases hk : S k
    · have hv : fget kvs k = some v := by
        rw [hkvs, cy_fget_append_of_not_mem (fun p hp e => hpre p hp (e ▸ hk))]
        exact fget_cons_self _ _ _
      have H' : cy_FwdClosed rk S := by
        intro k1 hk1
        obtain ⟨v1, k2, hv1, hf, hs, hS⟩ := H k1 hk1
        exact ⟨v1, k2, by rw [hag k1 hk1]; exact hv1, hf, hs, hS⟩
      have := cy_fwdClosed_entry_error H' n docs (childLoc (some []) k) k v hk
        (by rw [hag k hk]; exact hv)
      exact ⟨.circularRef, by rw [mapStep_err this]⟩
    · cases hstep : mapStep n docs (some []) (acc, .map rk) (k, v) with
      | error e => exact ⟨e, rfl⟩
      | ok st =>
        obtain ⟨acc', rt'⟩ := st
        simp only []
        refine ih (pre ++ [(k, v)]) (by rw [hkvs]; simp) ?_ ?_ acc' rt' ?_
        · intro p hp
          rcases List.mem_append.1 hp with hp | hp
          · exact hpre p hp
          · simp only [List.mem_cons, List.not_mem_nil, or_false] at hp
            subst hp; exact hk
        · obtain ⟨p, hp, hps⟩ := hex
          rcases List.mem_cons.1 hp with rfl | hp
          · exact absurd hps hk
          · exact ⟨p, hp, hps⟩
        · -- only the subtree below `k` may have changed
          intro k1 hk1
          rw [mapStep_frame_child (process1_frame n) hstep [.key k1]
            (disjoint_keys (h := k) [] fun e => hk (e ▸ hk1))]
          exact hrt k1 hk1

theorem cy_fwdClosed_embedded_error {kvs : Fields} {S : String → Prop} (H : cy_FwdClosed kvs S)
    (k0 : String) (hk0 : S k0)
    (h0 : fget kvs "$merge" = none) (h1 : fget kvs "$replace" = none)
    (fuel : Nat) (docs : List Val) :
    ∃ e, process1 fuel docs (.map kvs) (some []) (.map kvs) = .error e := by
  cases fuel with
  | zero => exact ⟨_, process1_zero _ _ _ _⟩
  | succ n =>
    rw [process1_map_plain h0 h1]
    obtain ⟨v0, _, hv0, _⟩ := H k0 hk0
    obtain ⟨e, he⟩ := cy_fold_embedded H k0 hk0 n docs kvs [] rfl (fun p hp => by cases hp)
      ⟨(k0, v0), fget_mem hv0, hk0⟩ [] (.map kvs) (fun k _ => cy_getLoc_key kvs k)
    exact ⟨e, by rw [he]; rfl⟩

/-! ### the explicit n-cycle with an arbitrary mixture of forms -/

theorem cy_cycleFields_fwdClosed (f : String → Val) (ks : List String)
    (hk : ∀ k ∈ ks, SimpleKey k) (hf : ∀ k ∈ ks, cy_Fwd (f k) k) :
    cy_FwdClosed (cycleFields f ks) (· ∈ ks) := by
  intro k hks
  obtain ⟨v, hv⟩ := cycleFields_fget_some f ks hks
  have hm := fget_mem hv
  simp only [cycleFields, List.mem_map] at hm
  obtain ⟨q, hq, he⟩ := hm
  have hq2 : q.2 ∈ ks := mem_rot1.1 (List.of_mem_zip hq).2
  cases he
  exact ⟨_, q.2, hv, hf _ hq2, hk _ hq2, hq2⟩

/-! ## the map form of a `$merge` n-cycle -/

/-- the host `{$merge: k', …c}` -/
def cy_host (c : Fields) (k' : String) : Val := .map (("$merge", .str k') :: c)

/-- `k₀: {$merge: k₁, …c k₀}, k₁: {$merge: k₂, …c k₁}, …, kₘ: {$merge: last, …c kₘ}` -/
def cy_chain (c : String → Fields) : List String → String → Fields
  | [], _ => []
  | k :: tl, last => (k, cy_host (c k) (tl.headD last)) :: cy_chain c tl last

/-- the n-cycle: the chain whose last host refers to the first key -/
def cy_mergeCycle (c : String → Fields) : List String → Fields
  | [] => []
  | k :: tl => cy_chain c (k :: tl) k

/-- the root still holds the original hosts of the keys `r` (chained, ending in `last`) -/
def cy_Hosts (c : String → Fields) (rk : Fields) : List String → String → Prop
  | [], _ => True
  | k :: tl, last => fget rk k = some (cy_host (c k) (tl.headD last)) ∧ cy_Hosts c rk tl last

theorem cy_chain_keys (c : String → Fields) : ∀ (r : List String) (last : String),
    (cy_chain c r last).map (·.1) = r
  | [], _ => rfl
  | k :: tl, last => by simp [cy_chain, cy_chain_keys c tl last]

theorem cy_chain_fget_none (c : String → Fields) {r : List String} {last k : String}
    (h : k ∉ r) : fget (cy_chain c r last) k = none := by
  refine fget_none_iff.2 fun p hp e => h ?_
  rw [← cy_chain_keys c r last, ← e]
  exact List.mem_map_of_mem hp

/-- the chain written with `zip`, as `cycleFields` is -/
theorem cy_chain_eq_zip (c : String → Fields) : ∀ (r : List String) (last : String),
    cy_chain c r last = (r.zip (r.tail ++ [last])).map fun p => (p.1, cy_host (c p.1) p.2)
  | [], _ => rfl
  | [k], last => rfl
  | k :: k' :: tl, last => by
    have := cy_chain_eq_zip c (k' :: tl) last
    simp only [cy_chain, List.headD_cons, List.tail_cons, List.cons_append, List.zip_cons_cons,
      List.map_cons] at this ⊢
    rw [this]

theorem cy_mergeCycle_eq_zip (c : String → Fields) (ks : List String) :
    cy_mergeCycle c ks = (ks.zip (rot1 ks)).map fun p => (p.1, cy_host (c p.1) p.2) := by
  cases ks with
  | nil => rfl
  | cons k tl => exact cy_chain_eq_zip c (k :: tl) k

/-- without contents the cycle is the `cycleFields` of `Cycles.lean` -/
theorem cy_mergeCycle_empty_eq (ks : List String) :
    cy_mergeCycle (fun _ => []) ks = cycleFields (fun k => .map [("$merge", .str k)]) ks := by
  rw [cy_mergeCycle_eq_zip]; rfl

theorem cy_hosts_fset {c : String → Fields} {rk : Fields} {h : String} {v : Val} :
    ∀ {r : List String} {last : String}, h ∉ r → cy_Hosts c rk r last →
      cy_Hosts c (fset rk h v) r last
  | [], _, _, _ => trivial
  | k :: tl, last, hn, hh => by
    refine ⟨?_, cy_hosts_fset (fun hm => hn (List.mem_cons_of_mem _ hm)) hh.2⟩
    rw [fget_fset_ne _ _ _ _ (fun e => hn (by rw [← e]; exact List.mem_cons_self))]
    exact hh.1

theorem cy_hosts_chain (c : String → Fields) (last : String) :
    ∀ (r : List String) (pre : Fields), r.Nodup → (∀ p ∈ pre, p.1 ∉ r) →
      cy_Hosts c (pre ++ cy_chain c r last) r last := by
  intro r
  induction r with
  | nil => intro _ _ _; trivial
  | cons k tl ih =>
    intro pre hnd hpre
    have hnd' := List.nodup_cons.1 hnd
    refine ⟨?_, ?_⟩
    · rw [cy_fget_append_of_not_mem (fun p hp e => hpre p hp (by rw [e]; exact List.mem_cons_self))]
      simp [cy_chain, fget]
    · have := ih (pre ++ [(k, cy_host (c k) (tl.headD last))]) hnd'.2 (by
        intro p hp
        rcases List.mem_append.1 hp with hp | hp
        · exact fun hm => hpre p hp (List.mem_cons_of_mem _ hm)
        · simp only [List.mem_cons, List.not_mem_nil, or_false] at hp
          subst hp; exact hnd'.1)
      simpa [cy_chain, List.append_assoc] using this

/-! ### hosts without contents: every host ends as `{}` -/

/-- the chain of the host at `h` through the remaining keys `r` and finally `last`, which holds
    `{}` once `h` has lost its `$merge` key (it is `h` itself, or was emptied before): the host
    ends as `{}` -/
theorem cy_empty_chain (docs : List Val) (h last : String) (hl : SimpleKey last)
    (hld : last ≠ "$delete") :
    ∀ (r : List String) (rk : Fields) (x : Val) (fuel : Nat),
      (∀ k ∈ r, SimpleKey k ∧ k ≠ "$delete") → h ∉ r → fget rk h = some x →
      cy_Hosts (fun _ => []) rk r last → fget (fset rk h (.map [])) last = some (.map []) →
      process1 (fuel + r.length + 2) docs (.map rk) (some [.key h])
          (cy_host [] (r.headD last)) =
        .ok (.map [], .map (fset rk h (.map []))) := by
  intro r
  induction r with
  | nil =>
    intro rk x fuel _ _ hx _ hlast
    have hstep := host_step (fuel := fuel + 1) (docs := docs) (H := [("$merge", .str last)])
      (s := []) (next := []) hl hx (fget_cons_self _ _ _) hlast rfl (mergeFields_nil _)
    show process1 (fuel + 1 + 1) docs (.map rk) (some [.key h]) (.map [("$merge", .str last)]) = _
    rw [hstep, process1_empty_map]
  | cons k r' ih =>
    intro rk x fuel hks hnr hx hh hlast
    have hk := hks k List.mem_cons_self
    have hkh : k ≠ h := fun e => hnr (by rw [← e]; exact List.mem_cons_self)
    have hkk : SimpleKey (r'.headD last) ∧ r'.headD last ≠ "$delete" := by
      cases r' with
      | nil => exact ⟨hl, hld⟩
      | cons k2 _ => exact hks k2 (List.mem_cons_of_mem _ List.mem_cons_self)
    have hg : fget (fset rk h (.map [])) k = some (.map [("$merge", .str (r'.headD last))]) := by
      rw [fget_fset_ne _ _ _ _ hkh]; exact hh.1
    have hstep := host_step (fuel := fuel + r'.length + 2) (docs := docs)
      (H := [("$merge", .str k)]) (s := [("$merge", .str (r'.headD last))])
      (next := [("$merge", .str (r'.headD last))]) hk.1 hx (fget_cons_self _ _ _) hg rfl
      (mergeFields_empty_single _ _ hkk.2)
    show process1 (fuel + (r'.length + 1) + 2) docs (.map rk) (some [.key h])
      (.map [("$merge", .str k)]) = _
    have e : fuel + (r'.length + 1) + 2 = fuel + r'.length + 2 + 1 := by omega
    rw [e, hstep]
    have := ih (fset rk h (.map [("$merge", .str (r'.headD last))])) _ fuel
      (fun k2 hk2 => hks k2 (List.mem_cons_of_mem _ hk2))
      (fun hm => hnr (List.mem_cons_of_mem _ hm)) (fget_fset_same _ _ _)
      (cy_hosts_fset (fun hm => hnr (List.mem_cons_of_mem _ hm)) hh.2)
      (by rw [fset_fset_same]; exact hlast)
    rw [fset_fset_same] at this
    exact this

/-- `l` with every key of `r` set to `{}` -/
def cy_emptied (l : Fields) (r : List String) : Fields :=
  r.foldl (fun a k => fset a k (.map [])) l

theorem cy_empty_fold (docs : List Val) (k0 : String) (hk0 : SimpleKey k0)
    (hk0d : k0 ≠ "$delete") :
    ∀ (r : List String) (rk acc : Fields) (F : Nat), r.length + 1 ≤ F → r.Nodup →
      (∀ k ∈ r, SimpleKey k ∧ k ≠ "$delete" ∧ refKey k = false) →
      cy_Hosts (fun _ => []) rk r k0 → (r.head? = some k0 ∨ fget rk k0 = some (.map [])) →
      (cy_chain (fun _ => []) r k0).foldlM (mapStep F docs (some [])) (acc, .map rk) =
        .ok (cy_emptied acc r, .map (cy_emptied rk r)) := by
  intro r
  induction r with
  | nil => intro rk acc F _ _ _ _ _; rfl
  | cons h r' ih =>
    intro rk acc F hF hnd hks hh hfirst
    have hnd' := List.nodup_cons.1 hnd
    have hk := hks h List.mem_cons_self
    obtain ⟨f, rfl⟩ : ∃ f, F = f + r'.length + 2 := ⟨F - r'.length - 2, by simp at hF; omega⟩
    have hk0' : fget (fset rk h (.map [])) k0 = some (.map []) := by
      by_cases e : k0 = h
      · subst e; exact fget_fset_same _ _ _
      · rw [fget_fset_ne _ _ _ _ e]
        exact hfirst.resolve_left fun e' => e (Option.some.inj e').symm
    have hproc := cy_empty_chain docs h k0 hk0 hk0d r' rk _ f
      (fun k hk => ⟨(hks k (List.mem_cons_of_mem _ hk)).1, (hks k (List.mem_cons_of_mem _ hk)).2.1⟩)
      hnd'.1 hh.1 hh.2 hk0'
    show List.foldlM _ _ ((h, cy_host [] (r'.headD k0)) :: cy_chain (fun _ => []) r' k0) = _
    rw [foldlM_cons, mapStep_ok (loc := some []) hk.2.2 hproc rfl]
    exact ih (fset rk h (.map [])) (fset acc h (.map [])) _ (by simp at hF ⊢; omega) hnd'.2
      (fun k hk => hks k (List.mem_cons_of_mem _ hk))
      (cy_hosts_fset hnd'.1 hh.2) (Or.inr hk0')

theorem cy_empty_cycle_value (docs : List Val) (k0 : String) (tl : List String)
    (hnd : (k0 :: tl).Nodup)
    (hk : ∀ k ∈ k0 :: tl, SimpleKey k ∧ k ≠ "$delete" ∧ refStr k = false)
    (hm : "$merge" ∉ k0 :: tl) (hr : "$replace" ∉ k0 :: tl) (fuel : Nat) :
    process1 (fuel + (k0 :: tl).length + 2) docs
        (.map (cy_mergeCycle (fun _ => []) (k0 :: tl))) (some [])
        (.map (cy_mergeCycle (fun _ => []) (k0 :: tl))) =
      .ok (.map (cy_emptied [] (k0 :: tl)),
           .map (cy_emptied (cy_mergeCycle (fun _ => []) (k0 :: tl)) (k0 :: tl))) := by
  have h0 := hk k0 List.mem_cons_self
  have hdoc : cy_mergeCycle (fun _ => []) (k0 :: tl) = cy_chain (fun _ => []) (k0 :: tl) k0 := rfl
  rw [hdoc]
  show process1 (fuel + (k0 :: tl).length + 1 + 1) docs _ _ _ = _
  rw [process1_map_plain (cy_chain_fget_none _ hm) (cy_chain_fget_none _ hr)]
  have := cy_empty_fold docs k0 h0.1 h0.2.1 (k0 :: tl) (cy_chain (fun _ => []) (k0 :: tl) k0) []
    (fuel + (k0 :: tl).length + 1) (by omega) hnd
    (fun k hm' => by
      obtain ⟨h1, h2, h3⟩ := hk k hm'
      refine ⟨h1, h2, ?_⟩
      simp only [refKey, h3, Bool.or_false, Bool.or_eq_false_iff, beq_eq_false_iff_ne]
      exact ⟨fun e => hm (e ▸ hm'), fun e => hr (e ▸ hm')⟩)
    (by simpa using cy_hosts_chain (fun _ => []) k0 (k0 :: tl) [] hnd (fun p hp => by cases hp))
    (Or.inl rfl)
  show (List.foldlM _ _ (cy_chain (fun _ => []) (k0 :: tl) k0) >>= _) = _
  rw [this]
  rfl

theorem cy_emptied_sorted_aux : ∀ (r pre : List String), (pre ++ r).Pairwise (· < ·) →
    cy_emptied (pre.map fun k => (k, Val.map [])) r = (pre ++ r).map fun k => (k, Val.map [])
  | [], pre, _ => by simp [cy_emptied]
  | k :: r, pre, hp => by
    have h1 : ∀ p ∈ pre.map (fun k => (k, Val.map [])), p.1 < k := by
      intro p hp'
      obtain ⟨a, ha, rfl⟩ := List.mem_map.1 hp'
      exact (List.pairwise_append.1 hp).2.2 a ha k List.mem_cons_self
    have := cy_emptied_sorted_aux r (pre ++ [k]) (by simpa using hp)
    simp only [cy_emptied, List.foldl_cons] at this ⊢
    rw [fset_append _ _ _ h1]
    simpa using this

theorem cy_emptied_sorted (ks : List String) (h : ks.Pairwise (· < ·)) :
    cy_emptied [] ks = ks.map fun k => (k, Val.map []) :=
  cy_emptied_sorted_aux ks [] h

/-! ### hosts with int-valued contents: the self-merge that closes the chain is a useless override -/

/-- contents of a host: no `$merge` key, every value an integer -/
def cy_IntContent (s : Fields) : Prop := ∀ p ∈ s, p.1 ≠ "$merge" ∧ ∃ i, p.2 = Val.int i

theorem cy_intContent_nil : cy_IntContent [] := fun _ h => nomatch h

theorem cy_intContent_cons {k : String} {s : Fields} (hk : k ≠ "$merge") (i : Int)
    (hs : cy_IntContent s) : cy_IntContent ((k, .int i) :: s) := by
  intro p hp
  rcases List.mem_cons.1 hp with rfl | hp
  · exact ⟨hk, i, rfl⟩
  · exact hs p hp

def cy_IntsExc (D : Fields) : Prop := ∀ p ∈ D, p.1 ≠ "$merge" → ∃ i, p.2 = Val.int i

theorem cy_mem_fdel_ne {m : Fields} {k : String} {p : String × Val} (h : p ∈ fdel m k) :
    p.1 ≠ k := fget_none_iff.1 (fget_fdel_same m k) p h

theorem cy_fhasBool_false {s : Fields} (k : String) (b : Bool)
    (h : ∀ p ∈ s, ∀ b', p.2 ≠ Val.bool b') : fhasBool s k b = false := by
  cases hb : fhasBool s k b with
  | false => rfl
  | true => exact absurd rfl (h _ (fget_mem (fhasBool_iff.1 hb)) b)

theorem cy_fdel_ne_nil {m : Fields} {y : String} (h : fget m y ≠ none) (hy : y ≠ "$merge") :
    fdel m "$merge" ≠ [] := by
  intro e
  have := fget_fdel_ne m "$merge" y hy
  rw [e] at this
  exact h this.symm

theorem cy_int_not_delete (i : Int) : ¬ (Val.int i).toStr = "$delete" := by
  show ¬ ("" : String) = "$delete"
  decide

theorem cy_merge_int (i j : Int) :
    merge (.int j) (.int i) = if i = j then .error .uselessOverride else .ok (.int i) := by
  rw [merge_scalar _ _ rfl]
  by_cases h : i = j
  · subst h; simp
  · have : (Val.int i == Val.int j) = false :=
      beq_eq_false_iff_ne.2 (fun e => h (Val.int.inj e))
    simp [this, h]

theorem cy_intsExc_fset {D : Fields} {k : String} {v : Val} (hD : cy_IntsExc D)
    (hv : k ≠ "$merge" → ∃ i, v = Val.int i) : cy_IntsExc (fset D k v) := by
  intro p hp hne
  rcases mem_fset hp with rfl | hp
  · exact hv hne
  · exact hD p hp hne

/-- Merging int-valued contents `s` into a map `D` that is int-valued except at `$merge` either
    meets an equal int (`uselessOverride`) or yields a map of the same kind with the same `$merge`
    and every key of `D` and of `s`. -/
theorem cy_mergeFields_ints : ∀ (s D : Fields), cy_IntContent s → cy_IntsExc D →
    mergeFields D s = .error .uselessOverride ∨
    ∃ next, mergeFields D s = .ok next ∧ cy_IntsExc next ∧
      fget next "$merge" = fget D "$merge" ∧
      (∀ y, fget D y ≠ none → fget next y ≠ none) ∧ (∀ p ∈ s, fget next p.1 ≠ none) := by
  intro s
  induction s with
  | nil =>
    intro D _ hD
    exact Or.inr ⟨D, mergeFields_nil D, hD, rfl, fun _ h => h, fun p hp => by cases hp⟩
  | cons a rest ih =>
    intro D hs hD
    obtain ⟨k, v⟩ := a
    obtain ⟨hk, i, hv⟩ := hs (k, v) List.mem_cons_self
    have hv' : v = Val.int i := hv
    subst hv'
    have hrest : cy_IntContent rest := fun p hp => hs p (List.mem_cons_of_mem _ hp)
    -- what happens once the entry has been stored
    have cont : mergeFields (fset D k (.int i)) rest = .error .uselessOverride ∨
        ∃ next, mergeFields (fset D k (.int i)) rest = .ok next ∧ cy_IntsExc next ∧
          fget next "$merge" = fget D "$merge" ∧
          (∀ y, fget D y ≠ none → fget next y ≠ none) ∧
          (∀ p ∈ (k, Val.int i) :: rest, fget next p.1 ≠ none) := by
      rcases ih (fset D k (.int i)) hrest (cy_intsExc_fset hD (fun _ => ⟨i, rfl⟩)) with h | h
      · exact Or.inl h
      · obtain ⟨next, h1, h2, h3, h4, h5⟩ := h
        refine Or.inr ⟨next, h1, h2, ?_, ?_, ?_⟩
        · rw [h3, fget_fset_ne _ _ _ _ (Ne.symm hk)]
        · intro y hy
          apply h4
          by_cases e : y = k
          · subst e; rw [fget_fset_same]; exact fun h => by cases h
          · rw [fget_fset_ne _ _ _ _ e]; exact hy
        · intro p hp
          rcases List.mem_cons.1 hp with rfl | hp
          · apply h4; rw [fget_fset_same]; exact fun h => by cases h
          · exact h5 p hp
    rw [mergeFields_cons, if_neg (cy_int_not_delete i)]
    cases hg : fget D k with
    | none => exact cont
    | some e =>
      obtain ⟨j, hj⟩ := hD (k, e) (fget_mem hg) hk
      have hj' : e = Val.int j := hj
      subst hj'
      simp only [cy_merge_int]
      by_cases hij : i = j
      · rw [if_pos hij]; exact Or.inl rfl
      · rw [if_neg hij]; exact cont

/-- the chain of a host at `h` with int-valued contents through the remaining keys `r` and back
    to `h`: an error for every fuel; `uselessOverride` as soon as the fuel covers the chain -/
theorem cy_content_chain (docs : List Val) (c : String → Fields) (h : String)
    (hh : SimpleKey h) (hhd : h ≠ "$delete") :
    ∀ (r : List String) (rk H : Fields) (xv : Val) (fuel : Nat),
      (∀ k ∈ r, SimpleKey k ∧ k ≠ "$delete" ∧ cy_IntContent (c k)) → h ∉ r →
      fget rk h = some xv → cy_Hosts c rk r h →
      fget H "$merge" = some (.str (r.headD h)) → cy_IntsExc H →
      (fdel H "$merge" ≠ [] ∨ ∃ k ∈ r, c k ≠ []) →
      ∃ e, process1 fuel docs (.map rk) (some [.key h]) (.map H) = .error e ∧
        (e = .circularRef ∨ e = .uselessOverride) ∧
        (r.length + 1 ≤ fuel → e = .uselessOverride) := by
  intro r
  induction r with
  | nil =>
    intro rk H xv fuel _ _ hx _ hm hH hne
    cases fuel with
    | zero => exact ⟨_, process1_zero _ _ _ _, Or.inl rfl, fun h => by simp at h⟩
    | succ n =>
      refine ⟨.uselessOverride, ?_, Or.inr rfl, fun _ => rfl⟩
      have hD : ∀ p ∈ fdel H "$merge", ∃ i, p.2 = Val.int i :=
        fun p hp => hH p (mem_fdel hp) (cy_mem_fdel_ne hp)
      have hne' : fdel H "$merge" ≠ [] := by
        rcases hne with h | ⟨k, hk, _⟩
        · exact h
        · cases hk
      refine host_step_error (s := fdel H "$merge") hh hx hm (fget_fset_same _ _ _)
        (cy_fhasBool_false _ _ (fun p hp b e => by
          obtain ⟨i, hi⟩ := hD p hp
          rw [hi] at e; cases e)) ?_
      cases hDl : fdel H "$merge" with
      | nil => exact absurd hDl hne'
      | cons a rest =>
        obtain ⟨k, v⟩ := a
        obtain ⟨i, hi⟩ := hD (k, v) (by rw [hDl]; exact List.mem_cons_self)
        have hi' : v = Val.int i := hi
        subst hi'
        rw [mergeFields_cons, if_neg (cy_int_not_delete i)]
        simp only [fget_cons_self, cy_merge_int, if_true]
  | cons k r' ih =>
    intro rk H xv fuel hks hnr hx hhosts hm hH hne
    cases fuel with
    | zero => exact ⟨_, process1_zero _ _ _ _, Or.inl rfl, fun h => by simp at h⟩
    | succ n =>
      have hk := hks k List.mem_cons_self
      have hkh : k ≠ h := fun e => hnr (by rw [← e]; exact List.mem_cons_self)
      have hkk : SimpleKey (r'.headD h) ∧ r'.headD h ≠ "$delete" := by
        cases r' with
        | nil => exact ⟨hh, hhd⟩
        | cons k2 _ =>
          have := hks k2 (List.mem_cons_of_mem _ List.mem_cons_self)
          exact ⟨this.1, this.2.1⟩
      have hD : ∀ p ∈ fdel H "$merge", ∃ i, p.2 = Val.int i :=
        fun p hp => hH p (mem_fdel hp) (cy_mem_fdel_ne hp)
      have hg : fget (fset rk h (.map (fdel H "$merge"))) k =
          some (.map (("$merge", .str (r'.headD h)) :: c k)) := by
        rw [fget_fset_ne _ _ _ _ hkh]; exact hhosts.1
      have hrep : fhasBool (("$merge", Val.str (r'.headD h)) :: c k) "$replace" true = false :=
        cy_fhasBool_false _ _ (fun p hp b e => by
          rcases List.mem_cons.1 hp with rfl | hp
          · cases e
          · obtain ⟨_, i, hi⟩ := hk.2.2 p hp
            rw [hi] at e; cases e)
      -- the merge of the accumulated contents with the next host
      have hmf : mergeFields (fdel H "$merge") (("$merge", .str (r'.headD h)) :: c k) =
          mergeFields (fset (fdel H "$merge") "$merge" (.str (r'.headD h))) (c k) := by
        rw [mergeFields_cons, if_neg (show ¬ (Val.str (r'.headD h)).toStr = "$delete" from hkk.2),
          fget_fdel_same]
      have hD' : cy_IntsExc (fset (fdel H "$merge") "$merge" (.str (r'.headD h))) :=
        cy_intsExc_fset (fun p hp _ => hD p hp) (fun e => absurd rfl e)
      rcases cy_mergeFields_ints (c k) _ hk.2.2 hD' with herr | ⟨next, hok, hn1, hn2, hn3, hn4⟩
      · exact ⟨.uselessOverride,
          host_step_error hk.1 hx hm hg hrep (by rw [hmf]; exact herr), Or.inr rfl, fun _ => rfl⟩
      · rw [host_step hk.1 hx hm hg hrep (by rw [hmf]; exact hok)]
        have hnm : fget next "$merge" = some (.str (r'.headD h)) := by
          rw [hn2, fget_fset_same]
        have hne2 : fdel next "$merge" ≠ [] ∨ ∃ k' ∈ r', c k' ≠ [] := by
          rcases hne with hne | ⟨k', hk', hck'⟩
          · left
            cases hDl : fdel H "$merge" with
            | nil => exact absurd hDl hne
            | cons a rest =>
              obtain ⟨y, w⟩ := a
              have hy : y ≠ "$merge" :=
                cy_mem_fdel_ne (p := (y, w)) (by rw [hDl]; exact List.mem_cons_self)
              refine cy_fdel_ne_nil (y := y) (hn3 y ?_) hy
              rw [fget_fset_ne _ _ _ _ hy, hDl]
              simp [fget]
          · rcases List.mem_cons.1 hk' with rfl | hk'
            · left
              cases hc : c k' with
              | nil => exact absurd hc hck'
              | cons p rest =>
                have hp : p ∈ c k' := by rw [hc]; exact List.mem_cons_self
                exact cy_fdel_ne_nil (hn4 p hp) (hk.2.2 p hp).1
            · exact Or.inr ⟨k', hk', hck'⟩
        obtain ⟨e, he, he1, he2⟩ := ih (fset rk h (.map next)) next _ n
          (fun k2 hk2 => hks k2 (List.mem_cons_of_mem _ hk2))
          (fun hm' => hnr (List.mem_cons_of_mem _ hm')) (fget_fset_same _ _ _)
          (cy_hosts_fset (fun hm' => hnr (List.mem_cons_of_mem _ hm')) hhosts.2) hnm hn1 hne2
        exact ⟨e, he, he1, fun hl => he2 (by simp at hl; omega)⟩

theorem cy_content_cycle_error (docs : List Val) (c : String → Fields) (k0 : String)
    (tl : List String) (hnd : (k0 :: tl).Nodup)
    (hk : ∀ k ∈ k0 :: tl, SimpleKey k ∧ k ≠ "$delete" ∧ cy_IntContent (c k))
    (hm : "$merge" ∉ k0 :: tl) (hr : "$replace" ∉ k0 :: tl)
    (hne : ∃ k ∈ k0 :: tl, c k ≠ []) (fuel : Nat) :
    ∃ e, process1 fuel docs (.map (cy_mergeCycle c (k0 :: tl))) (some [])
        (.map (cy_mergeCycle c (k0 :: tl))) = .error e ∧
      (e = .circularRef ∨ e = .uselessOverride) ∧
      ((k0 :: tl).length + 1 ≤ fuel → e = .uselessOverride) := by
  have h0 := hk k0 List.mem_cons_self
  have hnd' := List.nodup_cons.1 hnd
  have hdoc : cy_mergeCycle c (k0 :: tl) =
      (k0, cy_host (c k0) (tl.headD k0)) :: cy_chain c tl k0 := rfl
  cases fuel with
  | zero => exact ⟨_, process1_zero _ _ _ _, Or.inl rfl, fun h => by simp at h⟩
  | succ n =>
    have hm' : fget (cy_mergeCycle c (k0 :: tl)) "$merge" = none := cy_chain_fget_none _ hm
    have hr' : fget (cy_mergeCycle c (k0 :: tl)) "$replace" = none := cy_chain_fget_none _ hr
    have hH : cy_IntsExc (("$merge", Val.str (tl.headD k0)) :: c k0) := by
      intro p hp hpne
      rcases List.mem_cons.1 hp with rfl | hp
      · exact absurd rfl hpne
      · exact (h0.2.2 p hp).2
    have hne' : fdel (("$merge", Val.str (tl.headD k0)) :: c k0) "$merge" ≠ [] ∨
        ∃ k ∈ tl, c k ≠ [] := by
      obtain ⟨k, hkm, hck⟩ := hne
      rcases List.mem_cons.1 hkm with rfl | hkm
      · left
        cases hc : c k with
        | nil => exact absurd hc hck
        | cons p rest =>
          have hp : p ∈ c k := by rw [hc]; exact List.mem_cons_self
          have hpk := (h0.2.2 p hp).1
          refine cy_fdel_ne_nil (y := p.1) ?_ hpk
          obtain ⟨pk, pv⟩ := p
          simp [fget, Ne.symm hpk]
      · exact Or.inr ⟨k, hkm, hck⟩
    obtain ⟨e, he, he1, he2⟩ := cy_content_chain docs c k0 h0.1 h0.2.1 tl
      (cy_mergeCycle c (k0 :: tl)) (("$merge", .str (tl.headD k0)) :: c k0)
      (cy_host (c k0) (tl.headD k0)) n
      (fun k hk' => hk k (List.mem_cons_of_mem _ hk')) hnd'.1
      (by rw [hdoc]; exact fget_cons_self _ _ _)
      (by
        have := cy_hosts_chain c k0 tl [(k0, cy_host (c k0) (tl.headD k0))] hnd'.2
          (fun p hp => by
            simp only [List.mem_cons, List.not_mem_nil, or_false] at hp
            subst hp; exact hnd'.1)
        rw [hdoc]; exact this)
      (fget_cons_self _ _ _) hH hne'
    exact ⟨e, process1_map_head_error hm' hr' he, he1, fun hl => he2 (by simp at hl ⊢; omega)⟩

/-! ## nested `$repeat` with a count ≤ 0: the entry vanishes -/

theorem cy_range_nonpos {n : Int} (h : n ≤ 0) : List.range n.toNat = [] := by
  have : n.toNat = 0 := by omega
  rw [this]; rfl

theorem cy_expandStepM_nonpos (P : Vars → Val → R Val) (ec : Vars) (acc : Fields)
    (k : String) (m : Fields) (n : Int) (hr : fget m "$repeat" = some (.int n)) (hn : n ≤ 0) :
    expandStepM P ec acc (k, .map m) = .ok acc := by
  simp only [expandStepM, hr, repMapM, cy_range_nonpos hn]
  rfl

theorem cy_process2_map_drop (fuel : Nat) (docs : List Val) (root : Val) (ec : Vars)
    (pre post : Fields) (k : String) (m : Fields) (n : Int)
    (hr : fget m "$repeat" = some (.int n)) (hn : n ≤ 0) :
    process2 (fuel + 1) docs root ec (.map (pre ++ (k, .map m) :: post)) =
      process2 (fuel + 1) docs root ec (.map (pre ++ post)) := by
  rw [process2_map_succ, process2_map_succ, expandM, expandM,
    foldlM_drop _ _ (fun b => cy_expandStepM_nonpos _ ec b k m n hr hn)]

theorem cy_listStepM_nonpos (P : Vars → Val → R Val) (ec : Vars)
    (acc : List Val) (m : Fields) (n : Int) (hr : fget m "$repeat" = some (.int n))
    (hn : n ≤ 0) : listStepM P ec acc (.map m) = .ok acc := by
  simp only [listStepM, hr, repListM, cy_range_nonpos hn]
  rfl

/-- an entry with a `$repeat` key is never the `{$encode: …}` entry -/
theorem cy_popHit_keep {m : Fields} {r : Val} (hr : fget m "$repeat" = some r) :
    popHit "$encode" (.map m) = none := by
  simp only [popHit]
  by_cases hl : m.length = 1
  · match m, hl, hr with
    | [(k', v')], _, hr =>
      have hk : k' = "$repeat" := by
        simp only [fget] at hr
        split at hr
        · assumption
        · cases hr
      subst hk
      simp [fget]
  · simp [hl]

theorem cy_pop_insert {m : Fields} {r : Val} (hr : fget m "$repeat" = some r)
    (pre post : List Val) :
    (∃ e, popListMapValue (pre ++ .map m :: post) "$encode" = .error e ∧
      popListMapValue (pre ++ post) "$encode" = .error e) ∨
    (∃ s a t, popListMapValue (pre ++ .map m :: post) "$encode" = .ok (s, a ++ .map m :: t) ∧
      popListMapValue (pre ++ post) "$encode" = .ok (s, a ++ t)) := by
  rw [popListMapValue_spec, popListMapValue_spec]
  simp only [List.filterMap_append, List.filterMap_cons, cy_popHit_keep hr, List.filter_append,
    List.filter_cons, Option.isNone_none, if_true]
  cases popVal .null (pre.filterMap (popHit "$encode") ++ post.filterMap (popHit "$encode")) with
  | error e => exact Or.inl ⟨e, rfl, rfl⟩
  | ok s => exact Or.inr ⟨s, _, _, rfl, rfl⟩

theorem cy_process2_list_drop (docs : List Val) (root : Val) (ec : Vars) (m : Fields) (n : Int)
    (hr : fget m "$repeat" = some (.int n)) (hn : n ≤ 0) :
    ∀ (fuel : Nat) (pre post : List Val),
      process2 fuel docs root ec (.list (pre ++ .map m :: post)) =
        process2 fuel docs root ec (.list (pre ++ post)) := by
  intro fuel
  induction fuel with
  | zero => intro pre post; rw [process2_zero, process2_zero]
  | succ f ih =>
    intro pre post
    rw [process2_list_succ, process2_list_succ, listBodyM, listBodyM]
    rcases cy_pop_insert hr pre post with ⟨e, h1, h2⟩ | ⟨s, a, t, h1, h2⟩
    · rw [h1, h2]
    · rw [h1, h2, ok_bind, ok_bind]
      cases hs : s.isNull with
      | false =>
        simp only [hs, Bool.not_false, if_true, encodeM]
        rw [ih a t]
      | true =>
        simp only [hs, Bool.not_true, Bool.false_eq_true, if_false]
        rw [foldlM_drop _ _ (fun b => cy_listStepM_nonpos _ ec b m n hr hn)]

theorem cy_prod_zero : ∀ (l : List Nat), (∃ x ∈ l, x = 0) → l.prod = 0
  | [], h => by obtain ⟨x, hx, _⟩ := h; cases hx
  | a :: tl, h => by
    obtain ⟨x, hx, h0⟩ := h
    rw [List.prod_cons]
    rcases List.mem_cons.1 hx with rfl | hx
    · rw [h0, Nat.zero_mul]
    · rw [cy_prod_zero tl ⟨x, hx, h0⟩, Nat.mul_zero]

/-! ## from `process1` to `processDoc` / `outputDocument` / `outputDocuments` -/

theorem cy_processDoc_error {docs : List Val} {data : Val} {e : Err} (env : Vars)
    (h : process1 depthLimit docs data (some []) data = .error e) :
    processDoc docs env data = .error e ∧ outputDocument docs env data = .error e :=
  ⟨processDoc_error h, by rw [outputDocument_eq, processDoc_error h]; rfl⟩

theorem cy_emit_nil : emit [] = .ok [] := rfl

theorem cy_outputDocuments_single_error {docs : List Val} {env : Vars} {d : Val} {e : Err}
    (pre post : List Val) (hd : docs = pre ++ d :: post)
    (hpre : ∀ x ∈ pre, ∃ r, outputDocument docs env x = .ok r)
    (h : outputDocument docs env d = .error e) : outputDocuments docs env = .error e := by
  unfold outputDocuments
  have : List.mapM (outputDocument docs env) (pre ++ d :: post) = .error e := by
    clear hd
    induction pre with
    | nil => rw [List.nil_append, mapM_cons, h]
    | cons x tl ih =>
      obtain ⟨r, hr⟩ := hpre x List.mem_cons_self
      rw [List.cons_append, mapM_cons, hr, ih (fun y hy => hpre y (List.mem_cons_of_mem _ hy))]
  rw [← hd] at this
  rw [this]; rfl

theorem cy_keys_abc : ∀ k ∈ ["a", "b", "c"], SimpleKey k ∧ k ≠ "$delete" ∧ refStr k = false := by
  intro k hk
  refine ⟨simpleKey_abcde k (List.mem_of_mem_take (i := 3) hk), ?_⟩
  revert k
  decide +kernel

/-- `a: {$merge: b}, b: {$merge: c}, c: {$merge: a}` -/
def cy_mapCycle3 : Val :=
  .map [("a", .map [("$merge", .str "b")]), ("b", .map [("$merge", .str "c")]),
        ("c", .map [("$merge", .str "a")])]

end Bkl
