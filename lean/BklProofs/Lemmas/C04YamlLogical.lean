/-
  BklProofs.Lemmas.C04YamlLogical — a format-independent value type (`ym_Logical`) with its
  JSON / YAML / TOML readings (what the three decoders hand to bkl for the same datum), and the
  proof that all three normalise to the same `Val` (`ym_Logical.val`).
-/
import BklProofs.Lemmas.C04Yaml
namespace Bkl

/-- a datum, independent of the format it is written in.  A float carries the literal text it
    is written with (`text`, as JSON keeps it in `json.Number`) and the `%v` text of its float64
    value (`fr`). -/
inductive ym_Logical where
  | null
  | bool (b : Bool)
  | int (i : Int)
  | flt (text : String) (fr : String)
  | str (s : String)
  | list (xs : List ym_Logical)
  | map (kvs : List (String × ym_Logical))

abbrev ym_LFields := List (String × ym_Logical)

mutual
/-- the value bkl works with -/
def ym_Logical.val : ym_Logical → Val
  | .null => .null
  | .bool b => .bool b
  | .int i => .int i
  | .flt _ fr => .flt fr
  | .str s => .str s
  | .list xs => .list (ym_valList xs)
  | .map kvs => .map (fofList (ym_valFields kvs))
def ym_valList : List ym_Logical → List Val
  | [] => []
  | x :: xs => x.val :: ym_valList xs
def ym_valFields : ym_LFields → Fields
  | [] => []
  | (k, v) :: rest => (k, v.val) :: ym_valFields rest
end

mutual
/-- representable data: integers are int64, a float's text is not an int64 literal and has a
    float64 value, and no map key is the merge indicator `<<` -/
def ym_Logical.ok : ym_Logical → Bool
  | .int i => decide (int64Min ≤ i ∧ i ≤ int64Max)
  | .flt text fr => (parseInt64 text).isNone && !fr.isEmpty
  | .list xs => ym_okList xs
  | .map kvs => ym_okFields kvs
  | .null => true
  | .bool _ => true
  | .str _ => true
def ym_okList : List ym_Logical → Bool
  | [] => true
  | x :: xs => x.ok && ym_okList xs
def ym_okFields : ym_LFields → Bool
  | [] => true
  | (k, v) :: rest => k != "<<" && v.ok && ym_okFields rest
end

mutual
/-- encoding/json with `UseNumber`: numbers are `json.Number` (literal text + float64 `%v`);
    `jf i` is the `%v` text of the float64 nearest to the integer `i` (irrelevant) -/
def ym_renderJson (jf : Int → String) : ym_Logical → Raw
  | .null => .null
  | .bool b => .bool b
  | .int i => .jnum (toString i) (jf i)
  | .flt text fr => .jnum text fr
  | .str s => .str s
  | .list xs => .list (ym_renderJsonList jf xs)
  | .map kvs => .map (ym_renderJsonFields jf kvs)
def ym_renderJsonList (jf : Int → String) : List ym_Logical → List Raw
  | [] => []
  | x :: xs => ym_renderJson jf x :: ym_renderJsonList jf xs
def ym_renderJsonFields (jf : Int → String) : ym_LFields → RFields
  | [] => []
  | (k, v) :: rest => (k, ym_renderJson jf v) :: ym_renderJsonFields jf rest
end

mutual
/-- yaml.v3 node trees: tagged scalars, sequences, mappings -/
def ym_renderYaml (yf : Int → String) : ym_Logical → YNode
  | .null => .scalar "!!null" "null" ""
  | .bool b => .scalar "!!bool" (if b then "true" else "false") ""
  | .int i => .scalar "!!int" (toString i) (yf i)
  | .flt text fr => .scalar "!!float" text fr
  | .str s => .scalar "!!str" s ""
  | .list xs => .seq (ym_renderYamlList yf xs)
  | .map kvs => .mapping (ym_renderYamlFields yf kvs)
def ym_renderYamlList (yf : Int → String) : List ym_Logical → List YNode
  | [] => []
  | x :: xs => ym_renderYaml yf x :: ym_renderYamlList yf xs
def ym_renderYamlFields (yf : Int → String) : ym_LFields → ym_YPairs
  | [] => []
  | (k, v) :: rest => (k, ym_renderYaml yf v) :: ym_renderYamlFields yf rest
end

mutual
/-- go-toml: integers are `int64`, floats `float64`, a non-empty array whose elements are all
    tables is a `[]map[string]any` -/
def ym_renderToml : ym_Logical → Raw
  | .null => .null
  | .bool b => .bool b
  | .int i => .goInt64 i
  | .flt _ fr => .goFloat fr
  | .str s => .str s
  | .list xs =>
    if xs.isEmpty then .list []
    else match ym_tomlTables xs with
      | some ms => .listOfMaps ms
      | none => .list (ym_renderTomlList xs)
  | .map kvs => .map (ym_renderTomlFields kvs)
def ym_renderTomlList : List ym_Logical → List Raw
  | [] => []
  | x :: xs => ym_renderToml x :: ym_renderTomlList xs
def ym_renderTomlFields : ym_LFields → RFields
  | [] => []
  | (k, v) :: rest => (k, ym_renderToml v) :: ym_renderTomlFields rest
def ym_tomlTables : List ym_Logical → Option (List RFields)
  | [] => some []
  | x :: xs =>
    match x with
    | .map kvs =>
      match ym_tomlTables xs with
      | some ms => some (ym_renderTomlFields kvs :: ms)
      | none => none
    | _ => none
end

theorem ym_ok_int {i : Int} (h : (ym_Logical.int i).ok = true) : int64Min ≤ i ∧ i ≤ int64Max := by
  rw [ym_Logical.ok] at h; exact of_decide_eq_true h

theorem ym_ok_flt {text fr : String} (h : (ym_Logical.flt text fr).ok = true) :
    parseInt64 text = none ∧ fr.isEmpty = false := by
  rw [ym_Logical.ok, Bool.and_eq_true] at h
  refine ⟨?_, by simpa using h.2⟩
  cases hp : parseInt64 text with
  | none => rfl
  | some i => rw [hp] at h; cases h.1

/-! ## JSON -/

mutual
theorem ym_json_val (jf : Int → String) : ∀ (v : ym_Logical), v.ok = true →
    hasMapAny (ym_renderJson jf v) = false ∧ ym_norm (ym_renderJson jf v) = v.val
  | .null, _ => ⟨rfl, rfl⟩
  | .bool b, _ => ⟨rfl, rfl⟩
  | .str s, _ => ⟨rfl, rfl⟩
  | .int i, h => by
    obtain ⟨h1, h2⟩ := ym_ok_int h
    rw [ym_renderJson, ym_norm, ym_Logical.val, hasMapAny, parseInt64_toString i h1 h2]
    exact ⟨rfl, rfl⟩
  | .flt text fr, h => by
    obtain ⟨h1, h2⟩ := ym_ok_flt h
    rw [ym_renderJson, ym_norm, ym_Logical.val, hasMapAny, h1, h2]
    exact ⟨rfl, rfl⟩
  | .list xs, h => by
    rw [ym_Logical.ok] at h
    obtain ⟨h1, h2⟩ := ym_jsonList_val jf xs h
    rw [ym_renderJson, ym_norm, ym_Logical.val, hasMapAny, h2]
    exact ⟨h1, rfl⟩
  | .map kvs, h => by
    rw [ym_Logical.ok] at h
    obtain ⟨h1, h2⟩ := ym_jsonFields_val jf kvs h
    rw [ym_renderJson, ym_norm, ym_Logical.val, hasMapAny, h2]
    exact ⟨h1, rfl⟩
theorem ym_jsonList_val (jf : Int → String) : ∀ (xs : List ym_Logical), ym_okList xs = true →
    hasMapAnyList (ym_renderJsonList jf xs) = false ∧
    ym_normList (ym_renderJsonList jf xs) = ym_valList xs
  | [], _ => by rw [ym_renderJsonList, ym_normList, ym_valList]; exact ⟨rfl, rfl⟩
  | x :: xs, h => by
    rw [ym_okList, Bool.and_eq_true] at h
    obtain ⟨a1, a2⟩ := ym_json_val jf x h.1
    obtain ⟨b1, b2⟩ := ym_jsonList_val jf xs h.2
    rw [ym_renderJsonList, ym_normList, ym_valList, hasMapAnyList, a1, a2, b1, b2]
    exact ⟨rfl, rfl⟩
theorem ym_jsonFields_val (jf : Int → String) : ∀ (kvs : ym_LFields), ym_okFields kvs = true →
    hasMapAnyFields (ym_renderJsonFields jf kvs) = false ∧
    ym_normFields (ym_renderJsonFields jf kvs) = ym_valFields kvs
  | [], _ => by rw [ym_renderJsonFields, ym_normFields, ym_valFields]; exact ⟨rfl, rfl⟩
  | (k, v) :: rest, h => by
    rw [ym_okFields, Bool.and_eq_true, Bool.and_eq_true] at h
    obtain ⟨a1, a2⟩ := ym_json_val jf v h.1.2
    obtain ⟨b1, b2⟩ := ym_jsonFields_val jf rest h.2
    rw [ym_renderJsonFields, ym_normFields, ym_valFields, hasMapAnyFields, a1, a2, b1, b2]
    exact ⟨rfl, rfl⟩
end

/-! ## TOML -/

mutual
theorem ym_toml_val : ∀ (v : ym_Logical), v.ok = true →
    hasMapAny (ym_renderToml v) = false ∧ ym_norm (ym_renderToml v) = v.val
  | .null, _ => ⟨rfl, rfl⟩
  | .bool b, _ => ⟨rfl, rfl⟩
  | .str s, _ => ⟨rfl, rfl⟩
  | .int i, _ => ⟨rfl, rfl⟩
  | .flt text fr, _ => ⟨rfl, rfl⟩
  | .list xs, h => by
    rw [ym_Logical.ok] at h
    rw [ym_renderToml, ym_Logical.val]
    split
    · rename_i he
      have : xs = [] := by simpa using he
      subst this
      rw [ym_valList, ym_norm_list, ym_normList]; exact ⟨rfl, rfl⟩
    · cases ht : ym_tomlTables xs with
      | some ms =>
        obtain ⟨h1, h2⟩ := ym_tomlTables_val xs h ms ht
        simp only
        rw [ym_hasMapAny_listOfMaps, ym_norm_listOfMaps, h2]
        exact ⟨h1, rfl⟩
      | none =>
        obtain ⟨h1, h2⟩ := ym_tomlList_val xs h
        simp only
        rw [ym_hasMapAny_list, ym_norm_list, h2]
        exact ⟨h1, rfl⟩
  | .map kvs, h => by
    rw [ym_Logical.ok] at h
    obtain ⟨h1, h2⟩ := ym_tomlFields_val kvs h
    rw [ym_renderToml, ym_norm, ym_Logical.val, hasMapAny, h2]
    exact ⟨h1, rfl⟩
theorem ym_tomlList_val : ∀ (xs : List ym_Logical), ym_okList xs = true →
    hasMapAnyList (ym_renderTomlList xs) = false ∧
    ym_normList (ym_renderTomlList xs) = ym_valList xs
  | [], _ => by rw [ym_renderTomlList, ym_normList, ym_valList]; exact ⟨rfl, rfl⟩
  | x :: xs, h => by
    rw [ym_okList, Bool.and_eq_true] at h
    obtain ⟨a1, a2⟩ := ym_toml_val x h.1
    obtain ⟨b1, b2⟩ := ym_tomlList_val xs h.2
    rw [ym_renderTomlList, ym_normList, ym_valList, hasMapAnyList, a1, a2, b1, b2]
    exact ⟨rfl, rfl⟩
theorem ym_tomlFields_val : ∀ (kvs : ym_LFields), ym_okFields kvs = true →
    hasMapAnyFields (ym_renderTomlFields kvs) = false ∧
    ym_normFields (ym_renderTomlFields kvs) = ym_valFields kvs
  | [], _ => by rw [ym_renderTomlFields, ym_normFields, ym_valFields]; exact ⟨rfl, rfl⟩
  | (k, v) :: rest, h => by
    rw [ym_okFields, Bool.and_eq_true, Bool.and_eq_true] at h
    obtain ⟨a1, a2⟩ := ym_toml_val v h.1.2
    obtain ⟨b1, b2⟩ := ym_tomlFields_val rest h.2
    rw [ym_renderTomlFields, ym_normFields, ym_valFields, hasMapAnyFields, a1, a2, b1, b2]
    exact ⟨rfl, rfl⟩
theorem ym_tomlTables_val : ∀ (xs : List ym_Logical), ym_okList xs = true →
    ∀ ms, ym_tomlTables xs = some ms →
    hasMapAnyMaps ms = false ∧ ym_normMaps ms = ym_valList xs
  | [], _, ms, ht => by
    rw [ym_tomlTables] at ht; cases ht
    rw [ym_normMaps, ym_valList]; exact ⟨rfl, rfl⟩
  | .map kvs :: xs, h, ms, ht => by
    rw [ym_okList, Bool.and_eq_true, ym_Logical.ok] at h
    rw [ym_tomlTables] at ht
    cases hr : ym_tomlTables xs with
    | none => rw [hr] at ht; cases ht
    | some ms' =>
      rw [hr] at ht; cases ht
      obtain ⟨a1, a2⟩ := ym_tomlFields_val kvs h.1
      obtain ⟨b1, b2⟩ := ym_tomlTables_val xs h.2 ms' hr
      rw [hasMapAnyMaps, ym_normMaps, ym_valList, ym_Logical.val, a1, a2, b1, b2]
      exact ⟨rfl, rfl⟩
  | .null :: xs, _, ms, ht => by simp [ym_tomlTables] at ht
  | .bool _ :: xs, _, ms, ht => by simp [ym_tomlTables] at ht
  | .int _ :: xs, _, ms, ht => by simp [ym_tomlTables] at ht
  | .flt _ _ :: xs, _, ms, ht => by simp [ym_tomlTables] at ht
  | .str _ :: xs, _, ms, ht => by simp [ym_tomlTables] at ht
  | .list _ :: xs, _, ms, ht => by simp [ym_tomlTables] at ht
end

/-! ## YAML -/

theorem ym_okFields_iff {kvs : ym_LFields} :
    ym_okFields kvs = true ↔ ∀ p ∈ kvs, p.1 ≠ "<<" ∧ p.2.ok = true :=
  (all_of_eqns ym_okFields.eq_1 fun p l => ym_okFields.eq_2 p.1 p.2 l).trans
    (forall₂_congr fun _ _ => by rw [Bool.and_eq_true, bne_iff_ne])

theorem ym_renderYamlFields_eq_map (yf : Int → String) : ∀ (kvs : ym_LFields),
    ym_renderYamlFields yf kvs = kvs.map fun p => (p.1, ym_renderYaml yf p.2)
  | [] => by rw [ym_renderYamlFields]; rfl
  | (k, v) :: rest => by rw [ym_renderYamlFields, List.map_cons, ym_renderYamlFields_eq_map yf rest]

theorem ym_renderYamlFields_noMerge (yf : Int → String) (kvs : ym_LFields)
    (h : ym_okFields kvs = true) : ym_noMerge (ym_renderYamlFields yf kvs) := by
  rw [ym_renderYamlFields_eq_map]
  intro p hp
  obtain ⟨q, hq, rfl⟩ := List.mem_map.1 hp
  exact (ym_okFields_iff.1 h q hq).1

theorem ym_norm_map_foldl_rput (l : RFields) :
    ym_norm (.map (l.foldl rput [])) = .map (fofList (ym_normFields l)) := by
  rw [← ym_norm_map, ym_norm_map_eq_iff]
  intro k
  rw [ym_nl_foldl_rput, ym_nl_nil, Option.or_none]

mutual
theorem ym_yaml_val (yf : Int → String) : ∀ (v : ym_Logical), v.ok = true →
    ∃ r, yamlTranslate (ym_renderYaml yf v) = .ok r ∧ ym_norm r = v.val
  | .null, _ => ⟨.null, by rw [ym_renderYaml, ym_T_scalar]; rfl, by rw [ym_norm, ym_Logical.val]⟩
  | .bool b, _ => by
    refine ⟨.bool b, ?_, by rw [ym_norm, ym_Logical.val]⟩
    rw [ym_renderYaml, ym_T_scalar]
    cases b <;> rfl
  | .str s, _ => ⟨.str s, by rw [ym_renderYaml, ym_T_scalar]; rfl, by rw [ym_norm, ym_Logical.val]⟩
  | .int i, h => by
    obtain ⟨h1, h2⟩ := ym_ok_int h
    rw [ym_renderYaml, ym_T_scalar, yamlScalar_int_toString i _ h1 h2, ym_Logical.val]
    split
    · exact ⟨_, rfl, ym_norm_goInt i⟩
    · exact ⟨_, rfl, ym_norm_goInt64 i⟩
  | .flt text fr, h => by
    obtain ⟨_, h2⟩ := ym_ok_flt h
    rw [ym_renderYaml, ym_T_scalar, yamlScalar_float, h2, ym_Logical.val]
    exact ⟨.goFloat fr, rfl, by rw [ym_norm]⟩
  | .list xs, h => by
    rw [ym_Logical.ok] at h
    obtain ⟨rs, h1, h2⟩ := ym_yamlList_val yf xs h
    rw [ym_renderYaml, ym_T_seq, h1, ym_Logical.val]
    exact ⟨.list rs, rfl, by rw [ym_norm_list, h2]⟩
  | .map kvs, h => by
    rw [ym_Logical.ok] at h
    obtain ⟨l, h1, h2⟩ := ym_yamlFields_val yf kvs h
    rw [ym_renderYaml, ym_T_mapping_noMerge _ (ym_renderYamlFields_noMerge yf kvs h), h1,
      ym_Logical.val]
    exact ⟨_, rfl, by rw [ym_norm_map_foldl_rput, h2]⟩
theorem ym_yamlList_val (yf : Int → String) : ∀ (xs : List ym_Logical), ym_okList xs = true →
    ∃ rs, yamlTranslateList (ym_renderYamlList yf xs) = .ok rs ∧ ym_normList rs = ym_valList xs
  | [], _ => ⟨[], by rw [ym_renderYamlList, ym_TL_nil], by rw [ym_normList, ym_valList]⟩
  | x :: xs, h => by
    rw [ym_okList, Bool.and_eq_true] at h
    obtain ⟨r, a1, a2⟩ := ym_yaml_val yf x h.1
    obtain ⟨rs, b1, b2⟩ := ym_yamlList_val yf xs h.2
    rw [ym_renderYamlList, ym_TL_cons, a1, b1, ym_valList]
    exact ⟨r :: rs, rfl, by rw [ym_normList, a2, b2]⟩
theorem ym_yamlFields_val (yf : Int → String) : ∀ (kvs : ym_LFields), ym_okFields kvs = true →
    ∃ l, yamlTranslatePairs (ym_renderYamlFields yf kvs) = .ok l ∧
      ym_normFields l = ym_valFields kvs
  | [], _ => ⟨[], by rw [ym_renderYamlFields, ym_TP_nil], by rw [ym_normFields, ym_valFields]⟩
  | (k, v) :: rest, h => by
    rw [ym_okFields, Bool.and_eq_true, Bool.and_eq_true] at h
    obtain ⟨r, a1, a2⟩ := ym_yaml_val yf v h.1.2
    obtain ⟨rs, b1, b2⟩ := ym_yamlFields_val yf rest h.2
    rw [ym_renderYamlFields, ym_TP_cons_other _ _ _ (by simpa using h.1.1), a1, b1, ym_valFields]
    exact ⟨(k, r) :: rs, rfl, by rw [ym_normFields, a2, b2]⟩
end

theorem ym_three_formats (jf yf : Int → String) (v : ym_Logical) (h : v.ok = true) :
    normalize (ym_renderJson jf v) = .ok v.val ∧
    normalize (ym_renderToml v) = .ok v.val ∧
    (yamlTranslate (ym_renderYaml yf v) >>= normalize) = .ok v.val := by
  obtain ⟨j1, j2⟩ := ym_json_val jf v h
  obtain ⟨t1, t2⟩ := ym_toml_val v h
  obtain ⟨r, y1, y2⟩ := ym_yaml_val yf v h
  refine ⟨by rw [ym_normalize_eq _ j1, j2], by rw [ym_normalize_eq _ t1, t2], ?_⟩
  rw [ym_T_normalize _ r y1, y2]

/-! ## the hand-expanded form of `{pre…, <<: base, post…}` -/

/-- what one writes when expanding `<<: base` by hand: the entries of `base` that are not
    overridden, then the explicit entries -/
def ym_handExpand (base ex : ym_LFields) : ym_LFields :=
  base.filter (fun p => !(ex.any (fun q => q.1 == p.1))) ++ ex

theorem ym_okFields_append {a b : ym_LFields} (ha : ym_okFields a = true)
    (hb : ym_okFields b = true) : ym_okFields (a ++ b) = true :=
  ym_okFields_iff.2 fun p hp =>
    (List.mem_append.1 hp).elim (ym_okFields_iff.1 ha p) (ym_okFields_iff.1 hb p)

theorem ym_handExpand_ok (base ex : ym_LFields) (hb : ym_okFields base = true)
    (he : ym_okFields ex = true) : ym_okFields (ym_handExpand base ex) = true :=
  ym_okFields_append (ym_okFields_iff.2 fun p hp => ym_okFields_iff.1 hb p (List.mem_filter.1 hp).1) he

theorem ym_renderJsonFields_eq_map (jf : Int → String) : ∀ (kvs : ym_LFields),
    ym_renderJsonFields jf kvs = kvs.map fun p => (p.1, ym_renderJson jf p.2)
  | [] => by rw [ym_renderJsonFields]; rfl
  | (k, v) :: rest => by rw [ym_renderJsonFields, List.map_cons, ym_renderJsonFields_eq_map jf rest]

theorem ym_nl_handExpand (jf : Int → String) (base ex : ym_LFields) (k : String) :
    ym_nl (ym_renderJsonFields jf (ym_handExpand base ex)) k =
      (ym_nl (ym_renderJsonFields jf ex) k).or (ym_nl (ym_renderJsonFields jf base) k) := by
  unfold ym_handExpand
  simp only [ym_renderJsonFields_eq_map, List.map_append]
  rw [ym_nl_append]
  cases he : ym_nl (ex.map fun p => (p.1, ym_renderJson jf p.2)) k with
  | some v => rfl
  | none =>
    rw [Option.none_or, Option.none_or]
    -- no explicit entry has the key `k`, so `base`'s entries for `k` all pass the filter
    have hne : ∀ q ∈ ex, q.1 ≠ k := fun q hq =>
      rlookup_eq_none_iff.1 (Option.map_eq_none_iff.1 he) _ (List.mem_map_of_mem hq)
    have hf : (base.filter fun p => !(ex.any fun q => q.1 == p.1)).map
          (fun p => (p.1, ym_renderJson jf p.2)) =
        (base.map fun p => (p.1, ym_renderJson jf p.2)).filter
          fun p => !(ex.any fun q => q.1 == p.1) := by
      rw [List.filter_map]; rfl
    unfold ym_nl
    rw [hf, rlookup_filter]
    intro p _ hpk
    simp only [Bool.not_eq_true', List.any_eq_false, beq_iff_eq]
    intro q hq e
    exact hne q hq (e.trans hpk)

/-- the keys of the hand-expanded form are distinct when those of `base` and of the explicit
    entries are: it is a legitimate JSON object -/
theorem ym_handExpand_nodup (base ex : ym_LFields) (hb : (base.map (·.1)).Nodup)
    (he : (ex.map (·.1)).Nodup) : ((ym_handExpand base ex).map (·.1)).Nodup := by
  unfold ym_handExpand
  rw [List.map_append, List.nodup_append]
  refine ⟨(List.filter_sublist.map _).nodup hb, he, ?_⟩
  intro a ha b hb' e
  subst e
  obtain ⟨p, hp, rfl⟩ := List.mem_map.1 ha
  obtain ⟨q, hq, hqk⟩ := List.mem_map.1 hb'
  have := (List.mem_filter.1 hp).2
  simp only [Bool.not_eq_true', List.any_eq_false, beq_iff_eq] at this
  exact this q hq hqk

theorem ym_merge_equals_json (jf yf : Int → String) (base pre post : ym_LFields)
    (hb : ym_okFields base = true) (hpre : ym_okFields pre = true) (hpost : ym_okFields post = true) :
    (yamlTranslate (.mapping (ym_renderYamlFields yf pre ++
        ("<<", ym_renderYaml yf (.map base)) :: ym_renderYamlFields yf post)) >>= normalize) =
      normalize (ym_renderJson jf (.map (ym_handExpand base (pre ++ post)))) := by
  have hex := ym_okFields_append hpre hpost
  have hhx := ym_handExpand_ok base (pre ++ post) hb hex
  -- the JSON side
  rw [(ym_three_formats jf yf (.map (ym_handExpand base (pre ++ post)))
    (by rw [ym_Logical.ok]; exact hhx)).1]
  -- the YAML side
  obtain ⟨lb, b1, b2⟩ := ym_yamlFields_val yf base hb
  obtain ⟨ls, l1, l2⟩ := ym_yamlFields_val yf (pre ++ post) hex
  rw [ym_renderYamlFields_eq_map, List.map_append, ← ym_renderYamlFields_eq_map,
    ← ym_renderYamlFields_eq_map] at l1
  have hx : yamlTranslate (ym_renderYaml yf (.map base)) = .ok (.map (lb.foldl rput [])) := by
    rw [ym_renderYaml, ym_T_mapping_noMerge _ (ym_renderYamlFields_noMerge yf base hb), b1]; rfl
  rw [ym_T_normalize _ _ (yamlTranslate_one_merge _ _ _ _ _ ls
    (ym_renderYamlFields_noMerge yf pre hpre) (ym_renderYamlFields_noMerge yf post hpost) hx
    (yamlMergeInto_map [] _) l1)]
  congr 1
  -- both are maps with the same normalised lookups
  obtain ⟨_, j2⟩ := ym_jsonFields_val jf _ hhx
  obtain ⟨_, jb⟩ := ym_jsonFields_val jf base hb
  obtain ⟨_, je⟩ := ym_jsonFields_val jf (pre ++ post) hex
  rw [ym_Logical.val, ← j2, ← ym_norm_map, ym_norm_map_eq_iff]
  intro k
  rw [ym_nl_foldl_rput, ym_nl_foldl_rput, ym_nl_foldl_rput, ym_nl_nil, Option.or_none,
    Option.or_none, ym_nl_handExpand,
    ym_nl_of_normFields_eq (l2.trans je.symm) k, ym_nl_of_normFields_eq (b2.trans jb.symm) k]

end Bkl
