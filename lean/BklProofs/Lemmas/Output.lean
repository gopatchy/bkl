/-
  The output stage (Bkl/Output.lean): the two loops of `validate` entry by entry and the only errors
  `validate` returns (`validate_error`), the companions of `finalize` as maps, and `emit` as two recursive loops (`emitSelect`, `emitFinish`)
  with what each of them returns and `emit` one document at a time; at the end the specification of C07
  (`badString`, `clean`) with `validate_iff`, which C11 also rests on.  Nothing before that mentions the
  specification functions of the property files.
-/
import Bkl.Output
import BklProofs.Lemmas.ValInduction
import BklProofs.Lemmas.Except
namespace Bkl

/-! ## the two loops of `validate`, entry by entry -/

theorem validateList_ok {xs : List Val} : validateList xs = .ok () ↔ ∀ x ∈ xs, validate x = .ok () :=
  forM_of_eqns validateList.eq_1 validateList.eq_2

theorem validateFields_cons (p : String × Val) (l : Fields) :
    validateFields (p :: l) = (do (do validateString p.1; validate p.2); validateFields l) := by
  rw [validateFields]; cases validateString p.1 <;> rfl

theorem validateFields_ok_iff (s : Fields) :
    validateFields s = .ok () ↔
      ∀ p ∈ s, validateString p.1 = .ok () ∧ validate p.2 = .ok () :=
  (forM_of_eqns validateFields.eq_1 validateFields_cons).trans (forall₂_congr fun _ _ => o_seq_ok)

/-! ## the only errors of `validate` -/

theorem validateString_error (s : String) (e : Err) (h : validateString s = .error e) :
    e = .requiredField ∨ e = .invalidDirective := by
  unfold validateString validateChars at h
  split at h
  · cases h; left; rfl
  · split at h
    · split at h
      · cases h; right; rfl
      · cases h
    · cases h

theorem validate_error (v : Val) (e : Err) :
    validate v = .error e → e = .requiredField ∨ e = .invalidDirective := by
  induction v using Val.induction_mem with
  | map kvs ih =>
    intro h
    rw [validate] at h
    obtain ⟨p, hp, hf⟩ := forM_error_of_eqns validateFields.eq_1 validateFields_cons h
    exact (o_seq_error hf).elim (validateString_error _ e) (ih p hp)
  | list xs ih =>
    intro h
    rw [validate] at h
    obtain ⟨x, hx, hf⟩ := forM_error_of_eqns validateList.eq_1 validateList.eq_2 h
    exact ih x hx hf
  | str s => intro h; rw [validate] at h; exact validateString_error s e h
  | _ => intro h; cases h

theorem validate_error_list : ∀ (xs : List Val) (e : Err), validateList xs = .error e →
    e = .requiredField ∨ e = .invalidDirective :=
  fun xs e h => validate_error (.list xs) e (by rwa [validate])
theorem validate_error_fields : ∀ (kvs : Fields) (e : Err), validateFields kvs = .error e →
    e = .requiredField ∨ e = .invalidDirective :=
  fun kvs e h => validate_error (.map kvs) e (by rwa [validate])

/-! ## the companions of `finalize` -/

theorem finalizeList_eq_map (xs : List Val) : finalizeList xs = xs.map finalize :=
  map_of_eqns finalizeList.eq_1 finalizeList.eq_2 xs

theorem finalizeFields_eq_map (kvs : Fields) :
    finalizeFields kvs = kvs.map fun p => (finalizeString p.1, finalize p.2) :=
  map_of_eqns finalizeFields.eq_1 (fun p l => finalizeFields.eq_2 p.1 p.2 l) kvs

/-! ## `emit` without `for` loops -/

/-- first loop of `emit`: the selected documents of every processed document -/
def emitSelect : List Val → R (List Val)
  | [] => pure []
  | d :: ds => do
    let (obj, sel) ← findOutputs d
    let rest ← emitSelect ds
    pure ((if sel.isEmpty then [obj] else sel) ++ rest)

def emitFinish : List Val → R (List Val)
  | [] => pure []
  | v :: vs => do
    match ← filterOutput v with
    | none => emitFinish vs
    | some v2 => do
      validate v2
      let rest ← emitFinish vs
      pure (finalize v2 :: rest)

theorem emit_loop1 (ds : List Val) (acc : List Val) :
    (forIn ds acc fun d r => do
      let (obj, sel) ← findOutputs d
      pure (ForInStep.yield (r ++ (if sel.isEmpty then [obj] else sel)))) =
    (do let r ← emitSelect ds; pure (acc ++ r) : R (List Val)) := by
  induction ds generalizing acc with
  | nil => simp [emitSelect]
  | cons d ds ih =>
    simp only [List.forIn_cons, emitSelect]
    cases findOutputs d with
    | error e => rfl
    | ok p =>
      refine (ih (acc ++ (if p.2.isEmpty then [p.1] else p.2))).trans ?_
      cases emitSelect ds <;> simp [bind, Except.bind, pure, Except.pure]

theorem emit_loop2 (vs : List Val) (acc : List Val) :
    (forIn vs acc fun v r => do
      match ← filterOutput v with
      | none => pure (ForInStep.yield r)
      | some v2 => do
        validate v2
        pure (ForInStep.yield (r ++ [finalize v2]))) =
    (do let r ← emitFinish vs; pure (acc ++ r) : R (List Val)) := by
  induction vs generalizing acc with
  | nil => simp [emitFinish]
  | cons d ds ih =>
    simp only [List.forIn_cons, emitFinish]
    cases filterOutput d with
    | error e => rfl
    | ok p =>
      cases p with
      | none => exact ih acc
      | some v2 =>
        simp only [bind, Except.bind]
        cases validate v2 with
        | error e => rfl
        | ok u =>
          refine (ih (acc ++ [finalize v2])).trans ?_
          cases emitFinish ds <;> simp [bind, Except.bind, pure, Except.pure]

theorem emit_eq (ds : List Val) : emit ds = (do let outs ← emitSelect ds; emitFinish outs) := by
  unfold emit
  simp only [emit_loop1, List.nil_append, bind_pure]
  congr 1; funext s
  exact (emit_loop2 s []).trans (by simp only [List.nil_append, bind_pure])

theorem os_emit_eq (ds : List Val) :
    emit ds = match emitSelect ds with
      | .error e => .error e
      | .ok vs => emitFinish vs := by
  rw [emit_eq]; cases emitSelect ds <;> rfl

theorem emit_ok {ds outs : List Val} (h : emit ds = .ok outs) :
    ∃ vs, emitSelect ds = .ok vs ∧ emitFinish vs = .ok outs := by
  rw [os_emit_eq] at h
  split at h
  · cases h
  · next vs hs => exact ⟨vs, hs, h⟩

theorem emit_single (v v2 : Val) (h1 : findOutputs v = .ok (v, []))
    (h2 : filterOutput v = .ok (some v2)) :
    emit [v] = (do validate v2; pure [finalize v2]) := by
  have e1 : emitSelect [v] = .ok [v] := by simp only [emitSelect, h1]; rfl
  have e2 : emitFinish [v] = (do validate v2; pure [finalize v2]) := by
    simp only [emitFinish, h2, ok_bind]; cases validate v2 <;> rfl
  rw [emit_eq, e1]; exact e2

theorem e_emit_null : emit [.null] = .ok [] := by rw [emit_eq]; rfl

/-! ## the second loop -/

theorem os_emitFinish_nil : emitFinish [] = .ok [] := rfl

theorem os_emitFinish_cons (v : Val) (vs : List Val) :
    emitFinish (v :: vs) =
      match filterOutput v with
      | .error e => .error e
      | .ok none => emitFinish vs
      | .ok (some v2) =>
        match validate v2 with
        | .error e => .error e
        | .ok _ =>
          match emitFinish vs with
          | .error e => .error e
          | .ok rest => .ok (finalize v2 :: rest) := by
  simp only [emitFinish]
  cases filterOutput v with
  | error e => rfl
  | ok r =>
    cases r with
    | none => rfl
    | some v2 =>
      simp only [bind, Except.bind]
      cases validate v2 with
      | error e => rfl
      | ok u => simp only []; cases emitFinish vs <;> rfl

theorem os_emitFinish_ok_iff (vs outs : List Val) :
    emitFinish vs = .ok outs ↔
      (∀ v ∈ vs, ∃ r, filterOutput v = .ok r ∧ ∀ v2, r = some v2 → validate v2 = .ok ()) ∧
      outs = vs.filterMap fun v =>
        match filterOutput v with
        | .ok (some v2) => some (finalize v2)
        | _ => none := by
  induction vs generalizing outs with
  | nil => exact ⟨fun h => ⟨nofun, by cases h; rfl⟩, fun h => h.2 ▸ rfl⟩
  | cons v vs ih =>
    rw [os_emitFinish_cons, List.forall_mem_cons, List.filterMap_cons]
    cases hf : filterOutput v with
    | error e => exact ⟨nofun, fun h => by obtain ⟨⟨⟨_, h, _⟩, _⟩, _⟩ := h; cases h⟩
    | ok r =>
      cases r with
      | none =>
        rw [ih outs]
        exact ⟨fun h => ⟨⟨⟨none, rfl, nofun⟩, h.1⟩, h.2⟩, fun h => ⟨h.1.2, h.2⟩⟩
      | some v2 =>
        dsimp only
        cases hv : validate v2 with
        | error e =>
          refine ⟨fun h => (by cases h), fun h => ?_⟩
          obtain ⟨⟨⟨_, h, h'⟩, _⟩, _⟩ := h
          cases h
          cases hv.symm.trans (h' v2 rfl)
        | ok u =>
          have hP : ∃ r, (.ok (some v2) : R (Option Val)) = .ok r ∧ ∀ w, r = some w → validate w = .ok () :=
            ⟨_, rfl, fun w hw => by cases hw; exact hv⟩
          constructor
          · intro h
            cases hr : emitFinish vs with
            | error e => rw [hr] at h; cases h
            | ok rest =>
              rw [hr] at h; cases h
              obtain ⟨h1, h2⟩ := (ih rest).1 hr
              exact ⟨⟨hP, h1⟩, congrArg _ h2⟩
          · rintro ⟨⟨_, h1⟩, rfl⟩
            rw [(ih _).2 ⟨h1, rfl⟩]

theorem os_emitFinish_ok (vs outs : List Val) (h : emitFinish vs = .ok outs) :
    outs = vs.filterMap fun v =>
      match filterOutput v with
      | .ok (some v2) => some (finalize v2)
      | _ => none :=
  ((os_emitFinish_ok_iff vs outs).1 h).2

theorem emitFinish_mem (vs outs : List Val) (h : emitFinish vs = .ok outs) (o : Val)
    (ho : o ∈ outs) :
    ∃ v ∈ vs, ∃ v2, filterOutput v = .ok (some v2) ∧ validate v2 = .ok () ∧ o = finalize v2 := by
  obtain ⟨h1, rfl⟩ := (os_emitFinish_ok_iff vs outs).1 h
  obtain ⟨v, hv, he⟩ := List.mem_filterMap.1 ho
  obtain ⟨r, hr, hval⟩ := h1 v hv
  rw [hr] at he
  cases r with
  | none => cases he
  | some v2 => cases he; exact ⟨v, hv, v2, hr, hval v2 rfl, rfl⟩

theorem os_emitFinish_append_ok (a b outs : List Val) :
    emitFinish (a ++ b) = .ok outs ↔
      ∃ o1 o2, emitFinish a = .ok o1 ∧ emitFinish b = .ok o2 ∧ outs = o1 ++ o2 := by
  simp only [os_emitFinish_ok_iff, List.mem_append, or_imp, forall_and, List.filterMap_append]
  constructor
  · rintro ⟨⟨ha, hb⟩, rfl⟩
    exact ⟨_, _, ⟨ha, rfl⟩, ⟨hb, rfl⟩, rfl⟩
  · rintro ⟨_, _, ⟨ha, rfl⟩, ⟨hb, rfl⟩, rfl⟩
    exact ⟨⟨ha, hb⟩, rfl⟩

/-! ## the first loop -/

theorem os_emitSelect_single (d : Val) :
    emitSelect [d] =
      match findOutputs d with
      | .error e => .error e
      | .ok (obj, sel) => .ok (if sel.isEmpty then [obj] else sel) := by
  simp only [emitSelect]
  cases findOutputs d with
  | error e => rfl
  | ok p => simp [bind, Except.bind, pure, Except.pure]

theorem os_emitSelect_cons (d : Val) (ds : List Val) :
    emitSelect (d :: ds) =
      match emitSelect [d] with
      | .error e => .error e
      | .ok a =>
        match emitSelect ds with
        | .error e => .error e
        | .ok b => .ok (a ++ b) := by
  rw [os_emitSelect_single]
  simp only [emitSelect]
  cases findOutputs d with
  | error e => rfl
  | ok p =>
    simp only [bind, Except.bind, pure, Except.pure]
    cases emitSelect ds <;> rfl

theorem emitSelect_mem : ∀ (ds vs : List Val), emitSelect ds = .ok vs → ∀ v ∈ vs,
    ∃ d ∈ ds, ∃ obj sel, findOutputs d = .ok (obj, sel) ∧ ((sel = [] ∧ v = obj) ∨ v ∈ sel)
  | [], vs, h, v, hv => by cases h; cases hv
  | d :: ds, vs, h, v, hv => by
    rw [os_emitSelect_cons, os_emitSelect_single] at h
    cases hf : findOutputs d with
    | error e => rw [hf] at h; cases h
    | ok p =>
      obtain ⟨obj, sel⟩ := p
      cases hr : emitSelect ds with
      | error e => rw [hf, hr] at h; cases h
      | ok rest =>
        rw [hf, hr] at h
        cases h
        rcases List.mem_append.1 hv with hv' | hv'
        · refine ⟨d, List.mem_cons_self, obj, sel, hf, ?_⟩
          cases sel with
          | nil => exact Or.inl ⟨rfl, List.mem_singleton.1 hv'⟩
          | cons a b => exact Or.inr hv'
        · obtain ⟨d', hd', rest'⟩ := emitSelect_mem ds rest hr v hv'
          exact ⟨d', List.mem_cons_of_mem _ hd', rest'⟩

/-! ## `emit`, one document at a time -/

theorem os_emit_cons_ok (d : Val) (ds outs : List Val) :
    emit (d :: ds) = .ok outs ↔
      ∃ o1 o2, emit [d] = .ok o1 ∧ emit ds = .ok o2 ∧ outs = o1 ++ o2 := by
  rw [os_emit_eq, os_emit_eq [d], os_emit_eq ds, os_emitSelect_cons]
  cases h1 : emitSelect [d] with
  | error e => simp
  | ok a =>
    cases h2 : emitSelect ds with
    | error e => simp
    | ok b => exact os_emitFinish_append_ok a b outs

theorem os_emit_nil : emit [] = .ok [] := by rw [os_emit_eq]; rfl

theorem os_emit_ok_iff (ds outs : List Val) :
    emit ds = .ok outs ↔
      ∃ oss, ds.mapM (fun d => emit [d]) = .ok oss ∧ outs = oss.flatten := by
  induction ds generalizing outs with
  | nil =>
    rw [os_emit_nil, mapM_nil]
    constructor
    · intro h; cases h; exact ⟨[], rfl, rfl⟩
    · rintro ⟨oss, h, rfl⟩; cases h; rfl
  | cons d ds ih =>
    rw [os_emit_cons_ok]
    simp only [mapM_cons_ok]
    constructor
    · rintro ⟨o1, o2, h1, h2, rfl⟩
      obtain ⟨oss, h3, rfl⟩ := (ih o2).1 h2
      exact ⟨o1 :: oss, ⟨o1, oss, h1, h3, rfl⟩, rfl⟩
    · rintro ⟨_, ⟨o1, os, h1, h3, rfl⟩, rfl⟩
      exact ⟨o1, os.flatten, h1, (ih _).2 ⟨os, h3, rfl⟩, rfl⟩

/-! ## the specification of C07: no `badString` as a key or a string leaf -/

/-- a string the output stage must reject: exactly "$required", or `$` followed by a
    lower-case letter (a directive that was not consumed) -/
def badString (s : String) : Bool :=
  decide (s.toList = "$required".toList) ||
  match s.toList with
  | '$' :: c :: _ => isLowerModel c
  | _ => false

mutual
/-- no map key and no string leaf is a `badString` -/
def clean : Val → Bool
  | .str s => !badString s
  | .list xs => cleanList xs
  | .map kvs => cleanFields kvs
  | _ => true
def cleanList : List Val → Bool
  | [] => true
  | x :: xs => clean x && cleanList xs
def cleanFields : Fields → Bool
  | [] => true
  | (k, v) :: rest => !badString k && clean v && cleanFields rest
end

/-! ## `validate` accepts exactly the clean trees -/

theorem validateString_iff (s : String) : validateString s = .ok () ↔ badString s = false := by
  unfold validateString validateChars badString
  by_cases h : s.toList = "$required".toList
  · simp [h, throw, throwThe, MonadExceptOf.throw]
  · simp only [h, if_false, decide_false, Bool.false_or]
    split
    · rename_i c rest heq
      by_cases hc : isLowerModel c <;> simp [heq, hc, throw, throwThe, MonadExceptOf.throw, pure, Except.pure]
    · simp [pure, Except.pure]

theorem cleanList_iff {xs : List Val} : cleanList xs = true ↔ ∀ x ∈ xs, clean x = true :=
  all_of_eqns cleanList.eq_1 cleanList.eq_2

theorem cleanFields_iff {kvs : Fields} :
    cleanFields kvs = true ↔ ∀ p ∈ kvs, (!badString p.1 && clean p.2) = true :=
  all_of_eqns cleanFields.eq_1 fun p l => cleanFields.eq_2 p.1 p.2 l

theorem validate_iff : ∀ (v : Val), validate v = .ok () ↔ clean v = true := by
  intro v
  induction v using Val.induction_mem with
  | map kvs ih =>
    rw [validate, clean, validateFields_ok_iff, cleanFields_iff]
    refine forall₂_congr fun p hp => ?_
    rw [validateString_iff, ih p hp, Bool.and_eq_true, Bool.not_eq_true']
  | list xs ih =>
    rw [validate, clean, validateList_ok, cleanList_iff]
    exact forall₂_congr ih
  | str s => simp [validate, clean, validateString_iff]
  | _ => simp [validate, clean, pure, Except.pure]

theorem validate_iff_list : ∀ (xs : List Val), validateList xs = .ok () ↔ cleanList xs = true :=
  fun xs => (validate_iff (.list xs)).trans (by rw [clean])
theorem validate_iff_fields : ∀ (kvs : Fields), validateFields kvs = .ok () ↔ cleanFields kvs = true :=
  fun kvs => (validate_iff (.map kvs)).trans (by rw [clean])

end Bkl
