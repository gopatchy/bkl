/-
  BklProofs.Lemmas.Process1 — `process1` (process1.go) and `get` (get.go): the equations of `process1` on
  each form of input and of its pieces (`mapStep_eq`, `entryStep_eq`, `listFinish_error` / `_replace` / `_entries`), the
  five things one unfolding can do (`p1View`; `Forwards`, `FwdForm`: the forms that only follow a reference), the step
  `mapStep` of the fold over a map's entries (`mapStep_key`: at a key that is no reference; `mapFold_*`: what the fold
  produces on such keys; `process1_map_error_at`: the first entry that fails), the list step, the map-level `$merge` host in
  one equation (`process1_merge_eq`: resolve, `merge`, evaluate in place or as a copy, `mergesInPlace`; at a top-level key of
  the root: `process1_merge_top`), references that denote a key path (`PathRef`, `Forwards.to_path`; a dotted string is one,
  `pathRef_str`), paths and locations (`setPath`, `getLoc`, `getPath`), the frame property of the threaded root
  (`process1_frame`), and fuel monotonicity (`process1_mono`: more fuel changes no result but the depth guard).
-/
import Bkl.Process1
import BklProofs.Lemmas.MergeList
import BklProofs.Lemmas.SplitOn
import BklProofs.Lemmas.Escape
namespace Bkl

/-! ## the pieces of `process1`, named -/

/-- the fold step of the plain-map case: evaluate the value, then the key -/
def mapStep (fuel : Nat) (docs : List Val) (loc : Loc) :
    Fields × Val → String × Val → R (Fields × Val) :=
  fun (acc, rt) (k, v) => do
    let (v2, rt1) ← process1 fuel docs rt (childLoc loc k) v
    if v2.isNull then pure (acc, rt1)
    else do
      let (k2, rt2) ← process1 fuel docs rt1 none (.str k)
      match k2 with
      | .str ks => pure (fset acc ks v2, rt2)
      | _ => throw Err.invalidType

/-- the referenced values that a map-level `$merge` takes in IN PLACE (the merged value is written
    back at the host's location and evaluated there): a map without the `$replace: true` marker,
    or `null`.  Everything else continues as a copy. -/
def mergesInPlace : Val → Bool
  | .map s => !fhasBool s "$replace" true
  | .null => true
  | _ => false

/-- the references of the single-key `{$merge: ref}` entries of a list -/
def listMerges (xs : List Val) : List Val :=
  xs.filterMap fun v => match v with
    | .map [(k, ref)] => if k == "$merge" then some ref else none
    | _ => none

def notMergeEntry (v : Val) : Bool :=
  match v with
  | .map [(k, _)] => !(k == "$merge")
  | _ => true

def notReplaceEntry (v : Val) : Bool :=
  match v with
  | .map [(k, _)] => !(k == "$replace")
  | _ => true

/-- the entries of a list that are not `{$merge: ref}`, tagged with their index -/
def listObj0 (xs : List Val) : Tagged :=
  (xs.zipIdx.filter fun (v, _) => notMergeEntry v).map fun (v, i) => (v, some i)

/-- fold step over the collected `$merge` references of a list -/
def mergeRefStep (root : Val) (docs : List Val) (acc : Tagged) (ref : Val) : R Tagged := do
  let inp ← get root docs ref
  match inp with
  | .list s => mergeListTagged acc s
  | .null => pure acc
  | _ => throw Err.invalidType

/-- fold step evaluating the entries of a list -/
def entryStep (fuel : Nat) (docs : List Val) (loc : Loc) :
    List Val × Val → Val × Option Nat → R (List Val × Val) :=
  fun (acc, rt) (v, tag) => do
    let (v2, rt1) ← process1 fuel docs rt (entryLoc loc tag) v
    if v2.isNull then pure (acc, rt1) else pure (acc ++ [v2], rt1)

/-- the rest of the list case once the `$merge` entries have been merged in: look for a
    `{$replace: ref}` entry, otherwise evaluate the entries in order -/
def listFinish (fuel : Nat) (docs : List Val) (root : Val) (loc : Loc) (obj1 : Tagged) :
    R (Val × Val) := do
  let (rep, _) ← popListMapValue (obj1.map (·.1)) "$replace"
  if !rep.isNull then do
    let next ← get root docs rep
    process1 fuel docs root none next
  else do
    let obj2 := obj1.filter fun (v, _) => notReplaceEntry v
    let (ret, root') ← obj2.foldlM (entryStep fuel docs loc) (([] : List Val), root)
    pure (.list ret, root')

/-! ## the equations of the pieces -/

theorem mapStep_eq (fuel : Nat) (docs : List Val) (loc : Loc) (acc : Fields) (rt : Val) (k : String)
    (v : Val) :
    mapStep fuel docs loc (acc, rt) (k, v) =
      (process1 fuel docs rt (childLoc loc k) v >>= fun r =>
        if r.1.isNull then pure (acc, r.2)
        else process1 fuel docs r.2 none (.str k) >>= fun q =>
          match q.1 with
          | .str ks => pure (fset acc ks r.1, q.2)
          | _ => throw Err.invalidType) := rfl

theorem entryStep_eq (fuel : Nat) (docs : List Val) (loc : Loc) (acc : List Val) (rt v : Val)
    (tag : Option Nat) :
    entryStep fuel docs loc (acc, rt) (v, tag) =
      (process1 fuel docs rt (entryLoc loc tag) v >>= fun r =>
        if r.1.isNull then pure (acc, r.2) else pure (acc ++ [r.1], r.2)) := rfl

section
variable {fuel : Nat} {docs : List Val} {root : Val} {loc : Loc} {obj1 : Tagged}

theorem listFinish_error {e : Err}
    (h : popListMapValue (obj1.map (·.1)) "$replace" = .error e) :
    listFinish fuel docs root loc obj1 = .error e := by
  rw [listFinish, h]; rfl

/-- a `{$replace: ref}` entry: the list forwards to `ref` -/
theorem listFinish_replace {rep : Val} {rest : List Val}
    (h : popListMapValue (obj1.map (·.1)) "$replace" = .ok (rep, rest)) (hn : rep.isNull = false) :
    listFinish fuel docs root loc obj1 =
      (get root docs rep >>= fun next => process1 fuel docs root none next) := by
  rw [listFinish, h, ok_bind]
  simp only [hn, Bool.not_false, if_true]

/-- no such entry: the entries are evaluated in order -/
theorem listFinish_entries {rep : Val} {rest : List Val}
    (h : popListMapValue (obj1.map (·.1)) "$replace" = .ok (rep, rest)) (hn : rep.isNull = true) :
    listFinish fuel docs root loc obj1 =
      ((obj1.filter fun q => notReplaceEntry q.1).foldlM (entryStep fuel docs loc)
        (([] : List Val), root) >>= fun r => pure (.list r.1, r.2)) := by
  rw [listFinish, h, ok_bind]
  simp only [hn, Bool.not_true, Bool.false_eq_true, if_false]

end

theorem setPath_setPath : ∀ (p : List PathElem) (r x y : Val),
    setPath (setPath r p x) p y = setPath r p y := by
  intro p
  induction p with
  | nil => intro r x y; rfl
  | cons e ps ih =>
    intro r x y
    cases e with
    | key k =>
      cases r with
      | map m =>
        cases hc : fget m k with
        | none => simp only [setPath, hc]
        | some c => simp only [setPath, hc, fget_fset_same, fset_fset_same, ih]
      | _ => rfl
    | idx i =>
      cases r with
      | list xs =>
        cases hc : xs[i]? with
        | none => simp only [setPath, hc]
        | some c =>
          have hi : i < xs.length := (List.getElem?_eq_some_iff.1 hc).1
          simp only [setPath, hc, List.getElem?_set_self hi, List.set_set, ih]
      | _ => rfl

theorem setLoc_setLoc (r : Val) (loc : Loc) (x y : Val) :
    setLoc (setLoc r loc x) loc y = setLoc r loc y := by
  cases loc with
  | none => rfl
  | some p => exact setPath_setPath p r x y

theorem mergesInPlace_other {v : Val} (h1 : v.isMap = false) (h2 : v.isNull = false) :
    mergesInPlace v = false := by
  cases v <;> first | rfl | (cases h1; done) | cases h2

/-! ## the equations of `process1`, one per form of the value -/

theorem process1_zero (docs : List Val) (root : Val) (loc : Loc) (obj : Val) :
    process1 0 docs root loc obj = .error .circularRef := rfl

/-- `{$merge: ref, …local…}` at `loc`: delete the key (in the root too), resolve `ref` against
    that root, `merge local referenced`, and evaluate the result, in place or as a copy. -/
theorem process1_merge_eq {fuel : Nat} {docs : List Val} {root : Val} {loc : Loc} {kvs : Fields}
    {ref : Val} (h : fget kvs "$merge" = some ref) :
    process1 (fuel + 1) docs root loc (.map kvs) =
      (get (setLoc root loc (.map (fdel kvs "$merge"))) docs ref >>= fun inp =>
        merge (.map (fdel kvs "$merge")) inp >>= fun nv =>
          if mergesInPlace inp then
            process1 fuel docs (setLoc (setLoc root loc (.map (fdel kvs "$merge"))) loc nv) loc nv
          else process1 fuel docs (setLoc root loc (.map (fdel kvs "$merge"))) none nv) := by
  rw [process1, h]
  refine congrArg (get _ docs ref >>= ·) (funext fun inp => ?_)
  -- the three arms of the model text: a map, `null`, anything else
  split
  · rename_i s
    rw [merge_map_map]
    cases hr : fhasBool s "$replace" true with
    | true =>
      rw [mergeMapMap_replace hr]
      simp only [mergesInPlace, hr, Bool.not_true, Bool.false_eq_true, if_false, if_true]
      rfl
    | false =>
      rw [mergeMapMap_noreplace hr]
      simp only [mergesInPlace, hr, Bool.false_eq_true, if_false]
      cases mergeFields (fdel kvs "$merge") s <;> rfl
  · rw [merge_map_null, ok_bind]
    simp only [mergesInPlace, if_true, setLoc_setLoc]
  · rename_i hm hn
    have h1 : inp.isMap = false := by cases inp <;> first | rfl | exact (hm _ rfl).elim
    have h2 : inp.isNull = false := by cases inp <;> first | rfl | exact (hn rfl).elim
    rw [merge_map_other _ _ h1 h2, mergesInPlace_other h1 h2]
    cases (fdel kvs "$merge").isEmpty <;> rfl

theorem process1_map_replace {fuel : Nat} {docs : List Val} {root : Val} {loc : Loc} {kvs : Fields}
    {ref : Val} (h0 : fget kvs "$merge" = none) (h : fget kvs "$replace" = some ref) :
    process1 (fuel + 1) docs root loc (.map kvs) =
      (get root docs ref >>= fun next => process1 fuel docs root none next) := by
  rw [process1, h0, h]

theorem process1_map_plain {fuel : Nat} {docs : List Val} {root : Val} {loc : Loc} {kvs : Fields}
    (h0 : fget kvs "$merge" = none) (h : fget kvs "$replace" = none) :
    process1 (fuel + 1) docs root loc (.map kvs) =
      (kvs.foldlM (mapStep fuel docs loc) (([] : Fields), root) >>= fun r =>
        pure (.map r.1, r.2)) := by
  rw [process1, h0, h]; rfl

theorem process1_list (fuel : Nat) (docs : List Val) (root : Val) (loc : Loc) (xs : List Val) :
    process1 (fuel + 1) docs root loc (.list xs) =
      ((listMerges xs).foldlM (mergeRefStep root docs) (listObj0 xs) >>=
        listFinish fuel docs root loc) := rfl

theorem process1_str_merge {fuel : Nat} {docs : List Val} {root : Val} {loc : Loc} {s p : String}
    (h : stripPrefix s "$merge:" = some p) :
    process1 (fuel + 1) docs root loc (.str s) =
      (get root docs (.str p) >>= fun inp => process1 fuel docs root none inp) := by
  rw [process1, h]

theorem process1_str_replace {fuel : Nat} {docs : List Val} {root : Val} {loc : Loc} {s p : String}
    (h0 : stripPrefix s "$merge:" = none) (h : stripPrefix s "$replace:" = some p) :
    process1 (fuel + 1) docs root loc (.str s) =
      (get root docs (.str p) >>= fun inp => process1 fuel docs root none inp) := by
  rw [process1, h0, h]

theorem process1_str_plain {fuel : Nat} {docs : List Val} {root : Val} {loc : Loc} {s : String}
    (h0 : stripPrefix s "$merge:" = none) (h : stripPrefix s "$replace:" = none) :
    process1 (fuel + 1) docs root loc (.str s) = .ok (.str s, root) := by
  rw [process1, h0, h]; rfl

theorem process1_null (fuel : Nat) (docs : List Val) (root : Val) (loc : Loc) :
    process1 (fuel + 1) docs root loc .null = .ok (.null, root) := rfl
theorem process1_bool (fuel : Nat) (docs : List Val) (root : Val) (loc : Loc) (b : Bool) :
    process1 (fuel + 1) docs root loc (.bool b) = .ok (.bool b, root) := rfl
theorem process1_int (fuel : Nat) (docs : List Val) (root : Val) (loc : Loc) (i : Int) :
    process1 (fuel + 1) docs root loc (.int i) = .ok (.int i, root) := rfl
theorem process1_flt (fuel : Nat) (docs : List Val) (root : Val) (loc : Loc) (r : String) :
    process1 (fuel + 1) docs root loc (.flt r) = .ok (.flt r, root) := rfl

theorem process1_empty_map (fuel : Nat) (docs : List Val) (root : Val) (loc : Loc) :
    process1 (fuel + 1) docs root loc (.map []) = .ok (.map [], root) := rfl

/-! ## what one unfolding does, by the form of the value alone -/

/-- `v` forwards to the reference `ref`: evaluating `v` (anywhere) resolves `ref` against the
    unchanged root and continues with a copy of the referenced value, one unit of fuel less -/
def Forwards (v ref : Val) : Prop :=
  ∀ (fuel : Nat) (docs : List Val) (root : Val) (loc : Loc),
    process1 (fuel + 1) docs root loc v =
      (get root docs ref >>= fun inp => process1 fuel docs root none inp)

/-- the three forms that do nothing but follow a reference -/
inductive FwdForm : Val → Val → Prop
  | strMerge {s p : String} (h : stripPrefix s "$merge:" = some p) : FwdForm (.str s) (.str p)
  | strReplace {s p : String} (h0 : stripPrefix s "$merge:" = none)
      (h : stripPrefix s "$replace:" = some p) : FwdForm (.str s) (.str p)
  | mapReplace {m : Fields} {ref : Val} (h0 : fget m "$merge" = none)
      (h : fget m "$replace" = some ref) : FwdForm (.map m) ref

theorem FwdForm.forwards {v ref : Val} (h : FwdForm v ref) : Forwards v ref := by
  intro fuel docs root loc
  cases h with
  | strMerge h => exact process1_str_merge h
  | strReplace h0 h => exact process1_str_replace h0 h
  | mapReplace h0 h => exact process1_map_replace h0 h

/-- The five things `process1` can do: hand a leaf back, follow a reference, expand a `$merge`
    host in place, fold over the entries of a map, process a list. -/
inductive P1View : Val → Prop
  | leaf {v : Val}
      (h : ∀ fuel docs root loc, process1 (fuel + 1) docs root loc v = .ok (v, root)) : P1View v
  | fwd {v ref : Val} (h : FwdForm v ref) : P1View v
  | host {m : Fields} {ref : Val} (h : fget m "$merge" = some ref) : P1View (.map m)
  | fold {m : Fields} (h0 : fget m "$merge" = none) (h1 : fget m "$replace" = none) :
      P1View (.map m)
  | list (xs : List Val) : P1View (.list xs)

theorem p1View (v : Val) : P1View v := by
  cases v with
  | null => exact .leaf (process1_null · · · ·)
  | bool b => exact .leaf (process1_bool · · · · b)
  | int i => exact .leaf (process1_int · · · · i)
  | flt r => exact .leaf (process1_flt · · · · r)
  | list xs => exact .list xs
  | str s =>
    cases hm : stripPrefix s "$merge:" with
    | some p => exact .fwd (.strMerge hm)
    | none =>
      cases hr : stripPrefix s "$replace:" with
      | some p => exact .fwd (.strReplace hm hr)
      | none => exact .leaf fun _ _ _ _ => process1_str_plain hm hr
  | map m =>
    cases hm : fget m "$merge" with
    | some ref => exact .host hm
    | none =>
      cases hr : fget m "$replace" with
      | some ref => exact .fwd (.mapReplace hm hr)
      | none => exact .fold hm hr

/-! ## references that denote a key path; a `$merge` host at a top-level key of the root -/

/-- `ref`, used as a reference, denotes the key path `ks` inside the referencing document -/
def PathRef (ref : Val) (ks : List String) : Prop :=
  ∀ (root : Val) (docs : List Val), get root docs ref = getPath root ks

/-- follow a reference that denotes a key path of the root -/
theorem Forwards.to_path {v ref t root : Val} {ks : List String} (hfw : Forwards v ref)
    (hp : PathRef ref ks) (ht : getPath root ks = .ok t) (fuel : Nat) (docs : List Val) (loc : Loc) :
    process1 (fuel + 1) docs root loc v = process1 fuel docs root none t := by
  rw [hfw, hp, ht, ok_bind]

theorem Forwards.dangling {v ref root : Val} {ks : List String} {e : Err} (hfw : Forwards v ref)
    (hp : PathRef ref ks) (ht : getPath root ks = .error e) (fuel : Nat) (docs : List Val)
    (loc : Loc) : process1 (fuel + 1) docs root loc v = .error e := by
  rw [hfw, hp, ht]; rfl

theorem setLoc_top_key {rk : Fields} {h : String} {x : Val} (v : Val) (hx : fget rk h = some x) :
    setLoc (.map rk) (some [.key h]) v = .map (fset rk h v) := by
  simp only [setLoc, setPath, hx]

/-- the host `.map m` at the top-level key `h` of the root `.map rk`, its reference denoting the
    key path `ks` (anywhere, even inside the host) -/
theorem process1_merge_top {fuel : Nat} {docs : List Val} {rk m : Fields} {h : String}
    {x ref : Val} {ks : List String} (hx : fget rk h = some x)
    (hm : fget m "$merge" = some ref) (hp : PathRef ref ks) :
    process1 (fuel + 1) docs (.map rk) (some [.key h]) (.map m) =
      (getPath (.map (fset rk h (.map (fdel m "$merge")))) ks >>= fun t =>
        merge (.map (fdel m "$merge")) t >>= fun nv =>
          if mergesInPlace t then process1 fuel docs (.map (fset rk h nv)) (some [.key h]) nv
          else process1 fuel docs (.map (fset rk h (.map (fdel m "$merge")))) none nv) := by
  rw [process1_merge_eq hm, hp]
  simp only [setLoc_top_key _ hx, setLoc_top_key _ (fget_fset_same _ _ _), fset_fset_same]

/-! ## keys that are references -/

/-- a string that `process1` treats as a reference -/
def refStr (s : String) : Bool :=
  "$merge:".toList.isPrefixOf s.toList || "$replace:".toList.isPrefixOf s.toList

/-- a map key that makes `process1` resolve a reference -/
def refKey (k : String) : Bool := k == "$merge" || k == "$replace" || refStr k

theorem refKey_false {k : String} (h : refKey k = false) :
    k ≠ "$merge" ∧ k ≠ "$replace" ∧ stripPrefix k "$merge:" = none ∧
      stripPrefix k "$replace:" = none := by
  simp only [refKey, refStr, Bool.or_eq_false_iff, beq_eq_false_iff_ne] at h
  exact ⟨h.1.1, h.1.2, e_stripPrefix_none h.2.1, e_stripPrefix_none h.2.2⟩

theorem refKey_of_unrecognised {s : String} (h : recognisedCore s = false) : refKey s = false := by
  have h1 := e_rc_names h _ e_merge_mem
  have h2 := e_rc_names h _ e_replace_mem
  simp only [recognisedCore, recogChars, Bool.or_eq_false_iff] at h
  simp only [refKey, refStr, Bool.or_eq_false_iff, beq_eq_false_iff_ne]
  exact ⟨⟨h1, h2⟩, h.1.1.1.1.2, h.1.1.1.2⟩

/-! ## the fold over the entries of a map -/

theorem mapStep_key {fuel : Nat} {docs : List Val} {loc : Loc} {k : String} {v : Val}
    (hk : refKey k = false) (acc : Fields) (rt : Val) :
    mapStep fuel docs loc (acc, rt) (k, v) =
      (process1 fuel docs rt (childLoc loc k) v >>= fun r =>
        pure (if r.1.isNull then acc else fset acc k r.1, r.2)) := by
  cases fuel with
  | zero => simp only [mapStep, process1_zero]; rfl
  | succ f =>
    simp only [mapStep, process1_str_plain (refKey_false hk).2.2.1 (refKey_false hk).2.2.2]
    cases process1 (f + 1) docs rt (childLoc loc k) v with
    | error e => rfl
    | ok r => cases hn : r.1.isNull <;> simp only [ok_bind, hn] <;> rfl

theorem mapStep_ok {fuel : Nat} {docs : List Val} {loc : Loc} {acc : Fields} {rt rt1 : Val}
    {k : String} {v x : Val} (hk : refKey k = false)
    (h : process1 fuel docs rt (childLoc loc k) v = .ok (x, rt1)) (hn : x.isNull = false) :
    mapStep fuel docs loc (acc, rt) (k, v) = .ok (fset acc k x, rt1) := by
  rw [mapStep_key hk, h, ok_bind]
  simp only [hn]; rfl

theorem mapStep_err {fuel : Nat} {docs : List Val} {loc : Loc} {acc : Fields} {rt : Val}
    {k : String} {v : Val} {e : Err}
    (h : process1 fuel docs rt (childLoc loc k) v = .error e) :
    mapStep fuel docs loc (acc, rt) (k, v) = .error e := by
  simp only [mapStep, h]; rfl

theorem no_ref_keys {m : Fields} (h : ∀ p ∈ m, refKey p.1 = false) :
    fget m "$merge" = none ∧ fget m "$replace" = none :=
  ⟨fget_none_iff.2 fun p hp => (refKey_false (h p hp)).1,
   fget_none_iff.2 fun p hp => (refKey_false (h p hp)).2.1⟩

theorem process1_map_plain_inv {fuel : Nat} {docs : List Val} {root : Val} {loc : Loc}
    {m : Fields} {x rt : Val} (hkeys : ∀ p ∈ m, refKey p.1 = false)
    (h : process1 (fuel + 1) docs root loc (.map m) = .ok (x, rt)) :
    ∃ r, x = .map r ∧ m.foldlM (mapStep fuel docs loc) (([] : Fields), root) = .ok (r, rt) := by
  rw [process1_map_plain (no_ref_keys hkeys).1 (no_ref_keys hkeys).2] at h
  obtain ⟨⟨r, rt'⟩, h3, h4⟩ := R_bind_eq_ok.1 h
  cases h4
  exact ⟨r, rfl, h3⟩

theorem mapFold_ok {fuel : Nat} {docs : List Val} {root : Val} {loc : Loc} {l : Fields}
    (h : ∀ p ∈ l, refKey p.1 = false ∧
      ∃ x, process1 fuel docs root (childLoc loc p.1) p.2 = .ok (x, root))
    (acc : Fields) : ∃ r, l.foldlM (mapStep fuel docs loc) (acc, root) = .ok (r, root) := by
  induction l generalizing acc with
  | nil => exact ⟨acc, rfl⟩
  | cons hd tl ih =>
    obtain ⟨k, v⟩ := hd
    obtain ⟨hk, x, hx⟩ := h (k, v) List.mem_cons_self
    rw [foldlM_cons, mapStep_key hk, hx]
    exact ih (fun p hp => h p (List.mem_cons_of_mem _ hp)) _

theorem process1_map_prefix_error {fuel : Nat} {docs : List Val} {root : Val} {loc : Loc}
    {pre rest : Fields} {e : Err} (h0 : fget (pre ++ rest) "$merge" = none)
    (h1 : fget (pre ++ rest) "$replace" = none)
    (hpre : pre.foldlM (mapStep fuel docs loc) (([] : Fields), root) = .error e) :
    process1 (fuel + 1) docs root loc (.map (pre ++ rest)) = .error e := by
  rw [process1_map_plain h0 h1, List.foldlM_append, hpre]; rfl

theorem process1_map_entry_error {fuel : Nat} {docs : List Val} {root rt : Val} {loc : Loc}
    {pre post r : Fields} {h : String} {v : Val} {e : Err}
    (h0 : fget (pre ++ (h, v) :: post) "$merge" = none)
    (h1 : fget (pre ++ (h, v) :: post) "$replace" = none)
    (hpre : pre.foldlM (mapStep fuel docs loc) (([] : Fields), root) = .ok (r, rt))
    (hv : process1 fuel docs rt (childLoc loc h) v = .error e) :
    process1 (fuel + 1) docs root loc (.map (pre ++ (h, v) :: post)) = .error e := by
  rw [process1_map_plain h0 h1, List.foldlM_append, hpre, ok_bind, List.foldlM_cons,
    mapStep_err hv]
  rfl

/-- the entries before `h` evaluate and leave the root alone, the entry `h` fails -/
theorem process1_map_error_at {fuel : Nat} {docs : List Val} {root : Val} {loc : Loc}
    {pre post : Fields} {h : String} {v : Val} {e : Err}
    (h0 : fget (pre ++ (h, v) :: post) "$merge" = none)
    (h1 : fget (pre ++ (h, v) :: post) "$replace" = none)
    (hpre : ∀ p ∈ pre, refKey p.1 = false ∧
      ∃ x, process1 fuel docs root (childLoc loc p.1) p.2 = .ok (x, root))
    (hv : process1 fuel docs root (childLoc loc h) v = .error e) :
    process1 (fuel + 1) docs root loc (.map (pre ++ (h, v) :: post)) = .error e := by
  obtain ⟨r, hr⟩ := mapFold_ok hpre []
  exact process1_map_entry_error h0 h1 hr hv

theorem process1_map_head_error {n : Nat} {docs : List Val} {root : Val} {loc : Loc} {k : String}
    {v : Val} {rest : Fields} {e : Err} (h0 : fget ((k, v) :: rest) "$merge" = none)
    (h1 : fget ((k, v) :: rest) "$replace" = none)
    (h : process1 n docs root (childLoc loc k) v = .error e) :
    process1 (n + 1) docs root loc (.map ((k, v) :: rest)) = .error e :=
  process1_map_entry_error (pre := []) h0 h1 rfl h

theorem sorted_nodup {m : Fields} (h : Fields.SortedKeys m) :
    m.Pairwise (fun a b => a.1 ≠ b.1) :=
  (sorted_iff_pairwise.1 h).imp (fun hlt => str_ne_of_lt hlt)

/-- What the fold produces, for distinct non-reference keys: every entry has been evaluated
    against some root satisfying `P` — an invariant of the roots the entries hand on — and is
    stored under its key unless it evaluated to `null`; the other keys of `acc` are untouched. -/
theorem mapFold_spec {fuel : Nat} {docs : List Val} {loc : Loc} (P : Val → Prop) :
    ∀ (l : Fields) (acc r : Fields) (rt0 rt : Val),
    l.Pairwise (fun a b => a.1 ≠ b.1) → (∀ p ∈ l, refKey p.1 = false) → P rt0 →
    (∀ p ∈ l, ∀ ra x rb, P ra →
      process1 fuel docs ra (childLoc loc p.1) p.2 = .ok (x, rb) → P rb) →
    l.foldlM (mapStep fuel docs loc) (acc, rt0) = .ok (r, rt) →
    P rt ∧
    (∀ p ∈ l, ∃ ra x rb, P ra ∧ process1 fuel docs ra (childLoc loc p.1) p.2 = .ok (x, rb) ∧
        fget r p.1 = if x.isNull then fget acc p.1 else some x) ∧
    (∀ k, (∀ p ∈ l, p.1 ≠ k) → fget r k = fget acc k) := by
  intro l
  induction l with
  | nil =>
    intro acc r rt0 rt _ _ h0 _ h
    cases h
    exact ⟨h0, fun p hp => absurd hp List.not_mem_nil, fun k _ => rfl⟩
  | cons hd tl ih =>
    intro acc r rt0 rt hnd hkeys h0 hP h
    obtain ⟨k, v⟩ := hd
    rw [List.pairwise_cons] at hnd
    rw [List.foldlM_cons, mapStep_key (hkeys _ List.mem_cons_self)] at h
    obtain ⟨s, hs, h⟩ := R_bind_eq_ok.1 h
    obtain ⟨⟨x, rb⟩, hx, hs⟩ := R_bind_eq_ok.1 hs
    cases hs
    obtain ⟨ih0, ih1, ih2⟩ := ih _ r rb rt hnd.2 (fun p hp => hkeys p (List.mem_cons_of_mem _ hp))
      (hP _ List.mem_cons_self rt0 x rb h0 hx) (fun p hp => hP p (List.mem_cons_of_mem _ hp)) h
    have hset : ∀ k', k' ≠ k → fget (if x.isNull then acc else fset acc k x) k' = fget acc k' := by
      intro k' hne
      split
      · rfl
      · exact fget_fset_ne _ _ _ _ hne
    refine ⟨ih0, ?_, fun k' hk' => ?_⟩
    · intro p hp
      rcases List.mem_cons.1 hp with rfl | hp
      · refine ⟨rt0, x, rb, h0, hx, ?_⟩
        rw [ih2 k (fun q hq => (hnd.1 q hq).symm)]
        cases x.isNull
        · exact fget_fset_same _ _ _
        · rfl
      · obtain ⟨ra, y, rb', hra, hy, hfy⟩ := ih1 p hp
        exact ⟨ra, y, rb', hra, hy, by rw [hfy, hset _ (hnd.1 p hp).symm]⟩
    · rw [ih2 k' (fun p hp => hk' p (List.mem_cons_of_mem _ hp)),
        hset _ (hk' _ List.mem_cons_self).symm]

/-! ## locations: `getLoc` and the frame lemma for `setPath` -/

/-- follow a path of keys / indices inside a value -/
def getLoc (root : Val) : List PathElem → Option Val
  | [] => some root
  | .key k :: ps =>
    match root with
    | .map kvs => (fget kvs k).bind fun c => getLoc c ps
    | _ => none
  | .idx i :: ps =>
    match root with
    | .list xs => (xs[i]?).bind fun c => getLoc c ps
    | _ => none

def Disjoint (p q : List PathElem) : Prop := ¬ p <+: q ∧ ¬ q <+: p

theorem disjoint_cons_cons {e : PathElem} {p q : List PathElem} (h : Disjoint (e :: p) (e :: q)) :
    Disjoint p q := by
  constructor
  · intro hp; exact h.1 ((List.prefix_cons_inj e).2 hp)
  · intro hp; exact h.2 ((List.prefix_cons_inj e).2 hp)

theorem disjoint_append_right {p q : List PathElem} (e : PathElem) (h : Disjoint p q) :
    Disjoint (p ++ [e]) q := by
  constructor
  · intro hp; exact h.1 (List.IsPrefix.trans (List.prefix_append p [e]) hp)
  · intro hp
    rcases List.prefix_concat_iff.1 hp with h1 | h2
    · exact h.1 (h1 ▸ List.prefix_append p [e])
    · exact h.2 h2

theorem disjoint_keys {h k : String} (ks : List String) (hk : k ≠ h) :
    ¬ [PathElem.key h] <+: (k :: ks).map .key ∧ ¬ (k :: ks).map PathElem.key <+: [.key h] := by
  constructor
  · intro hp
    simp only [List.map_cons, List.cons_prefix_cons] at hp
    exact hk (by cases hp.1; rfl)
  · intro hp
    simp only [List.map_cons, List.cons_prefix_cons] at hp
    exact hk (by cases hp.1; rfl)

theorem getLoc_setPath_disjoint : ∀ (p : List PathElem) (r : Val) (q : List PathElem) (v : Val),
    Disjoint p q → getLoc (setPath r p v) q = getLoc r q := by
  intro p
  induction p with
  | nil => intro r q v h; exact absurd List.nil_prefix h.1
  | cons e ps ih =>
    intro r q v h
    cases q with
    | nil => exact absurd List.nil_prefix h.2
    | cons e' qs =>
      cases e with
      | key k =>
        cases r with
        | map kvs =>
          simp only [setPath]
          cases hc : fget kvs k with
          | none => rfl
          | some child =>
            simp only []
            cases e' with
            | key k' =>
              simp only [getLoc]
              by_cases hk : k' = k
              · subst hk
                rw [fget_fset_same, hc]
                exact ih child qs v (disjoint_cons_cons h)
              · rw [fget_fset_ne _ _ _ _ hk]
            | idx i => rfl
        | _ => rfl
      | idx i =>
        cases r with
        | list xs =>
          simp only [setPath]
          cases hc : xs[i]? with
          | none => rfl
          | some child =>
            simp only []
            cases e' with
            | key k' => rfl
            | idx i' =>
              simp only [getLoc]
              by_cases hi : i' = i
              · subst hi
                rw [List.getElem?_set_self' , hc]
                exact ih child qs v (disjoint_cons_cons h)
              · rw [List.getElem?_set_ne (Ne.symm hi)]
        | _ => rfl

/-! ## the frame property of the threaded root -/

def FrameOK (loc : Loc) (root root' : Val) : Prop :=
  match loc with
  | none => root' = root
  | some p => ∀ q, Disjoint p q → getLoc root' q = getLoc root q

theorem frameOK_refl (loc : Loc) (r : Val) : FrameOK loc r r := by
  cases loc with
  | none => rfl
  | some p => intro q _; rfl

theorem frameOK_trans {loc : Loc} {a b c : Val} (h1 : FrameOK loc a b) (h2 : FrameOK loc b c) :
    FrameOK loc a c := by
  cases loc with
  | none => exact Eq.trans h2 h1
  | some p => intro q hq; rw [h2 q hq, h1 q hq]

theorem frameOK_of_none {loc : Loc} {a b : Val} (h : FrameOK none a b) : FrameOK loc a b := by
  have : b = a := h
  subst this; exact frameOK_refl _ _

theorem frameOK_of_child {loc : Loc} {k : String} {a b : Val} (h : FrameOK (childLoc loc k) a b) :
    FrameOK loc a b := by
  cases loc with
  | none => exact h
  | some p => intro q hq; exact h q (disjoint_append_right _ hq)

theorem frameOK_of_entry {loc : Loc} {tag : Option Nat} {a b : Val}
    (h : FrameOK (entryLoc loc tag) a b) : FrameOK loc a b := by
  cases loc with
  | none => exact frameOK_of_none (by cases tag <;> exact h)
  | some p =>
    cases tag with
    | none => exact frameOK_of_none h
    | some i => intro q hq; exact h q (disjoint_append_right _ hq)

theorem frameOK_setLoc (loc : Loc) (root v : Val) : FrameOK loc root (setLoc root loc v) := by
  cases loc with
  | none => rfl
  | some p => intro q hq; exact getLoc_setPath_disjoint p root q v hq

/-- induction hypothesis of `process1_frame`, as a predicate on the fuel -/
def FrameIH (fuel : Nat) : Prop :=
  ∀ (docs : List Val) (root : Val) (loc : Loc) (obj v root' : Val),
    process1 fuel docs root loc obj = .ok (v, root') → FrameOK loc root root'

theorem mapStep_frame_child {fuel : Nat} (ih : FrameIH fuel) {docs : List Val} {loc : Loc}
    {s s' : Fields × Val} {a : String × Val}
    (h : mapStep fuel docs loc s a = .ok s') : FrameOK (childLoc loc a.1) s.2 s'.2 := by
  obtain ⟨acc, rt⟩ := s
  obtain ⟨k, x⟩ := a
  simp only [mapStep] at h
  obtain ⟨⟨v2, rt1⟩, h1, h2⟩ := R_bind_eq_ok.1 h
  have f1 : FrameOK (childLoc loc k) rt rt1 := ih _ _ _ _ _ _ h1
  simp only [] at h2
  split at h2
  · cases h2; exact f1
  · obtain ⟨⟨k2, rt2⟩, h3, h4⟩ := R_bind_eq_ok.1 h2
    have f2 : rt2 = rt1 := ih _ _ _ _ _ _ h3
    simp only [] at h4
    split at h4
    · cases h4; exact f2 ▸ f1
    · cases h4

theorem mapStep_frame {fuel : Nat} (ih : FrameIH fuel) {docs : List Val} {loc : Loc}
    {s s' : Fields × Val} {a : String × Val}
    (h : mapStep fuel docs loc s a = .ok s') : FrameOK loc s.2 s'.2 :=
  frameOK_of_child (mapStep_frame_child ih h)

theorem entryStep_frame {fuel : Nat} (ih : FrameIH fuel) {docs : List Val} {loc : Loc}
    {s s' : List Val × Val} {a : Val × Option Nat}
    (h : entryStep fuel docs loc s a = .ok s') : FrameOK loc s.2 s'.2 := by
  obtain ⟨acc, rt⟩ := s
  obtain ⟨x, tag⟩ := a
  simp only [entryStep] at h
  obtain ⟨⟨v2, rt1⟩, h1, h2⟩ := R_bind_eq_ok.1 h
  have f1 : FrameOK loc rt rt1 := frameOK_of_entry (ih _ _ _ _ _ _ h1)
  simp only [] at h2
  split at h2 <;> (cases h2; exact f1)

theorem listFinish_frame {fuel : Nat} (ih : FrameIH fuel) {docs : List Val} {root : Val} {loc : Loc}
    {obj1 : Tagged} {v root' : Val}
    (h : listFinish fuel docs root loc obj1 = .ok (v, root')) : FrameOK loc root root' := by
  unfold listFinish at h
  obtain ⟨⟨rep, rest⟩, _, h2⟩ := R_bind_eq_ok.1 h
  simp only [] at h2
  split at h2
  · obtain ⟨next, _, h3⟩ := R_bind_eq_ok.1 h2
    exact frameOK_of_none (ih _ _ _ _ _ _ h3)
  · obtain ⟨⟨ret, r'⟩, h3, h4⟩ := R_bind_eq_ok.1 h2
    cases h4
    exact foldlM_inv (fun st => FrameOK loc root st.2) _ _ _ _ (frameOK_refl _ _)
      (fun s a s' _ hs hstep => frameOK_trans hs (entryStep_frame ih hstep)) h3

theorem process1_frame : ∀ fuel, FrameIH fuel := by
  intro fuel
  induction fuel with
  | zero => intro docs root loc obj v root' h; rw [process1_zero] at h; cases h
  | succ fuel ih =>
    intro docs root loc obj v root' h
    cases p1View obj with
    | leaf hl => rw [hl] at h; cases h; exact frameOK_refl _ _
    | fwd hf =>
      rw [hf.forwards] at h
      obtain ⟨inp, _, h2⟩ := R_bind_eq_ok.1 h
      exact frameOK_of_none (ih _ _ _ _ _ _ h2)
    | @host m _ hm =>
      rw [process1_merge_eq hm] at h
      obtain ⟨inp, _, h⟩ := R_bind_eq_ok.1 h
      obtain ⟨nv, _, h⟩ := R_bind_eq_ok.1 h
      refine frameOK_trans (frameOK_setLoc loc root (.map (fdel m "$merge"))) ?_
      split at h
      · exact frameOK_trans (frameOK_setLoc _ _ _) (ih _ _ _ _ _ _ h)
      · exact frameOK_of_none (ih _ _ _ _ _ _ h)
    | fold hm hr =>
      rw [process1_map_plain hm hr] at h
      obtain ⟨⟨ret, r'⟩, h3, h4⟩ := R_bind_eq_ok.1 h
      cases h4
      exact foldlM_inv (fun st => FrameOK loc root st.2) _ _ _ _ (frameOK_refl _ _)
        (fun s a s' _ hs hstep => frameOK_trans hs (mapStep_frame ih hstep)) h3
    | list xs =>
      rw [process1_list] at h
      obtain ⟨obj1, _, h2⟩ := R_bind_eq_ok.1 h
      exact listFinish_frame ih h2

/-! ## the list case: collecting the directive entries -/

/-- a single-key `{$merge: _}` or `{$replace: _}` list entry -/
def listDirective (v : Val) : Bool :=
  match v with
  | .map [(k, _)] => k == "$merge" || k == "$replace"
  | _ => false

theorem notMergeEntry_of_not_directive {v : Val} (h : listDirective v = false) :
    notMergeEntry v = true := by
  unfold listDirective at h
  unfold notMergeEntry
  split <;> simp_all

theorem notReplaceEntry_of_not_directive {v : Val} (h : listDirective v = false) :
    notReplaceEntry v = true := by
  unfold listDirective at h
  unfold notReplaceEntry
  split <;> simp_all

theorem listMerges_append (a b : List Val) : listMerges (a ++ b) = listMerges a ++ listMerges b :=
  List.filterMap_append

theorem listMerges_of_notMerge {l : List Val} (h : ∀ v ∈ l, notMergeEntry v = true) :
    listMerges l = [] := by
  rw [listMerges, List.filterMap_eq_nil_iff]
  intro v hv
  have := h v hv
  unfold notMergeEntry at this
  split <;> simp_all

theorem listMerges_merge_entry (ref : Val) : listMerges [.map [("$merge", ref)]] = [ref] := rfl

theorem listMerges_replace_entry (ref : Val) : listMerges [.map [("$replace", ref)]] = [] := rfl

/-- a list `pre ++ [{$merge: ref}] ++ post` with no other directive entries has exactly one
    collected reference -/
theorem listMerges_single {pre post : List Val} (ref : Val)
    (h : ∀ v ∈ pre ++ post, notMergeEntry v = true) :
    listMerges (pre ++ [.map [("$merge", ref)]] ++ post) = [ref] := by
  rw [listMerges_append, listMerges_append, listMerges_merge_entry,
    listMerges_of_notMerge (fun v hv => h v (List.mem_append_left _ hv)),
    listMerges_of_notMerge (fun v hv => h v (List.mem_append_right _ hv))]
  rfl

theorem listObj0_fst_aux (xs : List Val) (n : Nat) :
    (((xs.zipIdx n).filter fun x => notMergeEntry x.1).map fun x => (x.1, some x.2)).map
      (fun x : Val × Option Nat => x.1) = xs.filter notMergeEntry := by
  induction xs generalizing n with
  | nil => rfl
  | cons a tl ih =>
    have ih' := ih (n + 1)
    simp only [List.zipIdx_cons, List.filter_cons]
    cases ha : notMergeEntry a with
    | true =>
      simp only [if_true, List.map_cons]
      rw [ih']
    | false =>
      simp only [Bool.false_eq_true, if_false]
      rw [ih']

theorem listObj0_fst (xs : List Val) : (listObj0 xs).map (·.1) = xs.filter notMergeEntry :=
  listObj0_fst_aux xs 0

theorem listObj0_merge_entry (ref : Val) : listObj0 [.map [("$merge", ref)]] = [] := rfl

theorem listObj0_replace_entry (ref : Val) :
    listObj0 [.map [("$replace", ref)]] = [(.map [("$replace", ref)], some 0)] := rfl

/-! ## `popListMapValue … "$replace"` -/

/-- `notReplaceEntry` says of one entry what `noSingleKey "$replace"` says of a list -/
theorem notReplaceEntry_iff {x : Val} :
    notReplaceEntry x = true ↔ ∀ m, x = .map m → m.length = 1 → fget m "$replace" = none := by
  cases x with
  | map m =>
    rcases m with _ | ⟨⟨k, v⟩, _ | ⟨p, t⟩⟩
    · exact ⟨fun _ m e hl => (by cases e; cases hl), fun _ => rfl⟩
    · simp [notReplaceEntry, fget]
    · exact ⟨fun _ m e hl => (by cases e; simp at hl), fun _ => rfl⟩
  | _ => exact ⟨fun _ m e => (nomatch e), fun _ => rfl⟩

theorem popHit_notReplace {x : Val} (h : notReplaceEntry x = true) :
    popHit "$replace" x = none :=
  popHit_eq_none (notReplaceEntry_iff.1 h)

theorem popHit_replace_entry (ref : Val) :
    popHit "$replace" (.map [("$replace", ref)]) = some ref := by
  simp [popHit, fget]

theorem popListMapValue_no_replace {l : List Val} (h : ∀ x ∈ l, notReplaceEntry x = true) :
    popListMapValue l "$replace" = .ok (.null, l) :=
  popListMapValue_of_no_hit fun x hx => popHit_notReplace (h x hx)

theorem popListMapValue_one_replace {pre post : List Val} (ref : Val)
    (h : ∀ x ∈ pre ++ post, notReplaceEntry x = true) :
    popListMapValue (pre ++ [.map [("$replace", ref)]] ++ post) "$replace" =
      .ok (ref, pre ++ post) :=
  popListMapValue_of_one_hit (popHit_replace_entry ref) fun y hy => popHit_notReplace (h y hy)

theorem listObj0_mem {xs : List Val} {q : Val × Option Nat} (h : q ∈ listObj0 xs) : q.1 ∈ xs :=
  (List.mem_filter.1 (listObj0_fst xs ▸ List.mem_map_of_mem (f := Prod.fst) h)).1

theorem listObj0_fst_self {xs : List Val} (h : ∀ x ∈ xs, notMergeEntry x = true) :
    (listObj0 xs).map (·.1) = xs := by
  rw [listObj0_fst, List.filter_eq_self.2 h]

theorem process1_list_noDirective {fuel : Nat} {docs : List Val} {root : Val} {loc : Loc}
    {xs : List Val} (h : ∀ x ∈ xs, notMergeEntry x = true ∧ notReplaceEntry x = true) :
    process1 (fuel + 1) docs root loc (.list xs) =
      ((listObj0 xs).foldlM (entryStep fuel docs loc) (([] : List Val), root) >>= fun r =>
        pure (.list r.1, r.2)) := by
  have hp : popListMapValue ((listObj0 xs).map (·.1)) "$replace" = .ok (.null, xs) := by
    rw [listObj0_fst_self fun x hx => (h x hx).1]
    exact popListMapValue_no_replace fun x hx => (h x hx).2
  rw [process1_list, listMerges_of_notMerge (fun x hx => (h x hx).1), foldlM_nil, ok_bind,
    listFinish_entries hp rfl, List.filter_eq_self.2 fun q hq => (h q.1 (listObj0_mem hq)).2]

/-! ## `mergeListTagged` over its fold step `tagStep`, and on plain entries -/

/-- the fold step of `mergeListTagged` -/
def tagStep (acc : Tagged) (v : Val) : R Tagged :=
  match v with
  | .map kvs =>
    match fget kvs "$delete" with
    | some del =>
      if (fdel kvs "$delete").length > 0 then throw Err.extraKeys
      else if acc.any (fun x => matchV x.1 del) then pure (acc.filter (fun x => !matchV x.1 del))
      else throw Err.uselessOverride
    | none =>
      if fhas kvs "$match" then throw Err.unmodelled
      else pure (acc ++ [(v, none)])
  | _ => pure (acc ++ [(v, none)])

theorem mergeListTagged_eq (d : Tagged) (s : List Val) :
    mergeListTagged d s =
      if s.any (fun x => x == Val.str "$replace") = true then
        .ok ((s.filter (fun x => !(x == .str "$replace"))).map (·, none))
      else match popListMapBool s "$replace" true with
        | .error e => .error e
        | .ok (rep2, s2) =>
          if rep2 = true then .ok (s2.map (·, none))
          else s.foldlM tagStep (d.filter (fun x => !(x.1 == .str "$required"))) := by
  unfold mergeListTagged popListString
  cases s.any (fun x => x == Val.str "$replace") with
  | true => rfl
  | false =>
    show (popListMapBool s "$replace" true >>= _) = _
    cases popListMapBool s "$replace" true with
    | error e => rfl
    | ok p => obtain ⟨_ | _, s2⟩ := p <;> rfl

theorem tagStep_plain {v : Val} (acc : Tagged) (h : plainEntry v = true) :
    tagStep acc v = .ok (acc ++ [(v, none)]) := by
  cases v with
  | map kvs =>
    simp only [plainEntry, Bool.and_eq_true, Bool.not_eq_true'] at h
    have h1 : fget kvs "$delete" = none := fhas_eq_false_iff.1 h.1.1
    simp only [tagStep, h1, h.1.2, Bool.false_eq_true, if_false]; rfl
  | _ => rfl

theorem foldlM_tagStep_plain (s : List Val) (acc : Tagged) (h : s.all plainEntry = true) :
    s.foldlM tagStep acc = .ok (acc ++ s.map (·, none)) := by
  induction s generalizing acc with
  | nil => simp [R_pure]
  | cons a tl ih =>
    simp only [List.all_cons, Bool.and_eq_true] at h
    rw [foldlM_cons, tagStep_plain acc h.1]
    simp only []
    rw [ih _ h.2]; simp

theorem mergeListTagged_plain (d : Tagged) {s : List Val} (h : s.all plainEntry = true) :
    mergeListTagged d s =
      .ok (d.filter (fun x => !(x.1 == .str "$required")) ++ s.map (·, none)) := by
  rw [mergeListTagged_eq, if_neg (by rw [all_plain_any_replace h]; exact Bool.false_ne_true),
    popListMapBool_eq, if_pos (all_plain_no_marker h)]
  exact foldlM_tagStep_plain s _ h

/-! ## `mergeListTagged` is `mergeListList` on the untagged entries -/

theorem map_fst_fresh (l : List Val) : (l.map (·, (none : Option Nat))).map (·.1) = l := by
  simp [List.map_map, Function.comp_def]

theorem tagStep_agrees (acc : Tagged) (v : Val) (rest : List Val) :
    match tagStep acc v with
    | .ok acc' => mergeEntries (acc.map (·.1)) (v :: rest) = mergeEntries (acc'.map (·.1)) rest
    | .error e => e = .unmodelled ∨ mergeEntries (acc.map (·.1)) (v :: rest) = .error e := by
  cases v with
  | map kvs =>
    simp only [tagStep]
    cases hd : fget kvs "$delete" with
    | some del =>
      simp only []
      by_cases hx : (fdel kvs "$delete").length > 0
      · rw [if_pos hx]
        exact Or.inr (mergeEntries_delete_extra _ _ hd hx)
      · rw [if_neg hx]
        have hx0 : (fdel kvs "$delete").length = 0 := by omega
        rw [mergeEntries_delete _ _ hd hx0, List.any_map]
        by_cases ha : acc.any (fun x => matchV x.1 del) = true
        · have : acc.any ((fun v => matchV v del) ∘ fun x => x.1) = true := ha
          rw [if_pos ha, if_pos this]
          simp only [R_pure, List.filter_map]
          rfl
        · have : ¬ acc.any ((fun v => matchV v del) ∘ fun x => x.1) = true := ha
          rw [if_neg ha, if_neg this]
          exact Or.inr rfl
    | none =>
      simp only []
      by_cases hm : fhas kvs "$match" = true
      · rw [if_pos hm]; exact Or.inl rfl
      · rw [if_neg hm]
        have hm' : fget kvs "$match" = none := fhas_eq_false_iff.1 (by simpa using hm)
        simp only [R_pure, List.map_append, List.map_cons, List.map_nil]
        exact mergeEntries_map_plain _ _ hd hm'
  | _ =>
    simp only [tagStep, R_pure, List.map_append, List.map_cons, List.map_nil]
    exact mergeEntries_nonmap _ _ rfl

theorem foldlM_tagStep_agrees (s : List Val) (acc : Tagged) :
    match s.foldlM tagStep acc with
    | .ok t => mergeEntries (acc.map (·.1)) s = .ok (t.map (·.1))
    | .error e => e = .unmodelled ∨ mergeEntries (acc.map (·.1)) s = .error e := by
  induction s generalizing acc with
  | nil => rw [foldlM_nil]; exact mergeEntries_nil _
  | cons v rest ih =>
    rw [foldlM_cons]
    have hs := tagStep_agrees acc v rest
    cases hstep : tagStep acc v with
    | error e => rw [hstep] at hs; exact hs
    | ok acc' =>
      rw [hstep] at hs
      simp only [] at hs ⊢
      rw [hs]
      exact ih acc'

theorem mergeListTagged_agrees (d : Tagged) (s : List Val) :
    match mergeListTagged d s with
    | .ok t => mergeListList (d.map (·.1)) s = .ok (.list (t.map (·.1)))
    | .error e => e = .unmodelled ∨ mergeListList (d.map (·.1)) s = .error e := by
  rw [mergeListTagged_eq]
  by_cases h1 : s.any (fun x => x == Val.str "$replace") = true
  · rw [if_pos h1]
    simp only [map_fst_fresh]
    exact mergeListList_replace_string _ h1
  · rw [if_neg h1]
    have h1' : s.any (fun x => x == Val.str "$replace") = false := by
      cases hh : s.any (fun x => x == Val.str "$replace") with
      | true => exact absurd hh h1
      | false => rfl
    rw [mergeListList_no_string _ h1']
    cases popListMapBool s "$replace" true with
    | error e => exact Or.inr rfl
    | ok p =>
      obtain ⟨rep2, s2⟩ := p
      cases rep2 with
      | true => simp only [if_true, map_fst_fresh]
      | false =>
        simp only [Bool.false_eq_true, if_false]
        have hd : dropRequired (d.map (·.1)) =
            (d.filter (fun x => !(x.1 == .str "$required"))).map (·.1) := by
          simp only [dropRequired, List.filter_map]; rfl
        rw [hd]
        have := foldlM_tagStep_agrees s (d.filter (fun x => !(x.1 == .str "$required")))
        cases hf : s.foldlM tagStep (d.filter (fun x => !(x.1 == .str "$required"))) with
        | error e =>
          rw [hf] at this
          rcases this with h | h
          · exact Or.inl h
          · right; rw [h]
        | ok t => rw [hf] at this; simp only [] at this ⊢; rw [this]

/-! ## evaluating entries that are copies -/

/-- evaluate each entry of `l` as a copy (no location) against the fixed `root`; `null`
    results are dropped -/
def evalCopies (fuel : Nat) (docs : List Val) (root : Val) (l : List Val) : R (List Val) :=
  l.mapM (fun v => process1 fuel docs root none v) >>= fun rs =>
    pure ((rs.map (·.1)).filter (fun v => !v.isNull))

theorem entryLoc_none_tag (loc : Loc) : entryLoc loc none = none := by
  cases loc <;> rfl

theorem foldlM_entryStep_copies (fuel : Nat) (docs : List Val) (root : Val) (loc : Loc)
    (l acc : List Val) :
    (l.map (·, (none : Option Nat))).foldlM (entryStep fuel docs loc) (acc, root) =
      (l.mapM (fun v => process1 fuel docs root none v) >>= fun rs =>
        pure (acc ++ (rs.map (·.1)).filter (fun v => !v.isNull), root)) := by
  induction l generalizing acc with
  | nil => simp [R_pure, ok_bind]
  | cons a tl ih =>
    rw [List.map_cons, foldlM_cons, mapM_cons]
    simp only [entryStep, entryLoc_none_tag]
    cases hp : process1 fuel docs root none a with
    | error e => rfl
    | ok r =>
      obtain ⟨v2, rt1⟩ := r
      have hrt : rt1 = root := process1_frame fuel _ _ _ _ _ _ hp
      subst hrt
      simp only [ok_bind]
      cases hn : v2.isNull <;> simp only [if_true, Bool.false_eq_true, if_false, R_pure] <;>
        rw [ih] <;> cases List.mapM (fun v => process1 fuel docs rt1 none v) tl with
        | error e => rfl
        | ok rs => simp [ok_bind, R_pure, hn]

/-! ## fuel monotonicity of `process1`

  `FLe x y`: `x` is the depth-guard error or `x = y`.  More fuel never changes a result that
  was not the depth guard. -/

def FLe {α : Type} (x y : R α) : Prop := x = .error .circularRef ∨ x = y

theorem FLe.refl {α : Type} (x : R α) : FLe x x := Or.inr rfl

theorem FLe.of_eq {α : Type} {x y : R α} (h : x = y) : FLe x y := Or.inr h

theorem FLe.eq {α : Type} {x y : R α} (h : FLe x y) (hx : x ≠ .error .circularRef) : y = x := by
  rcases h with h | h
  · exact absurd h hx
  · exact h.symm

theorem FLe.ok {α : Type} {x y : R α} {a : α} (h : FLe x y) (hx : x = .ok a) : y = .ok a := by
  rcases h with h | h
  · rw [hx] at h; cases h
  · rw [← h, hx]

theorem FLe.bind {α β : Type} {x y : R α} {F G : α → R β} (h : FLe x y)
    (hF : ∀ a, FLe (F a) (G a)) : FLe (x >>= F) (y >>= G) := by
  rcases h with h | h
  · left; rw [h]; rfl
  · subst h
    cases x with
    | error e => exact Or.inr rfl
    | ok a => exact hF a

theorem FLe.bind_right {α β : Type} (x : R α) {F G : α → R β}
    (hF : ∀ a, FLe (F a) (G a)) : FLe (x >>= F) (x >>= G) :=
  FLe.bind (FLe.refl x) hF

theorem FLe.foldlM {α β : Type} {f g : β → α → R β} (h : ∀ s a, FLe (f s a) (g s a)) :
    ∀ (l : List α) (init : β), FLe (l.foldlM f init) (l.foldlM g init) := by
  intro l
  induction l with
  | nil => intro init; exact FLe.refl _
  | cons a tl ih =>
    intro init
    rw [foldlM_cons, foldlM_cons]
    have h1 := h init a
    rcases h1 with h1 | h1
    · left; rw [h1]
    · rw [← h1]
      cases hf : f init a with
      | error e => exact Or.inr rfl
      | ok s' => exact ih s'

theorem FLe.map {α β : Type} {x y : R α} (f : α → β) (h : FLe x y) :
    FLe (Except.map f x) (Except.map f y) := by
  rcases h with h | h
  · left; rw [h]; rfl
  · right; rw [h]

def FuelMono (fuel : Nat) : Prop :=
  ∀ (docs : List Val) (root : Val) (loc : Loc) (obj : Val),
    FLe (process1 fuel docs root loc obj) (process1 (fuel + 1) docs root loc obj)

theorem mapStep_mono {fuel : Nat} (ih : FuelMono fuel) (docs : List Val) (loc : Loc)
    (s : Fields × Val) (a : String × Val) :
    FLe (mapStep fuel docs loc s a) (mapStep (fuel + 1) docs loc s a) := by
  obtain ⟨acc, rt⟩ := s
  obtain ⟨k, v⟩ := a
  simp only [mapStep]
  refine FLe.bind (ih _ _ _ _) ?_
  rintro ⟨v2, rt1⟩
  simp only []
  split
  · exact FLe.refl _
  · refine FLe.bind (ih _ _ _ _) ?_
    rintro ⟨k2, rt2⟩
    exact FLe.refl _

theorem entryStep_mono {fuel : Nat} (ih : FuelMono fuel) (docs : List Val) (loc : Loc)
    (s : List Val × Val) (a : Val × Option Nat) :
    FLe (entryStep fuel docs loc s a) (entryStep (fuel + 1) docs loc s a) := by
  obtain ⟨acc, rt⟩ := s
  obtain ⟨x, tag⟩ := a
  simp only [entryStep]
  refine FLe.bind (ih _ _ _ _) ?_
  rintro ⟨v2, rt1⟩
  exact FLe.refl _

theorem listFinish_mono {fuel : Nat} (ih : FuelMono fuel) (docs : List Val) (root : Val)
    (loc : Loc) (obj1 : Tagged) :
    FLe (listFinish fuel docs root loc obj1) (listFinish (fuel + 1) docs root loc obj1) := by
  unfold listFinish
  refine FLe.bind_right _ ?_
  rintro ⟨rep, rest⟩
  simp only []
  split
  · exact FLe.bind_right _ (fun next => ih _ _ _ _)
  · refine FLe.bind (FLe.foldlM (entryStep_mono ih docs loc) _ _) ?_
    rintro ⟨ret, r'⟩
    exact FLe.refl _

theorem process1_mono : ∀ fuel, FuelMono fuel := by
  intro fuel
  induction fuel with
  | zero => intro docs root loc obj; left; exact process1_zero _ _ _ _
  | succ fuel ih =>
    intro docs root loc obj
    cases p1View obj with
    | leaf hl => rw [hl, hl]; exact FLe.refl _
    | fwd hf =>
      rw [hf.forwards, hf.forwards]
      exact FLe.bind_right _ (fun inp => ih _ _ _ _)
    | host hm =>
      rw [process1_merge_eq hm, process1_merge_eq hm]
      exact FLe.bind_right _ fun inp => FLe.bind_right _ fun nv => by split <;> exact ih _ _ _ _
    | fold hm hr =>
      rw [process1_map_plain hm hr, process1_map_plain hm hr]
      exact FLe.bind (FLe.foldlM (mapStep_mono ih docs loc) _ _) (fun r => FLe.refl _)
    | list xs =>
      rw [process1_list, process1_list]
      exact FLe.bind_right _ (listFinish_mono ih docs root loc)

theorem process1_mono_add (fuel n : Nat) (docs : List Val) (root : Val) (loc : Loc) (obj : Val) :
    FLe (process1 fuel docs root loc obj) (process1 (fuel + n) docs root loc obj) := by
  induction n with
  | zero => exact FLe.refl _
  | succ n ih =>
    rcases ih with h | h
    · exact Or.inl h
    · rw [h]; exact process1_mono (fuel + n) docs root loc obj

/-! ## `get` (get.go), one level -/

theorem get_str (root : Val) (docs : List Val) (s : String) :
    get root docs (.str s) = getPathFromString root docs s := by
  rw [get]

theorem get_list (root : Val) (docs : List Val) (l : List Val) :
    get root docs (.list l) = getPathFromList root docs l := by
  rw [get]

theorem get_list_nil (root : Val) (docs : List Val) : get root docs (.list []) = .ok root := by
  rw [get_list]; rfl

theorem get_map (root : Val) (docs : List Val) (conf : Fields) :
    get root docs (.map conf) =
      match fget conf "$match" with
      | none => .error .missingMatch
      | some pat => getCrossDoc docs pat >>= fun d =>
        match fget conf "$path" with
        | some path => get d docs path
        | none => pure d := by
  rw [get]
  cases fget conf "$match" with
  | none => rfl
  | some pat =>
    simp only []
    congr 1
    funext d
    split <;> simp_all

theorem get_list_strs (root : Val) (docs : List Val) (p : String) (ps : List String) :
    get root docs (.list (.str p :: ps.map .str)) = getPath root (p :: ps) := by
  rw [get_list]
  show (toStringList ((p :: ps).map .str) >>= fun l => getPath root l) = _
  rw [toStringList_strs]; rfl

theorem getPath_eq_getLoc (obj : Val) (ks : List String) :
    getPath obj ks = match getLoc obj (ks.map .key) with
      | some v => .ok v
      | none => .error .refNotFound := by
  induction ks generalizing obj with
  | nil => rfl
  | cons k tl ih =>
    cases obj with
    | map kvs =>
      simp only [getPath, List.map_cons, getLoc]
      cases fget kvs k with
      | none => rfl
      | some v => exact ih v
    | _ => rfl

theorem getPath_cons_inv {m : Fields} {k : String} {ks : List String} {t : Val}
    (h : getPath (.map m) (k :: ks) = .ok t) : ∃ c, fget m k = some c ∧ getPath c ks = .ok t := by
  simp only [getPath] at h
  cases hc : fget m k with
  | none => rw [hc] at h; cases h
  | some c => rw [hc] at h; exact ⟨c, rfl, h⟩

theorem toStringList_str_cons {k : String} {rest : List Val} {sl : List String}
    (h : toStringList (.str k :: rest) = .ok sl) : ∃ ks, sl = k :: ks := by
  unfold toStringList at h
  rw [mapM_cons] at h
  simp only [] at h
  split at h
  · cases h
  · rename_i b hb
    have : b = k := by cases hb; rfl
    subst this
    split at h
    · cases h
    · rename_i bs _
      cases h
      exact ⟨bs, rfl⟩

theorem get_invalid (root : Val) (docs : List Val) (m : Val) (h1 : m.isStr = false)
    (h2 : m.isList = false) (h3 : m.isMap = false) : get root docs m = .error .invalidType := by
  cases m <;> simp [Val.isStr, Val.isList, Val.isMap] at h1 h2 h3 <;>
    (rw [get]; all_goals first | rfl | (intro _ h; cases h))

theorem get_null (root : Val) (docs : List Val) : get root docs .null = .error .invalidType :=
  get_invalid root docs .null rfl rfl rfl

theorem pathRef_str {p : String} {ks : List String} (h1 : parseRef p = some (.str p))
    (h2 : p.splitOn "." = ks) : PathRef (.str p) ks := by
  intro root docs
  rw [get_str]
  simp only [getPathFromString, h1, h2]

theorem get_plain_key {k : String} {kvs : Fields} {v : Val} (docs : List Val)
    (h1 : parseRef k = some (.str k)) (h2 : k.splitOn "." = [k]) (h3 : fget kvs k = some v) :
    get (.map kvs) docs (.str k) = .ok v := by
  rw [pathRef_str h1 h2]
  simp only [getPath, h3]
  rfl

/-! ## string facts -/

theorem stripPrefix_append (pre k : String) : stripPrefix (pre ++ k) pre = some k := by
  have h : (pre ++ k).startsWith pre = true := by simp [String.toList_append]
  rw [stripPrefix, if_pos h]
  refine congrArg some (String.toList_inj.1 ?_)
  simp [← String.length_toList]

theorem stripPrefix_merge_append (k : String) :
    stripPrefix ("$merge:" ++ k) "$merge:" = some k := stripPrefix_append _ k

theorem stripPrefix_replace_append (k : String) :
    stripPrefix ("$replace:" ++ k) "$replace:" = some k := stripPrefix_append _ k

theorem stripPrefix_replace_append_merge (k : String) :
    stripPrefix ("$replace:" ++ k) "$merge:" = none := by
  apply e_stripPrefix_none
  simp [String.toList_append, List.isPrefixOf]

theorem stripPrefix_merge_a : stripPrefix "$merge:a" "$merge:" = some "a" :=
  stripPrefix_merge_append "a"
theorem stripPrefix_replace_a : stripPrefix "$replace:a" "$replace:" = some "a" :=
  stripPrefix_replace_append "a"
theorem stripPrefix_replace_a_merge : stripPrefix "$replace:a" "$merge:" = none :=
  stripPrefix_replace_append_merge "a"
theorem stripPrefix_hello_merge : stripPrefix "hello" "$merge:" = none := by decide
theorem stripPrefix_hello_replace : stripPrefix "hello" "$replace:" = none := by decide

theorem splitOn_b : "b".splitOn "." = ["b"] := by rw [splitOn_dot]; decide

theorem parseRef_a : parseRef "a" = some (.str "a") := by decide +kernel
theorem parseRef_b : parseRef "b" = some (.str "b") := by decide +kernel

end Bkl
