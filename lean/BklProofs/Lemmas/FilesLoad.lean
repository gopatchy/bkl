/-
  BklProofs.Lemmas.FilesLoad — `loadFileAndParents` one level at a time (`loadFileAndParents_succ`; its loop over the parents is a
  `mapM`): a path already on the chain of children is a cycle (`C03_cycle_is_error`), any list of parents is loaded depth first
  (`C03_parent_list_depth_first`), and a chain of single parents, of any depth and by any rule, loads base first (`Linked`, `lfp_linked`).
  Such a chain is determined by its first file, so one that ends holds no file twice (`Linked.nodup`).  What it loads is
  `linkFiles`; the id of every file loaded for a child lies below the child's (`Below`, `linkFiles_below`), which tells the
  documents of different files apart.  The files loaded are merged document by document, in the order returned
  (`mergeFiles_eq`, `mergeFileLayers_of_load`).
-/
import BklProofs.Lemmas.FilesParents
import BklProofs.Lemmas.Parser
namespace Bkl

/-! ## one level of `loadFileAndParents` -/

def fileIdOf (childId : Option String) (path : Comps) : String :=
  match childId with
  | some c => c ++ "|" ++ pathStr path
  | none => pathStr path

def docIdsOf (fid : String) (n : Nat) : List String :=
  (List.range n).map fun i => fid ++ "|doc" ++ toString i

/-- the loaded file itself: its documents point at the documents of every direct parent file -/
def mineOf (fid : String) (path : Comps) (raw : List Val) (parents : List Comps)
    (files : List LFile) : LFile :=
  { id := fid, path := path,
    docs := ((raw.map stripParent).zip (docIdsOf fid raw.length)).map fun (d, i) =>
      ({ id := i,
         parents := (files.filter (fun f => parents.any fun p => f.id == fid ++ "|" ++ pathStr p)).flatMap
           (fun f => f.docs.map (·.id)),
         data := d } : Doc) }

/-- a `for` loop that appends the first component of what each element yields is a `mapM` -/
theorem forIn_append_eq_mapM {α β γ : Type} (F : α → R (List β × γ)) (ps : List α) :
    ∀ (acc : List β),
    (forIn ps acc fun p (r : List β) => do
      let x ← F p
      match x with
      | (fsub, _) => pure (ForInStep.yield (r ++ fsub))) =
      (ps.mapM F).map fun rs => acc ++ rs.flatMap (·.1) := by
  induction ps with
  | nil => intro acc; exact congrArg Except.ok (List.append_nil acc).symm
  | cons p ps ih =>
    intro acc
    rw [List.forIn_cons, mapM_cons]
    cases F p with
    | error e => rfl
    | ok r =>
      refine (ih (acc ++ r.1)).trans ?_
      cases List.mapM F ps with
      | error e => rfl
      | ok rs =>
        exact congrArg Except.ok
          (show acc ++ r.1 ++ rs.flatMap (·.1) = acc ++ (r :: rs).flatMap (·.1) by
            rw [List.flatMap_cons, List.append_assoc])

/-- one level of `loadFileAndParents`: the parents are loaded one by one, each for the same child and on the same
    chain (`mapM`); their files come first, in the order of the parents -/
theorem loadFileAndParents_succ (fs : FS) (cfg : RootCfg) (fuel : Nat) (path : Comps)
    (childId : Option String) (c : List String) (chain : List Comps) :
    loadFileAndParents fs cfg (fuel + 1) path childId c chain =
      if chain.contains path then .error .circularRef
      else
        match loadFile fs cfg path (fileIdOf childId path) with
        | .error e => .error e
        | .ok raw =>
          match fileParents fs cfg path raw with
          | .error e => .error e
          | .ok parents =>
            match parents.mapM (fun p => loadFileAndParents fs cfg fuel p (some (fileIdOf childId path))
                (docIdsOf (fileIdOf childId path) raw.length) (path :: chain)) with
            | .error e => .error e
            | .ok subs =>
              .ok (subs.flatMap (·.1) ++
                  [mineOf (fileIdOf childId path) path raw parents (subs.flatMap (·.1))],
                docIdsOf (fileIdOf childId path) raw.length) := by
  rw [loadFileAndParents.eq_def]
  simp only [forIn_append_eq_mapM (fun p => loadFileAndParents fs cfg fuel p _ _ _), List.nil_append]
  cases chain.contains path
  · simp only [Bool.false_eq_true, if_false]
    change (loadFile fs cfg path (fileIdOf childId path) >>= fun raw => _) = _
    cases loadFile fs cfg path (fileIdOf childId path) with
    | error e => rfl
    | ok raw =>
      dsimp only
      change (fileParents fs cfg path raw >>= fun ps => _) = _
      cases fileParents fs cfg path raw with
      | error e => rfl
      | ok parents =>
        dsimp only
        change (Except.map _ (parents.mapM fun p => loadFileAndParents fs cfg fuel p (some (fileIdOf childId path))
          (docIdsOf (fileIdOf childId path) raw.length) (path :: chain)) >>= fun fl => _) = _
        cases parents.mapM fun p => loadFileAndParents fs cfg fuel p (some (fileIdOf childId path))
          (docIdsOf (fileIdOf childId path) raw.length) (path :: chain) <;> rfl
  · rfl

theorem loadFuel_succ : loadFuel = 63 + 1 := rfl

/-- A path that is already on the chain of children is a circular reference. -/
theorem C03_cycle_is_error (fs : FS) (cfg : RootCfg) (fuel : Nat) (path : Comps)
    (c : Option String) (ids : List String) (chain : List Comps) (h : path ∈ chain) :
    loadFileAndParents fs cfg (fuel + 1) path c ids chain = .error .circularRef := by
  rw [loadFileAndParents_succ, List.contains_iff_mem.2 h]
  rfl

theorem mapM_ok_fst {α β γ : Type} (F : α → R (β × γ)) (g : α → β) (l : List α)
    (h : ∀ a ∈ l, ∃ c, F a = .ok (g a, c)) : ∃ rs, l.mapM F = .ok rs ∧ rs.map (·.1) = l.map g := by
  induction l with
  | nil => exact ⟨[], rfl, rfl⟩
  | cons a l ih =>
    obtain ⟨c, hc⟩ := h a List.mem_cons_self
    obtain ⟨rs, hrs, hm⟩ := ih fun b hb => h b (List.mem_cons_of_mem _ hb)
    exact ⟨(g a, c) :: rs, by rw [mapM_cons, hc, hrs], by rw [List.map_cons, hm, List.map_cons]⟩

/-- A file whose `$parent` names the entries `parents` (a list, several documents, a wildcard - whatever `fileParents`
    resolved) is loaded as: the resolved layers of the first entry, then those of the second, ..., then the file itself.
    Each entry is preceded by ITS OWN bases and nothing else decides the order - in particular not how deep an entry's
    own chain is (`sub p` may have any length). -/
theorem C03_parent_list_depth_first (fs : FS) (cfg : RootCfg) (fuel : Nat) (path : Comps)
    (childId : Option String) (c : List String) (chain : List Comps) (raw : List Val) (parents : List Comps)
    (sub : Comps → List LFile)
    (hch : chain.contains path = false)
    (hload : loadFile fs cfg path (fileIdOf childId path) = .ok raw)
    (hpar : fileParents fs cfg path raw = .ok parents)
    (hsub : ∀ p ∈ parents, ∃ ids, loadFileAndParents fs cfg fuel p (some (fileIdOf childId path))
        (docIdsOf (fileIdOf childId path) raw.length) (path :: chain) = .ok (sub p, ids)) :
    loadFileAndParents fs cfg (fuel + 1) path childId c chain =
      .ok (parents.flatMap sub ++ [mineOf (fileIdOf childId path) path raw parents (parents.flatMap sub)],
        docIdsOf (fileIdOf childId path) raw.length) := by
  obtain ⟨rs, hrs, hm⟩ := mapM_ok_fst _ sub parents hsub
  have hf : rs.flatMap (·.1) = parents.flatMap sub := by rw [List.flatMap_def, hm, ← List.flatMap_def]
  rw [loadFileAndParents_succ, hch, hload]
  simp only [Bool.false_eq_true, if_false, hpar, hrs, hf]

theorem lfp_leaf {fs : FS} {cfg : RootCfg} {fuel : Nat} {path : Comps} {childId : Option String}
    {c : List String} {chain : List Comps} {raw : List Val}
    (hc : chain.contains path = false)
    (hl : loadFile fs cfg path (fileIdOf childId path) = .ok raw)
    (hp : fileParents fs cfg path raw = .ok []) :
    loadFileAndParents fs cfg (fuel + 1) path childId c chain =
      .ok ([mineOf (fileIdOf childId path) path raw [] []],
        docIdsOf (fileIdOf childId path) raw.length) :=
  C03_parent_list_depth_first fs cfg fuel path childId c chain raw [] (fun _ => []) hc hl hp
    (fun _ h => nomatch h)

theorem lfp_single {fs : FS} {cfg : RootCfg} {fuel : Nat} {path q : Comps}
    {childId : Option String} {c : List String} {chain : List Comps} {raw : List Val}
    {sub : List LFile} {ids : List String}
    (hc : chain.contains path = false)
    (hl : loadFile fs cfg path (fileIdOf childId path) = .ok raw)
    (hp : fileParents fs cfg path raw = .ok [q])
    (hq : loadFileAndParents fs cfg fuel q (some (fileIdOf childId path))
      (docIdsOf (fileIdOf childId path) raw.length) (path :: chain) = .ok (sub, ids)) :
    loadFileAndParents fs cfg (fuel + 1) path childId c chain =
      .ok (sub ++ [mineOf (fileIdOf childId path) path raw [q] sub],
        docIdsOf (fileIdOf childId path) raw.length) := by
  have := C03_parent_list_depth_first fs cfg fuel path childId c chain raw [q] (fun _ => sub) hc hl hp
    (fun p _ => ⟨ids, hq ▸ (List.mem_singleton.1 ‹p ∈ [q]› ▸ rfl)⟩)
  rwa [List.flatMap_singleton] at this

theorem lfp_parents_error {fs : FS} {cfg : RootCfg} {fuel : Nat} {path : Comps}
    {childId : Option String} {c : List String} {chain : List Comps} {raw : List Val} {e : Err}
    (hc : chain.contains path = false)
    (hl : loadFile fs cfg path (fileIdOf childId path) = .ok raw)
    (hp : fileParents fs cfg path raw = .error e) :
    loadFileAndParents fs cfg (fuel + 1) path childId c chain = .error e := by
  rw [loadFileAndParents_succ, hc, hl]
  simp only [Bool.false_eq_true, if_false, hp]

/-- the first parent fails: so does the file (the loader stops at the first error) -/
theorem lfp_first_error {fs : FS} {cfg : RootCfg} {fuel : Nat} {path q : Comps} {rest : List Comps}
    {childId : Option String} {c : List String} {chain : List Comps} {raw : List Val} {e : Err}
    (hc : chain.contains path = false)
    (hl : loadFile fs cfg path (fileIdOf childId path) = .ok raw)
    (hp : fileParents fs cfg path raw = .ok (q :: rest))
    (hq : loadFileAndParents fs cfg fuel q (some (fileIdOf childId path))
      (docIdsOf (fileIdOf childId path) raw.length) (path :: chain) = .error e) :
    loadFileAndParents fs cfg (fuel + 1) path childId c chain = .error e := by
  rw [loadFileAndParents_succ, hc, hl]
  simp only [Bool.false_eq_true, if_false, hp, mapM_cons, hq]

/-! ## chains: each file the one parent of the file before it -/

/-- the documents of a loaded file whose content carries no `$parent` -/
def plainDocs (fid : String) (parents : List String) (docs : List Val) : List Doc :=
  (docs.zip (docIdsOf fid docs.length)).map fun (v, i) => ({ id := i, parents := parents, data := v } : Doc)

theorem docIdsOf_length (fid : String) (n : Nat) : (docIdsOf fid n).length = n := by
  simp [docIdsOf]

/-- loader ids end in a digit, hence not in `|matchnull` -/
theorem noMN_docId (fid : String) (i : Nat) : NoMN (fid ++ "|doc" ++ toString i) := by
  intro t h
  have h2 := congrArg (fun x => x.toList.getLast?) h
  simp only [String.toList_append] at h2
  have e2 : "|matchnull".toList = ['|', 'm', 'a', 't', 'c', 'h', 'n', 'u', 'l', 'l'] := by decide
  rw [e2, Nat.toString_eq_repr, Nat.toList_repr] at h2
  have hne : Nat.toDigits 10 i ≠ [] := Nat.toDigits_ne_nil
  obtain ⟨c, hc⟩ : ∃ c, (Nat.toDigits 10 i).getLast? = some c := by
    cases hl : (Nat.toDigits 10 i).getLast? with
    | none => exact absurd (List.getLast?_eq_none_iff.1 hl) hne
    | some c => exact ⟨c, rfl⟩
  have hd : c.isDigit = true :=
    Nat.isDigit_of_mem_toDigits (by decide) (by decide) (List.mem_of_getLast? hc)
  rw [List.getLast?_append, hc] at h2
  simp at h2
  subst h2
  revert hd
  decide

theorem plainDocs_ids (fid : String) (ps : List String) (docs : List Val) :
    (plainDocs fid ps docs).map (·.id) = docIdsOf fid docs.length := by
  unfold plainDocs
  rw [List.map_map]
  exact List.map_snd_zip (Nat.le_of_eq (docIdsOf_length fid docs.length))

theorem plainDocs_data (fid : String) (ps : List String) (docs : List Val) :
    (plainDocs fid ps docs).map (·.data) = docs := by
  unfold plainDocs
  rw [List.map_map]
  exact List.map_fst_zip (Nat.le_of_eq (docIdsOf_length fid docs.length).symm)

theorem plainDocs_parents (fid : String) (ps : List String) (docs : List Val) :
    ∀ dd ∈ plainDocs fid ps docs, dd.parents = ps := by
  intro dd hdd
  obtain ⟨x, _, rfl⟩ := List.mem_map.1 hdd
  rfl

theorem mineOf_eq (fid : String) (path : Comps) (raw : List Val) (parents : List Comps)
    (files : List LFile) :
    mineOf fid path raw parents files =
      { id := fid, path := path,
        docs := plainDocs fid ((files.filter (fun f => parents.any fun p =>
          f.id == fid ++ "|" ++ pathStr p)).flatMap (fun f => f.docs.map (·.id))) (raw.map stripParent) } := by
  rw [mineOf, plainDocs, List.length_map]

/-- what loading the first file of `L` returns when each file of `L` (listed with its documents,
    `$parent` stripped) is the one parent of the file before it: the files base first, each document
    pointing at the documents of the next lower file; `c` is the child that asks -/
def linkFiles : Option String → List (Comps × List Val) → List LFile
  | _, [] => []
  | c, (q, raw) :: rest =>
    linkFiles (some (fileIdOf c q)) rest ++
      [{ id := fileIdOf c q, path := q,
         docs := plainDocs (fileIdOf c q)
           (match rest with
            | [] => []
            | (q', raw') :: _ => docIdsOf (fileIdOf c q ++ "|" ++ pathStr q') raw'.length)
           raw }]

/-- a chain as `fileParents` sees it (raw documents) ↦ as it is loaded (`$parent` stripped) -/
def stripDocs (L : List (Comps × List Val)) : List (Comps × List Val) :=
  L.map fun x => (x.1, x.2.map stripParent)

theorem stripDocs_cons (x : Comps × List Val) (L : List (Comps × List Val)) :
    stripDocs (x :: L) = (x.1, x.2.map stripParent) :: stripDocs L := rfl

theorem linkFiles_cons (c : Option String) (q : Comps) (raw : List Val)
    (rest : List (Comps × List Val)) :
    linkFiles c ((q, raw) :: rest) =
      linkFiles (some (fileIdOf c q)) rest ++
        [{ id := fileIdOf c q, path := q,
           docs := plainDocs (fileIdOf c q)
             (match rest with
              | [] => []
              | (q', raw') :: _ => docIdsOf (fileIdOf c q ++ "|" ++ pathStr q') raw'.length)
             raw }] := rfl

/-- `id` belongs to a file loaded below the child `c`: `c|/…` -/
def Below (c id : String) : Prop := ∃ r, id = c ++ "|/" ++ r

theorem below_bar_path (c : String) (p : Comps) : Below c (c ++ "|" ++ pathStr p) := by
  refine ⟨"/".intercalate p, ?_⟩
  unfold pathStr
  apply String.toList_inj.1
  simp only [String.toList_append]
  have : "|/".toList = "|".toList ++ "/".toList := by decide
  rw [this]
  simp only [List.append_assoc]

theorem below_trans {a b c : String} (h₁ : Below a b) (h₂ : Below b c) : Below a c := by
  obtain ⟨r₁, rfl⟩ := h₁
  obtain ⟨r₂, rfl⟩ := h₂
  exact ⟨r₁ ++ "|/" ++ r₂, by simp only [String.append_assoc]⟩

theorem Below.ne {c g : String} (hg : Below c g) : g ≠ c := by
  obtain ⟨r, rfl⟩ := hg
  intro h
  have := congrArg String.length h
  rw [String.length_append, String.length_append] at this
  have : "|/".length = 2 := by decide
  omega

/-- the documents of a file below `c` and the documents of `c` have different ids -/
theorem docId_ne_below {c g : String} (hg : Below c g) (i j : Nat) :
    g ++ "|doc" ++ toString i ≠ c ++ "|doc" ++ toString j := by
  obtain ⟨r, rfl⟩ := hg
  intro h
  rw [String.append_assoc, String.append_assoc, String.append_assoc, String.append_assoc] at h
  have h2 := congrArg String.toList ((String.append_right_inj _).1 h)
  simp only [String.toList_append] at h2
  have e1 : "|/".toList = ['|', '/'] := by decide
  have e2 : "|doc".toList = ['|', 'd', 'o', 'c'] := by decide
  rw [e1, e2] at h2
  simp at h2

theorem linkFiles_below (L : List (Comps × List Val)) : ∀ (c : String),
    ∀ f ∈ linkFiles (some c) L, Below c f.id := by
  induction L with
  | nil => intro c f h; cases h
  | cons x rest ih =>
    intro c f h
    rcases List.mem_append.1 h with h | h
    · exact below_trans (below_bar_path c _) (ih _ f h)
    · rw [List.mem_singleton.1 h]
      exact below_bar_path c _

theorem linkFiles_docIds (L : List (Comps × List Val)) : ∀ (c : Option String),
    ∀ f ∈ linkFiles c L, f.docs.map (·.id) = docIdsOf f.id f.docs.length := by
  induction L with
  | nil => intro c f h; cases h
  | cons x rest ih =>
    intro c f h
    rcases List.mem_append.1 h with h | h
    · exact ih _ f h
    · rw [List.mem_singleton.1 h]
      simp only
      rw [plainDocs_ids, ← docIdsOf_length (fileIdOf c x.1) x.2.length, ← plainDocs_ids _ _ x.2,
        List.length_map]

/-- the parent links `mineOf` computes for the file above the chain `(q, raw) :: rest`: the
    documents of `q`, which no deeper file shares its id with -/
theorem linkFiles_parentIds (fid : String) (q : Comps) (raw : List Val)
    (rest : List (Comps × List Val)) :
    ((linkFiles (some fid) ((q, raw) :: rest)).filter (fun f => [q].any fun p =>
        f.id == fid ++ "|" ++ pathStr p)).flatMap (fun f => f.docs.map (·.id)) =
      docIdsOf (fid ++ "|" ++ pathStr q) raw.length := by
  have h1 : (linkFiles (some (fid ++ "|" ++ pathStr q)) rest).filter
      (fun f => [q].any fun p => f.id == fid ++ "|" ++ pathStr p) = [] := by
    rw [List.filter_eq_nil_iff]
    intro f hf
    simp only [List.any_cons, List.any_nil, Bool.or_false, beq_iff_eq]
    exact (linkFiles_below rest _ f hf).ne
  rw [linkFiles_cons]
  simp only [fileIdOf]
  rw [List.filter_append, h1, List.nil_append]
  simp only [List.filter_cons, List.any_cons, List.any_nil, Bool.or_false, beq_self_eq_true,
    if_true, List.filter_nil, List.flatMap_cons, List.flatMap_nil, List.append_nil]
  rw [plainDocs_ids]

/-- every file of `L` loads with the documents listed, the one parent of each but the last is
    the next one, and the parents of the last are `r` -/
def Linked (fs : FS) (cfg : RootCfg) (r : R (List Comps)) : List (Comps × List Val) → Prop
  | [] => True
  | (q, raw) :: rest =>
    (∀ fid, loadFile fs cfg q fid = .ok raw) ∧
    fileParents fs cfg q raw = (match rest with | [] => r | (q', _) :: _ => .ok [q']) ∧
    Linked fs cfg r rest

section linked

variable {fs : FS} {cfg : RootCfg} {r : R (List Comps)}

theorem Linked.of_append : ∀ (A : List (Comps × List Val)) {B : List (Comps × List Val)},
    Linked fs cfg r (A ++ B) → Linked fs cfg r B
  | [], _, h => h
  | _ :: A, _, h => Linked.of_append A h.2.2

/-- a chain is a function of its first file: what a file holds and which parent it has is read off
    the file system, so two chains from the same file that end alike (not in "one more parent") have
    the same length -/
theorem Linked.length_eq (hr : ∀ q, r ≠ .ok [q]) : ∀ (A B : List (Comps × List Val)) (q : Comps)
    (raw raw' : List Val), Linked fs cfg r ((q, raw) :: A) → Linked fs cfg r ((q, raw') :: B) →
    A.length = B.length := by
  intro A
  induction A with
  | nil =>
    intro B q raw raw' hA hB
    cases Except.ok.inj ((hA.1 "").symm.trans (hB.1 ""))
    cases B with
    | nil => rfl
    | cons b B => exact absurd (hA.2.1.symm.trans hB.2.1) (hr b.1)
  | cons a A ih =>
    intro B q raw raw' hA hB
    cases Except.ok.inj ((hA.1 "").symm.trans (hB.1 ""))
    cases B with
    | nil => exact absurd (hB.2.1.symm.trans hA.2.1) (hr a.1)
    | cons b B =>
      obtain ⟨a, ra⟩ := a
      obtain ⟨b, rb⟩ := b
      cases List.cons.inj (Except.ok.inj (hA.2.1.symm.trans hB.2.1)) |>.1
      exact congrArg (· + 1) (ih B a ra rb hA.2.2 hB.2.2)

/-- **a chain that ends holds no file twice**: from a repeated file the chain would go on as it
    did the first time, for ever -/
theorem Linked.nodup (hr : ∀ q, r ≠ .ok [q]) : ∀ (L : List (Comps × List Val)),
    Linked fs cfg r L → (L.map (·.1)).Nodup
  | [], _ => List.nodup_nil
  | (q, raw) :: L, h => by
    refine List.nodup_cons.2 ⟨fun hq => ?_, Linked.nodup hr L h.2.2⟩
    obtain ⟨⟨_, raw'⟩, hx, rfl⟩ := List.mem_map.1 hq
    obtain ⟨A, B, rfl⟩ := List.append_of_mem hx
    have := Linked.length_eq hr _ _ _ raw raw' h (Linked.of_append A h.2.2)
    rw [List.length_append, List.length_cons] at this
    omega

theorem not_contains_of_nodup {q : Comps} {ps chain : List Comps} (hnd : (q :: ps).Nodup)
    (hch : ∀ p ∈ q :: ps, chain.contains p = false) :
    chain.contains q = false ∧ ∀ p ∈ ps, (q :: chain).contains p = false := by
  refine ⟨hch q List.mem_cons_self, fun p hp => ?_⟩
  rw [List.contains_cons, hch p (List.mem_cons_of_mem _ hp), Bool.or_false, beq_eq_false_iff_ne]
  rintro rfl
  exact (List.nodup_cons.1 hnd).1 hp

/-- **a chain loads base first** (with enough fuel) -/
theorem lfp_linked (fuel : Nat) (L : List (Comps × List Val)) : ∀ (q : Comps) (raw : List Val)
    (c : Option String) (ids : List String) (chain : List Comps),
    Linked fs cfg (.ok []) ((q, raw) :: L) →
    (∀ p ∈ q :: L.map (·.1), chain.contains p = false) →
    loadFileAndParents fs cfg (fuel + L.length + 1) q c ids chain =
      .ok (linkFiles c (stripDocs ((q, raw) :: L)), docIdsOf (fileIdOf c q) raw.length) := by
  induction L with
  | nil =>
    intro q raw c ids chain h hch
    rw [lfp_leaf (hch q List.mem_cons_self) (h.1 _) h.2.1, mineOf_eq]
    rfl
  | cons x L ih =>
    intro q raw c ids chain h hch
    obtain ⟨hc, hch'⟩ := not_contains_of_nodup (Linked.nodup (fun _ e => by cases e) _ h) hch
    have hq := ih x.1 x.2 (some (fileIdOf c q)) (docIdsOf (fileIdOf c q) raw.length) (q :: chain)
      h.2.2 hch'
    rw [List.length_cons, ← Nat.add_assoc, lfp_single hc (h.1 _) h.2.1 hq, mineOf_eq,
      stripDocs_cons x, linkFiles_parentIds]
    rfl

theorem lfp_linked_error (fuel : Nat) (e : Err) (L : List (Comps × List Val)) : ∀ (q : Comps)
    (raw : List Val) (c : Option String) (ids : List String) (chain : List Comps),
    Linked fs cfg (.error e) ((q, raw) :: L) →
    (∀ p ∈ q :: L.map (·.1), chain.contains p = false) →
    loadFileAndParents fs cfg (fuel + L.length + 1) q c ids chain = .error e := by
  induction L with
  | nil =>
    intro q raw c ids chain h hch
    exact lfp_parents_error (hch q List.mem_cons_self) (h.1 _) h.2.1
  | cons x L ih =>
    intro q raw c ids chain h hch
    obtain ⟨hc, hch'⟩ := not_contains_of_nodup (Linked.nodup (fun _ e => by cases e) _ h) hch
    rw [List.length_cons, ← Nat.add_assoc]
    exact lfp_first_error hc (h.1 _) h.2.1 (ih x.1 x.2 _ _ (q :: chain) h.2.2 hch')

theorem lfp_linked_nofuel (fuel : Nat) : ∀ (L : List (Comps × List Val))
    (q : Comps) (raw : List Val) (c : Option String) (ids : List String) (chain : List Comps),
    Linked fs cfg r ((q, raw) :: L) → fuel ≤ L.length →
    loadFileAndParents fs cfg fuel q c ids chain = .error .circularRef := by
  induction fuel with
  | zero => intros; rfl
  | succ fuel ih =>
    intro L q raw c ids chain h hlen
    cases L with
    | nil => exact absurd hlen (Nat.not_succ_le_zero _)
    | cons x L =>
      cases hc : chain.contains q with
      | true => exact C03_cycle_is_error fs cfg fuel q c ids chain (List.contains_iff_mem.1 hc)
      | false =>
        exact lfp_first_error hc (h.1 _) h.2.1
          (ih L x.1 x.2 _ _ (q :: chain) h.2.2 (Nat.le_of_succ_le_succ hlen))

end linked

theorem linkFiles_paths : ∀ (L : List (Comps × List Val)) (c : Option String),
    (linkFiles c L).map (·.path) = (L.map (·.1)).reverse
  | [], _ => rfl
  | (q, raw) :: rest, c => by
    simp only [linkFiles_cons, List.map_append, linkFiles_paths rest, List.map_cons, List.map_nil,
      List.reverse_cons]

theorem linkFiles_data : ∀ (L : List (Comps × List Val)) (c : Option String),
    (linkFiles c L).map (fun f => f.docs.map (·.data)) = (L.map (·.2)).reverse
  | [], _ => rfl
  | (q, raw) :: rest, c => by
    simp only [linkFiles_cons, List.map_append, linkFiles_data rest, List.map_cons, List.map_nil,
      List.reverse_cons, plainDocs_data]

theorem linkFiles_length : ∀ (L : List (Comps × List Val)) (c : Option String),
    (linkFiles c L).length = L.length
  | [], _ => rfl
  | (q, raw) :: rest, c => by
    rw [linkFiles_cons, List.length_append, linkFiles_length rest]; rfl

theorem linkFiles_getLast (c : Option String) (q : Comps) (raw : List Val)
    (rest : List (Comps × List Val)) :
    (linkFiles c ((q, raw) :: rest)).getLast? =
      some { id := fileIdOf c q, path := q,
             docs := plainDocs (fileIdOf c q)
               (match rest with
                | [] => []
                | (q', raw') :: _ => docIdsOf (fileIdOf c q ++ "|" ++ pathStr q') raw'.length)
               raw } := by
  rw [linkFiles_cons, List.getLast?_append]
  rfl

/-- neighbours in the loaded list: the lower file's id extends the upper one's, and the upper
    file's documents point at exactly the lower file's documents -/
theorem linkFiles_link (L : List (Comps × List Val)) : ∀ (c : Option String)
    (k : Nat) (f g : LFile), (linkFiles c L)[k]? = some f → (linkFiles c L)[k + 1]? = some g →
      f.id = g.id ++ "|" ++ pathStr f.path ∧ ∀ dd ∈ g.docs, dd.parents = f.docs.map (·.id) := by
  induction L with
  | nil => intro c k f g h; cases h
  | cons x S ih =>
    intro c k f g hf hg
    rw [linkFiles_cons] at hf hg
    rcases adjacent_snoc hf hg with ⟨hf', hg'⟩ | ⟨hl, rfl⟩
    · exact ih _ k f g hf' hg'
    · cases S with
      | nil => cases hl
      | cons y S' =>
        rw [linkFiles_getLast] at hl
        cases hl
        exact ⟨rfl, fun dd hdd => (plainDocs_parents _ _ _ dd hdd).trans (plainDocs_ids _ _ _).symm⟩

theorem linkFiles_head_parents (L : List (Comps × List Val)) :
    ∀ (c : Option String) (f : LFile), (linkFiles c L).head? = some f →
      ∀ dd ∈ f.docs, dd.parents = [] := by
  induction L with
  | nil => intro c f h; cases h
  | cons x S ih =>
    intro c f h
    rw [linkFiles_cons, List.head?_append] at h
    cases S with
    | nil =>
      cases h
      exact plainDocs_parents _ _ _
    | cons y S' =>
      cases hA : (linkFiles (some (fileIdOf c x.1)) (y :: S')).head? with
      | none =>
        have := linkFiles_length (y :: S') (some (fileIdOf c x.1))
        rw [List.head?_eq_none_iff.1 hA] at this
        cases this
      | some a =>
        rw [hA] at h
        cases h
        exact ih _ _ hA

def oneDoc (fid : String) (parents : List String) (v : Val) : Doc :=
  { id := fid ++ "|doc" ++ toString 0, parents := parents, data := v }

theorem plainDocs_one (fid : String) (ps : List String) (v : Val) :
    plainDocs fid ps [v] = [oneDoc fid ps v] := rfl

theorem mineOf_one (fid : String) (path : Comps) (v : Val) (parents : List Comps)
    (files : List LFile) (hv : parentDirective v = .ok .absent) :
    mineOf fid path [v] parents files =
      { id := fid, path := path,
        docs := [oneDoc fid ((files.filter (fun f => parents.any fun p =>
          f.id == fid ++ "|" ++ pathStr p)).flatMap (fun f => f.docs.map (·.id))) v] } := by
  rw [mineOf_eq, List.map_singleton, stripParent_of_absent v hv]
  rfl

theorem map_stripParent_absent (docs : List Val) (h : ∀ v ∈ docs, parentDirective v = .ok .absent) :
    docs.map stripParent = docs := by
  induction docs with
  | nil => rfl
  | cons v vs ih =>
    rw [List.map_cons, stripParent_of_absent v (h v List.mem_cons_self),
      ih (fun x hx => h x (List.mem_cons_of_mem _ hx))]

theorem mineOf_plain (fid : String) (path : Comps) (raw : List Val) (parents : List Comps)
    (files : List LFile) (h : ∀ v ∈ raw, parentDirective v = .ok .absent) :
    mineOf fid path raw parents files =
      { id := fid, path := path,
        docs := plainDocs fid ((files.filter (fun f => parents.any fun p =>
          f.id == fid ++ "|" ++ pathStr p)).flatMap (fun f => f.docs.map (·.id))) raw } := by
  rw [mineOf_eq, map_stripParent_absent raw h]

theorem mergeFileLayers_eq (fs : FS) (cfg : RootCfg) (st : PState) (path : Comps) :
    mergeFileLayers fs cfg st path =
      match loadFileAndParents fs cfg loadFuel path none [] [] with
      | .error e => .error e
      | .ok (files, _) => mergeFiles st files := by
  unfold mergeFileLayers
  cases loadFileAndParents fs cfg loadFuel path none [] [] with
  | error e => rfl
  | ok r => rfl

theorem foldlM_runMerges : ∀ (files : List LFile) (st : PState),
    files.foldlM (fun st f => f.docs.foldlM mergeDocument st) st =
      runMerges st (files.flatMap (·.docs))
  | [], st => rfl
  | f :: files, st => by
    rw [List.foldlM_cons, List.flatMap_cons]
    unfold runMerges
    rw [List.foldlM_append]
    cases hm : f.docs.foldlM mergeDocument st with
    | error e => rfl
    | ok st' =>
      simp only [bind, Except.bind]
      exact foldlM_runMerges files st'

theorem mergeFiles_eq (st : PState) (files : List LFile) :
    mergeFiles st files = runMerges st (files.flatMap (·.docs)) :=
  foldlM_runMerges files st

/-- the files the loader returns are merged document by document, in the order returned -/
theorem mergeFileLayers_of_load {fs : FS} {cfg : RootCfg} {path : Comps} {files : List LFile}
    {ids : List String}
    (h : loadFileAndParents fs cfg loadFuel path none [] [] = .ok (files, ids)) (st : PState) :
    mergeFileLayers fs cfg st path = runMerges st (files.flatMap (·.docs)) := by
  rw [mergeFileLayers_eq, h]
  exact mergeFiles_eq st files

/-- every loaded file is a `mineOf …`: what holds of all of these holds of all loaded files -/
theorem tc_load_forall {P : LFile → Prop}
    (hP : ∀ fid path raw parents sub, P (mineOf fid path raw parents sub)) (fs : FS)
    (cfg : RootCfg) (fuel : Nat) : ∀ (path : Comps) (childId : Option String) (c : List String)
    (chain : List Comps) (files : List LFile) (ids : List String),
    loadFileAndParents fs cfg fuel path childId c chain = .ok (files, ids) → ∀ f ∈ files, P f := by
  induction fuel with
  | zero => intro path childId c chain files ids h; rw [loadFileAndParents] at h; cases h
  | succ fuel ih =>
    intro path childId c chain files ids h
    rw [loadFileAndParents_succ] at h
    split at h
    · cases h
    split at h
    · cases h
    split at h
    · cases h
    split at h
    · cases h
    rename_i subs hs
    cases h
    intro f hf
    rcases List.mem_append.1 hf with hf | hf
    · obtain ⟨r, hr, hfr⟩ := List.mem_flatMap.1 hf
      obtain ⟨q, _, hq⟩ := ((mapM_ok_iff _ _ _).1 hs).mem_right hr
      exact ih q _ _ _ r.1 r.2 hq f hfr
    · rw [List.mem_singleton.1 hf]; exact hP _ _ _ _ _

/-! ## `docIdsOf` and `plainDocs`: members, positions, distinct ids -/

theorem fl_docId_inj (fid : String) {i j : Nat}
    (h : fid ++ "|doc" ++ toString i = fid ++ "|doc" ++ toString j) : i = j :=
  fl_toString_inj ((String.append_right_inj _).1 h)

theorem fl_docIdsOf_nodup (fid : String) (n : Nat) : (docIdsOf fid n).Nodup := by
  unfold docIdsOf List.Nodup
  rw [List.pairwise_map]
  exact List.Pairwise.imp (fun hne e => hne (fl_docId_inj fid e)) List.nodup_range

theorem fl_mem_docIdsOf {fid : String} {n : Nat} {x : String} :
    x ∈ docIdsOf fid n ↔ ∃ i, i < n ∧ x = fid ++ "|doc" ++ toString i := by
  unfold docIdsOf
  rw [List.mem_map]
  constructor
  · rintro ⟨i, hi, rfl⟩; exact ⟨i, List.mem_range.1 hi, rfl⟩
  · rintro ⟨i, hi, rfl⟩; exact ⟨i, List.mem_range.2 hi, rfl⟩

theorem fl_docIdsOf_getElem? (fid : String) (n i : Nat) (hi : i < n) :
    (docIdsOf fid n)[i]? = some (fid ++ "|doc" ++ toString i) := by
  unfold docIdsOf
  rw [List.getElem?_map, List.getElem?_range hi]
  rfl

theorem fl_docIdsOf_ne_nil (fid : String) {vs : List Val} (h : vs ≠ []) :
    docIdsOf fid vs.length ≠ [] :=
  fun e => h (List.eq_nil_of_length_eq_zero (by rw [← docIdsOf_length fid vs.length, e]; rfl))

theorem fl_noMN_of_mem_docIdsOf {fid : String} {n : Nat} {x : String} (h : x ∈ docIdsOf fid n) :
    NoMN x := by
  obtain ⟨i, _, rfl⟩ := fl_mem_docIdsOf.1 h
  exact noMN_docId fid i

theorem fl_plainDocs_length (fid : String) (ps : List String) (docs : List Val) :
    (plainDocs fid ps docs).length = docs.length := by
  have := congrArg List.length (plainDocs_ids fid ps docs)
  rwa [List.length_map, docIdsOf_length] at this

theorem fl_zipDocs_map2 {β γ : Type} (f : String → β) (g : Val → γ) (vs : List Val) :
    ∀ (ids : List String), vs.length = ids.length →
      ((vs.zip ids).map fun (x : Val × String) => (f x.2, g x.1)) = (ids.map f).zip (vs.map g) := by
  induction vs with
  | nil => intro ids _; cases ids <;> rfl
  | cons v vs ih =>
    intro ids h
    cases ids with
    | nil => cases h
    | cons i ids =>
      rw [List.zip_cons_cons, List.map_cons, List.map_cons, List.map_cons, List.zip_cons_cons,
        ih ids (Nat.succ.inj h)]

theorem fl_plainDocs_map2 {β γ : Type} (fid : String) (P : List String) (vs : List Val)
    (f : String → β) (g : Val → γ) :
    (plainDocs fid P vs).map (fun c => (f c.id, g c.data)) =
      ((docIdsOf fid vs.length).map f).zip (vs.map g) := by
  unfold plainDocs
  rw [List.map_map]
  exact fl_zipDocs_map2 f g vs _ (docIdsOf_length fid vs.length).symm

theorem fl_plainDocs_pairs (fid : String) (P : List String) (vs : List Val) :
    (plainDocs fid P vs).map (fun c => (c.id, c.data)) = (docIdsOf fid vs.length).zip vs := by
  have := fl_plainDocs_map2 fid P vs id id
  rwa [List.map_id, List.map_id] at this

theorem fl_mem_plainDocs {fid : String} {P : List String} {vs : List Val} {c : Doc}
    (h : c ∈ plainDocs fid P vs) :
    c.parents = P ∧ c.data ∈ vs ∧ c.id ∈ docIdsOf fid vs.length :=
  ⟨plainDocs_parents fid P vs c h, plainDocs_data fid P vs ▸ List.mem_map_of_mem (f := (·.data)) h,
    plainDocs_ids fid P vs ▸ List.mem_map_of_mem (f := (·.id)) h⟩

theorem fl_plainDocs_map_id (fid : String) (P : List String) (vs : List Val) {β : Type}
    (F : String → List String → β) :
    (plainDocs fid P vs).map (fun c => F c.id c.parents) =
      (docIdsOf fid vs.length).map (fun i => F i P) := by
  rw [← plainDocs_ids fid P vs, List.map_map]
  exact List.map_congr_left fun c hc => by rw [(fl_mem_plainDocs hc).1]; rfl

theorem fl_plainDocs_getElem? (fid : String) (P : List String) (vs : List Val) (k : Nat) (c : Doc)
    (h : (plainDocs fid P vs)[k]? = some c) :
    c.id = fid ++ "|doc" ++ toString k ∧ c.parents = P ∧ vs[k]? = some c.data := by
  have hk : k < vs.length := fl_plainDocs_length fid P vs ▸ (List.getElem?_eq_some_iff.1 h).1
  have h1 : ((plainDocs fid P vs).map (·.id))[k]? = some c.id := by
    rw [List.getElem?_map, h]; rfl
  have h2 : ((plainDocs fid P vs).map (·.data))[k]? = some c.data := by
    rw [List.getElem?_map, h]; rfl
  rw [plainDocs_ids, fl_docIdsOf_getElem? fid _ k hk] at h1
  rw [plainDocs_data] at h2
  exact ⟨(Option.some.inj h1).symm, (fl_mem_plainDocs (List.mem_of_getElem? h)).1, h2⟩

theorem fl_docIds_disjoint {c g : String} (hg : Below c g) (n m : Nat) :
    ∀ x ∈ docIdsOf g n, x ∉ docIdsOf c m := by
  intro x hx hx'
  obtain ⟨i, _, rfl⟩ := fl_mem_docIdsOf.1 hx
  obtain ⟨j, _, e⟩ := fl_mem_docIdsOf.1 hx'
  exact docId_ne_below hg i j e

end Bkl
