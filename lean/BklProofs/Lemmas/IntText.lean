/-
  The decimal text of an integer, as core prints and reads it, on `List Char`: `toString i` is an optional `-` and then
  digits (`int_toString_toList`, `int_toString_shape`), no digit is white space, the text does not start with `+`, it
  reads back (`int_toString_toInt`), and a text holding anything but digits, `_` and `-` does not read as an integer.
  The JSON number reader (Lemmas/JsonText.lean) and the decoders' `parseInt64` / `goDecInt` (Lemmas/Stream.lean) rest on it.
-/
import Std.Data.String.ToInt
namespace Bkl

theorem int_toString_toList (i : Int) :
    (toString i).toList =
      if 0 ≤ i then Nat.toDigits 10 i.toNat else '-' :: Nat.toDigits 10 (-i).toNat := by
  rw [Int.toString_eq_repr, Int.repr_eq_if]
  split <;> simp [String.toList_append]

theorem int_toString_shape (i : Int) : ∃ c cs, (toString i).toList = c :: cs ∧
    (c.isDigit = true ∨ c = '-') ∧ ∀ d ∈ cs, d.isDigit = true := by
  rw [int_toString_toList]
  split
  · cases h : Nat.toDigits 10 i.toNat with
    | nil => exact absurd h Nat.toDigits_ne_nil
    | cons c cs =>
      have hd : ∀ d ∈ Nat.toDigits 10 i.toNat, d.isDigit = true := fun d hd =>
        Nat.isDigit_of_mem_toDigits (by decide) (by decide) hd
      rw [h] at hd
      exact ⟨c, cs, rfl, Or.inl (hd c List.mem_cons_self),
        fun d hd' => hd d (List.mem_cons_of_mem _ hd')⟩
  · exact ⟨'-', _, rfl, Or.inr rfl, fun d hd =>
      Nat.isDigit_of_mem_toDigits (by decide) (by decide) hd⟩

theorem isDigit_not_ws {c : Char} (h : c.isDigit = true) : c.isWhitespace = false := by
  simp only [Char.isDigit, Bool.and_eq_true, decide_eq_true_eq] at h
  have h1 : 48 ≤ c.val := h.1
  cases hw : c.isWhitespace
  · rfl
  · simp only [Char.isWhitespace, Bool.or_eq_true, decide_eq_true_eq] at hw
    rcases hw with ((hw | hw) | hw) | hw <;> (subst hw; revert h1; decide)

theorem int_toString_no_plus (i : Int) : (toString i).startsWith "+" = false := by
  obtain ⟨c, cs, h, hc, _⟩ := int_toString_shape i
  rw [String.startsWith_string_eq_false_iff, h]
  have : "+".toList = ['+'] := by decide
  rw [this]
  intro hp
  obtain ⟨t, ht⟩ := hp
  have hc' : c = '+' := by
    have := congrArg List.head? ht
    simpa using this.symm
  subst hc'
  rcases hc with hc | hc
  · revert hc; decide
  · revert hc; decide

theorem int_toString_toInt (i : Int) : (toString i).toInt? = some i := Int.toInt?_repr i

theorem toInt?_none_of_bad_char (s : String) (c : Char) (hc : c ∈ s.toList)
    (h1 : c.isDigit = false) (h2 : c ≠ '_') (h3 : c ≠ '-') : s.toInt? = none := by
  rw [String.toInt?_eq_none_iff]
  cases hi : s.isInt with
  | false => rfl
  | true =>
    exfalso
    rcases String.isInt_iff.1 hi with hn | ⟨t, rfl, hn⟩
    · rcases (String.isNat_iff.1 hn).2.1 c hc with h | h
      · rw [h1] at h; cases h
      · exact h2 h
    · rw [String.toList_append] at hc
      rcases List.mem_append.1 hc with hc | hc
      · have : "-".toList = ['-'] := by decide
        rw [this] at hc
        exact h3 (List.mem_singleton.1 hc)
      · rcases (String.isNat_iff.1 hn).2.1 c hc with h | h
        · rw [h1] at h; cases h
        · exact h2 h

end Bkl
