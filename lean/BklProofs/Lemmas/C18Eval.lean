/-
  BklProofs.Lemmas.C18Eval — helper lemmas for the whole-evaluation form of C18:
  the restriction of a file system to a root (`FS.inside`, `sameInside`), congruence of every
  rooted probe under it, `filepath.EvalSymlinks` on a path that has just been opened (it takes the
  steps of the `os.Root` walk: `resolve_eq_probe`, Lemmas/FilesWalk.lean), and congruence of the
  loader / the command line loop.
-/
import BklProofs.Lemmas.FilesCli
namespace Bkl

/-! ## the file system restricted to a root -/

/-- the entries at and below `root` (in order) -/
def FS.inside (fs : FS) (root : Comps) : List (Comps × FNode) :=
  fs.entries.filter (fun e => root.isPrefixOf e.1)

/-- two file systems with exactly the same entries at and below `root` -/
def sameInside (root : Comps) (fs₁ fs₂ : FS) : Prop := fs₁.inside root = fs₂.inside root

/-- the root's own ancestors and the root itself are plain directories (no symlink on the way
    to the root), and the root is a clean path -/
def RootPlain (fs : FS) (root : Comps) : Prop :=
  (∀ c ∈ root, plainComp c = true) ∧ ∀ p, p ≠ [] → p <+: root → fs.lstat p = some .dir

instance (root : Comps) (fs₁ fs₂ : FS) : Decidable (sameInside root fs₁ fs₂) :=
  inferInstanceAs (Decidable (fs₁.inside root = fs₂.inside root))

theorem c18e_sameInside_refl (root : Comps) (fs : FS) : sameInside root fs fs := rfl

theorem c18e_sameInside_symm {root : Comps} {fs₁ fs₂ : FS} (h : sameInside root fs₁ fs₂) :
    sameInside root fs₂ fs₁ := Eq.symm h

theorem c18e_lstat_inside (fs : FS) {root p : Comps} (hp : root <+: p) :
    fs.lstat p = FS.lstat ⟨fs.inside root⟩ p := by
  rw [lstat_eq, lstat_eq, FS.inside, find?_filter_of_imp]
  intro e he
  rw [List.isPrefixOf_iff_prefix, eq_of_beq he]
  exact hp

theorem sameInside.agree {root : Comps} {fs₁ fs₂ : FS} (h : sameInside root fs₁ fs₂) :
    agreeInside root fs₁ fs₂ := fun p hp => by
  rw [c18e_lstat_inside fs₁ hp, c18e_lstat_inside fs₂ hp, h]

/-! ## congruence of the rooted probes

  What only follows single paths (`rootProbe`, `rootWalk`, `rootOpen`) needs `agreeInside`; the
  directory listing, which sees order and duplicates of the entries, needs `sameInside`. -/

theorem c18e_rootExists_congr {root : Comps} {fs₁ fs₂ : FS} (hag : agreeInside root fs₁ fs₂)
    (rel : List String) : fs₁.rootExists root rel = fs₂.rootExists root rel := by
  rw [rootExists_eq, rootExists_eq, rootProbe_congr fs₁ fs₂ root hag linkFuel root rel (List.prefix_refl _)]

theorem c18e_findRooted_congr {root : Comps} {fs₁ fs₂ : FS} (hag : agreeInside root fs₁ fs₂)
    (dir : Comps) (layer : String) : fs₁.findRooted root dir layer = fs₂.findRooted root dir layer := by
  rw [findRooted_eq, findRooted_eq, funext (c18e_rootExists_congr hag)]

theorem c18e_rootOpen_congr {root : Comps} {fs₁ fs₂ : FS} (hag : agreeInside root fs₁ fs₂)
    (rel : List String) : fs₁.rootOpen root rel = fs₂.rootOpen root rel := by
  rw [rootOpen_eq, rootOpen_eq, rootWalk_congr fs₁ fs₂ root hag linkFuel root rel (List.prefix_refl _)]
  cases hw : fs₂.rootWalk root linkFuel 0 root rel with
  | error e => rfl
  | ok real => simp only [hag real (rootWalk_inside fs₂ root _ _ _ _ hw (List.prefix_refl _))]

theorem c18e_loadFile_congr {fs₁ fs₂ : FS} {cfg : RootCfg} (hag : agreeInside cfg.root fs₁ fs₂)
    (path : Comps) (id : String) : loadFile fs₁ cfg path id = loadFile fs₂ cfg path id := by
  rw [loadFile_eq, loadFile_eq, c18e_rootOpen_congr hag]

theorem c18e_dirNames_inside (fs : FS) {root real : Comps} (hp : root <+: real) :
    dirNames fs real = dirNames ⟨fs.inside root⟩ real := by
  unfold dirNames FS.inside
  rw [List.filter_filter]
  congr 1
  apply List.filter_congr
  intro e _
  cases he : (e.1.dropLast == real && !e.1.isEmpty) with
  | false => rfl
  | true =>
    rw [Bool.and_eq_true, beq_iff_eq] at he
    exact (List.isPrefixOf_iff_prefix.2 ((he.1 ▸ hp).trans (List.dropLast_prefix _))).symm

theorem c18e_dirNames_congr {root : Comps} {fs₁ fs₂ : FS} (h : sameInside root fs₁ fs₂)
    {real : Comps} (hp : root <+: real) : dirNames fs₁ real = dirNames fs₂ real := by
  rw [c18e_dirNames_inside fs₁ hp, c18e_dirNames_inside fs₂ hp, h]

theorem c18e_rootReadDir_congr {root : Comps} {fs₁ fs₂ : FS} (h : sameInside root fs₁ fs₂)
    (rel : List String) : fs₁.rootReadDir root rel = fs₂.rootReadDir root rel := by
  rw [rootReadDir_eq, rootReadDir_eq,
    rootWalk_congr fs₁ fs₂ root h.agree linkFuel root rel (List.prefix_refl _)]
  cases hw : fs₂.rootWalk root linkFuel 0 root rel with
  | error e => rfl
  | ok real =>
    have hin := rootWalk_inside fs₂ root _ _ _ _ hw (List.prefix_refl _)
    simp only []
    rw [h.agree real hin, c18e_dirNames_congr h hin]

theorem c18e_globRev_congr {root : Comps} {fs₁ fs₂ : FS} (h : sameInside root fs₁ fs₂)
    (patRev : List String) : fs₁.globRev root patRev = fs₂.globRev root patRev := by
  induction patRev with
  | nil => rfl
  | cons file dirRev ih => rw [globRev_cons, globRev_cons, ih, funext (c18e_rootReadDir_congr h)]

theorem c18e_globFiles_congr {root : Comps} {fs₁ fs₂ : FS} (h : sameInside root fs₁ fs₂)
    (target : Comps) : fs₁.globFiles root target = fs₂.globFiles root target := by
  rw [globFiles_eq, globFiles_eq, funext (c18e_globRev_congr h)]

/-! ## `filepath.EvalSymlinks` on a path that the root walk has just opened -/

theorem c18e_noLinksAlong_root {fs : FS} {root : Comps} (h : RootPlain fs root) :
    NoLinksAlong fs [] root :=
  ⟨h.1, fun t' hne hp => ⟨.dir, by rw [List.nil_append]; exact h.2 t' hne hp, rfl⟩⟩

theorem c18e_plainDir_of_rootPlain {fs : FS} {root : Comps} (h : RootPlain fs root)
    (hlen : root.length + 2 ≤ linkFuel) : PlainDir fs root :=
  ⟨c18e_noLinksAlong_root h, hlen⟩

/-- the descent through the root costs `root.length` steps -/
theorem c18e_resolve_descend {fs : FS} {root : Comps} (h : RootPlain fs root) (fuel : Nat)
    (rel : List String) :
    fs.resolve fuel [] (root ++ rel) = fs.resolve (fuel - root.length) root rel := by
  have := resolve_down fs root [] fuel rel (c18e_noLinksAlong_root h)
  rwa [List.nil_append] at this

/-- while the rooted walk is not refused, the unrooted resolution (whatever its fuel) only looks at
    entries inside the root -/
theorem c18e_resolve_congr {fs₁ fs₂ : FS} {root : Comps} (hag : agreeInside root fs₁ fs₂)
    (fuel : Nat) {links : Nat} (cur : Comps) (todo : List String)
    (h : fs₁.rootProbe root fuel links cur todo ≠ .refused) (hp : root <+: cur) (fuel' : Nat) :
    fs₁.resolve fuel' cur todo = fs₂.resolve fuel' cur todo := by
  rw [resolve_eq_probe fs₁ root fuel links cur todo h,
    resolve_eq_probe fs₂ root fuel links cur todo (rootProbe_congr fs₁ fs₂ root hag fuel cur todo hp ▸ h),
    rootProbe_congr fs₁ fs₂ root hag fuel' cur todo hp]

theorem c18e_evalSymlinks_congr {root : Comps} {fs₁ fs₂ : FS} (h : sameInside root fs₁ fs₂)
    (hp₁ : RootPlain fs₁ root) (hp₂ : RootPlain fs₂ root) (rel : List String) (real : Comps)
    (hw : fs₁.rootWalk root linkFuel 0 root rel = .ok real) :
    fs₁.evalSymlinks (root ++ rel) = fs₂.evalSymlinks (root ++ rel) := by
  rw [FS.evalSymlinks, FS.evalSymlinks, c18e_resolve_descend hp₁, c18e_resolve_descend hp₂]
  exact c18e_resolve_congr h.agree linkFuel root rel
    (ne_refused_of_found (rootProbe_of_rootWalk hw)) (List.prefix_refl _) _

theorem c18e_loadFile_ok {fs : FS} {cfg : RootCfg} {path : Comps} {id : String} {docs : List Val}
    (h : loadFile fs cfg path id = .ok docs) :
    path = cfg.root ++ relTo cfg.root path ∧
      ∃ real, fs.rootWalk cfg.root linkFuel 0 cfg.root (relTo cfg.root path) = .ok real := by
  rw [loadFile_eq] at h
  split at h
  · rw [rootOpen_eq] at h
    cases hw : fs.rootWalk cfg.root linkFuel 0 cfg.root (relTo cfg.root path) with
    | error e => rw [hw] at h; cases h
    | ok real =>
      obtain ⟨t, ht⟩ := prefix_of_rootWalk_relTo hw
      exact ⟨by rw [← ht, relTo_append], real, rfl⟩
  · cases h

theorem c18e_evalSymlinks_loaded {fs₁ fs₂ : FS} {cfg : RootCfg} (h : sameInside cfg.root fs₁ fs₂)
    (hp₁ : RootPlain fs₁ cfg.root) (hp₂ : RootPlain fs₂ cfg.root) {path : Comps} {id : String}
    {docs : List Val} (hl : loadFile fs₁ cfg path id = .ok docs) :
    fs₁.evalSymlinks path = fs₂.evalSymlinks path := by
  obtain ⟨hpath, real, hw⟩ := c18e_loadFile_ok hl
  rw [hpath]
  exact c18e_evalSymlinks_congr h hp₁ hp₂ _ real hw

/-! ## `fileParents`, the loader, the merge and the command line -/

theorem c18e_fromName_congr {fs₁ fs₂ : FS} {cfg : RootCfg} (h : sameInside cfg.root fs₁ fs₂)
    (p : Comps) : fromName fs₁ cfg p = fromName fs₂ cfg p := by
  unfold fromName
  simp only [c18e_findRooted_congr h.agree]

theorem c18e_globName_congr {fs₁ fs₂ : FS} {cfg : RootCfg} (h : sameInside cfg.root fs₁ fs₂)
    (path : Comps) (n : String) : globName fs₁ cfg path n = globName fs₂ cfg path n := by
  unfold globName
  exact c18e_globFiles_congr h _

theorem c18e_globStep_congr {fs₁ fs₂ : FS} {cfg : RootCfg} (h : sameInside cfg.root fs₁ fs₂)
    (path : Comps) : globStep fs₁ cfg path = globStep fs₂ cfg path := by
  funext acc n
  unfold globStep
  rw [c18e_globName_congr h]

theorem c18e_fileParents_congr {fs₁ fs₂ : FS} {cfg : RootCfg} (h : sameInside cfg.root fs₁ fs₂)
    (hp₁ : RootPlain fs₁ cfg.root) (hp₂ : RootPlain fs₂ cfg.root) {path : Comps} {id : String}
    {raw : List Val} (hl : loadFile fs₁ cfg path id = .ok raw) (docs : List Val) :
    fileParents fs₁ cfg path docs = fileParents fs₂ cfg path docs := by
  rw [fileParents_eq, fileParents_eq, c18e_globStep_congr h, c18e_evalSymlinks_loaded h hp₁ hp₂ hl]
  cases docs.mapM parentDirective with
  | error e => rfl
  | ok dirs =>
    simp only []
    cases fs₂.evalSymlinks path with
    | none => rfl
    | some dest => simp only [c18e_fromName_congr h]

theorem c18e_load_congr {fs₁ fs₂ : FS} {cfg : RootCfg} (h : sameInside cfg.root fs₁ fs₂)
    (hp₁ : RootPlain fs₁ cfg.root) (hp₂ : RootPlain fs₂ cfg.root) :
    ∀ (fuel : Nat) (path : Comps) (childId : Option String) (childDocIds : List String)
      (chain : List Comps),
      loadFileAndParents fs₁ cfg fuel path childId childDocIds chain =
        loadFileAndParents fs₂ cfg fuel path childId childDocIds chain := by
  intro fuel
  induction fuel with
  | zero => intro path childId childDocIds chain; rfl
  | succ n ih =>
    intro path childId childDocIds chain
    rw [loadFileAndParents_succ, loadFileAndParents_succ, ← c18e_loadFile_congr h.agree]
    cases hl : loadFile fs₁ cfg path (fileIdOf childId path) with
    | error e => rfl
    | ok raw =>
      simp only []
      rw [c18e_fileParents_congr h hp₁ hp₂ hl raw]
      simp only [ih]

theorem c18e_mergeFileLayers_congr {fs₁ fs₂ : FS} {cfg : RootCfg} (h : sameInside cfg.root fs₁ fs₂)
    (hp₁ : RootPlain fs₁ cfg.root) (hp₂ : RootPlain fs₂ cfg.root) (st : PState) (path : Comps) :
    mergeFileLayers fs₁ cfg st path = mergeFileLayers fs₂ cfg st path := by
  rw [mergeFileLayers_eq, mergeFileLayers_eq, c18e_load_congr h hp₁ hp₂]

theorem c18e_mergeFileAlone_congr {fs₁ fs₂ : FS} {cfg : RootCfg}
    (hag : agreeInside cfg.root fs₁ fs₂) (st : PState) (path : Comps) :
    mergeFileAlone fs₁ cfg st path = mergeFileAlone fs₂ cfg st path := by
  rw [mergeFileAlone_eq, mergeFileAlone_eq, c18e_loadFile_congr hag]

theorem c18e_cliMerge_congr {fs₁ fs₂ : FS} {cfg : RootCfg} (cwd : Comps) (sp : Bool)
    (h : sameInside cfg.root fs₁ fs₂)
    (hp₁ : RootPlain fs₁ cfg.root) (hp₂ : RootPlain fs₂ cfg.root) (inputs : List String)
    (acc : PState × Option String)
    (hm : ∀ inp ∈ inputs, fileMatch fs₁ cwd inp = fileMatch fs₂ cwd inp) :
    cliMerge fs₁ cwd cfg sp acc inputs = cliMerge fs₂ cwd cfg sp acc inputs := by
  rw [cliMerge_eq_foldlM, cliMerge_eq_foldlM]
  refine foldlM_congr_mem _ _ _ (fun acc inp hi => ?_) acc
  unfold cliStep
  rw [hm inp hi]
  cases fileMatch fs₂ cwd inp with
  | error e => rfl
  | ok rf => simp only [c18e_mergeFileLayers_congr h hp₁ hp₂, c18e_mergeFileAlone_congr h.agree]

/-! ## adding entries outside the root -/

theorem c18e_filter_outside (root : Comps) (extra : List (Comps × FNode))
    (h : ∀ e ∈ extra, ¬ root <+: e.1) : extra.filter (fun e => root.isPrefixOf e.1) = [] :=
  List.filter_eq_nil_iff.2 fun e he hx => h e he (List.isPrefixOf_iff_prefix.1 hx)

theorem c18e_sameInside_append (fs : FS) (root : Comps) (extra : List (Comps × FNode))
    (h : ∀ e ∈ extra, ¬ root <+: e.1) :
    sameInside root fs { entries := fs.entries ++ extra } := by
  unfold sameInside FS.inside
  rw [List.filter_append, c18e_filter_outside root extra h, List.append_nil]

theorem c18e_sameInside_prepend (fs : FS) (root : Comps) (extra : List (Comps × FNode))
    (h : ∀ e ∈ extra, ¬ root <+: e.1) :
    sameInside root fs { entries := extra ++ fs.entries } := by
  unfold sameInside FS.inside
  rw [List.filter_append, c18e_filter_outside root extra h, List.nil_append]

theorem c18e_rootPlain_append {fs : FS} {root : Comps} (h : RootPlain fs root)
    (extra : List (Comps × FNode)) : RootPlain { entries := fs.entries ++ extra } root :=
  ⟨h.1, fun p hne hp => lstat_append_of_some fs extra p .dir (h.2 p hne hp)⟩

theorem c18e_rootPlain_prepend {fs : FS} {root : Comps} (h : RootPlain fs root)
    (extra : List (Comps × FNode)) (hx : ∀ e ∈ extra, ¬ e.1 <+: root) :
    RootPlain { entries := extra ++ fs.entries } root :=
  ⟨h.1, fun p hne hp => by
    rw [lstat_prepend_of_ne fs extra p (fun e he heq => hx e he (heq ▸ hp))]
    exact h.2 p hne hp⟩

/-! ## checking `RootPlain` on a concrete file system -/

/-- `RootPlain` as a computation: the components are plain and every `take (i+1)` is a directory -/
def rootPlainB (fs : FS) (root : Comps) : Bool :=
  root.all plainComp &&
    (List.range root.length).all fun i =>
      match fs.lstat (root.take (i + 1)) with
      | some .dir => true
      | _ => false

theorem c18e_rootPlain_of_B {fs : FS} {root : Comps} (h : rootPlainB fs root = true) :
    RootPlain fs root := by
  unfold rootPlainB at h
  rw [Bool.and_eq_true, List.all_eq_true, List.all_eq_true] at h
  refine ⟨h.1, ?_⟩
  intro p hne hp
  have hlen : p.length ≤ root.length := hp.length_le
  have hpos : 0 < p.length := List.length_pos_iff.2 hne
  have := h.2 (p.length - 1) (List.mem_range.2 (by omega))
  rw [show p.length - 1 + 1 = p.length by omega, ← List.prefix_iff_eq_take.1 hp] at this
  split at this
  · assumption
  · cases this

/-! ## the sample file systems `exFS`, `exFS'` with the root /w/r -/

/-- a small file system used for the non-vacuity examples:
    /w/r/a.yaml, /w/r/l.yaml -> a.yaml, /w/r/abs.yaml -> /w/secret.yaml,
    /w/r/up.yaml -> ../secret.yaml, /w/secret.yaml, /w/r/sub/ -/
def exFS : FS := ⟨[
  (["w"], .dir), (["w", "r"], .dir), (["w", "r", "sub"], .dir),
  (["w", "r", "a.yaml"], .file (.ok [.map [("x", .int 1)]])),
  (["w", "r", "l.yaml"], .link "a.yaml"),
  (["w", "r", "abs.yaml"], .link "/w/secret.yaml"),
  (["w", "r", "up.yaml"], .link "../secret.yaml"),
  (["w", "secret.yaml"], .file (.ok [.map [("s", .int 2)]]))]⟩

/-- the same with a different world outside /w/r -/
def exFS' : FS := ⟨[
  (["w"], .dir), (["w", "r"], .dir), (["w", "r", "sub"], .dir),
  (["w", "r", "a.yaml"], .file (.ok [.map [("x", .int 1)]])),
  (["w", "r", "l.yaml"], .link "a.yaml"),
  (["w", "r", "abs.yaml"], .link "/w/secret.yaml"),
  (["w", "r", "up.yaml"], .link "../secret.yaml"),
  (["w", "secret.yaml"], .file (.ok [.map [("s", .int 3)]])),
  (["etc"], .dir)]⟩

theorem c18e_exFS_plain : RootPlain exFS ["w", "r"] := c18e_rootPlain_of_B (by decide)

theorem c18e_exFS'_plain : RootPlain exFS' ["w", "r"] := c18e_rootPlain_of_B (by decide)

theorem c18e_exFS_same : sameInside ["w", "r"] exFS exFS' := by decide +kernel

theorem c18e_exFS_load_a (id : String) :
    loadFile exFS ⟨["w", "r"], ["w", "r"]⟩ ["w", "r", "a.yaml"] id = .ok [.map [("x", .int 1)]] := by
  rw [loadFile_eq, if_pos (by rw [extOf_eq]; decide +kernel), rootOpen_eq,
    show exFS.rootWalk ["w", "r"] linkFuel 0 ["w", "r"] (relTo ["w", "r"] ["w", "r", "a.yaml"]) =
      .ok ["w", "r", "a.yaml"] by decide +kernel]
  rfl

end Bkl
