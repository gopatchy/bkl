/-
  BklProofs.Lemmas.C06Layered — helper lemmas for C06_layered (doubled data layered over other documents).

  `$`-doubling commutes with the association-list operations and with
  `merge` (`C06_merge_double`); the directive-free structural merge `plainMerge`, which on
  `$`-free data is `merge` (`C06_plainMerge_is_merge`).
  (`merge` along a map path, for C07's `$required` across layers: BklProofs/Lemmas/MergePath.lean.)
-/
import BklProofs.Lemmas.MergeWF
import BklProofs.Lemmas.EscapeVal
namespace Bkl

/-! ## doubling commutes with `fget`, `fset`, `isEmpty`, `++` -/

theorem l_fget_double (d : Fields) (k : String) :
    fget (doubleFields d) (doubleStr k) = (fget d k).map double := by
  rw [doubleFields_eq_map]; exact fget_map_entries (fun _ _ => doubleStr_eq_iff) d k

theorem l_fset_double (d : Fields) (k : String) (v : Val) :
    fset (doubleFields d) (doubleStr k) (double v) = doubleFields (fset d k v) := by
  rw [doubleFields_eq_map, doubleFields_eq_map]
  exact fset_map_entries (fun _ _ => doubleStr_eq_iff) (fun _ _ => doubleStr_lt_iff) d k v

theorem l_isEmpty_double (d : Fields) : (doubleFields d).isEmpty = d.isEmpty := by
  cases d with
  | nil => simp only [doubleFields]
  | cons a t => simp only [doubleFields, List.isEmpty_cons]

theorem l_doubleList_append (a b : List Val) :
    doubleList (a ++ b) = doubleList a ++ doubleList b := by
  rw [doubleList_eq_map, doubleList_eq_map, doubleList_eq_map, List.map_append]

theorem l_doubleList_mem {xs : List Val} {y : Val} (h : y ∈ doubleList xs) :
    ∃ x, x ∈ xs ∧ y = double x := by
  rw [doubleList_eq_map] at h
  obtain ⟨x, hx, rfl⟩ := List.mem_map.1 h
  exact ⟨x, hx, rfl⟩

/-! ## nothing in a doubled value is a merge directive -/

theorem l_fget_double_name (s : Fields) {n : String} (hn : n ∈ directiveNames) :
    fget (doubleFields s) n = none :=
  e_plainFields_fget (by simpa only [double, plain, allStr] using e_plain_double (.map s)) hn

theorem l_fhasBool_double (s : Fields) {n : String} (hn : n ∈ directiveNames) (b : Bool) :
    fhasBool (doubleFields s) n b = false := by
  rw [fhasBool, l_fget_double_name s hn]

theorem l_doubleStr_ne_name (s : String) {n : String} (hn : n ∈ directiveNames) :
    doubleStr s ≠ n :=
  e_rc_names (e_rc_doubleStr s) n hn

theorem l_toStr_double_ne_delete (v : Val) : (double v).toStr ≠ "$delete" := by
  cases v with
  | str s => exact l_doubleStr_ne_name s e_delete_mem
  | _ => simp only [double, Val.toStr]; decide

theorem l_plainEntry_double (v : Val) : plainEntry (double v) = true := by
  cases v with
  | str s =>
    have := l_doubleStr_ne_name s e_replace_mem
    simp only [double, plainEntry, Bool.not_eq_true', beq_eq_false_iff_ne, ne_eq]
    intro h; exact this (Val.str.inj h)
  | map kvs =>
    simp only [double, plainEntry, fhas, l_fget_double_name kvs e_delete_mem,
      l_fget_double_name kvs e_match_mem, l_fhasBool_double kvs e_replace_mem]
    rfl
  | _ => rfl

theorem l_all_plainEntry_double (s : List Val) : (doubleList s).all plainEntry = true := by
  rw [List.all_eq_true]
  intro y hy
  obtain ⟨x, _, rfl⟩ := l_doubleList_mem hy
  exact l_plainEntry_double x

theorem l_double_ne_required (v : Val) : (double v == Val.str "$required") = false := by
  rw [beq_eq_false_iff_ne]
  cases v with
  | str s =>
    have := l_doubleStr_ne_name s e_required_mem
    simp only [double]; intro h; exact this (Val.str.inj h)
  | _ => simp only [double]; intro h; cases h

theorem l_dropRequired_double (d : List Val) : dropRequired (doubleList d) = doubleList d := by
  unfold dropRequired
  rw [List.filter_eq_self]
  intro y hy
  obtain ⟨x, _, rfl⟩ := l_doubleList_mem hy
  simp [l_double_ne_required x]

/-! ## list patches of plain entries -/

theorem l_merge_list_double (d s : List Val) :
    merge (.list (doubleList d)) (.list (doubleList s)) = .ok (.list (doubleList (d ++ s))) := by
  rw [merge_list_plain _ _ (l_all_plainEntry_double s), l_dropRequired_double,
    l_doubleList_append]

/-! ## `double` is injective against a scalar -/

theorem l_double_beq_scalar (a b : Val) (ha : a.isScalar = true) :
    (double b == double a) = (b == a) := by
  by_cases h : b = a
  · subst h; simp
  · have h2 : double b ≠ double a := by
      cases a <;> simp [Val.isScalar] at ha <;> cases b <;> simp_all [double, doubleStr_eq_iff]
    rw [beq_eq_false_iff_ne.2 h, beq_eq_false_iff_ne.2 h2]

theorem l_isScalar_double (a : Val) : (double a).isScalar = a.isScalar := by
  cases a <;> simp only [double, Val.isScalar]

theorem l_isMap_double (a : Val) : (double a).isMap = a.isMap := by
  cases a <;> simp only [double, Val.isMap]

theorem l_isList_double (a : Val) : (double a).isList = a.isList := by
  cases a <;> simp only [double, Val.isList]

/-! ## the directive-free structural merge -/

mutual
/-- `merge` with every directive switched off: maps merge key by key, lists concatenate, a
    scalar replaces (an identical scalar is `uselessOverride`), a null child keeps the parent,
    a kind mismatch is `invalidType` (except over an empty map).  Strings such as `"$delete"`,
    `"$replace"`, `"$required"` and keys such as `$match`, `$value`, `$replace` are DATA. -/
def plainMerge (dst src : Val) : R Val :=
  match dst with
  | .map d =>
    match src with
    | .map s => Except.map Val.map (plainMergeFields d s)
    | .null => .ok (.map d)
    | _ => if d.isEmpty then .ok src else .error Err.invalidType
  | .list d =>
    match src with
    | .list s => .ok (.list (d ++ s))
    | .null => .ok (.list d)
    | _ => .error Err.invalidType
  | .null => .ok src
  | _ => if src == dst then .error Err.uselessOverride else .ok src
def plainMergeFields (d : Fields) (s : Fields) : R Fields :=
  match s with
  | [] => .ok d
  | (k, v) :: rest =>
    match fget d k with
    | some e =>
      match plainMerge e v with
      | .error err => .error err
      | .ok v2 => plainMergeFields (fset d k v2) rest
    | none => plainMergeFields (fset d k v) rest
end

def plainChain : List Val → R Val
  | [] => .ok .null
  | base :: rest => rest.foldlM plainMerge base

theorem l_pm_map_map (d s : Fields) :
    plainMerge (.map d) (.map s) = Except.map Val.map (plainMergeFields d s) := by
  simp only [plainMerge]

theorem l_pm_null (s : Val) : plainMerge .null s = .ok s := by
  simp only [plainMerge]

theorem l_pm_map_other (d : Fields) (src : Val) (h1 : src.isMap = false)
    (h2 : src.isNull = false) :
    plainMerge (.map d) src = if d.isEmpty then .ok src else .error .invalidType := by
  cases src <;> simp [Val.isMap, Val.isNull] at h1 h2 <;> simp only [plainMerge]

theorem l_pm_list_other (d : List Val) (src : Val) (h1 : src.isList = false)
    (h2 : src.isNull = false) : plainMerge (.list d) src = .error .invalidType := by
  cases src <;> simp [Val.isList, Val.isNull] at h1 h2 <;> simp only [plainMerge]

theorem l_pm_scalar (dst src : Val) (h : dst.isScalar = true) :
    plainMerge dst src = if src == dst then .error .uselessOverride else .ok src := by
  cases dst <;> simp [Val.isScalar] at h <;> simp only [plainMerge]

theorem l_pmf_cons (d : Fields) (k : String) (v : Val) (rest : Fields) :
    plainMergeFields d ((k, v) :: rest) =
      match fget d k with
      | some e =>
        (match plainMerge e v with
         | .error err => .error err
         | .ok v2 => plainMergeFields (fset d k v2) rest)
      | none => plainMergeFields (fset d k v) rest := by
  simp only [plainMergeFields]

theorem l_plainMerge_ok {a b r : Val} (h : plainMerge a b = .ok r) :
    (∃ d s rm, a = .map d ∧ b = .map s ∧ plainMergeFields d s = .ok rm ∧ r = .map rm) ∨
    (∃ d s, a = .list d ∧ b = .list s ∧ r = .list (d ++ s)) ∨ r = a ∨ r = b := by
  unfold plainMerge at h
  split at h
  · split at h
    · cases hf : plainMergeFields _ _ with
      | error e => rw [hf] at h; cases h
      | ok rm => rw [hf] at h; cases h; exact Or.inl ⟨_, _, rm, rfl, rfl, hf, rfl⟩
    · cases h; exact Or.inr (Or.inr (Or.inl rfl))
    · split at h <;> cases h
      exact Or.inr (Or.inr (Or.inr rfl))
  · split at h
    · cases h; exact Or.inr (Or.inl ⟨_, _, rfl, rfl, rfl⟩)
    · cases h; exact Or.inr (Or.inr (Or.inl rfl))
    · cases h
  · cases h; exact Or.inr (Or.inr (Or.inr rfl))
  · split at h <;> cases h
    exact Or.inr (Or.inr (Or.inr rfl))

/-! ## `merge` on doubled data is `plainMerge` on the data -/

theorem l_map_double_map (x : R Fields) :
    Except.map Val.map (Except.map doubleFields x) = Except.map double (Except.map Val.map x) := by
  cases x <;> rfl

theorem l_merge_double_scalar (a b : Val) (ha : a.isScalar = true) :
    merge (double a) (double b) = Except.map double (plainMerge a b) := by
  rw [merge_scalar _ _ (by rw [l_isScalar_double]; exact ha), l_pm_scalar _ _ ha,
    l_double_beq_scalar a b ha]
  split <;> rfl

theorem l_merge_double_map_other (d : Fields) (b : Val) (h1 : b.isMap = false)
    (h2 : b.isNull = false) :
    merge (double (.map d)) (double b) = Except.map double (plainMerge (.map d) b) := by
  rw [double, merge_map_other _ _ (by rw [l_isMap_double]; exact h1)
    (by rw [e_double_isNull]; exact h2), l_pm_map_other _ _ h1 h2, l_isEmpty_double]
  split <;> rfl

theorem l_merge_double_list_other (d : List Val) (b : Val) (h1 : b.isList = false)
    (h2 : b.isNull = false) :
    merge (double (.list d)) (double b) = Except.map double (plainMerge (.list d) b) := by
  rw [double, merge_list_other _ _ (by rw [l_isList_double]; exact h1)
    (by rw [e_double_isNull]; exact h2), l_pm_list_other _ _ h1 h2]
  rfl

mutual
/-- **doubling commutes with merge** (no hypothesis): for the doubled child no directive is
    recognised, so merging doubled data is the directive-free merge of the data, doubled —
    same success, same error. -/
theorem C06_merge_double (a b : Val) :
    merge (double a) (double b) = Except.map double (plainMerge a b) :=
  match b, a with
  | .map s, .map d => by
    rw [double, double, merge_map_map, mergeMapMap_noreplace (l_fhasBool_double s e_replace_mem true),
      l_mergeFields_double d s, l_pm_map_map]
    exact l_map_double_map _
  | .list s, .list d => by rw [double, double, l_merge_list_double]; rfl
  | .null, .map d => merge_map_null _
  | .null, .list d => merge_list_null _
  | b, .null => by rw [double, merge_null, l_pm_null]; rfl
  | .list _, .map d | .bool _, .map d | .int _, .map d | .flt _, .map d | .str _, .map d =>
    l_merge_double_map_other d _ rfl rfl
  | .map _, .list d | .bool _, .list d | .int _, .list d | .flt _, .list d | .str _, .list d =>
    l_merge_double_list_other d _ rfl rfl
  | b, .bool _ | b, .int _ | b, .flt _ | b, .str _ => l_merge_double_scalar _ b rfl
termination_by structural b
theorem l_mergeFields_double (d s : Fields) :
    mergeFields (doubleFields d) (doubleFields s)
      = Except.map doubleFields (plainMergeFields d s) :=
  match s with
  | [] => mergeFields_nil _
  | (k, v) :: rest => by
    rw [doubleFields, mergeFields_cons, if_neg (l_toStr_double_ne_delete v), l_fget_double,
      l_pmf_cons]
    cases fget d k with
    | none =>
      simp only [Option.map_none]
      rw [l_fset_double]; exact l_mergeFields_double (fset d k v) rest
    | some e =>
      simp only [Option.map_some]
      rw [C06_merge_double e v]
      cases plainMerge e v with
      | error err => rfl
      | ok v2 =>
        show mergeFields (fset (doubleFields d) (doubleStr k) (double v2)) (doubleFields rest) = _
        rw [l_fset_double]; exact l_mergeFields_double (fset d k v2) rest
termination_by structural s
end

theorem l_foldl_merge_double (vs : List Val) (a : Val) :
    List.foldlM merge (double a) (doubleList vs) =
      Except.map double (List.foldlM plainMerge a vs) := by
  induction vs generalizing a with
  | nil => rfl
  | cons v vs ih =>
    rw [doubleList, foldlM_cons, foldlM_cons, C06_merge_double]
    cases plainMerge a v with
    | error e => rfl
    | ok r => exact ih r

/-- the same for a whole chain of doubled layers -/
theorem C06_mergeChain_double (vs : List Val) :
    mergeChain (doubleList vs) = Except.map double (plainChain vs) := by
  cases vs with
  | nil => rfl
  | cons a vs => exact l_foldl_merge_double vs a

theorem l_mergeChain_pair (a b : Val) : mergeChain [a, b] = merge a b := by
  simp only [mergeChain]
  rw [foldlM_cons]
  cases merge a b <;> rfl

theorem l_plainChain_pair (a b : Val) : plainChain [a, b] = plainMerge a b := by
  simp only [plainChain]
  rw [foldlM_cons]
  cases plainMerge a b <;> rfl

/-! ## `$`-free data -/

/-- no map key and no string leaf contains a `$` -/
def noDollar (v : Val) : Bool := allStr (fun s => !s.toList.contains '$') v

theorem l_doubleChars_free (cs : List Char) (h : cs.contains '$' = false) :
    doubleChars cs = cs := by
  induction cs with
  | nil => rfl
  | cons c cs ih =>
    simp only [List.contains_cons, Bool.or_eq_false_iff, beq_eq_false_iff_ne, ne_eq] at h
    rw [doubleChars_cons_ne (fun e => h.1 e.symm), ih h.2]

theorem l_doubleStr_free (s : String) (h : s.toList.contains '$' = false) : doubleStr s = s := by
  rw [doubleStr, l_doubleChars_free _ h, String.ofList_toList]

theorem l_double_free {v : Val} : noDollar v = true → double v = v := by
  induction v using Val.induction_mem with
  | str s => intro h; rw [double, l_doubleStr_free s (by simpa [noDollar, allStr] using h)]
  | list xs ih =>
    intro h
    rw [double, doubleList_eq_map, map_eq_self fun x hx => ih x hx (allStrList_iff.1 h x hx)]
  | map kvs ih =>
    intro h
    have hk := allStrFields_iff.1 h
    have : ∀ p ∈ kvs, (doubleStr p.1, double p.2) = p := fun p hp => by
      rw [l_doubleStr_free p.1 (by simpa using (hk p hp).1), ih p hp (hk p hp).2]
    rw [double, doubleFields_eq_map, map_eq_self this]
  | _ => intro _; simp only [double]

theorem l_recog_free (cs : List Char) (h : cs.contains '$' = false) : recogChars cs = false := by
  rw [← l_doubleChars_free cs h]; exact e_recog_double cs

theorem l_hasDD_free (cs : List Char) (h : cs.contains '$' = false) : hasDD cs = false := by
  fun_induction hasDD cs with
  | case1 => simp at h
  | case2 c rest hne ih =>
    simp only [List.contains_cons, Bool.or_eq_false_iff] at h
    exact ih h.2
  | case3 => rfl

theorem l_free_inert {v : Val} (h : noDollar v = true) : inert v = true := by
  refine e_allStr_mono ?_ v h
  intro s hs
  simp only [Bool.not_eq_true'] at hs
  simp [recognised, recognisedCore, l_recog_free _ hs, l_hasDD_free _ hs]

/-- `plainMerge` preserves well-formedness (transported from `merge_wf` through doubling) -/
theorem l_plainMerge_wf {a b r : Val} (ha : a.WF) (hb : b.WF) (h : plainMerge a b = .ok r) :
    r.WF := by
  have h1 := C06_merge_double a b
  rw [h] at h1
  exact (e_wfB_double_all.1 r).symm.trans (merge_wf (e_wf_double ha) (e_wf_double hb) h1)

/-! ## what `plainMerge` preserves: string predicates and the depth bound -/

theorem l_allStrFields_fset {q : String → Bool} {d : Fields} {k : String} {v : Val}
    (hd : allStrFields q d = true) (hk : q k = true) (hv : allStr q v = true) :
    allStrFields q (fset d k v) = true :=
  allStrFields_iff.2 fun p hp => (mem_fset hp).elim (fun e => e ▸ ⟨hk, hv⟩) (allStrFields_iff.1 hd p)

theorem l_plainMerge_flat {P : Val → Prop} {a b r : Val} (hb : b.isMap = false)
    (h : plainMerge a b = .ok r) (ha : P a) (hb' : P b)
    (happ : ∀ d s, P (.list d) → P (.list s) → P (.list (d ++ s))) : P r := by
  rcases l_plainMerge_ok h with ⟨_, _, _, _, rfl, _, _⟩ | ⟨d, s, rfl, rfl, rfl⟩ | rfl | rfl
  · cases hb
  · exact happ d s ha hb'
  · exact ha
  · exact hb'

mutual
theorem l_plainMerge_allStr (q : String → Bool) : ∀ (b a r : Val), allStr q a = true →
    allStr q b = true → plainMerge a b = .ok r → allStr q r = true
  | .map s, a, r, ha, hb, h => by
    rcases l_plainMerge_ok h with ⟨d, _, rm, rfl, hs, hf, rfl⟩ | ⟨_, _, _, hs, _⟩ | rfl | rfl
    · cases hs; exact l_plainMergeFields_allStr q s d rm ha hb hf
    · cases hs
    · exact ha
    · exact hb
  | .null, a, r, ha, hb, h | .bool _, a, r, ha, hb, h | .int _, a, r, ha, hb, h
  | .flt _, a, r, ha, hb, h | .str _, a, r, ha, hb, h | .list _, a, r, ha, hb, h =>
    l_plainMerge_flat (P := fun v => allStr q v = true) rfl h ha hb fun d s hd hs =>
      allStrList_iff.2 fun x hx =>
        (List.mem_append.1 hx).elim (allStrList_iff.1 hd x) (allStrList_iff.1 hs x)
termination_by structural b => b
theorem l_plainMergeFields_allStr (q : String → Bool) : ∀ (s d rm : Fields),
    allStrFields q d = true → allStrFields q s = true → plainMergeFields d s = .ok rm →
    allStrFields q rm = true
  | [], d, rm, hd, _, h => by cases h; exact hd
  | (k, v) :: rest, d, rm, hd, hs, h => by
    simp only [allStrFields, Bool.and_eq_true] at hs
    rw [l_pmf_cons] at h
    split at h
    · rename_i e he
      split at h
      · cases h
      · rename_i v2 hv2
        exact l_plainMergeFields_allStr q rest _ rm (l_allStrFields_fset hd hs.1.1
          (l_plainMerge_allStr q v e v2 (allStrFields_iff.1 hd _ (fget_mem he)).2 hs.1.2 hv2)) hs.2 h
    · exact l_plainMergeFields_allStr q rest _ rm (l_allStrFields_fset hd hs.1.1 hs.1.2) hs.2 h
termination_by structural s => s
end

/-- `plainMerge` is not a new operation: on `$`-free data it IS `merge`. -/
theorem C06_plainMerge_is_merge (a b : Val) (ha : noDollar a = true)
    (hb : noDollar b = true) : merge a b = plainMerge a b := by
  have h := C06_merge_double a b
  rw [l_double_free ha, l_double_free hb] at h
  rw [h]
  cases hp : plainMerge a b with
  | error e => rfl
  | ok r => exact congrArg Except.ok (l_double_free (l_plainMerge_allStr _ b a r ha hb hp))

mutual
theorem l_plainMerge_depth {n : Nat} : ∀ {b a r : Val}, depth a ≤ n → depth b ≤ n →
    plainMerge a b = .ok r → depth r ≤ n
  | .map s, a, r, ha, hb, h => by
    rcases l_plainMerge_ok h with ⟨d, _, rm, rfl, hs, hf, rfl⟩ | ⟨_, _, _, hs, _⟩ | rfl | rfl
    · cases hs
      cases n with
      | zero => cases ha
      | succ m => exact Nat.succ_le_succ (l_plainMergeFields_depth (Nat.le_of_succ_le_succ ha)
          (Nat.le_of_succ_le_succ hb) hf)
    · cases hs
    · exact ha
    · exact hb
  | .null, a, r, ha, hb, h | .bool _, a, r, ha, hb, h | .int _, a, r, ha, hb, h
  | .flt _, a, r, ha, hb, h | .str _, a, r, ha, hb, h | .list _, a, r, ha, hb, h =>
    l_plainMerge_flat (P := fun v => depth v ≤ n) rfl h ha hb fun d s hd hs => by
      cases n with
      | zero => cases hd
      | succ m => exact Nat.succ_le_succ (depthList_le.2 fun x hx => (List.mem_append.1 hx).elim
          (depthList_le.1 (Nat.le_of_succ_le_succ hd) x) (depthList_le.1 (Nat.le_of_succ_le_succ hs) x))
termination_by structural b => b
theorem l_plainMergeFields_depth {n : Nat} : ∀ {s d rm : Fields}, depthFields d ≤ n →
    depthFields s ≤ n → plainMergeFields d s = .ok rm → depthFields rm ≤ n
  | [], d, rm, hd, _, h => by cases h; exact hd
  | (k, v) :: rest, d, rm, hd, hs, h => by
    have hs' := depthFields_le.1 hs
    have hrest : depthFields rest ≤ n :=
      depthFields_le.2 fun q hq => hs' q (List.mem_cons_of_mem _ hq)
    have hset : ∀ w, depth w ≤ n → depthFields (fset d k w) ≤ n := fun w hw =>
      depthFields_le.2 fun p hp => (mem_fset hp).elim (fun e => e ▸ hw) (depthFields_le.1 hd p)
    rw [l_pmf_cons] at h
    split at h
    · rename_i e he
      split at h
      · cases h
      · rename_i v2 hv2
        exact l_plainMergeFields_depth (hset v2 (l_plainMerge_depth
          (depthFields_le.1 hd _ (fget_mem he)) (hs' _ (List.mem_cons_self ..)) hv2)) hrest h
    · exact l_plainMergeFields_depth (hset v (hs' _ (List.mem_cons_self ..))) hrest h
termination_by structural s => s
end

end Bkl
