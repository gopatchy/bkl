/-
  BklProofs.Lemmas.C20Args — helper lemmas for C20 (wrapper): `wrapStep` by the outcome of `FileMatch`; `wrapArgs` argument by argument
  (append law, single-argument and pair form); the format of a rewritten argument is the
  extension NAMED by the argument; every failing evaluation of a resolvable argument aborts
  (sample file systems with `missingFile` / `invalidType`).
-/
import BklProofs.Lemmas.FilesCli
import BklProofs.Lemmas.C02Selection
namespace Bkl

theorem wa_mergeDocument_clash (i₁ i₂ : String) (v₁ : Val) (kvs : Fields)
    (known : List (String × List String)) (e : Err)
    (hm : fget kvs "$match" = none) (he : merge v₁ (.map kvs) = .error e) :
    mergeDocument ⟨[(i₁, v₁)], known⟩ ⟨i₂, [i₁], .map kvs⟩ = .error e := by
  rw [mergeDocument_onto_one _ _ _ _ _ (by rw [matchDirective, hm]; rfl), he]

/-! ## one argument: `wrapStep` by the outcome of `FileMatch` -/

theorem wa_wrapStep_ok_iff {fs : FS} {cwd : Comps} {env : Vars} {a : String} {real : Comps}
    {f : String} (hm : fileMatch fs cwd a = .ok (real, f)) (w : WArg) :
    wrapStep fs cwd env a = .ok w ↔
      ∃ st outs, mergeFileLayers fs { root := [], cwd := cwd } PState.empty real = .ok st ∧
        outputDocuments (st.docs.map (·.2)) env = .ok outs ∧ w = .evaluated f outs := by
  unfold wrapStep
  rw [hm]
  dsimp only
  cases mergeFileLayers fs { root := [], cwd := cwd } PState.empty real with
  | error e => exact ⟨fun h => (nomatch h), fun ⟨_, _, h, _⟩ => (nomatch h)⟩
  | ok st =>
    dsimp only
    constructor
    · intro h
      cases ho : outputDocuments (st.docs.map (·.2)) env with
      | error e => rw [ho] at h; cases h
      | ok outs => rw [ho] at h; cases h; exact ⟨st, outs, rfl, ho, rfl⟩
    · rintro ⟨_, outs, ⟨⟩, ho, rfl⟩
      rw [ho]

theorem wa_wrapStep_error_iff {fs : FS} {cwd : Comps} {env : Vars} {a : String} {real : Comps}
    {f : String} (hm : fileMatch fs cwd a = .ok (real, f)) (e : Err) :
    wrapStep fs cwd env a = .error e ↔
      (mergeFileLayers fs { root := [], cwd := cwd } PState.empty real = .error e ∨
        ∃ st, mergeFileLayers fs { root := [], cwd := cwd } PState.empty real = .ok st ∧
          outputDocuments (st.docs.map (·.2)) env = .error e) := by
  unfold wrapStep
  rw [hm]
  dsimp only
  cases mergeFileLayers fs { root := [], cwd := cwd } PState.empty real with
  | error e' =>
    exact ⟨fun h => by cases h; exact .inl rfl,
      fun h => h.elim (fun h => by cases h; rfl) fun ⟨_, h, _⟩ => (nomatch h)⟩
  | ok st =>
    dsimp only
    constructor
    · intro h
      cases ho : outputDocuments (st.docs.map (·.2)) env with
      | error e' => rw [ho] at h; cases h; exact .inr ⟨st, rfl, ho⟩
      | ok outs => rw [ho] at h; cases h
    · rintro (h | ⟨_, ⟨⟩, ho⟩)
      · cases h
      · rw [ho]

theorem wa_wrapStep_verbatim_iff (fs : FS) (cwd : Comps) (env : Vars) (a s : String) :
    wrapStep fs cwd env a = .ok (.verbatim s) ↔ s = a ∧ ∃ e, fileMatch fs cwd a = .error e := by
  cases hm : fileMatch fs cwd a with
  | error e => simp [wrapStep_verbatim hm, eq_comm]
  | ok rf => simp [wa_wrapStep_ok_iff hm]

/-! ## `wrapArgs` is argument-wise -/

theorem wa_wrapArgs_getElem? {fs : FS} {cwd : Comps} {env : Vars} {args : List String}
    {ws : List WArg} (h : wrapArgs fs cwd env args = .ok ws) {i : Nat} {a : String}
    (ha : args[i]? = some a) : ∃ w, ws[i]? = some w ∧ wrapStep fs cwd env a = .ok w := by
  rw [wrapArgs_eq, mapM_ok_iff] at h
  exact Pointwise.getElem? h i ha

theorem wa_wrapArgs_length {fs : FS} {cwd : Comps} {env : Vars} {args : List String}
    {ws : List WArg} (h : wrapArgs fs cwd env args = .ok ws) : ws.length = args.length := by
  rw [wrapArgs_eq, mapM_ok_iff] at h
  exact (Pointwise.length_eq h).symm

theorem wa_wrapArgs_pair {fs : FS} {cwd : Comps} {env : Vars} {a b : String} {ws : List WArg}
    (h : wrapArgs fs cwd env [a, b] = .ok ws) :
    ∃ w₁ w₂, ws = [w₁, w₂] ∧ wrapStep fs cwd env a = .ok w₁ ∧ wrapStep fs cwd env b = .ok w₂ := by
  rw [wrapArgs_eq, mapM_ok_iff] at h
  obtain _ | ⟨h₁, _ | ⟨h₂, _ | _⟩⟩ := h
  exact ⟨_, _, rfl, h₁, h₂⟩

theorem wa_wrapArgs_append (fs : FS) (cwd : Comps) (env : Vars) (as bs : List String) :
    wrapArgs fs cwd env (as ++ bs) =
      (do let x ← wrapArgs fs cwd env as; let y ← wrapArgs fs cwd env bs; pure (x ++ y)) := by
  simp only [wrapArgs_eq]
  exact List.mapM_append

theorem wa_wrapArgs_single (fs : FS) (cwd : Comps) (env : Vars) (a : String) :
    wrapArgs fs cwd env [a] =
      match wrapStep fs cwd env a with
      | .error e => .error e
      | .ok w => .ok [w] := by
  rw [wrapArgs_eq, mapM_cons, mapM_nil]
  cases wrapStep fs cwd env a <;> rfl

theorem wa_wrapArgs_single_ok (fs : FS) (cwd : Comps) (env : Vars) (a : String) (w : WArg) :
    wrapArgs fs cwd env [a] = .ok [w] ↔ wrapStep fs cwd env a = .ok w := by
  rw [wa_wrapArgs_single]
  cases wrapStep fs cwd env a <;> simp

theorem wa_wrapArgs_single_error (fs : FS) (cwd : Comps) (env : Vars) (a : String) (e : Err) :
    wrapArgs fs cwd env [a] = .error e ↔ wrapStep fs cwd env a = .error e := by
  rw [wa_wrapArgs_single]
  cases wrapStep fs cwd env a <;> simp

theorem wa_wrapArgs_pointwise (fs : FS) (cwd : Comps) (env : Vars) (args : List String)
    (ws : List WArg) (h : wrapArgs fs cwd env args = .ok ws) (i : Nat) (a : String)
    (ha : args[i]? = some a) : ∃ w, ws[i]? = some w ∧ wrapArgs fs cwd env [a] = .ok [w] := by
  obtain ⟨w, hw, hstep⟩ := wa_wrapArgs_getElem? h ha
  exact ⟨w, hw, (wa_wrapArgs_single_ok fs cwd env a w).2 hstep⟩

theorem wa_wrapArgs_of_singles (fs : FS) (cwd : Comps) (env : Vars) (args : List String)
    (ws : List WArg) (hl : args.length = ws.length)
    (h : ∀ (i : Nat) (a : String) (w : WArg), args[i]? = some a → ws[i]? = some w →
      wrapArgs fs cwd env [a] = .ok [w]) :
    wrapArgs fs cwd env args = .ok ws := by
  rw [wrapArgs_eq, mapM_ok_iff]
  exact .of_getElem? hl fun i a w ha hw => (wa_wrapArgs_single_ok fs cwd env a w).1 (h i a w ha hw)

theorem wa_wrapArgs_error_at (fs : FS) (cwd : Comps) (env : Vars) (pre post : List String)
    (a : String) (wpre : List WArg) (e : Err) (hpre : wrapArgs fs cwd env pre = .ok wpre)
    (ha : wrapStep fs cwd env a = .error e) :
    wrapArgs fs cwd env (pre ++ a :: post) = .error e := by
  rw [wa_wrapArgs_append, hpre, wrapArgs_eq, mapM_cons, ha]
  rfl

/-! ## the format is the extension NAMED by the argument -/

theorem wa_splitOnP_slash_tail (s : List Char) (hs : '/' ∉ s) (cs : List Char) :
    ∃ init t, List.splitOnP (· == '/') (cs ++ s) = init ++ [t ++ s] := by
  induction cs with
  | nil =>
    refine ⟨[], [], ?_⟩
    rw [List.nil_append, List.splitOnP_eq_singleton (fun x hx => by
      have : x ≠ '/' := fun e => hs (e ▸ hx)
      simpa using this)]
    rfl
  | cons c cs ih =>
    obtain ⟨init, t, h⟩ := ih
    rw [List.cons_append, List.splitOnP_cons_eq_if_modifyHead, h]
    split
    · exact ⟨[] :: init, t, rfl⟩
    · cases init with
      | nil => exact ⟨[], c :: t, rfl⟩
      | cons i is => exact ⟨(c :: i) :: is, t, rfl⟩

theorem wa_plainComp_dot (t fl : List Char) (hne : fl ≠ []) (hdot : '.' ∉ fl) :
    plainComp (String.ofList (t ++ '.' :: fl)) = true := by
  have hlast : (t ++ '.' :: fl).getLast? = fl.getLast? := by
    rw [List.getLast?_append, List.getLast?_cons]
    cases h : fl.getLast? with
    | none => exact absurd (List.getLast?_eq_none_iff.1 h) hne
    | some z => simp
  obtain ⟨z, hz⟩ : ∃ z, fl.getLast? = some z := by
    cases h : fl.getLast? with
    | none => exact absurd (List.getLast?_eq_none_iff.1 h) hne
    | some z => exact ⟨z, rfl⟩
  have hzd : z ≠ '.' := fun e => hdot (e ▸ List.mem_of_getLast? hz)
  rw [plainComp_iff]
  have key : ∀ s : String, (s.toList.getLast? = none ∨ s.toList.getLast? = some '.') →
      String.ofList (t ++ '.' :: fl) ≠ s := by
    intro s hs e
    have h2 := congrArg (fun s => s.toList.getLast?) e
    simp only [String.toList_ofList, hlast, hz] at h2
    rcases hs with hs | hs
    · rw [hs] at h2; cases h2
    · rw [hs] at h2; cases h2; exact hzd rfl
  exact ⟨key "." (.inr (by decide)), key "" (.inl (by decide)), key ".." (.inr (by decide))⟩

theorem wa_ofList_dot (t : List Char) (f : String) :
    String.ofList (t ++ '.' :: f.toList) = String.ofList t ++ "." ++ f := by
  apply String.toList_inj.1
  simp [String.toList_append]

theorem wa_splitPath_dot (x f : String) (hf1 : '.' ∉ f.toList) (hf2 : '/' ∉ f.toList)
    (hf3 : f ≠ "") :
    ∃ (ys : List String) (t : String), splitPath (x ++ "." ++ f) = ys ++ [t ++ "." ++ f] ∧
      plainComp (t ++ "." ++ f) = true := by
  obtain ⟨init, t, h1⟩ :=
    wa_splitOnP_slash_tail ('.' :: f.toList) (by simp [hf2]) x.toList
  have hp := wa_plainComp_dot t f.toList (fun e => hf3 (String.toList_inj.1 (by simpa using e))) hf1
  rw [wa_ofList_dot] at hp
  refine ⟨(init.map String.ofList).filter (· != ""), String.ofList t, ?_, hp⟩
  rw [splitPath_eq, show (x ++ "." ++ f).toList = x.toList ++ '.' :: f.toList by
      simp [String.toList_append],
    h1, List.map_append, List.filter_append, List.map_cons, List.map_nil, wa_ofList_dot]
  simp [((plainComp_iff _).1 hp).2.1]

theorem wa_absPath_dot (cwd : Comps) (x f : String) (hf1 : '.' ∉ f.toList)
    (hf2 : '/' ∉ f.toList) (hf3 : f ≠ "") :
    ∃ (d : Comps) (t : String), absPath cwd (x ++ "." ++ f) = d ++ [t ++ "." ++ f] := by
  obtain ⟨ys, t, h1, hp⟩ := wa_splitPath_dot x f hf1 hf2 hf3
  unfold absPath
  split
  · exact ⟨cleanComps ys, t, by rw [h1, cleanComps_snoc _ _ hp]⟩
  · exact ⟨cleanComps (cwd ++ ys), t, by rw [h1, ← List.append_assoc, cleanComps_snoc _ _ hp]⟩

theorem wa_extOf_arg (cwd : Comps) (x f : String) (hf1 : '.' ∉ f.toList)
    (hf2 : '/' ∉ f.toList) (hf3 : f ≠ "") :
    extOf (baseOf (absPath cwd (x ++ "." ++ f))) = f := by
  obtain ⟨d, t, h⟩ := wa_absPath_dot cwd x f hf1 hf2 hf3
  rw [h, baseOf_snoc, extOf_snoc _ _ hf1]

/-! ### sample: `/w/a.yaml` of `chainFS` named under every supported extension -/

theorem wa_chainFS_step_a_ext (e : String) (he : e ∈ supportedExts) :
    wrapStep chainFS ["w"] [] ("a" ++ "." ++ e) = .ok (.evaluated e [.map [("x", .int 1)]]) := by
  refine (wa_wrapStep_ok_iff (chainFS_match_a_ext e he) _).2
    ⟨_, _, (chainFS_layers_a _).trans (mergeDocument_first _ _ rfl), ?_, rfl⟩
  decide +kernel

/-! ## every failing evaluation of a resolvable argument aborts -/

theorem wa_pre (fs : FS) (env : Vars) :
    wrapArgs fs ["w"] env ["apply", "-f"] = .ok [.verbatim "apply", .verbatim "-f"] := by
  rw [wrapArgs_eq, mapM_cons, mapM_cons, mapM_nil, wrapStep_verbatim (wa_nomatch_apply fs),
    wrapStep_verbatim (wa_nomatch_f fs)]

/-! ### sample: `missingFile` from a missing parent layer (`/w/orphan.x.yaml` in `chainFS`) -/

theorem wa_chainFS_orphan : LayerFile chainFS ["w"] "orphan.x" "yaml" (.ok [.map []]) :=
  ⟨by decide +kernel, by decide +kernel, by decide +kernel⟩

theorem wa_chainFS_match_orphan :
    fileMatch chainFS ["w"] "orphan.x.yaml" = .ok (["w", "orphan.x.yaml"], "yaml") := by
  rw [show "orphan.x.yaml" = "orphan.x" ++ "." ++ "yaml" by decide +kernel]
  exact fileMatch_name chainFS_plain (by decide +kernel) (by decide +kernel) (by decide +kernel)
    wa_chainFS_orphan

theorem wa_chainFS_no_orphan : chainFS.findRooted [] ["w"] "orphan" = none :=
  findRooted_none_of_missing chainFS_plain (by decide +kernel) (by decide +kernel)

/-- the argument itself resolves (the file is there); its parent layer `orphan` is missing: the chain of one layer `x`
    above the missing `orphan` -/
theorem wa_chainFS_layers_orphan (st : PState) :
    mergeFileLayers chainFS ⟨[], ["w"]⟩ st ["w", "orphan.x.yaml"] = .error .missingFile := by
  have h := load_chain_missing (cwd := ["w"]) (pre := ["orphan"]) chainFS_plain [] ⟨"x", "yaml", [.map []]⟩
    (by decide) (by decide) (by decide) (by decide)
    (chainFilesOK_snoc (chainFilesOK_nil chainFS ["w"] ["orphan"]) wa_chainFS_orphan (List.forall_mem_singleton.2 rfl))
    wa_chainFS_no_orphan
  rw [mergeFileLayers_eq, show (["w", "orphan.x.yaml"] : Comps) =
    prefixPath ["w"] ["orphan"] ([] ++ [⟨"x", "yaml", [.map []]⟩]) by decide +kernel, h]

theorem wa_chainFS_step_orphan (env : Vars) :
    wrapStep chainFS ["w"] env "orphan.x.yaml" = .error .missingFile :=
  (wa_wrapStep_error_iff wa_chainFS_match_orphan _).2 (.inl (wa_chainFS_layers_orphan _))

/-- contrast: `FileMatch` ITSELF fails with `missingFile` (no `/w/nothere.*`) -/
theorem wa_chainFS_nomatch_nothere :
    fileMatch chainFS ["w"] "nothere.yaml" = .error .missingFile := by
  rw [show "nothere.yaml" = "nothere" ++ "." ++ "yaml" by decide +kernel,
    fileMatch_snoc (absPath_name chainFS_plain.1.1 (by decide +kernel) (by decide +kernel)) (by decide +kernel),
    findFile_none_of_missing chainFS_plain (by decide +kernel) (by decide +kernel)]

/-! ### sample: `invalidType` from a bad merge (`x: {y: 1}` overlaid by `x: 5`) -/

def wa_clashFS : FS := ⟨[
  (["w"], .dir),
  (["w", "a.yaml"], .file (.ok [.map [("x", .map [("y", .int 1)])]])),
  (["w", "a.b.yaml"], .file (.ok [.map [("x", .int 5)]]))]⟩

theorem wa_clashFS_plain : PlainDir wa_clashFS ["w"] :=
  plainDir_single (n := .dir) (by decide) (by decide) rfl

theorem wa_clashFS_a :
    LayerFile wa_clashFS ["w"] "a" "yaml" (.ok [.map [("x", .map [("y", .int 1)])]]) :=
  ⟨by decide +kernel, by decide +kernel, by decide +kernel⟩

theorem wa_clashFS_ab : LayerFile wa_clashFS ["w"] "a.b" "yaml" (.ok [.map [("x", .int 5)]]) :=
  ⟨by decide +kernel, by decide +kernel, by decide +kernel⟩

theorem wa_clashFS_match :
    fileMatch wa_clashFS ["w"] "a.b.yaml" = .ok (["w", "a.b.yaml"], "yaml") := by
  rw [show "a.b.yaml" = "a.b" ++ "." ++ "yaml" by decide +kernel]
  exact fileMatch_name wa_clashFS_plain (by decide +kernel) (by decide +kernel) (by decide +kernel)
    wa_clashFS_ab

theorem wa_clash_merge :
    merge (.map [("x", .map [("y", .int 1)])]) (.map [("x", .int 5)]) = .error .invalidType := by
  rw [merge_map_map, mergeMapMap_noreplace (by decide), mergeFields_cons,
    if_neg (show ¬ (Val.int 5).toStr = "$delete" by decide),
    show fget [("x", Val.map [("y", .int 1)])] "x" = some (.map [("y", .int 1)]) by decide]
  simp only [merge_map_other _ (.int 5) rfl rfl]
  rfl

theorem wa_clashFS_layers :
    mergeFileLayers wa_clashFS ⟨[], ["w"]⟩ PState.empty ["w", "a.b.yaml"] =
      .error .invalidType := by
  have := mergeFileLayers_clChain (cwd := ["w"]) wa_clashFS_plain ⟨"b", "yaml", [.map [("x", .int 5)]]⟩
    [⟨"a", "yaml", [.map [("x", .map [("y", .int 1)])]]⟩] (by decide)
    ⟨wa_clashFS_ab, List.forall_mem_singleton.2 rfl, wa_clashFS_a, List.forall_mem_singleton.2 rfl, trivial⟩
    (by decide) PState.empty
  rw [show (["w", "a.b.yaml"] : Comps) = clPath ["w"] [] [⟨"b", "yaml", [.map [("x", .int 5)]]⟩,
    ⟨"a", "yaml", [.map [("x", .map [("y", .int 1)])]]⟩] by decide, this]
  -- the two documents, base first; their ids stay as the loader writes them
  show runMerges PState.empty [⟨_, [], _⟩, _] = _
  rw [runMerges_cons, mergeDocument_first _ _ rfl]
  exact (runMerges_one _ _).trans (wa_mergeDocument_clash _ _ _ _ _ _ rfl wa_clash_merge)

theorem wa_clashFS_step (env : Vars) :
    wrapStep wa_clashFS ["w"] env "a.b.yaml" = .error .invalidType :=
  (wa_wrapStep_error_iff wa_clashFS_match _).2 (.inl wa_clashFS_layers)

end Bkl
