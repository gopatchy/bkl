/-
  BklProofs.Lemmas.Cycles — single reference steps and reference cycles, for C08 (termination) and,
  through Lemmas/C10Inline, for the chains and counterexamples of C10: simple keys (`SimpleKey`),
  the forms that forward to a reference (`forwards_*`: `$merge:` / `$replace:` strings, `$replace`
  maps and lists) and closed systems of them (`NextRef`, `RefClosed`), the explicit n-cycle
  `cycleFields`, a `$merge` host at a top-level key whose reference is a simple key (`host_step`),
  interpolation cycles, and plain data (C06) as reference-free data (`refFree` itself:
  Lemmas/RefFree).
-/
import BklProofs.Lemmas.RefFree
import BklProofs.Lemmas.Interp
import BklProofs.Lemmas.Process2
namespace Bkl

/-! ## simple keys: references that are one plain path segment -/

/-- `k` used as a reference string is a lookup of the top-level key `k` -/
structure SimpleKey (k : String) : Prop where
  parse : parseRef k = some (.str k)
  split : k.splitOn "." = [k]

theorem simpleKey_of_plain {k : String} (h1 : isPlainRef k = true) (h2 : '.' ∉ k.toList) :
    SimpleKey k :=
  ⟨by simp [parseRef, h1], splitOn_dot_none k h2⟩

theorem get_simpleKey {k : String} (hk : SimpleKey k) {kvs : Fields} {v : Val} (docs : List Val)
    (h : fget kvs k = some v) : get (.map kvs) docs (.str k) = .ok v :=
  get_plain_key docs hk.parse hk.split h

theorem pathRef_simpleKey {k : String} (hk : SimpleKey k) : PathRef (.str k) [k] :=
  pathRef_str hk.parse hk.split

theorem simpleKey_a : SimpleKey "a" := ⟨parseRef_a, splitOn_a⟩
theorem simpleKey_b : SimpleKey "b" := ⟨parseRef_b, splitOn_b⟩

theorem isPlainRef_c : isPlainRef "c" = true := by decide +kernel
theorem isPlainRef_d : isPlainRef "d" = true := by decide +kernel
theorem isPlainRef_e : isPlainRef "e" = true := by decide +kernel

theorem simpleKey_c : SimpleKey "c" := simpleKey_of_plain isPlainRef_c (by decide)
theorem simpleKey_d : SimpleKey "d" := simpleKey_of_plain isPlainRef_d (by decide)
theorem simpleKey_e : SimpleKey "e" := simpleKey_of_plain isPlainRef_e (by decide)

theorem simpleKey_abcde : ∀ k ∈ ["a", "b", "c", "d", "e"], SimpleKey k := by
  intro k hk
  simp only [List.mem_cons, List.not_mem_nil, or_false] at hk
  rcases hk with rfl | rfl | rfl | rfl | rfl
  exacts [simpleKey_a, simpleKey_b, simpleKey_c, simpleKey_d, simpleKey_e]

/-! ## the forms that forward to a reference (`Forwards`) -/

theorem forwards_map_replace {m : Fields} {ref : Val} (h0 : fget m "$merge" = none)
    (h : fget m "$replace" = some ref) : Forwards (.map m) ref :=
  (FwdForm.mapReplace h0 h).forwards

theorem forwards_replace_only (ref : Val) : Forwards (.map [("$replace", ref)]) ref :=
  forwards_map_replace (by rw [fget, if_neg (by decide), fget]) (by rw [fget, if_pos rfl])

theorem forwards_str_replace (p : String) : Forwards (.str ("$replace:" ++ p)) (.str p) :=
  fun _ _ _ _ => process1_str_replace (stripPrefix_replace_append_merge p)
    (stripPrefix_replace_append p)

theorem forwards_str_merge (p : String) : Forwards (.str ("$merge:" ++ p)) (.str p) :=
  fun _ _ _ _ => process1_str_merge (stripPrefix_merge_append p)

/-- a list whose only directive entry is one `{$replace: ref}` forwards to `ref` -/
theorem forwards_list_replace {pre post : List Val} {ref : Val}
    (h : ∀ x ∈ pre ++ post, listDirective x = false) (hn : ref.isNull = false) :
    Forwards (.list (pre ++ [.map [("$replace", ref)]] ++ post)) ref := by
  intro fuel docs root loc
  have hnm : ∀ x ∈ pre ++ [Val.map [("$replace", ref)]] ++ post, notMergeEntry x = true := by
    intro x hx
    simp only [List.mem_append, List.mem_cons, List.not_mem_nil, or_false] at hx
    rcases hx with (hx | rfl) | hx
    · exact notMergeEntry_of_not_directive (h x (List.mem_append_left _ hx))
    · simp [notMergeEntry]
    · exact notMergeEntry_of_not_directive (h x (List.mem_append_right _ hx))
  rw [process1_list, listMerges_of_notMerge hnm, foldlM_nil, ok_bind]
  refine listFinish_replace (rest := pre ++ post) ?_ hn
  rw [listObj0_fst_self hnm]
  exact popListMapValue_one_replace ref fun x hx => notReplaceEntry_of_not_directive (h x hx)

/-! ## forwarding references against one root

  `NextRef root v k` is `Forwards v (.str k)` (Lemmas/Process1) at the one root `root`, the
  reference being the string `k` (`Forwards.nextRef`).  The closed systems below fix the root,
  the document that holds the cycle, and refer by simple keys; every instance comes from a
  `forwards_*` lemma. -/

def NextRef (root v : Val) (k : String) : Prop :=
  ∀ (fuel : Nat) (docs : List Val) (loc : Loc),
    process1 (fuel + 1) docs root loc v =
      (get root docs (.str k) >>= fun inp => process1 fuel docs root none inp)

theorem Forwards.nextRef {v : Val} {k : String} (h : Forwards v (.str k)) (root : Val) :
    NextRef root v k := fun fuel docs loc => h fuel docs root loc

/-- A set `V` of values each of which forwards to a simple key of `kvs` that holds a value of `V`
    again.  Every member is `circularRef` wherever it is evaluated, for every fuel: each step
    resolves to another member with one unit of fuel less, and the root never changes. -/
theorem forwarding_error {kvs : Fields} {V : Val → Prop}
    (H : ∀ v, V v → ∃ k v', NextRef (.map kvs) v k ∧ SimpleKey k ∧ fget kvs k = some v' ∧ V v') :
    ∀ (fuel : Nat) (docs : List Val) (loc : Loc) (v : Val), V v →
      process1 fuel docs (.map kvs) loc v = .error .circularRef := by
  intro fuel
  induction fuel with
  | zero => intro _ _ _ _; rfl
  | succ n ih =>
    intro docs loc v hv
    obtain ⟨k, v', hn, hk, hg, hv'⟩ := H v hv
    rw [hn n docs loc, get_simpleKey hk docs hg, ok_bind]
    exact ih docs none v' hv'

/-- a closed system: every entry of the map forwards to a simple key of the same map -/
def RefClosed (kvs : Fields) : Prop :=
  ∀ p ∈ kvs, ∃ k v, NextRef (.map kvs) p.2 k ∧ SimpleKey k ∧ fget kvs k = some v

theorem refClosed_entry_error {kvs : Fields} (H : RefClosed kvs) (fuel : Nat) (docs : List Val)
    (loc : Loc) (p : String × Val) (hp : p ∈ kvs) :
    process1 fuel docs (.map kvs) loc p.2 = .error .circularRef :=
  forwarding_error (V := fun v => ∃ p ∈ kvs, p.2 = v)
    (fun v ⟨p, hp, e⟩ => by
      obtain ⟨k, v', hn, hk, hg⟩ := H p hp
      exact ⟨k, v', e ▸ hn, hk, hg, (k, v'), fget_mem hg, rfl⟩)
    fuel docs loc p.2 ⟨p, hp, rfl⟩

theorem refClosed_doc_error {kvs : Fields} (H : RefClosed kvs) (hne : kvs ≠ [])
    (h0 : fget kvs "$merge" = none) (h1 : fget kvs "$replace" = none)
    (fuel : Nat) (docs : List Val) (loc : Loc) :
    process1 fuel docs (.map kvs) loc (.map kvs) = .error .circularRef := by
  cases fuel with
  | zero => rfl
  | succ n =>
    cases kvs with
    | nil => exact absurd rfl hne
    | cons p rest =>
      exact process1_map_head_error h0 h1 (refClosed_entry_error H n docs _ p List.mem_cons_self)

/-! ## the explicit n-cycle -/

/-- rotate left by one: `[k₀, k₁, …, kₙ₋₁] ↦ [k₁, …, kₙ₋₁, k₀]` -/
def rot1 {α : Type} : List α → List α
  | [] => []
  | a :: tl => tl ++ [a]

theorem mem_rot1 {α : Type} {k : α} {ks : List α} : k ∈ rot1 ks ↔ k ∈ ks := by
  cases ks with
  | nil => simp [rot1]
  | cons a tl => simp [rot1, or_comm]

theorem length_rot1 {α : Type} (ks : List α) : (rot1 ks).length = ks.length := by
  cases ks <;> simp [rot1]

/-- `k₀ ↦ f k₁, k₁ ↦ f k₂, …, kₙ₋₁ ↦ f k₀` -/
def cycleFields (f : String → Val) (ks : List String) : Fields :=
  (ks.zip (rot1 ks)).map fun p => (p.1, f p.2)

theorem cycleFields_keys (f : String → Val) (ks : List String) :
    ∀ p ∈ cycleFields f ks, p.1 ∈ ks := by
  intro p hp
  obtain ⟨q, hq, rfl⟩ := List.mem_map.1 hp
  exact (List.of_mem_zip hq).1

theorem cycleFields_fget_some (f : String → Val) (ks : List String) {k : String} (h : k ∈ ks) :
    ∃ v, fget (cycleFields f ks) k = some v := by
  obtain ⟨q, hq⟩ := exists_zip_of_mem ks (rot1 ks) (length_rot1 ks).symm k h
  exact Option.ne_none_iff_exists'.1 fun hn =>
    fget_none_iff.1 hn _ (List.mem_map_of_mem (f := fun p => (p.1, f p.2)) hq) rfl

theorem cycleFields_fget_none (f : String → Val) (ks : List String) {k : String} (h : k ∉ ks) :
    fget (cycleFields f ks) k = none :=
  fget_none_iff.2 fun p hp e => h (e ▸ cycleFields_keys f ks p hp)

theorem cycleFields_ne_nil (f : String → Val) {ks : List String} (h : ks ≠ []) :
    cycleFields f ks ≠ [] := by
  intro e
  have := congrArg List.length e
  simp only [cycleFields, List.length_map, List.length_zip, length_rot1, Nat.min_self,
    List.length_nil] at this
  exact h (List.eq_nil_of_length_eq_zero this)

/-- a `$merge` host at the top-level key `h` of the root whose reference is the simple key `k`
    (possibly `h` itself), which holds the map `s` (no `$replace: true`) once the host has lost its
    `$merge` key: the host receives `s` (`next`), is written back and evaluated again in place -/
theorem host_step {fuel : Nat} {docs : List Val} {rk H s next : Fields} {h k : String}
    {x : Val} (hk : SimpleKey k) (hx : fget rk h = some x)
    (hm : fget H "$merge" = some (.str k))
    (hg : fget (fset rk h (.map (fdel H "$merge"))) k = some (.map s))
    (hr : fhasBool s "$replace" true = false)
    (hn : mergeFields (fdel H "$merge") s = .ok next) :
    process1 (fuel + 1) docs (.map rk) (some [.key h]) (.map H) =
      process1 fuel docs (.map (fset rk h (.map next))) (some [.key h]) (.map next) := by
  have hg' : getPath (.map (fset rk h (.map (fdel H "$merge")))) [k] = .ok (.map s) := by
    simp only [getPath, hg]; rfl
  rw [process1_merge_top hx hm (pathRef_simpleKey hk), hg', ok_bind, merge_map_map,
    mergeMapMap_noreplace hr, hn]
  simp only [mergesInPlace, hr, Bool.not_false, if_true]
  rfl

theorem host_step_error {fuel : Nat} {docs : List Val} {rk H s : Fields} {h k : String}
    {x : Val} {e : Err} (hk : SimpleKey k) (hx : fget rk h = some x)
    (hm : fget H "$merge" = some (.str k))
    (hg : fget (fset rk h (.map (fdel H "$merge"))) k = some (.map s))
    (hr : fhasBool s "$replace" true = false)
    (hn : mergeFields (fdel H "$merge") s = .error e) :
    process1 (fuel + 1) docs (.map rk) (some [.key h]) (.map H) = .error e := by
  have hg' : getPath (.map (fset rk h (.map (fdel H "$merge")))) [k] = .ok (.map s) := by
    simp only [getPath, hg]; rfl
  rw [process1_merge_top hx hm (pathRef_simpleKey hk), hg', ok_bind, merge_map_map,
    mergeMapMap_noreplace hr, hn]
  rfl

/-- … with the reference outside the host (`k ≠ h`), and the evaluation of the merged host given -/
theorem host_eval {fuel : Nat} {docs : List Val} {rk m s next : Fields} {h k : String}
    {v r' : Val} (hk : SimpleKey k) (hx : fget rk h = some (.map m))
    (hm : fget m "$merge" = some (.str k)) (hne : k ≠ h) (hg : fget rk k = some (.map s))
    (hr : fhasBool s "$replace" true = false)
    (hn : mergeFields (fdel m "$merge") s = .ok next)
    (hev : process1 fuel docs (.map (fset rk h (.map next))) (some [.key h]) (.map next) =
      .ok (v, r')) :
    process1 (fuel + 1) docs (.map rk) (some [.key h]) (.map m) = .ok (v, r') :=
  (host_step hk hx hm (by rw [fget_fset_ne _ _ _ _ hne]; exact hg) hr hn).trans hev

/-! ## interpolation: the string `$"{k}"` -/

/-- the interpolated string `$"{k}"` -/
def interpRefStr (k : String) : String :=
  String.ofList ('$' :: '"' :: '{' :: (k.toList ++ ['}', '"']))

theorem interpBody_interpRefStr (k : String) :
    interpBody (interpRefStr k) = some ('{' :: (k.toList ++ ['}'])) := by
  simp [interpBody, interpRefStr, List.reverse_append]

theorem interpSegs_ref (k : String) (h1 : '}' ∉ k.toList) (h2 : '\n' ∉ k.toList) :
    interpSegs ('{' :: (k.toList ++ ['}'])) = [.ref k.toList] := by
  have := C13_scan_spec [.ref k.toList] ⟨h1, h2, trivial⟩
  simpa [render, renderSeg] using this

theorem process2String_interpRef {fuel : Nat} {docs : List Val} {root : Val} {ec : Vars}
    {k s2 : String} (h1 : '}' ∉ k.toList) (h2 : '\n' ∉ k.toList)
    (hg : getWithVar root docs ec k = .ok (.str s2)) :
    process2String (fuel + 1) docs root ec (interpRefStr k) =
      match process2String fuel docs root ec s2 with
      | .error e => .error e
      | .ok v => .ok (.str (String.join [fmtV v])) := by
  rw [process2String_interp_eq fuel docs root ec _ _ (interpBody_interpRefStr k), interpSegs_ref k h1 h2]
  simp only [interpSpec, List.mapM_cons, List.mapM_nil, interpSeg, String.ofList_toList, hg]
  cases process2String fuel docs root ec s2 <;> rfl

theorem isRefChar_of_plain {k : String} (h : isPlainRef k = true) : ∀ c ∈ k.toList, isRefChar c = true := by
  unfold isPlainRef at h
  cases hk : k.toList with
  | nil => intro c hc; cases hc
  | cons a cs =>
    rw [hk] at h
    simp only [Bool.and_eq_true, Bool.or_eq_true, List.all_eq_true] at h
    intro c hc
    rcases List.mem_cons.1 hc with rfl | hc
    · rcases h.1.1.1 with (ha | ha) | ha
      · simp [isRefChar, Char.isAlphanum, ha]
      · simp [isRefChar, ha]
      · simp [isRefChar, ha]
    · exact h.1.1.2 c hc

theorem plain_no_brace {k : String} (h : isPlainRef k = true) :
    '}' ∉ k.toList ∧ '\n' ∉ k.toList :=
  ⟨fun hc => absurd (isRefChar_of_plain h _ hc) (by decide),
   fun hc => absurd (isRefChar_of_plain h _ hc) (by decide)⟩

/-- a closed system of interpolations: every entry is `$"{k}"` for a plain key `k` of the map -/
def InterpClosed (kvs : Fields) : Prop :=
  ∀ p ∈ kvs, ∃ k v, p.2 = .str (interpRefStr k) ∧ isPlainRef k = true ∧ '.' ∉ k.toList ∧
    fget kvs k = some v

theorem interpClosed_entry_error {kvs : Fields} (H : InterpClosed kvs) :
    ∀ (fuel : Nat) (docs : List Val) (ec : Vars), ∀ p ∈ kvs,
      ∃ s, p.2 = .str s ∧ process2String fuel docs (.map kvs) ec s = .error .circularRef := by
  intro fuel
  induction fuel with
  | zero =>
    intro docs ec p hp
    obtain ⟨k, v, hs, _, _, _⟩ := H p hp
    exact ⟨_, hs, C13_interp_no_fuel docs _ ec _ _ (interpBody_interpRefStr k)⟩
  | succ n ih =>
    intro docs ec p hp
    obtain ⟨k, v, hs, hk1, hk2, hv⟩ := H p hp
    refine ⟨_, hs, ?_⟩
    obtain ⟨s2, hs2, herr⟩ := ih docs ec (k, v) (fget_mem hv)
    have hv' : v = .str s2 := hs2
    subst hv'
    rw [process2String_interpRef (plain_no_brace hk1).1 (plain_no_brace hk1).2
      (getWithVar_simple_key kvs docs ec k _ hk1 hk2 hv), herr]

theorem interpClosed_entry_error2 {kvs : Fields} (H : InterpClosed kvs)
    (fuel : Nat) (docs : List Val) (ec : Vars) (p : String × Val) (hp : p ∈ kvs) :
    process2 fuel docs (.map kvs) ec p.2 = .error .circularRef := by
  cases fuel with
  | zero => exact process2_zero _ _ _ _
  | succ n =>
    obtain ⟨s, hs, herr⟩ := interpClosed_entry_error H (n + 1) docs ec p hp
    rw [hs, process2_str_eq]; exact herr

/-! ## plain data (C06) is reference-free -/

theorem e_P_refKey (s : String) (h : e_P s = true) : refKey s = false :=
  refKey_of_unrecognised (by simpa [e_P] using h)

theorem plain_refFree (v : Val) (h : allStr e_P v = true) : refFree v = true :=
  allStr_refFree e_P_refKey v h
theorem plain_refFreeList : ∀ xs : List Val, allStrList e_P xs = true → refFreeList xs = true :=
  allStrList_refFree e_P_refKey
theorem plain_refFreeFields : ∀ kvs : Fields, allStrFields e_P kvs = true → refFreeFields kvs = true :=
  allStrFields_refFree e_P_refKey

/-! ## the example documents of C08 -/

/-- `a: {$merge: b}, b: {$merge: a}` -/
def mapCycle2 : Val :=
  .map [("a", .map [("$merge", .str "b")]), ("b", .map [("$merge", .str "a")])]

/-- `a: {$merge: a}` -/
def mapSelfCycle : Val := .map [("a", .map [("$merge", .str "a")])]

/-- `a: {$merge: b, x: 1}, b: {$merge: a, y: 2}` -/
def mapCycle2Keys : Val :=
  .map [("a", .map [("$merge", .str "b"), ("x", .int 1)]),
        ("b", .map [("$merge", .str "a"), ("y", .int 2)])]

theorem interpClosed_1 : InterpClosed [("a", .str "$\"{a}\"")] := by
  intro p hp
  simp only [List.mem_cons, List.not_mem_nil, or_false] at hp
  subst hp
  exact ⟨"a", .str "$\"{a}\"", congrArg Val.str (by decide), isPlainRef_a, by decide, by decide⟩

theorem interpClosed_2 : InterpClosed [("a", .str "$\"{b}\""), ("b", .str "$\"{a}\"")] := by
  have hb : isPlainRef "b" = true := by decide +kernel
  intro p hp
  simp only [List.mem_cons, List.not_mem_nil, or_false] at hp
  rcases hp with rfl | rfl
  · exact ⟨"b", .str "$\"{a}\"", congrArg Val.str (by decide), hb, by decide, by decide⟩
  · exact ⟨"a", .str "$\"{b}\"", congrArg Val.str (by decide), isPlainRef_a, by decide, by decide⟩

/-- `a: {$merge: [], x: 1}` -/
def selfMerge : Val := .map [("a", .map [("$merge", .list []), ("x", .int 1)])]

end Bkl
