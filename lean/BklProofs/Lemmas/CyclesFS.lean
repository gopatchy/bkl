/-
  BklProofs.Lemmas.CyclesFS — `$parent` cycles between files (C08): a set of files closed under "first parent" never loads
  (`parentClosed_error`), and the sample file system `fsPQ` whose two files name each other.
-/
import BklProofs.Lemmas.FilesLoad
namespace Bkl

def ParentEdge (fs : FS) (cfg : RootCfg) (p q : Comps) : Prop :=
  ∃ raw rest, (∀ fid, loadFile fs cfg p fid = .ok raw) ∧ fileParents fs cfg p raw = .ok (q :: rest)

/-- a set of files closed under "first parent": loading never leaves it -/
def ParentClosed (fs : FS) (cfg : RootCfg) (S : Comps → Prop) : Prop :=
  ∀ p, S p → ∃ q, ParentEdge fs cfg p q ∧ S q

/-- every step either meets the chain of children (`C03_cycle_is_error`) or goes on to the first parent
    (`lfp_first_error`), until the fuel is gone -/
theorem parentClosed_error {fs : FS} {cfg : RootCfg} {S : Comps → Prop}
    (H : ParentClosed fs cfg S) :
    ∀ (fuel : Nat) (p : Comps), S p → ∀ (c : Option String) (ids : List String)
      (chain : List Comps), loadFileAndParents fs cfg fuel p c ids chain = .error .circularRef := by
  intro fuel
  induction fuel with
  | zero => intros; rfl
  | succ n ih =>
    intro p hp c ids chain
    cases hc : chain.contains p with
    | true => exact C03_cycle_is_error fs cfg n p c ids chain (List.contains_iff_mem.1 hc)
    | false =>
      obtain ⟨q, ⟨raw, rest, hl, hpar⟩, hq⟩ := H p hp
      exact lfp_first_error hc (hl _) hpar (ih q hq _ _ _)

theorem qsort_singleton_cyc {α : Type} (x : α) (lt : α → α → Bool) : (#[x].qsort lt) = #[x] :=
  qsort_singleton lt x

/-- two files naming each other in `$parent`: `/w/p.yaml` ⇄ `/w/q.yaml` -/
def fsPQ : FS := { entries := [
  (["w"], .dir),
  (["w", "p.yaml"], .file (.ok [.map [("$parent", .str "q")]])),
  (["w", "q.yaml"], .file (.ok [.map [("$parent", .str "p")]]))] }

def cfgPQ : RootCfg := { root := [], cwd := ["w"] }

theorem fsPQ_plain : PlainDir fsPQ ["w"] :=
  plainDir_single (n := .dir) (by decide) (by decide) rfl

theorem fsPQ_load_p (fid : String) :
    loadFile fsPQ cfgPQ ["w", "p.yaml"] fid = .ok [.map [("$parent", .str "q")]] :=
  loadFile_layerFile (layer := "p") (e₀ := "yaml") fsPQ_plain (by decide) (by decide +kernel) ["w"] fid

theorem fsPQ_load_q (fid : String) :
    loadFile fsPQ cfgPQ ["w", "q.yaml"] fid = .ok [.map [("$parent", .str "p")]] :=
  loadFile_layerFile (layer := "q") (e₀ := "yaml") fsPQ_plain (by decide) (by decide +kernel) ["w"] fid

theorem fsPQ_parents_p :
    fileParents fsPQ cfgPQ ["w", "p.yaml"] [.map [("$parent", .str "q")]] = .ok [["w", "q.yaml"]] :=
  fileParents_str_single _ _ _ _ _ "q" rfl
    (globName_short (d := ["w"]) (names := ["q.yaml"]) fsPQ_plain (by decide) (by decide)
      (splitPath_lit "q" ["q"] (by decide)) (by decide +kernel)
      (by simp only [globNames, extOf_eq]; decide +kernel) (Nat.le_refl 1))

theorem fsPQ_parents_q :
    fileParents fsPQ cfgPQ ["w", "q.yaml"] [.map [("$parent", .str "p")]] = .ok [["w", "p.yaml"]] :=
  fileParents_str_single _ _ _ _ _ "p" rfl
    (globName_short (d := ["w"]) (names := ["p.yaml"]) fsPQ_plain (by decide) (by decide)
      (splitPath_lit "p" ["p"] (by decide)) (by decide +kernel)
      (by simp only [globNames, extOf_eq]; decide +kernel) (Nat.le_refl 1))

end Bkl
