/-
  `merge` along a key path through nested maps (C07's `$required` across layers): the value found by following a
  path (`mapPath`), when a layer says something about a path (`mentions`, `noReplaceAlong`), and what one `merge`,
  or a chain of them, does to the value at a path: a layer that does not mention the path leaves it alone (frame),
  a layer that reaches it merges into it or overrides it.
-/
import BklProofs.Lemmas.Merge
namespace Bkl

/-! ## map paths -/

def mapPath : Val → List String → Option Val
  | v, [] => some v
  | .map m, k :: π => (fget m k).bind (fun c => mapPath c π)
  | _, _ :: _ => none

/-- the layer `u` *mentions* the path `π`: following `π` through `u` one meets a
    `$replace: true` map, or a value that is neither a map nor null, or reaches the end of `π`.
    (A layer that is null at a proper prefix, or lacks the next key, does not mention `π`.) -/
def mentions : Val → List String → Bool
  | _, [] => true
  | .map m, k :: π =>
    fhasBool m "$replace" true ||
      (match fget m k with
       | none => false
       | some c => mentions c π)
  | .null, _ :: _ => false
  | _, _ :: _ => true

/-- no map met while following `π` through `u` (the end point excluded) carries `$replace: true` -/
def noReplaceAlong : Val → List String → Bool
  | .map m, k :: π =>
    !fhasBool m "$replace" true &&
      (match fget m k with
       | none => true
       | some c => noReplaceAlong c π)
  | _, _ => true

theorem q_mapPath_nil (v : Val) : mapPath v [] = some v := by
  cases v <;> rfl

theorem q_mapPath_cons {v : Val} {k : String} {π : List String} {x : Val}
    (h : mapPath v (k :: π) = some x) :
    ∃ m c, v = .map m ∧ fget m k = some c ∧ mapPath c π = some x := by
  cases v with
  | map m =>
    simp only [mapPath] at h
    cases hf : fget m k with
    | none => rw [hf] at h; cases h
    | some c => rw [hf] at h; exact ⟨m, c, rfl, hf, h⟩
  | _ => simp [mapPath] at h

theorem q_mapPath_map_cons (m : Fields) (k : String) (π : List String) :
    mapPath (.map m) (k :: π) = (fget m k).bind (fun c => mapPath c π) := rfl

theorem q_toStr_ne_delete {c1 c : Val} {π : List String} (h : mapPath c1 π = some c)
    (hdel : c.toStr ≠ "$delete") : c1.toStr ≠ "$delete" := by
  cases π with
  | nil => rw [q_mapPath_nil] at h; cases h; exact hdel
  | cons k π => obtain ⟨m, _, rfl, _, _⟩ := q_mapPath_cons h; exact (by decide : "" ≠ "$delete")

/-! ## one merge step, key level -/

theorem q_merge_key {d s : Fields} {r : Val} {k : String} {e c : Val}
    (hs : Fields.SortedKeys s) (hrep : fhasBool s "$replace" true = false)
    (hd : fget d k = some e) (hc : fget s k = some c) (hdel : c.toStr ≠ "$delete")
    (h : merge (.map d) (.map s) = .ok r) :
    ∃ rm r', r = .map rm ∧ merge e c = .ok r' ∧ fget rm k = some r' := by
  obtain ⟨rm, rfl, -, hk⟩ := merge_map_at (distinctKeys_of_sorted hs) hrep h
  have := hk k
  rw [hc, hd] at this
  obtain ⟨r', h1, h2⟩ := R_map_ok_iff.1 ((mergeAct_some hdel e).symm.trans this)
  exact ⟨rm, r', rfl, h1, h2.symm⟩

theorem q_merge_key_frame {d s : Fields} {r : Val} {k : String} (hs : Fields.SortedKeys s)
    (hrep : fhasBool s "$replace" true = false) (hc : fget s k = none)
    (h : merge (.map d) (.map s) = .ok r) :
    ∃ rm, r = .map rm ∧ fget rm k = fget d k := by
  obtain ⟨rm, rfl, -, hk⟩ := merge_map_at (distinctKeys_of_sorted hs) hrep h
  have := hk k
  rw [hc] at this
  exact ⟨rm, rfl, this⟩

/-! ## frame along a path: an unmentioned path keeps its value -/

theorem q_merge_path_frame : ∀ (π : List String) (lower u r x : Val), u.WF →
    mapPath lower π = some x → mentions u π = false → merge lower u = .ok r →
    mapPath r π = some x := by
  intro π
  induction π with
  | nil => intro lower u r x _ _ hm; cases u <;> simp [mentions] at hm
  | cons k π ih =>
    intro lower u r x hw hx hm h
    obtain ⟨d, e, rfl, hde, hex⟩ := q_mapPath_cons hx
    cases u with
    | null => rw [merge_map_null] at h; cases h; exact hx
    | map s =>
      simp only [mentions, Bool.or_eq_false_iff] at hm
      obtain ⟨hrep, hm2⟩ := hm
      cases hsk : fget s k with
      | none =>
        obtain ⟨rm, rfl, hg⟩ := q_merge_key_frame (wf_map_iff.1 hw).1 hrep hsk h
        rw [q_mapPath_map_cons, hg, hde]; exact hex
      | some c =>
        rw [hsk] at hm2
        simp only [] at hm2
        have hcw : c.WF := wf_of_fget hw hsk
        have hdel : c.toStr ≠ "$delete" := by
          cases π with
          | nil => cases c <;> simp [mentions] at hm2
          | cons k2 π2 =>
            cases c with
            | str t => simp [mentions] at hm2
            | _ => simp only [Val.toStr]; decide
        obtain ⟨rm, r', rfl, hmr, hg⟩ :=
          q_merge_key (wf_map_iff.1 hw).1 hrep hde hsk hdel h
        rw [q_mapPath_map_cons, hg]
        exact ih e c r' x hcw hex hm2 hmr
    | _ => simp [mentions] at hm

theorem q_chain_path_frame (π : List String) (x : Val) : ∀ (uppers : List Val) (lower res : Val),
    (∀ u ∈ uppers, u.WF ∧ mentions u π = false) → mapPath lower π = some x →
    mergeChain (lower :: uppers) = .ok res → mapPath res π = some x :=
  fun uppers lower res hu hx h =>
    foldlM_inv (fun r => mapPath r π = some x) merge uppers lower res hx
      (fun s u s' hm hs h' => q_merge_path_frame π s u s' x (hu u hm).1 hs (hu u hm).2 h') h

/-! ## override along a path -/

theorem q_merge_path_merge : ∀ (π : List String) (lower u r e c : Val), u.WF →
    mapPath lower π = some e → mapPath u π = some c → noReplaceAlong u π = true →
    c.toStr ≠ "$delete" → merge lower u = .ok r →
    ∃ r', merge e c = .ok r' ∧ mapPath r π = some r' := by
  intro π
  induction π with
  | nil =>
    intro lower u r e c _ he hc _ _ h
    rw [q_mapPath_nil] at he hc; cases he; cases hc
    exact ⟨r, h, q_mapPath_nil r⟩
  | cons k π ih =>
    intro lower u r e c hw he hc hnr hdel h
    obtain ⟨d, e1, rfl, hde, he1⟩ := q_mapPath_cons he
    obtain ⟨s, c1, rfl, hsc, hc1⟩ := q_mapPath_cons hc
    simp only [noReplaceAlong, hsc, Bool.and_eq_true, Bool.not_eq_true'] at hnr
    obtain ⟨rm, r1, rfl, hmr, hg⟩ :=
      q_merge_key (wf_map_iff.1 hw).1 hnr.1 hde hsc (q_toStr_ne_delete hc1 hdel) h
    obtain ⟨r', h1, h2⟩ := ih e1 c1 r1 e c (wf_of_fget hw hsc) he1 hc1 hnr.2 hdel hmr
    exact ⟨r', h1, by rw [q_mapPath_map_cons, hg]; exact h2⟩

/-- the lower value at `π` is a scalar: whatever the upper layer puts at `π` (other than
    `$delete`) is what the result holds there — also when a map on the way says
    `$replace: true`, except for the one case where the value at `π` is that very directive -/
theorem q_merge_path_scalar : ∀ (π : List String) (lower u r x c : Val), u.WF →
    mapPath lower π = some x → x.isScalar = true → mapPath u π = some c →
    c.toStr ≠ "$delete" → (c = .bool true → π.getLast? ≠ some "$replace") →
    merge lower u = .ok r → mapPath r π = some c := by
  intro π
  induction π with
  | nil =>
    intro lower u r x c _ hx hs hc _ _ h
    rw [q_mapPath_nil] at hx hc; cases hx; cases hc
    rw [merge_scalar _ _ hs] at h
    split at h
    · cases h
    · cases h; exact q_mapPath_nil _
  | cons k π ih =>
    intro lower u r x c hw hx hs hc hdel hlast h
    obtain ⟨d, e1, rfl, hde, he1⟩ := q_mapPath_cons hx
    obtain ⟨s, c1, rfl, hsc, hc1⟩ := q_mapPath_cons hc
    cases hrep : fhasBool s "$replace" true with
    | true =>
      -- under `$replace: true` the result is `s` minus the key `$replace`: the path survives unless its
      -- next key is `$replace` itself, which is all that `hlast` excludes
      rw [merge_map_map, mergeMapMap_replace hrep] at h; cases h
      have hk : k ≠ "$replace" := by
        intro hk; subst hk
        rw [fhasBool_iff.1 hrep] at hsc; cases hsc
        cases π with
        | nil =>
          rw [q_mapPath_nil] at hc1; cases hc1
          exact hlast rfl rfl
        | cons k2 π2 => simp [mapPath] at hc1
      rw [q_mapPath_map_cons, fget_fdel_ne _ _ _ hk, hsc]; exact hc1
    | false =>
      obtain ⟨rm, r1, rfl, hmr, hg⟩ :=
        q_merge_key (wf_map_iff.1 hw).1 hrep hde hsc (q_toStr_ne_delete hc1 hdel) h
      have hlast' : c = .bool true → π.getLast? ≠ some "$replace" := by
        intro hcb
        cases π with
        | nil => simp
        | cons k2 π2 => have := hlast hcb; rwa [List.getLast?_cons_cons] at this
      rw [q_mapPath_map_cons, hg]
      exact ih e1 c1 r1 x c (wf_of_fget hw hsc) he1 hs hc1 hdel hlast' hmr

end Bkl
