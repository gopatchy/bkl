/-
  BklProofs.Lemmas.JsonText — the tokens of a JSON text (Bkl/Json.lean): string escaping and
  unescaping (encoding/json's escape table and its inverse), the number automaton, and the decimal
  text of an integer as a number token.
-/
import Bkl.Json
import BklProofs.Lemmas.IntText
namespace Bkl

theorem js_hex4_ctl : ∀ n, n < 32 →
    jsonHex4 '0' '0' (jsonHexDigit (n / 16)) (jsonHexDigit (n % 16)) = some n := by decide

theorem js_escapeChar_plain {c : Char} (h1 : c ≠ '"') (h2 : c ≠ '\\') (h3 : ¬ c.toNat < 32)
    (h4 : c ≠ '\u2028') (h5 : c ≠ '\u2029') : jsonEscapeChar c = [c] := by
  have hc : ∀ d : Char, d.toNat < 32 → c ≠ d := fun d hd e => h3 (e ▸ hd)
  simp only [jsonEscapeChar, h1, h2, hc '\n' (by decide), hc '\r' (by decide), hc '\t' (by decide),
    hc '\x08' (by decide), hc '\x0c' (by decide), h3, h4, h5, if_false]

theorem js_escapeChar_ctl {c : Char} (h : c.toNat < 32) (e1 : c ≠ '\n') (e2 : c ≠ '\r')
    (e3 : c ≠ '\t') (e4 : c ≠ '\x08') (e5 : c ≠ '\x0c') :
    jsonEscapeChar c =
      ['\\', 'u', '0', '0', jsonHexDigit (c.toNat / 16), jsonHexDigit (c.toNat % 16)] := by
  have h1 : c ≠ '"' := by intro e; subst e; revert h; decide
  have h2 : c ≠ '\\' := by intro e; subst e; revert h; decide
  simp only [jsonEscapeChar, h1, h2, e1, e2, e3, e4, e5, h, if_false, if_true]

theorem js_hexDigit_alnum : ∀ n, n < 16 → (jsonHexDigit n).isAlphanum = true := by decide

theorem js_alnum_ne {d : Char} (h : d.isAlphanum = true) : d ≠ '"' ∧ d ≠ '\\' ∧ d ≠ '\n' := by
  refine ⟨?_, ?_, ?_⟩ <;> (rintro rfl; revert h; decide)

theorem js_escapeChar_cases (c : Char) :
    (∃ e, jsonEscapeChar c = ['\\', e] ∧ e ≠ 'u' ∧ jsonSimpleEscape e = some c) ∨
    (∃ x y z w, jsonEscapeChar c = ['\\', 'u', x, y, z, w] ∧ jsonHex4 x y z w = some c.toNat ∧
      jsonIsSurrogate c.toNat = false ∧ ∀ d ∈ [x, y, z, w], d.isAlphanum = true) ∨
    (jsonEscapeChar c = [c] ∧ c ≠ '"' ∧ c ≠ '\\' ∧ ¬ c.toNat < 32) := by
  by_cases h1 : c = '"'
  · subst h1; exact .inl ⟨'"', by decide⟩
  by_cases h2 : c = '\\'
  · subst h2; exact .inl ⟨'\\', by decide⟩
  by_cases e1 : c = '\n'
  · subst e1; exact .inl ⟨'n', by decide⟩
  by_cases e2 : c = '\r'
  · subst e2; exact .inl ⟨'r', by decide⟩
  by_cases e3 : c = '\t'
  · subst e3; exact .inl ⟨'t', by decide⟩
  by_cases e4 : c = '\x08'
  · subst e4; exact .inl ⟨'b', by decide⟩
  by_cases e5 : c = '\x0c'
  · subst e5; exact .inl ⟨'f', by decide⟩
  by_cases h3 : c.toNat < 32
  · refine .inr (.inl ⟨_, _, _, _, js_escapeChar_ctl h3 e1 e2 e3 e4 e5, js_hex4_ctl _ h3, ?_, ?_⟩)
    · simp only [jsonIsSurrogate, Bool.and_eq_false_iff, decide_eq_false_iff_not]; omega
    · have a := js_hexDigit_alnum (c.toNat / 16) (by omega)
      have b := js_hexDigit_alnum (c.toNat % 16) (by omega)
      simp [a, b]
  by_cases h4 : c = '\u2028'
  · subst h4; exact .inr (.inl ⟨'2', '0', '2', '8', by decide⟩)
  by_cases h5 : c = '\u2029'
  · subst h5; exact .inr (.inl ⟨'2', '0', '2', '9', by decide⟩)
  · exact .inr (.inr ⟨js_escapeChar_plain h1 h2 h3 h4 h5, h1, h2, h3⟩)

theorem js_parseStr_escapeChar (c : Char) (tl : List Char) :
    jsonParseStr (jsonEscapeChar c ++ tl) = (jsonParseStr tl).map fun p => (c :: p.1, p.2) := by
  rcases js_escapeChar_cases c with ⟨e, h, he, hs⟩ | ⟨x, y, z, w, h, hx, hs, -⟩ | ⟨h, h1, h2, h3⟩
  · rw [h, jsonParseStr.eq_def]; simp [he, hs]
  · rw [h, jsonParseStr.eq_def]; simp [hx, hs]
  · rw [h, jsonParseStr.eq_def]; simp [h1, h2, h3]

theorem js_parseStr_escape (s rest : List Char) :
    jsonParseStr (jsonEscape s ++ '"' :: rest) = some (s, rest) := by
  induction s with
  | nil => rw [jsonParseStr.eq_def]; rfl
  | cons c s ih =>
    have : jsonEscape (c :: s) ++ '"' :: rest =
        jsonEscapeChar c ++ (jsonEscape s ++ '"' :: rest) := by simp [jsonEscape]
    rw [this, js_parseStr_escapeChar, ih]
    rfl

theorem js_unescape_escape (s : List Char) : jsonUnescape (jsonEscape s) = some s := by
  simp only [jsonUnescape, js_parseStr_escape]

theorem js_quote_append (s rest : List Char) :
    jsonQuote s ++ rest = '"' :: (jsonEscape s ++ '"' :: rest) := by
  simp [jsonQuote]

/-- the characters a number token is made of -/
def js_numChar (c : Char) : Bool :=
  c.isDigit || c = '-' || c = '+' || c = '.' || c = 'e' || c = 'E'

/-- the input after a number does not go on with a character a number could contain -/
def js_Stop (rest : List Char) : Prop := ∀ c t, rest = c :: t → js_numChar c = false

theorem js_step_stop {st : JNumState} {c : Char} (h : js_numChar c = false) :
    jnumStep st c = none := by
  simp only [js_numChar, Bool.or_eq_false_iff, decide_eq_false_iff_not] at h
  obtain ⟨⟨⟨⟨⟨hd, h1⟩, h2⟩, h3⟩, h4⟩, h5⟩ := h
  have h0 : c ≠ '0' := by rintro rfl; cases hd
  cases st <;> simp [jnumStep, hd, h0, h1, h2, h3, h4, h5]

theorem js_step_numChar {st st' : JNumState} {c : Char} (h : jnumStep st c = some st') :
    js_numChar c = true := by
  cases hn : js_numChar c
  · rw [js_step_stop hn] at h; cases h
  · rfl

theorem js_scan_run : ∀ (lit : List Char) (st st' : JNumState) (rest : List Char),
    jnumRun st lit = some st' → jnumAccept st' = true → js_Stop rest →
    jsonScanNumber st (lit ++ rest) = some (lit, rest) := by
  intro lit
  induction lit with
  | nil =>
    intro st st' rest h ha hs
    simp only [jnumRun, Option.some.injEq] at h
    subst h
    cases rest with
    | nil => simp [jsonScanNumber, ha]
    | cons c t => simp [jsonScanNumber, js_step_stop (hs c t rfl), ha]
  | cons c cs ih =>
    intro st st' rest h ha hs
    simp only [jnumRun] at h
    cases hst : jnumStep st c with
    | none => rw [hst] at h; cases h
    | some st1 =>
      rw [hst] at h
      simp only [List.cons_append, jsonScanNumber, hst, ih st1 st' rest h ha hs, Option.map_some]

theorem js_tok_head {lit : List Char} {st : JNumState} (h : jnumRun .start lit = some st)
    (ha : jnumAccept st = true) : ∃ c t, lit = c :: t ∧ (c = '-' ∨ c.isDigit = true) := by
  cases lit with
  | nil => simp only [jnumRun, Option.some.injEq] at h; subst h; cases ha
  | cons c t =>
    refine ⟨c, t, rfl, ?_⟩
    simp only [jnumRun] at h
    cases hd : c.isDigit
    · by_cases hm : c = '-'
      · exact Or.inl hm
      · have : jnumStep .start c = none := by
          have h0 : c ≠ '0' := by intro e; subst e; revert hd; decide
          simp [jnumStep, hm, h0, hd]
        rw [this] at h; cases h
    · exact Or.inr rfl

theorem js_tok_numChars : ∀ (lit : List Char) (st st' : JNumState), jnumRun st lit = some st' →
    ∀ c ∈ lit, js_numChar c = true := by
  intro lit
  induction lit with
  | nil => intro _ _ _ c hc; cases hc
  | cons d ds ih =>
    intro st st' h c hc
    simp only [jnumRun] at h
    cases hst : jnumStep st d with
    | none => rw [hst] at h; cases h
    | some st1 =>
      rw [hst] at h
      rcases List.mem_cons.1 hc with e | hc
      · subst e; exact js_step_numChar hst
      · exact ih st1 st' h c hc

/-! ### the decimal text of an integer is a number token -/

theorem js_digitChar_lt10 : ∀ n, n < 10 → n ≠ 0 →
    (Nat.digitChar n).isDigit = true ∧ Nat.digitChar n ≠ '0' := by decide

theorem js_toDigits_head (n : Nat) (hn : n ≠ 0) :
    ∃ c cs, Nat.toDigits 10 n = c :: cs ∧ c.isDigit = true ∧ c ≠ '0' := by
  induction n using Nat.strongRecOn with
  | _ n ih =>
    rw [Nat.toDigits_eq_if (by decide)]
    split
    · rename_i h
      exact ⟨_, [], rfl, js_digitChar_lt10 n h hn⟩
    · rename_i h
      obtain ⟨c, cs, e, h1, h2⟩ := ih (n / 10) (Nat.div_lt_self (by omega) (by decide))
        (by intro e; have := Nat.div_eq_zero_iff.1 e; omega)
      exact ⟨c, cs ++ [Nat.digitChar (n % 10)], by rw [e]; rfl, h1, h2⟩

theorem js_run_digits : ∀ (cs : List Char), (∀ d ∈ cs, d.isDigit = true) →
    jnumRun .int cs = some .int
  | [], _ => rfl
  | c :: cs, h => by
    rw [jnumRun, jnumStep, if_pos (h c List.mem_cons_self)]
    exact js_run_digits cs fun d hd => h d (List.mem_cons_of_mem _ hd)

theorem js_run_nat (n : Nat) : ∃ st, jnumRun .neg (Nat.toDigits 10 n) = some st ∧
    jnumRun .start (Nat.toDigits 10 n) = some st ∧ jnumAccept st = true := by
  by_cases hn : n = 0
  · subst hn; exact ⟨.zero, by decide, by decide, rfl⟩
  · obtain ⟨c, cs, e, h1, h2⟩ := js_toDigits_head n hn
    have hall : ∀ d ∈ cs, d.isDigit = true := fun d hd =>
      Nat.isDigit_of_mem_toDigits (b := 10) (n := n) (by decide) (by decide)
        (by rw [e]; exact List.mem_cons_of_mem _ hd)
    have hm : c ≠ '-' := by intro e'; subst e'; revert h1; decide
    refine ⟨.int, ?_, ?_, rfl⟩
    · rw [e]; simp only [jnumRun, jnumStep, h2, h1, if_false, if_true]; exact js_run_digits cs hall
    · rw [e]; simp only [jnumRun, jnumStep, hm, h2, h1, if_false, if_true]
      exact js_run_digits cs hall

theorem js_int_tok (i : Int) : ∃ st, jnumRun .start (jsonIntChars i) = some st ∧
    jnumAccept st = true := by
  unfold jsonIntChars
  split
  · obtain ⟨st, _, h, ha⟩ := js_run_nat i.toNat; exact ⟨st, h, ha⟩
  · obtain ⟨st, h, _, ha⟩ := js_run_nat (-i).toNat
    exact ⟨st, by simpa [jnumRun, jnumStep] using h, ha⟩

theorem js_intChars_toString (i : Int) : String.ofList (jsonIntChars i) = toString i := by
  rw [← String.ofList_toList (s := toString i), int_toString_toList]
  rfl

end Bkl
