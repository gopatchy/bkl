/-
  BklProofs.Lemmas.MergeWF — `merge` preserves well-formedness: by induction on the patch
  (`merge_patch_induction`), with the list walk as an inner induction.
-/
import BklProofs.Lemmas.MergeList
namespace Bkl

theorem matchStep_wf {d rest : List Val} {m upd : Val} {r : List Val}
    (ih1 : ∀ e r, Val.WF e → merge e upd = .ok r → Val.WF r)
    (ih2 : ∀ d' r, Val.WF (.list d') → mergeEntries d' rest = .ok r → Val.WF (.list r))
    (hd : Val.WF (.list d)) (h : matchStep d m upd rest = .ok r) : Val.WF (.list r) := by
  rw [matchStep] at h
  cases hmap : d.mapM (fun e => if matchV e m = true then merge e upd else pure e) with
  | error e => rw [hmap] at h; cases h
  | ok d' =>
    rw [hmap] at h
    cases hany : d.any (fun e => matchV e m) with
    | false => rw [hany] at h; cases h
    | true =>
      rw [hany] at h
      refine ih2 d' r (wf_list_iff.2 (mapM_forall _ Val.WF hmap fun x hx y hy => ?_)) h
      have hxw : Val.WF x := wf_list_iff.1 hd x hx
      cases hm : matchV x m with
      | true => rw [hm, if_pos rfl] at hy; exact ih1 x y hxw hy
      | false => rw [hm, if_neg Bool.false_ne_true] at hy; cases hy; exact hxw

theorem mergeEntries_wf {s : List Val}
    (IH : ∀ kvs, Val.map kvs ∈ s → Val.WF (matchPatch kvs) → ∀ e r, Val.WF e →
      merge e (matchPatch kvs) = .ok r → Val.WF r)
    (hwf : ∀ x ∈ s, Val.WF x) :
    ∀ d r, Val.WF (.list d) → mergeEntries d s = .ok r → Val.WF (.list r) := by
  induction s with
  | nil => intro d r hd h; rw [mergeEntries_nil] at h; cases h; exact hd
  | cons v rest ih =>
    intro d r hd h
    obtain ⟨hwfv, hwfr⟩ := List.forall_mem_cons.1 hwf
    have ihr := ih (fun kvs hm => IH kvs (List.mem_cons_of_mem _ hm)) hwfr
    cases v with
    | map kvs =>
      cases hdel : fget kvs "$delete" with
      | some del =>
        by_cases hx : (fdel kvs "$delete").length > 0
        · rw [mergeEntries_delete_extra d rest hdel hx] at h; cases h
        · rw [mergeEntries_delete d rest hdel (Nat.eq_zero_of_not_pos hx)] at h
          cases hany : d.any (fun v => matchV v del) with
          | true => rw [hany, if_pos rfl] at h; exact ihr _ r (wf_list_filter _ hd) h
          | false => rw [hany] at h; cases h
      | none =>
        cases hm : fget kvs "$match" with
        | none =>
          rw [mergeEntries_map_plain d rest hdel hm] at h
          exact ihr _ r (wf_list_snoc hd hwfv) h
        | some m =>
          rw [mergeEntries_match d rest hdel hm] at h
          split at h
          · cases h
          · exact matchStep_wf (IH kvs List.mem_cons_self (matchPatch_wf hwfv)) ihr hd h
    | _ =>
      rw [mergeEntries_nonmap d rest rfl] at h
      exact ihr _ r (wf_list_snoc hd hwfv) h

theorem merge_wf_patch : ∀ s : Val, Val.WF s → ∀ d r, Val.WF d → merge d s = .ok r → Val.WF r := by
  refine merge_patch_induction fun s ihm ihl hs d r hd h => ?_
  rcases merge_ok_cases h with rfl | rfl | ⟨dm, sm, rfl, rfl⟩ | ⟨dl, sl, rfl, rfl⟩
  · exact hs
  · exact hd
  · rw [merge_map_map, mergeMapMap_eq] at h
    cases hrep : fhasBool sm "$replace" true with
    | true => rw [hrep, if_pos rfl] at h; cases h; exact wf_fdel hs
    | false =>
      rw [hrep, if_neg Bool.false_ne_true] at h
      obtain ⟨rm, hmf, rfl⟩ := R_map_ok_iff.1 h
      have hss := (wf_map_iff.1 hs).1
      refine wf_map_iff_fget.2 ⟨mergeFields_sorted (wf_map_iff.1 hd).1 hmf, fun k v hk => ?_⟩
      -- the value at `k` comes from `dm`, from `sm`, or from a recursive merge
      cases hsk : fget sm k with
      | none => exact wf_of_fget hd (mergeFields_frame hsk hmf ▸ hk)
      | some w =>
        have hact := mergeFields_fget_of_mem (distinctKeys_of_sorted hss) hmf (fget_mem hsk)
        rw [hk] at hact
        obtain rfl | ⟨e, he, hm⟩ := mergeAct_ok_some hact
        · exact wf_of_fget hs hsk
        · exact ihm sm rfl _ (fget_mem hsk) (wf_of_fget hs hsk) e v (wf_of_fget hd he) hm
  · rw [merge_list_list, mergeListList_eq] at h
    cases hany : sl.any (fun x => x == Val.str "$replace") with
    | true => rw [hany, if_pos rfl] at h; cases h; exact wf_list_filter _ hs
    | false =>
      rw [hany, if_neg Bool.false_ne_true] at h
      cases hbad : sl.any (os_isExtra "$replace" true) with
      | true => rw [hbad] at h; cases h
      | false =>
        rw [hbad, if_neg Bool.false_ne_true] at h
        cases hhas : hasListMapBool sl "$replace" true with
        | true => rw [hhas, if_pos rfl] at h; cases h; exact wf_list_filter _ hs
        | false =>
          rw [hhas, if_neg Bool.false_ne_true] at h
          obtain ⟨r', hme, rfl⟩ := R_map_ok_iff.1 h
          exact mergeEntries_wf (ihl sl rfl) (wf_list_iff.1 hs) _ r' (wf_list_filter _ hd) hme

theorem merge_wf {d s r : Val} (hd : Val.WF d) (hs : Val.WF s) (h : merge d s = .ok r) :
    Val.WF r :=
  merge_wf_patch s hs d r hd h
end Bkl
