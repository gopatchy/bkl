/-
  BklProofs.Lemmas.FilesCli — `MergeFile` alone (`aloneDocs`), the wrapper one argument at a time (`wrapArgs_eq`, `wrapStep`),
  and the evaluations of the sample file system `chainFS` (Lemmas/FilesChain.lean).
-/
import BklProofs.Lemmas.FilesChain
import BklProofs.Lemmas.Cli
namespace Bkl

/-- the documents `bkl -P` merges for one file: no parents, `$parent` stripped -/
def aloneDocs (path : Comps) (raw : List Val) : List Doc :=
  (raw.map stripParent).zipIdx.map fun (d, i) =>
    ({ id := pathStr path ++ "|doc" ++ toString i, parents := [], data := d } : Doc)

theorem mergeFileAlone_eq (fs : FS) (cfg : RootCfg) (st : PState) (path : Comps) :
    mergeFileAlone fs cfg st path =
      match loadFile fs cfg path (pathStr path) with
      | .error e => .error e
      | .ok raw => runMerges st (aloneDocs path raw) := by
  unfold mergeFileAlone
  cases loadFile fs cfg path (pathStr path) with
  | error e => rfl
  | ok raw => rfl

/-- what the wrapper does with one argument -/
def wrapStep (fs : FS) (cwd : Comps) (env : Vars) (a : String) : R WArg :=
  match fileMatch fs cwd a with
  | .error _ => .ok (WArg.verbatim a)
  | .ok (real, f) =>
    match mergeFileLayers fs { root := [], cwd := cwd } PState.empty real with
    | .error e => .error e
    | .ok st =>
      match outputDocuments (st.docs.map (·.2)) env with
      | .error e => .error e
      | .ok outs => .ok (WArg.evaluated f outs)

theorem wrapArgs_eq (fs : FS) (cwd : Comps) (env : Vars) (args : List String) :
    wrapArgs fs cwd env args = args.mapM (wrapStep fs cwd env) := by
  unfold wrapArgs
  congr 1
  funext a
  unfold wrapStep
  cases fileMatch fs cwd a with
  | error e => rfl
  | ok rf =>
    obtain ⟨real, f⟩ := rf
    simp only
    cases mergeFileLayers fs { root := [], cwd := cwd } PState.empty real with
    | error e => rfl
    | ok st =>
      simp only [ok_bind]
      cases outputDocuments (st.docs.map (·.2)) env <;> rfl

theorem wrapStep_verbatim {fs : FS} {cwd : Comps} {env : Vars} {a : String} {e : Err}
    (h : fileMatch fs cwd a = .error e) : wrapStep fs cwd env a = .ok (.verbatim a) := by
  rw [wrapStep, h]

theorem wrappedName_snoc (cs : List Char) :
    wrappedName (String.ofList (cs ++ ['b'])) = some (String.ofList cs) := by
  simp [wrappedName]

theorem wrappedName_none (s : String) (h : s.toList.getLast? ≠ some 'b') : wrappedName s = none := by
  unfold wrappedName
  cases hr : s.toList.reverse with
  | nil => rfl
  | cons c rest =>
    have : s.toList.getLast? = some c := by
      rw [List.getLast?_eq_head?_reverse, hr]; rfl
    rw [this] at h
    have hc : c ≠ 'b' := fun e => h (by rw [e])
    split
    · rename_i heq; cases heq; exact absurd rfl hc
    · rfl

/-! ## sample evaluations (non-vacuity witnesses) -/

/-- `/w/a.yaml` named under any supported extension: the file found is `a.yaml`, the format the named one -/
theorem chainFS_match_a_ext (e : String) (he : e ∈ supportedExts) :
    fileMatch chainFS ["w"] ("a" ++ "." ++ e) = .ok (["w", "a.yaml"], e) :=
  fileMatch_name chainFS_plain (by decide) (by decide) he chainFS_a

theorem chainFS_match_a : fileMatch chainFS ["w"] "a.yaml" = .ok (["w", "a.yaml"], "yaml") :=
  chainFS_match_a_ext "yaml" (by decide)

/-- the argument names `a.json`; the file that provides layer `a` is `a.yaml` -/
theorem chainFS_match_a_json : fileMatch chainFS ["w"] "a.json" = .ok (["w", "a.yaml"], "json") :=
  chainFS_match_a_ext "json" (by decide)

theorem chainFS_match_bad : fileMatch chainFS ["w"] "bad.yaml" = .ok (["w", "bad.yaml"], "yaml") :=
  fileMatch_name (l := "bad") (e := "yaml") chainFS_plain (by decide) (by decide) (by decide) chainFS_bad

theorem wa_noext_apply :
    supportedExts.contains (extOf (baseOf (absPath ["w"] "apply"))) = false := by
  rw [absPath_rel (by decide +kernel) (splitPath_lit "apply" ["apply"] (by decide +kernel)), extOf_eq]
  decide +kernel

theorem wa_nomatch_apply (fs : FS) : fileMatch fs ["w"] "apply" = .error .invalidType :=
  fileMatch_noext wa_noext_apply

theorem wa_nomatch_f (fs : FS) : fileMatch fs ["w"] "-f" = .error .invalidType :=
  fileMatch_noext (by
    rw [absPath_rel (by decide +kernel) (splitPath_lit "-f" ["-f"] (by decide +kernel)), extOf_eq]
    decide +kernel)

theorem chainFS_layers_a (st : PState) :
    mergeFileLayers chainFS ⟨[], ["w"]⟩ st ["w", "a.yaml"] =
      mergeDocument st (oneDoc "/w/a.yaml" [] (.map [("x", .int 1)])) :=
  (mergeFileLayers_clChain (cwd := ["w"]) chainFS_plain ⟨"a", "yaml", [.map [("x", .int 1)]]⟩ []
    (by decide) ⟨chainFS_a, List.forall_mem_singleton.2 rfl, trivial⟩ (by decide) st).trans
    (runMerges_one st _)

theorem chainFS_layers_bad (st : PState) :
    mergeFileLayers chainFS ⟨[], ["w"]⟩ st ["w", "bad.yaml"] = .error .unmarshal := by
  rw [mergeFileLayers_eq, loadFuel_succ, loadFileAndParents_succ]
  have h := loadFile_layerFile chainFS_plain (by decide) chainFS_bad ["w"] (fileIdOf none ["w", "bad.yaml"])
  rw [show (["w"] ++ ["bad" ++ "." ++ "yaml"] : Comps) = ["w", "bad.yaml"] by decide] at h
  simp only [List.contains_nil, Bool.false_eq_true, if_false, h]

theorem chainFS_wrap_example :
    wrapArgs chainFS ["w"] [] ["apply", "-f", "a.json"] =
      .ok [.verbatim "apply", .verbatim "-f", .evaluated "json" [.map [("x", .int 1)]]] := by
  have h3 : wrapStep chainFS ["w"] [] "a.json" = .ok (.evaluated "json" [.map [("x", .int 1)]]) := by
    rw [wrapStep, chainFS_match_a_json]
    simp only [chainFS_layers_a]
    have hm : mergeDocument PState.empty (oneDoc "/w/a.yaml" [] (.map [("x", .int 1)])) =
        .ok ⟨[("/w/a.yaml|doc0", .map [("x", .int 1)])], [("/w/a.yaml|doc0", [])]⟩ := by rfl
    rw [hm]
    have ho : outputDocuments [.map [("x", .int 1)]] [] = .ok [.map [("x", .int 1)]] := by
      decide +kernel
    simp only [List.map_cons, List.map_nil, ho]
  rw [wrapArgs_eq, mapM_cons, mapM_cons, mapM_cons, mapM_nil,
    wrapStep_verbatim (wa_nomatch_apply _), wrapStep_verbatim (wa_nomatch_f _), h3]

theorem chainFS_wrap_fail :
    wrapArgs chainFS ["w"] [] ["apply", "-f", "bad.yaml", "a.yaml"] = .error .unmarshal := by
  have h3 : wrapStep chainFS ["w"] [] "bad.yaml" = .error .unmarshal := by
    rw [wrapStep, chainFS_match_bad]
    simp only [chainFS_layers_bad]
  rw [wrapArgs_eq, mapM_cons, mapM_cons, mapM_cons,
    wrapStep_verbatim (wa_nomatch_apply _), wrapStep_verbatim (wa_nomatch_f _), h3]

end Bkl
