/-
  BklProofs.Lemmas.FilesGlob — `Parser.globFiles`.  `Array.qsort` only permutes, so a listing is the directory's names
  (`dirNames`) in some order; `globFiles` for a target whose directory holds no wildcard (`globFiles_snoc`, `globNames`), what
  a match looks like in general (`mem_globFiles_spec`), when nothing matches, and `name.*` for a name without wildcards.
-/
import BklProofs.Lemmas.FilesWalk
import Batteries.Tactic.OpenPrivate
open private Array.qsort.sort in Array.qsort
open private Array.qpartition.loop in Array.qpartition
namespace Bkl

/-! ## `Array.qsort` only permutes -/

theorem qpartition_loop_perm {α : Type} {n : Nat} (lt : α → α → Bool) (lo hi : Nat) (hhi : hi < n)
    (pivot : α) (as : Vector α n) (i k : Nat) (ilo : lo ≤ i) (ik : i ≤ k) (w : k ≤ hi) :
    (Array.qpartition.loop lt lo hi hhi pivot as i k ilo ik w).2.Perm as := by
  fun_induction Array.qpartition.loop lt lo hi hhi pivot as i k ilo ik w with
  | case1 as i k ilo ik w h hlt ih => exact ih.trans (Vector.swap_perm _ _)
  | case2 as i k ilo ik w h hlt ih => exact ih
  | case3 as i k ilo ik w h => exact Vector.swap_perm (by omega) hhi

theorem qpartition_perm {α : Type} {n : Nat} (lt : α → α → Bool) (as : Vector α n) (lo hi : Nat)
    (w : lo ≤ hi) (hlo : lo < n) (hhi : hi < n) :
    (Array.qpartition as lt lo hi w hlo hhi).2.Perm as := by
  unfold Array.qpartition
  simp only []
  refine (qpartition_loop_perm ..).trans ?_
  have sw : ∀ (v : Vector α n) (c : Bool) (i j : Nat) (hi : i < n) (hj : j < n),
      (if c = true then v.swap i j hi hj else v).Perm v := by
    intro v c i j hi hj
    cases c
    · exact Vector.Perm.refl _
    · exact Vector.swap_perm hi hj
  exact ((sw _ _ _ _ _ _).trans (sw _ _ _ _ _ _)).trans (sw _ _ _ _ _ _)

theorem qsort_sort_perm {α : Type} {n : Nat} (lt : α → α → Bool) (as : Vector α n) (lo hi : Nat)
    (w : lo ≤ hi) (hlo : lo < n) (hhi : hi < n) :
    (Array.qsort.sort lt as lo hi w hlo hhi).Perm as := by
  fun_induction Array.qsort.sort lt as lo hi w hlo hhi with
  | case1 as lo hi w hlo hhi h₁ mid hmid as' hp h₂ =>
    have := qpartition_perm lt as lo hi w hlo hhi
    rw [hp] at this
    exact this
  | case2 as lo hi w hlo hhi h₁ mid hmid as' hp h₂ ih1 ih1' ih2 =>
    have := qpartition_perm lt as lo hi w hlo hhi
    rw [hp] at this
    exact (ih2.trans ih1).trans this
  | case3 as lo hi w hlo hhi h₁ => exact Vector.Perm.refl _

theorem qsort_perm {α : Type} (lt : α → α → Bool) (as : Array α) :
    (as.qsort lt).toList.Perm as.toList := by
  unfold Array.qsort
  split
  · exact List.Perm.refl _
  · simp only []
    have := qsort_sort_perm lt as.toVector (min 0 (as.size - 1))
      (max (min 0 (as.size - 1)) (min (as.size - 1) (as.size - 1))) (by omega) (by omega) (by omega)
    exact Vector.perm_iff_toList_perm.1 this

theorem mem_qsort {α : Type} (lt : α → α → Bool) (as : Array α) (x : α) :
    x ∈ (as.qsort lt).toList ↔ x ∈ as.toList := (qsort_perm lt as).mem_iff

theorem qsort_singleton {α : Type} (lt : α → α → Bool) (x : α) : (#[x].qsort lt) = #[x] := by
  unfold Array.qsort
  simp
  unfold Array.qsort.sort
  simp

theorem qsort_toList_eq_nil {α : Type} (lt : α → α → Bool) (as : Array α) :
    (as.qsort lt).toList = [] ↔ as.toList = [] := by
  rw [List.eq_nil_iff_forall_not_mem, List.eq_nil_iff_forall_not_mem]
  constructor
  · intro h x hx; exact h x ((mem_qsort lt as x).2 hx)
  · intro h x hx; exact h x ((mem_qsort lt as x).1 hx)

/-! ## `globFiles` for a target whose directory holds no wildcard -/

/-- the names of the entries of `rdir` that `base.*` selects -/
def globNames (fs : FS) (rdir : Comps) (base : String) : List String :=
  ((fs.entries.filter (fun e => e.1.dropLast == rdir && !e.1.isEmpty)).map (fun e => baseOf e.1)).filter
    fun n =>
      globMatch (base ++ ".*").toList n.toList ((base ++ ".*").length + n.length + 1)
        && countDots n == countDots (base ++ ".*") && supportedExts.contains (extOf n)

/-- the (unsorted) names in the directory `real` -/
def dirNames (fs : FS) (real : Comps) : List String :=
  (fs.entries.filter (fun e => e.1.dropLast == real && !e.1.isEmpty)).map (fun e => baseOf e.1)

/-- what `globFiles` asks of a name for the pattern `base.*` -/
def globSel (base n : String) : Bool :=
  globMatch (base ++ ".*").toList n.toList ((base ++ ".*").length + n.length + 1)
    && countDots n == countDots (base ++ ".*") && supportedExts.contains (extOf n)

theorem globNames_eq (fs : FS) (rdir : Comps) (base : String) :
    globNames fs rdir base = (dirNames fs rdir).filter (globSel base) := rfl

theorem rootReadDir_eq (fs : FS) (root : Comps) (rel : List String) :
    fs.rootReadDir root rel =
      match fs.rootWalk root linkFuel 0 root rel with
      | .error _ => []
      | .ok real =>
        match fs.lstat real with
        | some .dir => ((dirNames fs real).toArray.qsort (· < ·)).toList
        | _ => [] := rfl

theorem rootReadDir_of_dir {fs : FS} {root real : Comps} {rel : List String}
    (hw : fs.rootWalk root linkFuel 0 root rel = .ok real) (hd : fs.lstat real = some .dir) :
    fs.rootReadDir root rel = ((dirNames fs real).toArray.qsort (· < ·)).toList := by
  rw [rootReadDir_eq, hw]
  simp only [hd]

theorem globRev_nil (fs : FS) (root : Comps) : fs.globRev root [] = [[]] :=
  FS.globRev.eq_1 fs root

theorem globRev_cons (fs : FS) (root : Comps) (file : String) (dirRev : List String) :
    fs.globRev root (file :: dirRev) =
      (if dirRev.any hasMeta then fs.globRev root dirRev else [dirRev.reverse]).flatMap fun d =>
        ((fs.rootReadDir root d).filter fun n =>
          globMatch file.toList n.toList (file.length + n.length + 1)).map fun n => d ++ [n] := by
  rw [FS.globRev]

theorem globFiles_eq (fs : FS) (root target : Comps) :
    fs.globFiles root target =
      if (relTo root (dirOf target ++ [baseOf target ++ ".*"])).any (· == "..") then []
      else
        ((fs.globRev root (relTo root (dirOf target ++ [baseOf target ++ ".*"])).reverse).filter fun m =>
          (m.map countDots).sum == ((relTo root (dirOf target ++ [baseOf target ++ ".*"])).map countDots).sum &&
            supportedExts.contains (extOf (m.getLastD ""))).map (root ++ ·) := rfl

theorem dotstar_ne_dotdot (base : String) : (base ++ ".*" == "..") = false := by
  rw [beq_eq_false_iff_ne]
  intro h
  have := congrArg (fun s => s.toList.getLast?) h
  simp [String.toList_append] at this

/-- `globFiles` for a target whose directory (relative to the root) holds no wildcard -/
theorem globFiles_snoc (fs : FS) (root d : Comps) (base : String)
    (hd : ∀ c ∈ d, plainComp c = true) (hm : d.any hasMeta = false) :
    fs.globFiles root (root ++ d ++ [base]) =
      ((fs.rootReadDir root d).filter (globSel base)).map fun n => root ++ d ++ [n] := by
  -- relative to the root the pattern is `d ++ [base.*]` and holds no `..`; `d` holds no wildcard, so `globRev` lists exactly
  -- the directory `d`; the directory part contributes the same dots to a match and to the pattern, so the three filters
  -- (the last component matches, the dot totals agree, the extension is supported) are `globSel` of the name (`hsel`)
  rw [globFiles_eq, dirOf_snoc, baseOf_snoc, List.append_assoc, relTo_append]
  have hany : (d ++ [base ++ ".*"]).any (· == "..") = false := by
    rw [List.any_append, Bool.or_eq_false_iff]
    refine ⟨?_, by simp [dotstar_ne_dotdot]⟩
    rw [List.any_eq_false]
    intro c hc
    have := ((plainComp_iff c).1 (hd c hc)).2.2
    simpa using this
  rw [hany]
  simp only [Bool.false_eq_true, if_false, List.reverse_append, List.reverse_cons, List.reverse_nil,
    List.nil_append, List.singleton_append]
  rw [globRev_cons, List.any_reverse, hm]
  simp only [Bool.false_eq_true, if_false, List.reverse_reverse, List.flatMap_cons,
    List.flatMap_nil, List.append_nil]
  have hsel : ∀ n : String,
      ((((d ++ [n]).map countDots).sum == ((d ++ [base ++ ".*"]).map countDots).sum &&
          supportedExts.contains (extOf ((d ++ [n]).getLastD ""))) &&
        globMatch (base ++ ".*").toList n.toList ((base ++ ".*").length + n.length + 1)) =
        globSel base n := by
    intro n
    have h1 : (d ++ [n]).getLastD "" = n := baseOf_snoc d n
    have h2 : (((d ++ [n]).map countDots).sum == ((d ++ [base ++ ".*"]).map countDots).sum) =
        (countDots n == countDots (base ++ ".*")) := by
      rw [Bool.eq_iff_iff]; simp
    rw [h1, h2]
    unfold globSel
    cases globMatch (base ++ ".*").toList n.toList ((base ++ ".*").length + n.length + 1) <;>
      cases (countDots n == countDots (base ++ ".*")) <;>
      cases supportedExts.contains (extOf n) <;> rfl
  rw [List.filter_map, List.filter_filter, List.map_map]
  have hf : ∀ (p : String → Bool) (l : List String), (∀ n, p n = globSel base n) →
      l.filter p = l.filter (globSel base) := fun p l h => by
    rw [show p = globSel base from funext h]
  refine Eq.trans (congrArg (List.map _) (hf _ _ (fun n => ?_))) ?_
  · exact hsel n
  apply List.map_congr_left
  intro n _
  simp [Function.comp, List.append_assoc]

theorem globFiles_perm {fs : FS} {root d real : Comps} {base : String}
    (hd : ∀ c ∈ d, plainComp c = true) (hm : d.any hasMeta = false)
    (hw : fs.rootWalk root linkFuel 0 root d = .ok real) (hdir : fs.lstat real = some .dir) :
    (fs.globFiles root (root ++ d ++ [base])).Perm
      ((globNames fs real base).map fun n => root ++ d ++ [n]) := by
  rw [globFiles_snoc fs root d base hd hm, rootReadDir_of_dir hw hdir, globNames_eq]
  exact ((qsort_perm _ _).filter _).map _

/-- … so at most one selected name leaves no choice -/
theorem globFiles_short {fs : FS} {root d real : Comps} {base : String} {names : List String}
    (hd : ∀ c ∈ d, plainComp c = true) (hm : d.any hasMeta = false)
    (hw : fs.rootWalk root linkFuel 0 root d = .ok real) (hdir : fs.lstat real = some .dir)
    (h2 : globNames fs real base = names) (hlen : names.length ≤ 1) :
    fs.globFiles root (root ++ d ++ [base]) = names.map fun n => root ++ d ++ [n] :=
  perm_short (h2 ▸ globFiles_perm hd hm hw hdir) (by rw [List.length_map]; exact hlen)

theorem mem_dirNames_iff {fs : FS} {real : Comps} {n : String} :
    n ∈ dirNames fs real ↔ ∃ e ∈ fs.entries, e.1 ≠ [] ∧ e.1.dropLast = real ∧ baseOf e.1 = n := by
  simp only [dirNames, List.mem_map, List.mem_filter, Bool.and_eq_true, beq_iff_eq,
    Bool.not_eq_true', List.isEmpty_eq_false_iff]
  exact ⟨fun ⟨e, ⟨he, hd, hne⟩, hb⟩ => ⟨e, he, hne, hd, hb⟩,
    fun ⟨e, he, hne, hd, hb⟩ => ⟨e, ⟨he, hd, hne⟩, hb⟩⟩

theorem mem_dirNames {fs : FS} {real : Comps} {n : String} (h : n ∈ dirNames fs real) :
    ∃ e ∈ fs.entries, e.1 ≠ [] ∧ e.1.dropLast = real ∧ baseOf e.1 = n := mem_dirNames_iff.1 h

theorem mem_globNames {fs : FS} {rdir : Comps} {base n : String} (h : n ∈ globNames fs rdir base) :
    globMatch (base ++ ".*").toList n.toList ((base ++ ".*").length + n.length + 1) = true ∧
    countDots n = countDots (base ++ ".*") ∧ supportedExts.contains (extOf n) = true ∧
    ∃ e ∈ fs.entries, e.1 ≠ [] ∧ e.1.dropLast = rdir ∧ baseOf e.1 = n := by
  rw [globNames_eq, List.mem_filter] at h
  have h2 := h.2
  simp only [globSel, Bool.and_eq_true, beq_iff_eq] at h2
  exact ⟨h2.1.1, h2.1.2, h2.2, mem_dirNames h.1⟩

/-! ## what a glob match is, in general (wildcards in directory components allowed) -/

theorem mem_rootReadDir {fs : FS} {root : Comps} {rel : List String} {n : String}
    (h : n ∈ fs.rootReadDir root rel) :
    ∃ real, fs.rootWalk root linkFuel 0 root rel = .ok real ∧ fs.lstat real = some .dir ∧
      n ∈ dirNames fs real := by
  rw [rootReadDir_eq] at h
  cases hw : fs.rootWalk root linkFuel 0 root rel with
  | error e => rw [hw] at h; cases h
  | ok real =>
    rw [hw] at h
    simp only [] at h
    cases hl : fs.lstat real with
    | none => rw [hl] at h; cases h
    | some nd =>
      rw [hl] at h
      cases nd with
      | file _ => cases h
      | link _ => cases h
      | dir => exact ⟨real, rfl, hl, (mem_qsort _ _ _).1 h⟩

theorem mem_globRev_cons {fs : FS} {root : Comps} {file : String} {dirRev : List String}
    {m : List String} (h : m ∈ fs.globRev root (file :: dirRev)) :
    ∃ d n, m = d ++ [n] ∧
      d ∈ (if dirRev.any hasMeta then fs.globRev root dirRev else [dirRev.reverse]) ∧
      n ∈ fs.rootReadDir root d ∧
      globMatch file.toList n.toList (file.length + n.length + 1) = true := by
  rw [globRev_cons, List.mem_flatMap] at h
  obtain ⟨d, hd, hm⟩ := h
  obtain ⟨n, hn, rfl⟩ := List.mem_map.1 hm
  rw [List.mem_filter] at hn
  exact ⟨d, n, rfl, hd, hn.1, hn.2⟩

theorem globRev_length (fs : FS) (root : Comps) : ∀ (patRev m : List String),
    m ∈ fs.globRev root patRev → m.length = patRev.length
  | [], m, h => by
    rw [globRev_nil] at h
    simp only [List.mem_singleton] at h
    subst h; rfl
  | file :: dirRev, m, h => by
    obtain ⟨d, n, rfl, hd, _, _⟩ := mem_globRev_cons h
    have : d.length = dirRev.length := by
      by_cases hm : dirRev.any hasMeta = true
      · rw [if_pos hm] at hd
        exact globRev_length fs root dirRev d hd
      · rw [if_neg hm] at hd
        simp only [List.mem_singleton] at hd
        subst hd; simp
    simp [this]

/-- What a member of `globFiles root target` is, whatever the pattern: it is `root ++ m ++ [n]`, where the pattern relative to the
    root is `dpat ++ [base.*]`; `m` has the length of `dpat` and is `dpat` when that holds no wildcard; `n` is listed in the
    directory the rooted walk reaches along `m`, it matches `base.*`, the dot totals of match and pattern agree and its extension
    is supported.  `C03_wildcard_no_dot` is read off this. -/
theorem mem_globFiles_spec {fs : FS} {root target f : Comps} (h : f ∈ fs.globFiles root target) :
    ∃ dpat m n, relTo root (dirOf target ++ [baseOf target ++ ".*"]) = dpat ++ [baseOf target ++ ".*"] ∧
      root ++ dpat = dirOf target ∧ f = root ++ m ++ [n] ∧ m.length = dpat.length ∧
      (dpat.any hasMeta = false → m = dpat) ∧
      (∃ real, fs.rootWalk root linkFuel 0 root m = .ok real ∧ fs.lstat real = some .dir ∧
        n ∈ dirNames fs real) ∧
      globMatch (baseOf target ++ ".*").toList n.toList
        ((baseOf target ++ ".*").length + n.length + 1) = true ∧
      ((m ++ [n]).map countDots).sum = ((dpat ++ [baseOf target ++ ".*"]).map countDots).sum ∧
      supportedExts.contains (extOf n) = true := by
  rw [globFiles_eq] at h
  generalize hpat : relTo root (dirOf target ++ [baseOf target ++ ".*"]) = pat at h
  by_cases hdd : pat.any (· == "..") = true
  · rw [if_pos hdd] at h; cases h
  · rw [if_neg hdd] at h
    have hdd' : pat.any (· == "..") = false := by
      cases hx : pat.any (· == "..") with
      | false => rfl
      | true => exact absurd hx hdd
    obtain ⟨mm, hmm, rfl⟩ := List.mem_map.1 h
    rw [List.mem_filter] at hmm
    obtain ⟨hmem, hsel⟩ := hmm
    simp only [Bool.and_eq_true, beq_iff_eq] at hsel
    have hfull := relTo_no_dotdot root _ (hpat ▸ hdd')
    rw [hpat] at hfull
    -- the pattern is not empty
    cases hrev : pat.reverse with
    | nil =>
      rw [hrev, globRev_nil] at hmem
      simp only [List.mem_singleton] at hmem
      subst hmem
      have := hsel.2
      simp only [List.getLastD_nil] at this
      rw [extOf_empty_unsupported] at this
      cases this
    | cons file dirRev =>
      have hpat' : pat = dirRev.reverse ++ [file] := by
        have := congrArg List.reverse hrev
        simpa using this
      have hfile : file = baseOf target ++ ".*" := by
        have := congrArg (fun l => l.getLast?) hfull
        simp only [hpat', ← List.append_assoc, List.getLast?_append, List.getLast?_singleton,
          Option.some_or, Option.some.injEq] at this
        exact this
      subst hfile
      rw [hrev] at hmem
      obtain ⟨d, n, rfl, hd, hn, hmatch⟩ := mem_globRev_cons hmem
      refine ⟨dirRev.reverse, d, n, hpat', ?_, by rw [List.append_assoc], ?_, ?_, mem_rootReadDir hn,
        hmatch, ?_, ?_⟩
      · rw [hpat', ← List.append_assoc] at hfull
        have := congrArg List.dropLast hfull
        simpa [dirOf] using this
      · by_cases hm : dirRev.any hasMeta = true
        · rw [if_pos hm] at hd
          rw [globRev_length fs root dirRev d hd]; simp
        · rw [if_neg hm] at hd
          simp only [List.mem_singleton] at hd
          subst hd; rfl
      · intro hm
        rw [List.any_reverse] at hm
        rw [hm] at hd
        simpa using hd
      · rw [hsel.1, hpat']
      · have := hsel.2
        rwa [show (d ++ [n]).getLastD "" = n from baseOf_snoc d n] at this

/-! ## when nothing matches -/

theorem rootReadDir_eq_openDir (fs : FS) (root : Comps) (rel : List String) :
    fs.rootReadDir root rel =
      match fs.rootOpenDir root rel with
      | .error _ => []
      | .ok real => ((dirNames fs real).toArray.qsort (· < ·)).toList := by
  rw [rootReadDir_eq, rootOpenDir_eq]
  cases fs.rootWalk root linkFuel 0 root rel with
  | error e => rfl
  | ok real =>
    dsimp only
    cases fs.lstat real with
    | none => rfl
    | some n => cases n <;> rfl

theorem globFiles_eq_nil_iff (fs : FS) (root d : Comps) (base : String)
    (hd : ∀ c ∈ d, plainComp c = true) (hm : d.any hasMeta = false) :
    fs.globFiles root (root ++ d ++ [base]) = [] ↔
      (∀ real, fs.rootOpenDir root d ≠ .ok real) ∨
        ∃ real, fs.rootOpenDir root d = .ok real ∧ globNames fs real base = [] := by
  rw [globFiles_snoc fs root d base hd hm, List.map_eq_nil_iff, rootReadDir_eq_openDir]
  cases fs.rootOpenDir root d with
  | error e => exact ⟨fun _ => Or.inl (fun _ h => nomatch h), fun _ => rfl⟩
  | ok real =>
    have hperm : (List.filter (globSel base) ((dirNames fs real).toArray.qsort (· < ·)).toList).Perm
        (globNames fs real base) := (qsort_perm _ _).filter _
    constructor
    · intro h
      rw [h] at hperm
      exact Or.inr ⟨real, rfl, hperm.symm.eq_nil⟩
    · rintro (h | ⟨r, hr, h⟩)
      · exact absurd rfl (h real)
      · cases hr
        rw [h] at hperm
        exact hperm.eq_nil

theorem globFiles_congr_target (fs : FS) (root : Comps) {t t' : Comps} (hd : dirOf t = dirOf t')
    (hb : baseOf t = baseOf t') : fs.globFiles root t = fs.globFiles root t' := by
  rw [globFiles_eq, globFiles_eq, hd, hb]

theorem globFiles_outside (fs : FS) (root target : Comps) (h : ¬ root <+: dirOf target) :
    fs.globFiles root target = [] := by
  rw [globFiles_eq]
  by_cases hp : root <+: dirOf target ++ [baseOf target ++ ".*"]
  · rcases List.prefix_concat_iff.1 hp with e | hp'
    · have : relTo root (dirOf target ++ [baseOf target ++ ".*"]) = [] := by
        rw [← e]
        have := relTo_append root []
        simpa using this
      rw [this]
      have hu : ¬ extOf "" ∈ supportedExts := by
        intro hmem
        have := List.contains_iff_mem.2 hmem
        rw [extOf_empty_unsupported] at this
        cases this
      simp [globRev_nil, hu]
    · exact absurd hp' h
  · have hr : root ≠ [] := by
      intro e; subst e; exact hp List.nil_prefix
    have hh := relTo_strip_outside root _ hp hr
    change (relTo root _).head? = some ".." at hh
    cases hrel : relTo root (dirOf target ++ [baseOf target ++ ".*"]) with
    | nil => rw [hrel] at hh; cases hh
    | cons a rest =>
      rw [hrel] at hh
      simp only [List.head?_cons, Option.some.injEq] at hh
      subst hh
      simp

theorem globNames_eq_nil_iff (fs : FS) (rdir : Comps) (base : String) :
    globNames fs rdir base = [] ↔
      ∀ e ∈ fs.entries, e.1 ≠ [] → e.1.dropLast = rdir →
        ¬ (globMatch (base ++ ".*").toList (baseOf e.1).toList
              ((base ++ ".*").length + (baseOf e.1).length + 1) = true ∧
            countDots (baseOf e.1) = countDots (base ++ ".*") ∧
            supportedExts.contains (extOf (baseOf e.1)) = true) := by
  rw [globNames_eq, List.filter_eq_nil_iff]
  constructor
  · intro h e he hne hd hm
    exact h (baseOf e.1) (mem_dirNames_iff.2 ⟨e, he, hne, hd, rfl⟩)
      (by simp only [globSel, Bool.and_eq_true, beq_iff_eq]; exact ⟨⟨hm.1, hm.2.1⟩, hm.2.2⟩)
  · intro h n hn hm
    obtain ⟨e, he, hne, hd, rfl⟩ := mem_dirNames hn
    simp only [globSel, Bool.and_eq_true, beq_iff_eq] at hm
    exact h e he hne hd ⟨hm.1.1, hm.1.2, hm.2⟩

/-! ## `name.*` for a name without wildcards -/

theorem globMatch_nil_cons (c : Char) (s : List Char) (fuel : Nat) : globMatch [] (c :: s) fuel = false := by
  cases fuel <;> rfl

theorem globMatch_star_all (s : List Char) : ∀ (fuel : Nat), s.length + 1 ≤ fuel →
    globMatch ['*'] s fuel = true := by
  induction s with
  | nil =>
    intro fuel h
    obtain ⟨fuel, rfl⟩ : ∃ k, fuel = k + 1 := ⟨fuel - 1, by omega⟩
    rw [globMatch]
    cases fuel <;> rfl
  | cons c s ih =>
    intro fuel h
    obtain ⟨fuel, rfl⟩ : ∃ k, fuel = k + 1 := ⟨fuel - 1, by omega⟩
    rw [globMatch, globMatch_nil_cons, Bool.false_or]
    exact ih fuel (by rw [List.length_cons] at h; omega)

theorem globMatch_lit_nil (c : Char) (ps : List Char) (fuel : Nat) (h1 : c ≠ '*') :
    globMatch (c :: ps) [] fuel = false := by
  cases fuel with
  | zero => exact globMatch.eq_2 _ _ (fun h _ => nomatch h)
  | succ fuel =>
    exact globMatch.eq_7 _ _ _ (fun h _ => nomatch h) (fun h => nomatch h)
      (fun ps' _ h _ => h1 (List.cons.inj h).1) (fun _ _ _ _ _ h _ => nomatch h)
      (fun _ _ _ _ _ _ h _ => nomatch h)

theorem globMatch_lit_cons (c c' : Char) (ps s : List Char) (fuel : Nat) (h1 : c ≠ '*')
    (h2 : c ≠ '?') : globMatch (c :: ps) (c' :: s) (fuel + 1) = (c == c' && globMatch ps s fuel) :=
  globMatch.eq_6 c ps c' s fuel h1 h2

theorem globMatch_lit (p : List Char) : ∀ (rest s : List Char) (fuel : Nat),
    (∀ c ∈ p, c ≠ '*' ∧ c ≠ '?') → p.length ≤ fuel →
    globMatch (p ++ rest) s fuel =
      (decide (p <+: s) && globMatch rest (s.drop p.length) (fuel - p.length)) := by
  induction p with
  | nil => intro rest s fuel _ _; simp
  | cons c p ih =>
    intro rest s fuel h hl
    have hc := h c List.mem_cons_self
    cases s with
    | nil =>
      rw [List.cons_append, globMatch_lit_nil _ _ _ hc.1]
      simp
    | cons c' s =>
      obtain ⟨fuel, rfl⟩ : ∃ k, fuel = k + 1 := ⟨fuel - 1, by rw [List.length_cons] at hl; omega⟩
      rw [List.cons_append, globMatch_lit_cons _ _ _ _ _ hc.1 hc.2,
        ih rest s fuel (fun x hx => h x (List.mem_cons_of_mem _ hx))
          (by rw [List.length_cons] at hl; omega)]
      simp only [List.length_cons, List.drop_succ_cons, Nat.add_sub_add_right, List.cons_prefix_cons]
      by_cases e : c = c'
      · subst e; simp
      · simp [e]

theorem globMatch_dotstar (n s : List Char) (fuel : Nat) (hw : ∀ c ∈ n, c ≠ '*' ∧ c ≠ '?')
    (hf : n.length + s.length + 3 ≤ fuel) :
    globMatch (n ++ ['.', '*']) s fuel = decide (n ++ ['.'] <+: s) := by
  have h1 : n ++ ['.', '*'] = (n ++ ['.']) ++ ['*'] := by simp
  rw [h1, globMatch_lit (n ++ ['.']) ['*'] s fuel (by
      intro c hc
      rcases List.mem_append.1 hc with hc | hc
      · exact hw c hc
      · have : c = '.' := by simpa using hc
        subst this; exact ⟨by decide, by decide⟩) (by simp; omega)]
  rw [globMatch_star_all _ _ (by simp; omega), Bool.and_true]

theorem path_eq_of_dir {q d : Comps} (h1 : q.dropLast = d) (h2 : q ≠ []) : q = d ++ [baseOf q] := by
  have := List.dropLast_concat_getLast h2
  rw [h1] at this
  rw [← this, baseOf_snoc, this]

theorem nodup_dirNames {fs : FS} (d : Comps) (hnd : (fs.entries.map (·.1)).Nodup) :
    (dirNames fs d).Nodup := by
  refine List.pairwise_map.2 ((List.Pairwise.and_mem.1 ((List.pairwise_map.1 hnd).filter _)).imp ?_)
  rintro a b ⟨ha, hb, hab⟩ e
  have qa := (List.mem_filter.1 ha).2
  have qb := (List.mem_filter.1 hb).2
  simp only [Bool.and_eq_true, beq_iff_eq, Bool.not_eq_true', List.isEmpty_eq_false_iff] at qa qb
  exact hab (by rw [path_eq_of_dir qa.1 qa.2, path_eq_of_dir qb.1 qb.2, e])

theorem countDots_append (a b : String) : countDots (a ++ b) = countDots a + countDots b := by
  simp [countDots, String.toList_append]

theorem countDots_eq_zero (a : String) : countDots a = 0 ↔ '.' ∉ a.toList := by
  unfold countDots
  rw [List.length_eq_zero_iff, List.filter_eq_nil_iff]
  exact ⟨fun h hm => h '.' hm rfl, fun h c hc hd => h (eq_of_beq hd ▸ hc)⟩

end Bkl
