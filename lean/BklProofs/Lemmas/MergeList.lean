/-
  BklProofs.Lemmas.MergeList — helper lemmas about the list half of `merge`
  (`mergeListList`, `mergeEntries`; util.go's marker helpers are in Lemmas/Markers): the step `entryStep` of the walk,
  the `$match` entry through `matchPatch` (`mergeEntries_match`), induction on the patch
  (`merge_patch_induction`: the recursive calls of `merge d s` have a value of the map `s`, or `matchPatch` of
  an entry of the list `s`, as their patch), and `C01_list_replace_marker` (the `{$replace: true}` entry),
  `C01_list_delete` (a `$delete` entry).
  `entryStep`, `mergeListMatch` and `matchOnly` stand in the namespace `Gen.Lib` of the translated Go source because they
  are the model's counterparts of merge.go's loop body and of its helper `mergeListMatch`, which the model inlines in
  `mergeEntries`: Facts/TransMerge states the translated functions against them.  The walk is described twice:
  by `entryStep` (`mergeEntries_eq_steps`) and, case by case, by the equations `mergeEntries_nonmap`, `_map_plain`,
  `_delete`, `_delete_extra`, `_match`, the last through `matchStep`, which is `matchOnly` followed by the rest of the walk
  (`matchStep_eq_matchOnly`).
-/
import BklProofs.Lemmas.Merge
import BklProofs.Lemmas.Markers
namespace Bkl

theorem plainEntry_not_marker {v : Val} (h : plainEntry v = true) :
    isMarker "$replace" true v = false := by
  cases v with
  | map kvs =>
    simp only [plainEntry, Bool.and_eq_true, Bool.not_eq_true'] at h
    exact h.2
  | _ => rfl

theorem plainEntry_ne_replace {v : Val} (h : plainEntry v = true) :
    (v == Val.str "$replace") = false := by
  cases v with
  | str s => rw [← Bool.not_eq_true']; exact h
  | _ => rfl

theorem all_plain_any_replace {s : List Val} (h : s.all plainEntry = true) :
    s.any (fun x => x == Val.str "$replace") = false := by
  rw [any_eq_false_iff_forall]
  exact fun x hx => plainEntry_ne_replace (List.all_eq_true.1 h x hx)

theorem all_plain_filter_replace {s : List Val} (h : s.all plainEntry = true) :
    s.filter (fun x => !(x == Val.str "$replace")) = s := by
  rw [List.filter_eq_self]
  intro x hx
  rw [plainEntry_ne_replace (List.all_eq_true.1 h x hx)]
  rfl

theorem all_plain_no_marker {s : List Val} (h : s.all plainEntry = true) :
    hasListMapBool s "$replace" true = false := by
  rw [hasListMapBool_eq, any_eq_false_iff_forall]
  exact fun x hx => plainEntry_not_marker (List.all_eq_true.1 h x hx)

theorem all_plain_filter_marker {s : List Val} (h : s.all plainEntry = true) :
    s.filter (fun x => !isMarker "$replace" true x) = s := by
  rw [List.filter_eq_self]
  intro x hx
  rw [plainEntry_not_marker (List.all_eq_true.1 h x hx)]
  rfl

theorem mergeEntries_nil (d : List Val) : mergeEntries d [] = .ok d :=
  mergeEntries.eq_1 d

theorem mergeEntries_nonmap {v : Val} (d rest : List Val) (h : v.isMap = false) :
    mergeEntries d (v :: rest) = mergeEntries (d ++ [v]) rest :=
  mergeEntries.eq_3 d v rest (fun _ hv => by subst hv; cases h)

/-- the `$match` step, with the update value `upd` (either `$value` or the rest of the entry) -/
def matchStep (d : List Val) (m upd : Val) (rest : List Val) : R (List Val) :=
  match d.mapM (fun e => if matchV e m then merge e upd else pure e) with
  | .error e => .error e
  | .ok d' => if d.any (fun e => matchV e m) then mergeEntries d' rest else .error .noMatchFound

theorem matchStep_eq (d : List Val) (m upd : Val) (rest : List Val) :
    (do
      let d' ← d.mapM (fun e => if matchV e m then merge e upd else pure e)
      if !(d.any (fun e => matchV e m)) then throw Err.noMatchFound
      mergeEntries d' rest : R (List Val)) = matchStep d m upd rest := by
  unfold matchStep
  show (List.mapM (fun e => if matchV e m then merge e upd else pure e) d >>= _) = _
  cases List.mapM (fun e => if matchV e m then merge e upd else pure e) d with
  | error e => rfl
  | ok d' =>
    rw [ok_bind]
    cases d.any (fun e => matchV e m) <;> rfl

namespace Gen.Lib

/-- the `$match` step of the model's `mergeEntries` without the rest of the patch -/
def matchOnly (d : List Val) (m upd : Val) : R (List Val) :=
  match d.mapM (fun e => if matchV e m then merge e upd else pure e) with
  | .error e => .error e
  | .ok d' => if d.any (fun e => matchV e m) then .ok d' else .error .noMatchFound

theorem matchStep_eq_matchOnly (d : List Val) (m upd : Val) (rest : List Val) :
    matchStep d m upd rest =
      (match matchOnly d m upd with
       | .error e => .error e
       | .ok d' => mergeEntries d' rest) := by
  unfold matchStep matchOnly
  cases List.mapM (fun e => if matchV e m then merge e upd else pure e) d with
  | error e => rfl
  | ok d' => cases d.any (fun e => matchV e m) <;> rfl

/-- the model of merge.go:mergeListMatch (inlined in the model's `mergeEntries`): `v` is the patch entry without its
    `$match` key -/
def mergeListMatch (obj : List Val) (m : Val) (v : Fields) : R (List Val) :=
  match fget v "$value" with
  | some v2 => if (fdel v "$value").length > 0 then .error .extraKeys else matchOnly obj m v2
  | none => matchOnly obj m (.map v)

/-- one patch entry applied to the target list (the body of the `for _, v := range src` loop) -/
def entryStep (d : List Val) (v : Val) : R (List Val) :=
  match v with
  | .map kvs =>
    match fget kvs "$delete" with
    | some del => if (fdel kvs "$delete").length > 0 then .error .extraKeys else mergeListDelete d del
    | none =>
      match fget kvs "$match" with
      | some m => mergeListMatch d m (fdel kvs "$match")
      | none => .ok (d ++ [v])
  | _ => .ok (d ++ [v])

theorem mergeListMatch_value {v : Fields} {v2 : Val} (obj : List Val) (m : Val)
    (h : fget v "$value" = some v2) :
    mergeListMatch obj m v =
      if (fdel v "$value").length > 0 then .error .extraKeys else matchOnly obj m v2 := by
  rw [mergeListMatch, h]

theorem mergeListMatch_novalue {v : Fields} (obj : List Val) (m : Val) (h : fget v "$value" = none) :
    mergeListMatch obj m v = matchOnly obj m (.map v) := by
  rw [mergeListMatch, h]

theorem entryStep_delete {kvs : Fields} {del : Val} (d : List Val) (h : fget kvs "$delete" = some del) :
    entryStep d (.map kvs) =
      if (fdel kvs "$delete").length > 0 then .error .extraKeys else mergeListDelete d del := by
  rw [entryStep, h]

theorem entryStep_match {kvs : Fields} {m : Val} (d : List Val) (h1 : fget kvs "$delete" = none)
    (h2 : fget kvs "$match" = some m) :
    entryStep d (.map kvs) = mergeListMatch d m (fdel kvs "$match") := by
  rw [entryStep, h1, h2]

/-- an entry with neither `$delete` nor `$match` is appended -/
theorem entryStep_append {v : Val} (d : List Val)
    (h : ∀ kvs, v = .map kvs → fget kvs "$delete" = none ∧ fget kvs "$match" = none) :
    entryStep d v = .ok (d ++ [v]) := by
  cases v with
  | map kvs => rw [entryStep, (h kvs rfl).1, (h kvs rfl).2]
  | _ => rfl

/-- the entries that the model's `mergeEntries` handles inline are merge.go's two helpers -/
theorem mergeEntries_eq_steps (d : List Val) (v : Val) (rest : List Val) :
    mergeEntries d (v :: rest) =
      (match entryStep d v with
       | .error e => .error e
       | .ok d' => mergeEntries d' rest) := by
  cases v with
  | map kvs =>
    rw [mergeEntries.eq_2, entryStep]
    cases fget kvs "$delete" with
    | some del =>
      dsimp only
      by_cases hx : (fdel kvs "$delete").length > 0
      · rw [if_pos hx, if_pos hx]; rfl
      · rw [if_neg hx, if_neg hx, mergeListDelete]
        cases d.any (fun v => matchV v del) <;> rfl
    | none =>
      dsimp only
      cases fget kvs "$match" with
      | none => rfl
      | some m =>
        dsimp only
        rw [mergeListMatch]
        split
        · rename_i v2 hv
          rw [hv]
          dsimp only
          by_cases hx : (fdel (fdel kvs "$match") "$value").length > 0
          · rw [if_pos hx, if_pos hx]; rfl
          · rw [if_neg hx, if_neg hx]
            exact (matchStep_eq d m v2 rest).trans (matchStep_eq_matchOnly ..)
        · rename_i hv
          rw [hv]
          exact (matchStep_eq d m _ rest).trans (matchStep_eq_matchOnly ..)
  | _ => exact mergeEntries.eq_3 d _ rest (fun _ h => by cases h)

end Gen.Lib
open Gen.Lib

theorem mergeEntries_map_plain {kvs : Fields} (d rest : List Val)
    (h1 : fget kvs "$delete" = none) (h2 : fget kvs "$match" = none) :
    mergeEntries d (.map kvs :: rest) = mergeEntries (d ++ [.map kvs]) rest := by
  rw [mergeEntries_eq_steps, entryStep, h1, h2]

/-- an entry with neither `$delete` nor `$match` is appended -/
theorem mergeEntries_skip {v : Val} (d rest : List Val)
    (hp : ∀ kvs, v = .map kvs → fget kvs "$delete" = none ∧ fget kvs "$match" = none) :
    mergeEntries d (v :: rest) = mergeEntries (d ++ [v]) rest := by
  cases v with
  | map kvs => exact mergeEntries_map_plain d rest (hp kvs rfl).1 (hp kvs rfl).2
  | _ => exact mergeEntries_nonmap d rest rfl

theorem mergeEntries_plain_cons {v : Val} (d rest : List Val) (h : plainEntry v = true) :
    mergeEntries d (v :: rest) = mergeEntries (d ++ [v]) rest :=
  mergeEntries_skip d rest fun kvs e => by
    subst e
    simp only [plainEntry, Bool.and_eq_true, Bool.not_eq_true', fhas_eq_false_iff] at h
    exact ⟨h.1.1, h.1.2⟩

theorem mergeEntries_plain_append {l : List Val} (d rest : List Val)
    (h : l.all plainEntry = true) :
    mergeEntries d (l ++ rest) = mergeEntries (d ++ l) rest := by
  induction l generalizing d with
  | nil => rw [List.nil_append, List.append_nil]
  | cons a tl ih =>
    rw [List.all_cons, Bool.and_eq_true] at h
    rw [List.cons_append, mergeEntries_plain_cons d _ h.1, ih _ h.2, List.append_assoc]
    rfl

theorem mergeEntries_delete_extra {kvs : Fields} {del : Val} (d rest : List Val)
    (h1 : fget kvs "$delete" = some del) (h2 : (fdel kvs "$delete").length > 0) :
    mergeEntries d (.map kvs :: rest) = .error .extraKeys := by
  rw [mergeEntries_eq_steps, entryStep, h1]
  dsimp only
  rw [if_pos h2]

theorem mergeEntries_delete {kvs : Fields} {del : Val} (d rest : List Val)
    (h1 : fget kvs "$delete" = some del) (h2 : (fdel kvs "$delete").length = 0) :
    mergeEntries d (.map kvs :: rest) =
      (if d.any (fun v => matchV v del) then
         mergeEntries (d.filter (fun v => !matchV v del)) rest
       else .error .uselessOverride) := by
  rw [mergeEntries_eq_steps, entryStep, h1]
  dsimp only
  rw [if_neg (by rw [h2]; decide), mergeListDelete]
  cases d.any (fun v => matchV v del) <;> rfl

/-- the value a `$match` entry merges into every matched element: its `$value` if it has one,
    otherwise the entry itself minus the `$match` key -/
def matchPatch (kvs : Fields) : Val :=
  match fget kvs "$value" with
  | some v2 => v2
  | none => .map (fdel kvs "$match")

theorem matchPatch_wf {kvs : Fields} (h : Val.WF (.map kvs)) : Val.WF (matchPatch kvs) := by
  unfold matchPatch
  split
  · rename_i v2 hv; exact wf_of_fget h hv
  · exact wf_fdel h

theorem matchPatch_sizeOf (kvs : Fields) : sizeOf (matchPatch kvs) ≤ sizeOf (Val.map kvs) := by
  unfold matchPatch
  split
  · rename_i v2 hv
    have := fget_sizeOf hv
    simp; omega
  · have := fdel_sizeOf kvs "$match"
    simp; omega

/-- a `$match` entry: `matchPatch` is what gets merged, whether it comes from `$value` or not -/
theorem mergeEntries_match {kvs : Fields} {m : Val} (d rest : List Val)
    (h1 : fget kvs "$delete" = none) (h2 : fget kvs "$match" = some m) :
    mergeEntries d (.map kvs :: rest) =
      if (fget kvs "$value").isSome ∧ fdel (fdel kvs "$match") "$value" ≠ [] then .error .extraKeys
      else matchStep d m (matchPatch kvs) rest := by
  have hval : fget (fdel kvs "$match") "$value" = fget kvs "$value" :=
    fget_fdel_ne _ _ _ (by decide)
  rw [mergeEntries_eq_steps, entryStep, h1, h2]
  dsimp only
  rw [mergeListMatch, hval, matchPatch]
  cases fget kvs "$value" with
  | none => rw [if_neg (fun h => nomatch h.1), matchStep_eq_matchOnly]
  | some v2 =>
    dsimp only
    by_cases hx : (fdel (fdel kvs "$match") "$value").length > 0
    · rw [if_pos hx, if_pos ⟨rfl, List.length_pos_iff.1 hx⟩]
    · rw [if_neg hx, if_neg (fun h => hx (List.length_pos_iff.2 h.2)), matchStep_eq_matchOnly]

/-- **induction on the patch**: the recursive calls of `merge d s` have as patch a value of the
    map `s`, or `matchPatch` of a map entry of the list `s` -/
theorem merge_patch_induction {Q : Val → Prop}
    (step : ∀ s, (∀ m, s = .map m → ∀ p ∈ m, Q p.2) →
      (∀ l, s = .list l → ∀ kvs, Val.map kvs ∈ l → Q (matchPatch kvs)) → Q s) :
    ∀ s, Q s := by
  intro s
  induction hn : sizeOf s using Nat.strongRecOn generalizing s with
  | ind n ih =>
    subst hn
    refine step s (fun m hm p hp => ih _ ?_ p.2 rfl) (fun l hl kvs hmem => ih _ ?_ _ rfl)
    · rw [hm]; exact sizeOf_lt_of_mem_fields (k := p.1) hp
    · rw [hl]; exact Nat.lt_of_le_of_lt (matchPatch_sizeOf kvs) (sizeOf_lt_list_of_mem hmem)

/-- the parent list minus its `"$required"` markers, as `mergeListList` computes it, as the C01 statements spell it
    (`dropRequired d` unfolds to the filter) -/
theorem popListString_required (d : List Val) : (popListString d "$required").2 = dropRequired d := rfl

theorem mergeListList_replace_string (d : List Val) {s : List Val}
    (h : s.any (fun x => x == Val.str "$replace") = true) :
    mergeListList d s = .ok (.list (s.filter (fun x => !(x == Val.str "$replace")))) := by
  rw [mergeListList]
  simp only [popListString_eq, h, if_true]; rfl

theorem mergeListList_no_string (d : List Val) {s : List Val}
    (h : s.any (fun x => x == Val.str "$replace") = false) :
    mergeListList d s =
      (match popListMapBool s "$replace" true with
       | .error e => .error e
       | .ok (rep2, s2) =>
         if rep2 then .ok (.list s2)
         else match mergeEntries (dropRequired d) s with
           | .error e => .error e
           | .ok r => .ok (.list r)) := by
  rw [mergeListList]
  simp only [popListString_required]
  simp only [popListString_eq, h, Bool.false_eq_true, if_false]
  show (popListMapBool s "$replace" true >>= _) = _
  cases popListMapBool s "$replace" true with
  | error e => rfl
  | ok p =>
    obtain ⟨rep2, s2⟩ := p
    rw [ok_bind]
    cases rep2 with
    | true => rfl
    | false =>
      simp only [Bool.false_eq_true, if_false]
      show (mergeEntries (dropRequired d) s >>= _) = _
      cases mergeEntries (dropRequired d) s <;> rfl

theorem mergeListList_eq (d s : List Val) :
    mergeListList d s =
      if s.any (fun x => x == Val.str "$replace") then
        .ok (.list (s.filter (fun x => !(x == Val.str "$replace"))))
      else if s.any (os_isExtra "$replace" true) then .error .extraKeys
      else if hasListMapBool s "$replace" true then
        .ok (.list (s.filter (fun x => !isMarker "$replace" true x)))
      else (mergeEntries (dropRequired d) s).map .list := by
  cases hany : s.any (fun x => x == Val.str "$replace") with
  | true => exact mergeListList_replace_string d hany
  | false =>
    rw [mergeListList_no_string d hany, popListMapBool_closed]
    cases hhas : hasListMapBool s "$replace" true with
    | false =>
      rw [any_isExtra_of_no_marker hhas]
      cases mergeEntries (dropRequired d) s <;> rfl
    | true => cases s.any (os_isExtra "$replace" true) <;> rfl

/-- the model's `mergeListList` before the final wrapping in `.list` (what merge.go:mergeListList returns) -/
def mergeListListL (d s : List Val) : R (List Val) :=
  if s.any (fun x => x == Val.str "$replace") then .ok (s.filter (fun x => !(x == Val.str "$replace")))
  else if s.any (os_isExtra "$replace" true) then .error .extraKeys
  else if hasListMapBool s "$replace" true then .ok (s.filter (fun x => !isMarker "$replace" true x))
  else mergeEntries (dropRequired d) s

theorem mergeListList_eq_L (d s : List Val) : mergeListList d s = (mergeListListL d s).map Val.list := by
  rw [mergeListList_eq, mergeListListL]
  cases s.any (fun x => x == Val.str "$replace") <;> cases s.any (os_isExtra "$replace" true) <;>
    cases hasListMapBool s "$replace" true <;> rfl

theorem mergeListList_no_replace (d : List Val) {s : List Val}
    (h1 : s.any (fun x => x == Val.str "$replace") = false)
    (h2 : hasListMapBool s "$replace" true = false) :
    mergeListList d s =
      (match mergeEntries (dropRequired d) s with
       | .error e => .error e
       | .ok r => .ok (.list r)) := by
  rw [mergeListList_eq, h1, any_isExtra_of_no_marker h2, h2]
  cases mergeEntries (dropRequired d) s <;> rfl

/-- plain entries are appended, after the parent's `"$required"` markers are dropped -/
theorem merge_list_plain (d s : List Val) (h : s.all plainEntry = true) :
    merge (.list d) (.list s) = .ok (.list (dropRequired d ++ s)) := by
  rw [merge_list_list,
    mergeListList_no_replace d (all_plain_any_replace h) (all_plain_no_marker h)]
  have := mergeEntries_plain_append (dropRequired d) [] h
  rw [List.append_nil] at this
  rw [this, mergeEntries_nil]

theorem q_not_mem_dropRequired (d : List Val) : Val.str "$required" ∉ dropRequired d := by
  unfold dropRequired
  intro h
  have := (List.mem_filter.1 h).2
  simp at this

/-- an empty patch list already strips the markers -/
theorem q_merge_list_nil (d : List Val) :
    merge (.list d) (.list []) = .ok (.list (dropRequired d)) := by
  rw [merge_list_plain d [] rfl, List.append_nil]

theorem any_replace_entry {pre post : List Val} (kvs : Fields) (hpre : pre.all plainEntry = true)
    (hpost : Val.str "$replace" ∉ post) :
    (pre ++ Val.map kvs :: post).any (fun x => x == Val.str "$replace") = false := by
  rw [List.any_append, all_plain_any_replace hpre, List.any_cons,
    any_replace_eq_false_iff.2 hpost]
  rfl

theorem merge_list_entry (d pre post : List Val) (kvs : Fields)
    (hpre : pre.all plainEntry = true)
    (hpost1 : Val.str "$replace" ∉ post) (hpost2 : hasListMapBool post "$replace" true = false)
    (hmk : fhasBool kvs "$replace" true = false) :
    merge (.list d) (.list (pre ++ Val.map kvs :: post)) =
      (mergeEntries (dropRequired d ++ pre) (.map kvs :: post)).map .list := by
  have hhas : hasListMapBool (pre ++ Val.map kvs :: post) "$replace" true = false := by
    rw [hasListMapBool_eq, List.any_append, List.any_cons, ← hasListMapBool_eq,
      ← hasListMapBool_eq, all_plain_no_marker hpre, hpost2, isMarker, hmk]
    rfl
  rw [merge_list_list, mergeListList_no_replace d (any_replace_entry kvs hpre hpost1) hhas,
    mergeEntries_plain_append _ _ hpre]
  cases mergeEntries (dropRequired d ++ pre) (Val.map kvs :: post) <;> rfl

/-- a `{$replace: true}` entry: the child list (minus the marker) replaces the parent list -/
theorem C01_list_replace_marker (d pre post : List Val) (hpre : pre.all plainEntry = true)
    (hpost : post.all plainEntry = true) :
    merge (.list d) (.list (pre ++ [Val.map [("$replace", .bool true)]] ++ post)) =
      .ok (.list (pre ++ post)) := by
  have hany : (pre ++ [Val.map [("$replace", .bool true)]] ++ post).any
      (fun x => x == Val.str "$replace") = false := by
    rw [List.any_append, List.any_append, all_plain_any_replace hpre, all_plain_any_replace hpost]
    rfl
  have hbad : (pre ++ [Val.map [("$replace", .bool true)]] ++ post).any
      (os_isExtra "$replace" true) = false := by
    rw [List.any_append, List.any_append, any_isExtra_of_no_marker (all_plain_no_marker hpre),
      any_isExtra_of_no_marker (all_plain_no_marker hpost)]
    decide
  have hhas : hasListMapBool (pre ++ [Val.map [("$replace", .bool true)]] ++ post)
      "$replace" true = true := by
    rw [hasListMapBool_eq, List.any_append, List.any_append, List.any_cons,
      show isMarker "$replace" true (Val.map [("$replace", .bool true)]) = true from by decide,
      Bool.true_or, Bool.or_true, Bool.true_or]
  rw [merge_list_list, mergeListList_eq, hany, hbad, hhas, if_neg Bool.false_ne_true,
    if_neg Bool.false_ne_true, if_pos rfl, List.filter_append, List.filter_append,
    all_plain_filter_marker hpre, all_plain_filter_marker hpost]
  exact congrArg (fun l => Except.ok (Val.list (l ++ post))) (List.append_nil pre)

/-- a `{$delete: pat}` entry removes every parent entry matching `pat`; none is an error -/
theorem C01_list_delete (d : List Val) (pat : Val) :
    merge (.list d) (.list [Val.map [("$delete", pat)]]) =
      if (d.filter (fun x => !(x == Val.str "$required"))).any (fun v => matchV v pat) then
        .ok (.list ((d.filter (fun x => !(x == Val.str "$required"))).filter
              (fun v => !matchV v pat)))
      else .error .uselessOverride := by
  refine (merge_list_entry d [] [] [("$delete", pat)] rfl List.not_mem_nil rfl
    (by simp [fhasBool, fget])).trans ?_
  have step : entryStep (dropRequired d) (.map [("$delete", pat)]) = mergeListDelete (dropRequired d) pat :=
    (entryStep_delete _ rfl).trans (if_neg (Nat.lt_irrefl 0))
  rw [List.append_nil, mergeEntries_eq_steps, step, mergeListDelete, dropRequired]
  cases (d.filter (fun x => !(x == Val.str "$required"))).any (fun v => matchV v pat) with
  | true => rw [if_pos rfl, if_pos rfl]; exact congrArg _ (mergeEntries_nil _)
  | false => rfl

example : [Val.int 1].all plainEntry = true ∧ [Val.str "x", .map [("k", .null)]].all plainEntry
    = true := by decide

theorem merge_list_marker_extra (d : List Val) {s : List Val} {kvs : Fields}
    (hany : s.any (fun x => x == Val.str "$replace") = false) (hmem : Val.map kvs ∈ s)
    (hrep : fhasBool kvs "$replace" true = true) (hextra : (fdel kvs "$replace").length > 0) :
    merge (.list d) (.list s) = .error .extraKeys := by
  rw [merge_list_list, mergeListList_eq, hany, if_neg Bool.false_ne_true, if_pos]
  exact List.any_eq_true.2 ⟨_, hmem, os_isExtra_iff.2 ⟨kvs, rfl, hrep, hextra⟩⟩

/-- shared shape of the `extraKeys` results for `$delete` and `$match` entries -/
theorem list_entry_extra (d pre post : List Val) (kvs : Fields)
    (hpre : pre.all plainEntry = true)
    (hpost1 : Val.str "$replace" ∉ post) (hpost2 : hasListMapBool post "$replace" true = false)
    (hE : ∀ d', mergeEntries d' (.map kvs :: post) = .error .extraKeys)
    (hM : fhasBool kvs "$replace" true = true → (fdel kvs "$replace").length > 0) :
    merge (.list d) (.list (pre ++ Val.map kvs :: post)) = .error .extraKeys := by
  cases hmk : fhasBool kvs "$replace" true with
  | true =>
    exact merge_list_marker_extra d (any_replace_entry kvs hpre hpost1)
      (List.mem_append_right _ List.mem_cons_self) hmk (hM hmk)
  | false => rw [merge_list_entry d pre post kvs hpre hpost1 hpost2 hmk, hE]; rfl

end Bkl
