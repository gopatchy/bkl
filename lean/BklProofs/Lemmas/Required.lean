/-
  BklProofs.Lemmas.Required — `countReq`, the specification function of C17 (the number of `$required`
  markers in a tree), defined independently of the model, and its bounds along `fget` and list membership
  (used by C07 for `$required` across layers); and the equations of bklr's `required` (Bkl/Tools.lean):
  one per kind of value, the two loops as `filterMap` / `Fields.filterMapVal`, and what a result can be
  (`required_eq_some`).  C17 states the properties; Lemmas/GoLibBklr adds what the translation needs.
-/
import Bkl.Tools
import BklProofs.Lemmas.Fields
namespace Bkl

mutual
/-- number of string leaves equal to "$required" -/
def countReq : Val → Nat
  | .str s => if s = "$required" then 1 else 0
  | .list xs => countReqList xs
  | .map kvs => countReqFields kvs
  | _ => 0
def countReqList : List Val → Nat
  | [] => 0
  | x :: xs => countReq x + countReqList xs
def countReqFields : Fields → Nat
  | [] => 0
  | (_, v) :: rest => countReq v + countReqFields rest
end

theorem q_countReq_le_of_mem_fields {m : Fields} {p : String × Val} (h : p ∈ m) :
    countReq p.2 ≤ countReqFields m := by
  induction m with
  | nil => cases h
  | cons a t ih =>
    obtain ⟨k, v⟩ := a
    simp only [countReqFields]
    rcases List.mem_cons.1 h with rfl | h
    · exact Nat.le_add_right _ _
    · have := ih h; omega

theorem q_countReq_le_of_fget {m : Fields} {k : String} {c : Val} (h : fget m k = some c) :
    countReq c ≤ countReqFields m :=
  q_countReq_le_of_mem_fields (fget_mem h)

theorem q_countReq_le_of_mem {l : List Val} {x : Val} (h : x ∈ l) :
    countReq x ≤ countReqList l := by
  induction l with
  | nil => cases h
  | cons a t ih =>
    simp only [countReqList]
    rcases List.mem_cons.1 h with rfl | h
    · omega
    · have := ih h; omega

/-! ## `required`, equation by equation -/

theorem required_map (kvs : Fields) :
    required (.map kvs) =
      if (requiredFields kvs).isEmpty then none else some (.map (requiredFields kvs)) := by
  rw [required]; cases requiredFields kvs <;> rfl

theorem required_list (xs : List Val) :
    required (.list xs) =
      if (requiredList xs).isEmpty then none else some (.list (requiredList xs)) := by
  rw [required]; cases requiredList xs <;> rfl

theorem required_str (s : String) :
    required (.str s) = if s = "$required" then some (.str s) else none := by
  rw [required]; simp only [beq_iff_eq]

/-- on a value that is neither map nor list, `required` and `countReq` are a test for the marker -/
theorem required_atom_eq {v : Val} (h1 : v.isMap = false) (h2 : v.isList = false) :
    required v = if v = .str "$required" then some v else none := by
  cases v with
  | map m => cases h1
  | list l => cases h2
  | str s => rw [required_str]; simp only [Val.str.injEq]
  | _ => exact (if_neg nofun).symm

theorem countReq_atom_eq {v : Val} (h1 : v.isMap = false) (h2 : v.isList = false) :
    countReq v = if v = .str "$required" then 1 else 0 := by
  cases v with
  | map m => cases h1
  | list l => cases h2
  | str s => rw [countReq]; simp only [Val.str.injEq]
  | _ => exact (if_neg nofun).symm

theorem requiredList_cons (x : Val) (xs : List Val) :
    requiredList (x :: xs) =
      match required x with
      | some x' => x' :: requiredList xs
      | none => requiredList xs := by rw [requiredList]; rfl

theorem requiredFields_cons (k : String) (v : Val) (rest : Fields) :
    requiredFields ((k, v) :: rest) =
      match required v with
      | some v' => (k, v') :: requiredFields rest
      | none => requiredFields rest := by rw [requiredFields]; rfl

/-! ## the two loops keep the entries on which `required` answers -/

theorem requiredList_eq (xs : List Val) : requiredList xs = xs.filterMap required := by
  induction xs with
  | nil => rfl
  | cons x xs ih =>
    rw [requiredList_cons, List.filterMap_cons, ← ih]
    cases required x <;> rfl

theorem requiredFields_eq (s : Fields) :
    requiredFields s = Fields.filterMapVal (fun _ => required) s := by
  induction s with
  | nil => rfl
  | cons hd tl ih =>
    obtain ⟨k, v⟩ := hd
    rw [requiredFields_cons, filterMapVal_cons, ← ih]
    cases required v <;> rfl

theorem sorted_requiredFields {kvs : Fields} (h : Fields.SortedKeys kvs) :
    Fields.SortedKeys (requiredFields kvs) := by
  rw [requiredFields_eq]; exact sorted_filterMapVal _ h

/-- the keys of the result are keys of the input -/
theorem fget_requiredFields_none {kvs : Fields} {k : String} (h : fget kvs k = none) :
    fget (requiredFields kvs) k = none := by
  rw [requiredFields_eq]; exact fget_filterMapVal_of_none h

/-! ## what a result can be -/

theorem required_eq_some {v r : Val} (h : required v = some r) :
    (∃ kvs, v = .map kvs ∧ r = .map (requiredFields kvs)) ∨
      (∃ xs, v = .list xs ∧ r = .list (requiredList xs)) ∨ (∃ s, v = .str s ∧ r = .str s) := by
  cases v with
  | map kvs => rw [required_map] at h; split at h <;> cases h; exact .inl ⟨kvs, rfl, rfl⟩
  | list xs => rw [required_list] at h; split at h <;> cases h; exact .inr (.inl ⟨xs, rfl, rfl⟩)
  | str s => rw [required_str] at h; split at h <;> cases h; exact .inr (.inr ⟨s, rfl, rfl⟩)
  | _ => cases h

/-- Go's `v2 == nil` test on the recursive result is the model's `none`: `required` never answers `some nil` -/
theorem required_ne_null (v : Val) : required v ≠ some .null := by
  intro h
  rcases required_eq_some h with ⟨_, _, h⟩ | ⟨_, _, h⟩ | ⟨_, _, h⟩ <;> cases h

end Bkl
