/-
  BklProofs.Lemmas.JsonPretty — helper lemmas for the INDENTED JSON writer of Bkl/Json.lean
  (`jsonPrettyChars`, bkl's `json-pretty` format): the reader on the indented text, the stream
  level, and the relation between the indented and the compact text.  The indented writer is
  `jsp_layout` with line breaks and one space (`jsp_layout_pretty`), so what BklProofs/Lemmas/Json.lean
  proves about every whitespace layout holds of it.
-/
import BklProofs.Lemmas.Json
namespace Bkl

/-! ## the writer: scalars and empty containers are written as in the compact form -/

theorem jsp_null (jf : String → String) (lvl : Nat) :
    jsonPrettyChars jf lvl .null = jsonEncodeChars jf .null := by simp [jsonPrettyChars]
theorem jsp_bool (jf : String → String) (lvl : Nat) (b : Bool) :
    jsonPrettyChars jf lvl (.bool b) = jsonEncodeChars jf (.bool b) := by simp [jsonPrettyChars]
theorem jsp_int (jf : String → String) (lvl : Nat) (i : Int) :
    jsonPrettyChars jf lvl (.int i) = jsonEncodeChars jf (.int i) := by simp [jsonPrettyChars]
theorem jsp_flt (jf : String → String) (lvl : Nat) (r : String) :
    jsonPrettyChars jf lvl (.flt r) = jsonEncodeChars jf (.flt r) := by simp [jsonPrettyChars]
theorem jsp_str (jf : String → String) (lvl : Nat) (s : String) :
    jsonPrettyChars jf lvl (.str s) = jsonEncodeChars jf (.str s) := by simp [jsonPrettyChars]
theorem jsp_list_nil (jf : String → String) (lvl : Nat) :
    jsonPrettyChars jf lvl (.list []) = jsonEncodeChars jf (.list []) := by
  rw [jsonPrettyChars, jsonEncodeChars, jsonEncodeElems]
theorem jsp_map_nil (jf : String → String) (lvl : Nat) :
    jsonPrettyChars jf lvl (.map []) = jsonEncodeChars jf (.map []) := by
  rw [jsonPrettyChars, jsonEncodeChars, jsonEncodeMembers]

/-- the elements of a non-empty array opened at level `lvl`, after the first line break, up to
    and including the `]` -/
def jsp_elems (jf : String → String) (lvl : Nat) : List Val → List Char
  | [] => []
  | x :: xs => jsonPrettyChars jf (lvl + 1) x ++ jsonPrettyElemsTail jf lvl xs

/-- the members of a non-empty object opened at level `lvl`, after the first line break, up to
    and including the `}` -/
def jsp_members (jf : String → String) (lvl : Nat) : Fields → List Char
  | [] => []
  | (k, v) :: rest =>
    jsonQuote k.toList ++ ':' :: ' ' ::
      (jsonPrettyChars jf (lvl + 1) v ++ jsonPrettyMembersTail jf lvl rest)

theorem jsp_list_cons (jf : String → String) (lvl : Nat) (x : Val) (xs : List Val) :
    jsonPrettyChars jf lvl (.list (x :: xs)) =
      '[' :: (jsonNewline (lvl + 1) ++ jsp_elems jf lvl (x :: xs)) := by
  rw [jsonPrettyChars, jsp_elems]

theorem jsp_map_cons (jf : String → String) (lvl : Nat) (p : String × Val) (ps : Fields) :
    jsonPrettyChars jf lvl (.map (p :: ps)) =
      '{' :: (jsonNewline (lvl + 1) ++ jsp_members jf lvl (p :: ps)) := by
  obtain ⟨k, v⟩ := p
  rw [jsonPrettyChars, jsp_members]

theorem jsp_elemsTail_cons (jf : String → String) (lvl : Nat) (y : Val) (ys : List Val) :
    jsonPrettyElemsTail jf lvl (y :: ys) =
      ',' :: (jsonNewline (lvl + 1) ++ jsp_elems jf lvl (y :: ys)) := by
  rw [jsonPrettyElemsTail, jsp_elems]

theorem jsp_membersTail_cons (jf : String → String) (lvl : Nat) (p : String × Val) (ps : Fields) :
    jsonPrettyMembersTail jf lvl (p :: ps) =
      ',' :: (jsonNewline (lvl + 1) ++ jsp_members jf lvl (p :: ps)) := by
  obtain ⟨k, v⟩ := p
  rw [jsonPrettyMembersTail, jsp_members]

/-! ## the indented writer is the layout writer with line breaks and a space -/

mutual
theorem jsp_layout_pretty (jf : String → String) : ∀ (v : Val) (lvl : Nat),
    jsp_layout jsonNewline [' '] jf lvl v = jsonPrettyChars jf lvl v
  | .null, lvl => by rw [jsp_null]; simp [jsp_layout]
  | .bool b, lvl => by rw [jsp_bool]; simp [jsp_layout]
  | .int i, lvl => by rw [jsp_int]; simp [jsp_layout]
  | .flt r, lvl => by rw [jsp_flt]; simp [jsp_layout]
  | .str s, lvl => by rw [jsp_str]; simp [jsp_layout]
  | .list [], lvl => by rw [jsp_layout, jsonPrettyChars]
  | .map [], lvl => by rw [jsp_layout, jsonPrettyChars]
  | .list (x :: xs), lvl => by
    rw [jsp_layout, jsonPrettyChars, jsp_layout_pretty jf x (lvl + 1),
      jsp_layoutElemsTail_pretty jf xs lvl]
  | .map ((k, v) :: ps), lvl => by
    rw [jsp_layout, jsonPrettyChars, jsp_layout_pretty jf v (lvl + 1),
      jsp_layoutMembersTail_pretty jf ps lvl]
    rfl
theorem jsp_layoutElemsTail_pretty (jf : String → String) : ∀ (l : List Val) (lvl : Nat),
    jsp_layoutElemsTail jsonNewline [' '] jf lvl l = jsonPrettyElemsTail jf lvl l
  | [], lvl => by rw [jsp_layoutElemsTail, jsonPrettyElemsTail]
  | x :: xs, lvl => by
    rw [jsp_layoutElemsTail, jsonPrettyElemsTail, jsp_layout_pretty jf x (lvl + 1),
      jsp_layoutElemsTail_pretty jf xs lvl]
theorem jsp_layoutMembersTail_pretty (jf : String → String) : ∀ (l : Fields) (lvl : Nat),
    jsp_layoutMembersTail jsonNewline [' '] jf lvl l = jsonPrettyMembersTail jf lvl l
  | [], lvl => by rw [jsp_layoutMembersTail, jsonPrettyMembersTail]
  | (k, v) :: ps, lvl => by
    rw [jsp_layoutMembersTail, jsonPrettyMembersTail, jsp_layout_pretty jf v (lvl + 1),
      jsp_layoutMembersTail_pretty jf ps lvl]
    rfl
end

/-! ## whitespace -/

theorem jsp_newline_ws (lvl : Nat) : ∀ c ∈ jsonNewline lvl, jsonIsWs c = true := by
  intro c hc
  rw [jsonNewline, List.mem_cons, List.mem_replicate] at hc
  rcases hc with rfl | ⟨-, rfl⟩ <;> rfl

theorem jsp_space_ws : ∀ c ∈ [' '], jsonIsWs c = true := by
  intro c hc
  cases List.mem_singleton.1 hc
  rfl

theorem jsp_skipWs_newline (lvl : Nat) (cs : List Char) :
    jsonSkipWs (jsonNewline lvl ++ cs) = jsonSkipWs cs :=
  js_skipWs_append (jsp_newline_ws lvl) cs

theorem jsp_skipWs_newline_cons (lvl : Nat) {c : Char} (h : jsonIsWs c = false) (t : List Char) :
    jsonSkipWs (jsonNewline lvl ++ c :: t) = c :: t := by
  rw [jsp_skipWs_newline, js_skipWs_cons h]

theorem jsp_skipWs_idem (cs : List Char) : jsonSkipWs (jsonSkipWs cs) = jsonSkipWs cs := by
  induction cs with
  | nil => rfl
  | cons c cs ih =>
    cases h : jsonIsWs c
    · rw [js_skipWs_cons h, js_skipWs_cons h]
    · rw [js_skipWs_ws h, ih]

theorem jsp_parseValue_skipWs (fol : String → String) (fuel : Nat) (cs : List Char) :
    jsonParseValue fol fuel (jsonSkipWs cs) = jsonParseValue fol fuel cs :=
  js_parseValue_congr fol fuel (jsp_skipWs_idem cs)

theorem jsp_parseValue_newline (fol : String → String) (fuel lvl : Nat) (cs : List Char) :
    jsonParseValue fol fuel (jsonNewline lvl ++ cs) = jsonParseValue fol fuel cs :=
  js_parseValue_congr fol fuel (jsp_skipWs_newline lvl cs)

/-! ## the first character of a value's text is never whitespace -/

/-- `hv` is needed for floats: a number token starts with `-` or a digit -/
theorem jsp_pretty_head (jf fol : String → String) (lvl : Nat) (v : Val)
    (hv : js_NumsOK jf fol v) :
    ∃ c t, jsonPrettyChars jf lvl v = c :: t ∧ js_valueStart c := by
  rw [← jsp_layout_pretty]
  exact js_layout_head jf fol lvl v hv

theorem jsp_head_eq (jf : String → String) (lvl : Nat) (v : Val) :
    (jsonPrettyChars jf lvl v).head? = (jsonEncodeChars jf v).head? := by
  rw [← jsp_layout_pretty]
  exact js_layout_head_eq _ _ jf lvl v

theorem jsp_pretty_head_not_ws (jf fol : String → String) (lvl : Nat) (v : Val)
    (hv : js_NumsOK jf fol v) :
    ∃ c t, jsonPrettyChars jf lvl v = c :: t ∧ jsonIsWs c = false := by
  obtain ⟨c, t, e, hc⟩ := jsp_pretty_head jf fol lvl v hv
  exact ⟨c, t, e, (js_valueStart_facts hc).1⟩

theorem jsp_enc_head_not_ws (jf fol : String → String) (v : Val) (hv : js_NumsOK jf fol v) :
    ∃ c t, jsonEncodeChars jf v = c :: t ∧ jsonIsWs c = false := by
  obtain ⟨c, t, e, hc⟩ := js_enc_head jf fol v hv
  exact ⟨c, t, e, (js_valueStart_facts hc).1⟩

theorem jsp_stop_elemsTail (jf : String → String) (lvl : Nat) (xs : List Val) (rest : List Char) :
    js_Stop (jsonPrettyElemsTail jf lvl xs ++ rest) := by
  rw [← jsp_layoutElemsTail_pretty]
  exact js_stop_layoutElemsTail jf jsp_newline_ws lvl xs rest

theorem jsp_stop_membersTail (jf : String → String) (lvl : Nat) (ps : Fields) (rest : List Char) :
    js_Stop (jsonPrettyMembersTail jf lvl ps ++ rest) := by
  rw [← jsp_layoutMembersTail_pretty]
  exact js_stop_layoutMembersTail jf jsp_newline_ws lvl ps rest

/-! ## the parser on the indented text -/

/-- fuel: the length of the COMPACT text is enough -/
theorem jsp_parse_pretty (jf fol : String → String) (v : Val) (lvl fuel : Nat) (rest : List Char)
    (hv : js_NumsOK jf fol v) (hd : js_DistinctKeys v = true)
    (hf : (jsonEncodeChars jf v).length ≤ fuel) (hs : js_Stop rest) :
    jsonParseValue fol fuel (jsonPrettyChars jf lvl v ++ rest) = .ok (js_rawOf jf fol v, rest) := by
  rw [← jsp_layout_pretty]
  exact js_parse_layout jf fol jsp_newline_ws jsp_space_ws v lvl fuel rest hv hd hf hs

theorem jsp_parse_elems (jf fol : String → String) : ∀ (l : List Val) (lvl fuel : Nat)
    (rest : List Char), l ≠ [] → js_NumsOKList jf fol l → js_DistinctKeysList l = true →
    (jsonEncodeElems jf l).length ≤ fuel →
    jsonParseElems fol fuel (jsp_elems jf lvl l ++ rest) = .ok (js_rawList jf fol l, rest)
  | [], _, _, _, hne, _, _, _ => absurd rfl hne
  | x :: xs, lvl, fuel, rest, _, hv, hd, hf => by
    rw [jsp_elems, ← jsp_layout_pretty, ← jsp_layoutElemsTail_pretty]
    exact js_parse_layoutElems jf fol jsp_newline_ws jsp_space_ws x xs lvl fuel rest hv hd hf

theorem jsp_parse_members (jf fol : String → String) : ∀ (l : Fields) (lvl fuel : Nat)
    (rest : List Char), l ≠ [] → js_NumsOKFields jf fol l → js_keysDistinct l = true →
    js_DistinctKeysFields l = true → (jsonEncodeMembers jf l).length ≤ fuel →
    jsonParseMembers fol fuel (jsp_members jf lvl l ++ rest) = .ok (js_rawFields jf fol l, rest)
  | [], _, _, _, hne, _, _, _, _ => absurd rfl hne
  | (k, v) :: ps, lvl, fuel, rest, _, hv, hk, hd, hf => by
    rw [jsp_members, ← jsp_layout_pretty, ← jsp_layoutMembersTail_pretty]
    exact js_parse_layoutMembers jf fol jsp_newline_ws jsp_space_ws k v ps lvl fuel rest hv hk hd hf

/-! ## the indented text is at least as long as the compact one -/

theorem jsp_newline_length (lvl : Nat) : (jsonNewline lvl).length = 2 * lvl + 1 := by
  simp [jsonNewline]

theorem jsp_enc_le_pretty (jf : String → String) (v : Val) (lvl : Nat) :
    (jsonEncodeChars jf v).length ≤ (jsonPrettyChars jf lvl v).length := by
  rw [← jsp_layout_pretty]
  exact js_enc_le_layout jf v lvl

theorem jsp_elemsTail_le (jf : String → String) : ∀ (l : List Val) (lvl : Nat),
    (jsonEncodeElemsTail jf l).length ≤ (jsonPrettyElemsTail jf lvl l).length := by
  intro l lvl
  rw [← jsp_layoutElemsTail_pretty]
  exact js_elemsTail_le_layout jf l lvl

theorem jsp_membersTail_le (jf : String → String) : ∀ (l : Fields) (lvl : Nat),
    (jsonEncodeMembersTail jf l).length ≤ (jsonPrettyMembersTail jf lvl l).length := by
  intro l lvl
  rw [← jsp_layoutMembersTail_pretty]
  exact js_membersTail_le_layout jf l lvl

theorem jsp_parse_pretty' (jf fol : String → String) (v : Val) (lvl fuel : Nat)
    (rest : List Char) (hv : js_NumsOK jf fol v) (hd : js_DistinctKeys v = true)
    (hf : (jsonPrettyChars jf lvl v).length ≤ fuel) (hs : js_Stop rest) :
    jsonParseValue fol fuel (jsonPrettyChars jf lvl v ++ rest) = .ok (js_rawOf jf fol v, rest) :=
  jsp_parse_pretty jf fol v lvl fuel rest hv hd (Nat.le_trans (jsp_enc_le_pretty jf v lvl) hf) hs

/-! ## streams -/

theorem jsp_stream_eq_lines (jf : String → String) : ∀ (vs : List Val),
    jsonPrettyStreamChars jf vs = (vs.map fun v => jsonPrettyChars jf 0 v ++ ['\n']).flatten
  | [] => rfl
  | v :: vs => by
    rw [jsonPrettyStreamChars, jsp_stream_eq_lines jf vs]; simp

theorem jsp_loadStream_prettyStream (jf fol : String → String) (vs : List Val)
    (h : ∀ v ∈ vs, js_Repr jf fol v) :
    jsonLoadStream fol (jsonPrettyStream jf vs) = .ok vs := by
  rw [jsonPrettyStream, jsp_stream_eq_lines,
    ← funext fun v => congrArg (· ++ ['\n']) (jsp_layout_pretty jf v 0)]
  exact js_loadStream_layout jf fol jsp_newline_ws jsp_space_ws vs h

theorem jsp_load_pretty (jf fol : String → String) (v : Val) (lvl : Nat) (h : js_Repr jf fol v) :
    jsonLoad fol (String.ofList (jsonPrettyChars jf lvl v)) = .ok v := by
  rw [← jsp_layout_pretty]
  exact js_load_layout jf fol jsp_newline_ws jsp_space_ws v lvl h

theorem jsp_load_prettyStream_one (jf fol : String → String) (v : Val) (h : js_Repr jf fol v) :
    jsonLoad fol (jsonPrettyStream jf [v]) = .ok v := by
  rw [jsonLoad, jsp_loadStream_prettyStream jf fol [v] (by simpa using h)]

/-! ## the indented text minus its layout is the compact text

  `jspStrip` is a JSON "minifier" on texts: it drops every whitespace character that stands
  outside a string literal and copies everything else (inside a literal a backslash protects the
  next character, so `\"` does not end the literal). -/

/-- state: inside a string literal? / just after a backslash inside one? -/
def jspStripAux : Bool → Bool → List Char → List Char
  | _, _, [] => []
  | false, _, c :: cs =>
    if jsonIsWs c = true then jspStripAux false false cs
    else c :: jspStripAux (decide (c = '"')) false cs
  | true, true, c :: cs => c :: jspStripAux true false cs
  | true, false, c :: cs =>
    c :: (if c = '\\' then jspStripAux true true cs
          else if c = '"' then jspStripAux false false cs
          else jspStripAux true false cs)

/-- remove the whitespace between the tokens of a JSON text -/
def jspStrip (cs : List Char) : List Char := jspStripAux false false cs

theorem jsp_strip_out_ws {c : Char} (h : jsonIsWs c = true) (cs : List Char) :
    jspStripAux false false (c :: cs) = jspStripAux false false cs := by
  simp [jspStripAux, h]

theorem jsp_strip_out_plain {c : Char} (h : jsonIsWs c = false) (hq : c ≠ '"') (cs : List Char) :
    jspStripAux false false (c :: cs) = c :: jspStripAux false false cs := by
  simp [jspStripAux, h, hq]

theorem jsp_strip_out_quote (cs : List Char) :
    jspStripAux false false ('"' :: cs) = '"' :: jspStripAux true false cs := by
  simp [jspStripAux, jsonIsWs]

theorem jsp_strip_in_plain {c : Char} (h1 : c ≠ '"') (h2 : c ≠ '\\') (cs : List Char) :
    jspStripAux true false (c :: cs) = c :: jspStripAux true false cs := by
  simp [jspStripAux, h1, h2]

theorem jsp_strip_in_esc (d : Char) (cs : List Char) :
    jspStripAux true false ('\\' :: d :: cs) = '\\' :: d :: jspStripAux true false cs := by
  simp [jspStripAux]

theorem jsp_strip_in_quote (cs : List Char) :
    jspStripAux true false ('"' :: cs) = '"' :: jspStripAux false false cs := by
  simp [jspStripAux]

theorem jsp_strip_in_plains : ∀ (ds cs : List Char), (∀ d ∈ ds, d ≠ '"' ∧ d ≠ '\\') →
    jspStripAux true false (ds ++ cs) = ds ++ jspStripAux true false cs
  | [], _, _ => rfl
  | d :: ds, cs, h => by
    rw [List.cons_append, jsp_strip_in_plain (h d List.mem_cons_self).1 (h d List.mem_cons_self).2,
      jsp_strip_in_plains ds cs fun x hx => h x (List.mem_cons_of_mem _ hx), List.cons_append]

theorem jsp_strip_escapeChar (c : Char) (tl : List Char) :
    jspStripAux true false (jsonEscapeChar c ++ tl) =
      jsonEscapeChar c ++ jspStripAux true false tl := by
  rcases js_escapeChar_cases c with ⟨e, h, -, -⟩ | ⟨x, y, z, w, h, -, -, ha⟩ | ⟨h, h1, h2, -⟩
  · rw [h]; exact jsp_strip_in_esc e tl
  · rw [h]
    exact (jsp_strip_in_esc 'u' _).trans (congrArg _ (congrArg _
      (jsp_strip_in_plains [x, y, z, w] tl fun d hd => ⟨(js_alnum_ne (ha d hd)).1,
        (js_alnum_ne (ha d hd)).2.1⟩)))
  · rw [h]; exact jsp_strip_in_plain h1 h2 tl

theorem jsp_strip_escape (s rest : List Char) :
    jspStripAux true false (jsonEscape s ++ '"' :: rest) =
      jsonEscape s ++ '"' :: jspStripAux false false rest := by
  induction s with
  | nil => simp [jsonEscape, jsp_strip_in_quote]
  | cons c s ih =>
    have : jsonEscape (c :: s) = jsonEscapeChar c ++ jsonEscape s := by simp [jsonEscape]
    rw [this, List.append_assoc, jsp_strip_escapeChar, ih, List.append_assoc]

theorem jsp_strip_quote (s rest : List Char) :
    jspStripAux false false (jsonQuote s ++ rest) = jsonQuote s ++ jspStripAux false false rest := by
  rw [js_quote_append, jsp_strip_out_quote, jsp_strip_escape, js_quote_append]

theorem jsp_strip_plain : ∀ (cs rest : List Char), (∀ c ∈ cs, jsonIsWs c = false ∧ c ≠ '"') →
    jspStripAux false false (cs ++ rest) = cs ++ jspStripAux false false rest
  | [], _, _ => rfl
  | c :: cs, rest, h => by
    rw [List.cons_append, jsp_strip_out_plain (h c List.mem_cons_self).1 (h c List.mem_cons_self).2,
      jsp_strip_plain cs rest fun d hd => h d (List.mem_cons_of_mem _ hd), List.cons_append]

theorem jsp_strip_ws {ws : List Char} (hw : ∀ c ∈ ws, jsonIsWs c = true) (cs : List Char) :
    jspStripAux false false (ws ++ cs) = jspStripAux false false cs := by
  induction ws with
  | nil => rfl
  | cons w ws ih =>
    rw [List.cons_append, jsp_strip_out_ws (hw w List.mem_cons_self),
      ih fun c hc => hw c (List.mem_cons_of_mem _ hc)]

theorem jsp_numChar_plain {c : Char} (h : js_numChar c = true) : jsonIsWs c = false ∧ c ≠ '"' := by
  refine ⟨?_, ?_⟩
  · cases hw : jsonIsWs c
    · rfl
    · simp only [jsonIsWs, Bool.or_eq_true, decide_eq_true_eq] at hw
      rcases hw with ((hw | hw) | hw) | hw <;> (subst hw; revert h; decide)
  · intro e; subst e; revert h; decide

theorem jsp_intChars_plain (i : Int) : ∀ c ∈ jsonIntChars i, jsonIsWs c = false ∧ c ≠ '"' := by
  obtain ⟨st, h, _⟩ := js_int_tok i
  intro c hc
  exact jsp_numChar_plain (js_tok_numChars _ _ _ h c hc)

mutual
/-- no float literal of the value contains whitespace or a quote (the hypothesis of the strip
    theorem; much weaker than `js_NumsOK`) -/
def jsp_PlainNums (jf : String → String) : Val → Prop
  | .flt r => ∀ c ∈ (jf r).toList, jsonIsWs c = false ∧ c ≠ '"'
  | .list xs => jsp_PlainNumsList jf xs
  | .map kvs => jsp_PlainNumsFields jf kvs
  | _ => True
def jsp_PlainNumsList (jf : String → String) : List Val → Prop
  | [] => True
  | x :: xs => jsp_PlainNums jf x ∧ jsp_PlainNumsList jf xs
def jsp_PlainNumsFields (jf : String → String) : Fields → Prop
  | [] => True
  | (_, v) :: rest => jsp_PlainNums jf v ∧ jsp_PlainNumsFields jf rest
end

mutual
theorem jsp_plain_of_numsOK (jf fol : String → String) : ∀ (v : Val), js_NumsOK jf fol v →
    jsp_PlainNums jf v
  | .null, _ | .bool _, _ | .int _, _ | .str _, _ => trivial
  | .flt r, h => by
    obtain ⟨st, hr, _⟩ := js_float_tok h
    intro c hc
    exact jsp_numChar_plain (js_tok_numChars _ _ _ hr c hc)
  | .list xs, h => jsp_plainList_of_numsOK jf fol xs h
  | .map kvs, h => jsp_plainFields_of_numsOK jf fol kvs h
theorem jsp_plainList_of_numsOK (jf fol : String → String) : ∀ (l : List Val),
    js_NumsOKList jf fol l → jsp_PlainNumsList jf l
  | [], _ => trivial
  | x :: xs, h => ⟨jsp_plain_of_numsOK jf fol x h.1, jsp_plainList_of_numsOK jf fol xs h.2⟩
theorem jsp_plainFields_of_numsOK (jf fol : String → String) : ∀ (l : Fields),
    js_NumsOKFields jf fol l → jsp_PlainNumsFields jf l
  | [], _ => trivial
  | (_, v) :: rest, h =>
    ⟨jsp_plain_of_numsOK jf fol v h.1, jsp_plainFields_of_numsOK jf fol rest h.2⟩
end

section layout
variable {nl : Nat → List Char} {sp : List Char} (jf : String → String)

mutual
theorem jsp_strip_layout (hnl : ∀ l, ∀ c ∈ nl l, jsonIsWs c = true)
    (hsp : ∀ c ∈ sp, jsonIsWs c = true) : ∀ (v : Val) (lvl : Nat) (rest : List Char),
    jsp_PlainNums jf v →
    jspStripAux false false (jsp_layout nl sp jf lvl v ++ rest) =
      jsonEncodeChars jf v ++ jspStripAux false false rest
  | .null, lvl, rest, _ => by
    simp only [jsp_layout]; rw [jsonEncodeChars]; exact jsp_strip_plain _ _ (by decide)
  | .bool true, lvl, rest, _ => by
    simp only [jsp_layout]; rw [jsonEncodeChars]; exact jsp_strip_plain _ _ (by decide)
  | .bool false, lvl, rest, _ => by
    simp only [jsp_layout]; rw [jsonEncodeChars]; exact jsp_strip_plain _ _ (by decide)
  | .int i, lvl, rest, _ => by
    simp only [jsp_layout]; rw [jsonEncodeChars]; exact jsp_strip_plain _ _ (jsp_intChars_plain i)
  | .flt r, lvl, rest, h => by
    simp only [jsp_layout]; rw [jsonEncodeChars]; exact jsp_strip_plain _ _ h
  | .str s, lvl, rest, _ => by
    simp only [jsp_layout]; rw [jsonEncodeChars]; exact jsp_strip_quote _ _
  | .list [], lvl, rest, _ => by
    rw [jsp_layout, jsonEncodeChars, jsonEncodeElems]; exact jsp_strip_plain _ _ (by decide)
  | .map [], lvl, rest, _ => by
    rw [jsp_layout, jsonEncodeChars, jsonEncodeMembers]; exact jsp_strip_plain _ _ (by decide)
  | .list (x :: xs), lvl, rest, h => by
    rw [jsp_layout, jsonEncodeChars, jsonEncodeElems, List.cons_append,
      jsp_strip_out_plain (by decide) (by decide), List.append_assoc, jsp_strip_ws (hnl _),
      List.append_assoc, jsp_strip_layout hnl hsp x (lvl + 1) _ h.1,
      jsp_strip_layoutElemsTail hnl hsp xs lvl rest h.2, List.cons_append, List.append_assoc]
  | .map ((k, v) :: ps), lvl, rest, h => by
    rw [jsp_layout, jsonEncodeChars, jsonEncodeMembers, List.cons_append,
      jsp_strip_out_plain (by decide) (by decide), List.append_assoc, jsp_strip_ws (hnl _),
      List.append_assoc, jsp_strip_quote, List.cons_append,
      jsp_strip_out_plain (by decide) (by decide), List.append_assoc, jsp_strip_ws hsp,
      List.append_assoc, jsp_strip_layout hnl hsp v (lvl + 1) _ h.1,
      jsp_strip_layoutMembersTail hnl hsp ps lvl rest h.2]
    simp
theorem jsp_strip_layoutElemsTail (hnl : ∀ l, ∀ c ∈ nl l, jsonIsWs c = true)
    (hsp : ∀ c ∈ sp, jsonIsWs c = true) : ∀ (l : List Val) (lvl : Nat) (rest : List Char),
    jsp_PlainNumsList jf l →
    jspStripAux false false (jsp_layoutElemsTail nl sp jf lvl l ++ rest) =
      jsonEncodeElemsTail jf l ++ jspStripAux false false rest
  | [], lvl, rest, _ => by
    rw [jsp_layoutElemsTail, jsonEncodeElemsTail, List.append_assoc, jsp_strip_ws (hnl _),
      List.singleton_append, jsp_strip_out_plain (by decide) (by decide), List.singleton_append]
  | x :: xs, lvl, rest, h => by
    rw [jsp_layoutElemsTail, jsonEncodeElemsTail, List.cons_append,
      jsp_strip_out_plain (by decide) (by decide), List.append_assoc, jsp_strip_ws (hnl _),
      List.append_assoc, jsp_strip_layout hnl hsp x (lvl + 1) _ h.1,
      jsp_strip_layoutElemsTail hnl hsp xs lvl rest h.2, List.cons_append, List.append_assoc]
theorem jsp_strip_layoutMembersTail (hnl : ∀ l, ∀ c ∈ nl l, jsonIsWs c = true)
    (hsp : ∀ c ∈ sp, jsonIsWs c = true) : ∀ (l : Fields) (lvl : Nat) (rest : List Char),
    jsp_PlainNumsFields jf l →
    jspStripAux false false (jsp_layoutMembersTail nl sp jf lvl l ++ rest) =
      jsonEncodeMembersTail jf l ++ jspStripAux false false rest
  | [], lvl, rest, _ => by
    rw [jsp_layoutMembersTail, jsonEncodeMembersTail, List.append_assoc, jsp_strip_ws (hnl _),
      List.singleton_append, jsp_strip_out_plain (by decide) (by decide), List.singleton_append]
  | (k, v) :: ps, lvl, rest, h => by
    rw [jsp_layoutMembersTail, jsonEncodeMembersTail, List.cons_append,
      jsp_strip_out_plain (by decide) (by decide), List.append_assoc, jsp_strip_ws (hnl _),
      List.append_assoc, jsp_strip_quote, List.cons_append,
      jsp_strip_out_plain (by decide) (by decide), List.append_assoc, jsp_strip_ws hsp,
      List.append_assoc, jsp_strip_layout hnl hsp v (lvl + 1) _ h.1,
      jsp_strip_layoutMembersTail hnl hsp ps lvl rest h.2]
    simp
end

end layout

theorem jsp_strip_elemsTail (jf : String → String) : ∀ (l : List Val) (lvl : Nat)
    (rest : List Char), jsp_PlainNumsList jf l →
    jspStripAux false false (jsonPrettyElemsTail jf lvl l ++ rest) =
      jsonEncodeElemsTail jf l ++ jspStripAux false false rest := by
  intro l lvl rest h
  rw [← jsp_layoutElemsTail_pretty]
  exact jsp_strip_layoutElemsTail jf jsp_newline_ws jsp_space_ws l lvl rest h

theorem jsp_strip_membersTail (jf : String → String) : ∀ (l : Fields) (lvl : Nat)
    (rest : List Char), jsp_PlainNumsFields jf l →
    jspStripAux false false (jsonPrettyMembersTail jf lvl l ++ rest) =
      jsonEncodeMembersTail jf l ++ jspStripAux false false rest := by
  intro l lvl rest h
  rw [← jsp_layoutMembersTail_pretty]
  exact jsp_strip_layoutMembersTail jf jsp_newline_ws jsp_space_ws l lvl rest h

theorem jsp_strip_encElemsTail (jf : String → String) : ∀ (l : List Val) (rest : List Char),
    jsp_PlainNumsList jf l →
    jspStripAux false false (jsonEncodeElemsTail jf l ++ rest) =
      jsonEncodeElemsTail jf l ++ jspStripAux false false rest := by
  intro l rest h
  have := jsp_strip_layoutElemsTail jf (nl := fun _ => []) (sp := []) (fun _ _ h => by cases h)
    (fun _ h => by cases h) l 0 rest h
  rwa [jsp_layoutElemsTail_compact] at this

theorem jsp_strip_encMembersTail (jf : String → String) : ∀ (l : Fields) (rest : List Char),
    jsp_PlainNumsFields jf l →
    jspStripAux false false (jsonEncodeMembersTail jf l ++ rest) =
      jsonEncodeMembersTail jf l ++ jspStripAux false false rest := by
  intro l rest h
  have := jsp_strip_layoutMembersTail jf (nl := fun _ => []) (sp := []) (fun _ _ h => by cases h)
    (fun _ h => by cases h) l 0 rest h
  rwa [jsp_layoutMembersTail_compact] at this

theorem jsp_strip_layout_eq {nl : Nat → List Char} {sp : List Char} (jf : String → String)
    (hnl : ∀ l, ∀ c ∈ nl l, jsonIsWs c = true) (hsp : ∀ c ∈ sp, jsonIsWs c = true) (v : Val)
    (lvl : Nat) (h : jsp_PlainNums jf v) :
    jspStrip (jsp_layout nl sp jf lvl v) = jsonEncodeChars jf v := by
  have := jsp_strip_layout jf hnl hsp v lvl [] h
  rwa [List.append_nil, jspStripAux, List.append_nil] at this

theorem jsp_strip_pretty_eq (jf : String → String) (v : Val) (lvl : Nat)
    (h : jsp_PlainNums jf v) : jspStrip (jsonPrettyChars jf lvl v) = jsonEncodeChars jf v := by
  rw [← jsp_layout_pretty]
  exact jsp_strip_layout_eq jf jsp_newline_ws jsp_space_ws v lvl h

theorem jsp_strip_enc_eq (jf : String → String) (v : Val) (h : jsp_PlainNums jf v) :
    jspStrip (jsonEncodeChars jf v) = jsonEncodeChars jf v := by
  have := jsp_strip_layout_eq jf (nl := fun _ => []) (sp := []) (fun _ _ h => by cases h)
    (fun _ h => by cases h) v 0 h
  rwa [jsp_layout_compact] at this

/-- the stripper also drops the newline after each document -/
theorem jsp_strip_stream (jf : String → String) : ∀ (vs : List Val), jsp_PlainNumsList jf vs →
    jspStrip (jsonPrettyStreamChars jf vs) = (vs.map (jsonEncodeChars jf)).flatten
  | [], _ => rfl
  | v :: vs, h => by
    have ih := jsp_strip_stream jf vs h.2
    rw [jspStrip] at ih ⊢
    rw [jsonPrettyStreamChars, ← jsp_layout_pretty,
      jsp_strip_layout jf jsp_newline_ws jsp_space_ws v 0 _ h.1, jsp_strip_out_ws (by decide), ih,
      List.map_cons, List.flatten_cons]

/-! ## values for the labelled tests -/

/-- `{"a": [1, {"b": []}], "c": {}}` -/
def jsp_demoVal : Val :=
  .map [("a", .list [.int 1, .map [("b", .list [])]]), ("c", .map [])]

/-- what Go's `Encoder.SetIndent("", "  ")` writes for it (without the final newline) -/
def jsp_demoText : String :=
  "{\n  \"a\": [\n    1,\n    {\n      \"b\": []\n    }\n  ],\n  \"c\": {}\n}"

theorem jsp_demoText_eq :
    String.ofList (jsonPrettyChars js_demoJf 0 jsp_demoVal) = jsp_demoText :=
  congrArg String.ofList (by decide +kernel)

theorem jsp_demoVal_repr : js_Repr js_demoJf js_demoFol jsp_demoVal := by
  refine ⟨by decide, ?_⟩
  simp only [jsp_demoVal, js_NumsOK, js_NumsOKFields, js_NumsOKList, and_true]
  decide

/-- floats (one where `%v` and JSON differ), an escaped key, scalars two levels down -/
def jsp_demoVal2 : Val :=
  .list [.flt "1.5", .flt "1e-07", .map [("k\n", .list [.bool true, .null, .str "a b\"c"])]]

def jsp_demoText2 : String :=
  "[\n  1.5,\n  1e-7,\n  {\n    \"k\\n\": [\n      true,\n      null,\n      \"a b\\\"c\"\n    ]\n  }\n]"

theorem jsp_demoText2_eq :
    String.ofList (jsonPrettyChars js_demoJf 0 jsp_demoVal2) = jsp_demoText2 :=
  congrArg String.ofList (by decide +kernel)

theorem jsp_demoVal2_repr : js_Repr js_demoJf js_demoFol jsp_demoVal2 := by
  refine ⟨by decide, ?_⟩
  simp only [jsp_demoVal2, js_NumsOK, js_NumsOKFields, js_NumsOKList, and_true]
  exact ⟨js_demo_floatOK _ (by simp), js_demo_floatOK _ (by simp)⟩

end Bkl
