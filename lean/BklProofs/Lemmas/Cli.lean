/-
  BklProofs.Lemmas.Cli — `cliRun` (cmd/bkl/main.go) in three parts: the root (`cliCfg`), the input loop as a fold
  (`cliMerge` over `cliStep`; it is `List.foldlM`, `cliMerge_eq_foldlM`), and what happens after it (`cliOutput`: the format test with `finalFormat`, then
  `outputDocuments`).  `cliRun_eq` is the one place where `cliRun` is unfolded.
-/
import Bkl.Files
import BklProofs.Lemmas.Except
namespace Bkl

/-- one input of the command line: resolve, remember the first format, merge -/
def cliStep (fs : FS) (cwd : Comps) (cfg : RootCfg) (skipParent : Bool)
    (acc : PState × Option String) (inp : String) : R (PState × Option String) :=
  match fileMatch fs cwd inp with
  | .error e => .error e
  | .ok (real, f) =>
    match (if skipParent then mergeFileAlone fs cfg acc.1 real else mergeFileLayers fs cfg acc.1 real) with
    | .error e => .error e
    | .ok st => .ok (st, if acc.2.isNone then some f else acc.2)

/-- the input loop of `cmd/bkl/main.go`, left to right -/
def cliMerge (fs : FS) (cwd : Comps) (cfg : RootCfg) (skipParent : Bool) :
    PState × Option String → List String → R (PState × Option String)
  | acc, [] => .ok acc
  | acc, inp :: rest =>
    match cliStep fs cwd cfg skipParent acc inp with
    | .error e => .error e
    | .ok acc' => cliMerge fs cwd cfg skipParent acc' rest

/-- what `bkl` does after the inputs are merged -/
def cliOutput (env : Vars) (opts : CliOpts) (acc : PState × Option String) : R CliResult :=
  let format := chooseFormat opts (acc.2.getD "")
  let format := if format == "" then "json-pretty" else format
  if !supportedExts.contains format then .error .unknownFormat
  else
    match outputDocuments (acc.1.docs.map (·.2)) env with
    | .error e => .error e
    | .ok outs =>
      .ok { format := format, docs := outs, merged := acc.1.docs.map (·.2),
            loadOrder := acc.1.known.map (·.1) }

def cliCfg (fs : FS) (cwd : Comps) (opts : CliOpts) : R RootCfg :=
  match opts.rootPath with
  | some r => setRoot fs { root := [], cwd := cwd } r
  | none => .ok { root := [], cwd := cwd }

theorem cliMerge_eq_foldlM (fs : FS) (cwd : Comps) (cfg : RootCfg) (sp : Bool) :
    ∀ (inputs : List String) (acc : PState × Option String),
      cliMerge fs cwd cfg sp acc inputs = inputs.foldlM (cliStep fs cwd cfg sp) acc
  | [], _ => rfl
  | inp :: rest, acc => by
    rw [cliMerge, foldlM_cons]
    cases cliStep fs cwd cfg sp acc inp with
    | error e => rfl
    | ok acc' => exact cliMerge_eq_foldlM fs cwd cfg sp rest acc'

theorem cliMerge_append (fs : FS) (cwd : Comps) (cfg : RootCfg) (sp : Bool) (l₁ l₂ : List String)
    (acc : PState × Option String) :
    cliMerge fs cwd cfg sp acc (l₁ ++ l₂) =
      match cliMerge fs cwd cfg sp acc l₁ with
      | .error e => .error e
      | .ok acc' => cliMerge fs cwd cfg sp acc' l₂ := by
  simp only [cliMerge_eq_foldlM, foldlM_append_R]
  cases l₁.foldlM (cliStep fs cwd cfg sp) acc <;> rfl

theorem forIn_eq_cliMerge (fs : FS) (cwd : Comps) (cfg : RootCfg) (sp : Bool)
    (b : String → PState × Option String → R (ForInStep (PState × Option String)))
    (hb : ∀ inp s, b inp s = ForInStep.yield <$> cliStep fs cwd cfg sp s inp)
    (inputs : List String) (acc : PState × Option String) :
    forIn inputs acc b = cliMerge fs cwd cfg sp acc inputs := by
  rw [show b = fun inp s => (fun c => ForInStep.yield c) <$> cliStep fs cwd cfg sp s inp from
      funext fun inp => funext fun s => hb inp s,
    List.forIn_yield_eq_foldlM (g := fun _ _ c => c), cliMerge_eq_foldlM]
  simp only [id_map']

theorem cliRun_eq (fs : FS) (cwd : Comps) (env : Vars) (opts : CliOpts) :
    cliRun fs cwd env opts =
      match cliCfg fs cwd opts with
      | .error e => .error e
      | .ok cfg =>
        match cliMerge fs cwd cfg opts.skipParent (PState.empty, none) opts.inputs with
        | .error e => .error e
        | .ok acc => cliOutput env opts acc := by
  unfold cliRun cliCfg
  extract_lets -underBinder cfg0 rest
  have key : ∀ cfg, rest () cfg =
      match cliMerge fs cwd cfg opts.skipParent (PState.empty, none) opts.inputs with
      | .error e => .error e
      | .ok acc => cliOutput env opts acc := by
    intro cfg
    simp only [rest]
    rw [forIn_eq_cliMerge fs cwd cfg opts.skipParent _ (fun inp s => ?_)]
    · cases cliMerge fs cwd cfg opts.skipParent (PState.empty, none) opts.inputs with
      | error e => rfl
      | ok s =>
        simp only [ok_bind, cliOutput]
        cases supportedExts.contains
            (if (chooseFormat opts (s.2.getD "") == "") = true then "json-pretty"
              else chooseFormat opts (s.2.getD ""))
        · rfl
        · simp only [Bool.not_true, Bool.false_eq_true, if_false]
          cases outputDocuments (s.1.docs.map (·.2)) env <;> rfl
    · unfold cliStep
      cases fileMatch fs cwd inp with
      | error e => rfl
      | ok rf =>
        simp only [ok_bind]
        cases opts.skipParent <;> cases s.2.isNone <;>
          simp only [Bool.false_eq_true, if_false, if_true]
        · cases mergeFileLayers fs cfg s.1 rf.1 <;> rfl
        · cases mergeFileLayers fs cfg s.1 rf.1 <;> rfl
        · cases mergeFileAlone fs cfg s.1 rf.1 <;> rfl
        · cases mergeFileAlone fs cfg s.1 rf.1 <;> rfl
  cases opts.rootPath with
  | none => exact key _
  | some r =>
    simp only []
    cases setRoot fs cfg0 r with
    | error e => rfl
    | ok cfg => exact key cfg

/-! ## after the input loop: the format test -/

/-- the format `cliRun` ends up with: the chosen one, `json-pretty` when that is empty -/
def finalFormat (opts : CliOpts) (firstInputFmt : String) : String :=
  if chooseFormat opts firstInputFmt == "" then "json-pretty" else chooseFormat opts firstInputFmt

theorem cliOutput_eq (env : Vars) (opts : CliOpts) (acc : PState × Option String) :
    cliOutput env opts acc =
      if supportedExts.contains (finalFormat opts (acc.2.getD "")) then
        (outputDocuments (acc.1.docs.map (·.2)) env).map fun outs =>
          { format := finalFormat opts (acc.2.getD ""), docs := outs,
            merged := acc.1.docs.map (·.2), loadOrder := acc.1.known.map (·.1) }
      else .error .unknownFormat := by
  show (if (!supportedExts.contains (finalFormat opts (acc.2.getD ""))) = true then _ else _) = _
  cases supportedExts.contains (finalFormat opts (acc.2.getD ""))
  · rfl
  · cases outputDocuments (acc.1.docs.map (·.2)) env <;> rfl

theorem cliRun_ok {fs : FS} {cwd : Comps} {env : Vars} {opts : CliOpts} {res : CliResult}
    (h : cliRun fs cwd env opts = .ok res) : ∃ acc, cliOutput env opts acc = .ok res := by
  rw [cliRun_eq] at h
  split at h
  · cases h
  · split at h
    · cases h
    · exact ⟨_, h⟩

theorem cliRun_no_inputs (fs : FS) (cwd : Comps) (env : Vars) (opts : CliOpts)
    (hr : opts.rootPath = none) (hi : opts.inputs = []) :
    cliRun fs cwd env opts = cliOutput env opts (PState.empty, none) := by
  rw [cliRun_eq, cliCfg, hr, hi]; rfl

end Bkl
