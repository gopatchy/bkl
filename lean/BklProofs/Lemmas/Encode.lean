/-
  BklProofs.Lemmas.Encode — helper lemmas and specification functions for C14 (`$encode`):
  * `String.splitOn ":"` on specs with and without arguments (instances of the one-character lemmas of
    Lemmas/SplitOn), so that the argument parsing of `encodeString` can be computed for concrete and for
    symbolic specs;
  * independent specification functions for the list/map transforms, and the table `encodeCmd` of all commands over
    them: `encodeString obj spec = encodeCmd obj cmd args` for `spec.splitOn ":" = cmd :: args` (`encodeString_eq`), the
    one place where `encodeString` is unfolded;
  * an independent RFC 4648 base64 *decoder* and the round-trip proof;
  * `sha256Hex` with its `for` loops turned into folds, which the kernel can evaluate on test vectors,
    and the compression function on lists (`sha256CompressL`), the form they are evaluated in.
-/
import Bkl.Encode
import BklProofs.Lemmas.SplitOn
namespace Bkl
open String

deriving instance DecidableEq for EncRes   -- only used by the test `example`s

/-! ## `String.splitOn ":"` -/

theorem splitOn_colon_cons (cmd rest : String) (h : ':' ∉ cmd.toList) :
    (cmd ++ ":" ++ rest).splitOn ":" = cmd :: rest.splitOn ":" :=
  splitOn_char_cons ':' cmd rest h

theorem splitOn_colon_two (cmd arg : String) (h : ':' ∉ cmd.toList) (h2 : ':' ∉ arg.toList) :
    (cmd ++ ":" ++ arg).splitOn ":" = [cmd, arg] := by
  rw [splitOn_colon_cons _ _ h, splitOn_colon_none _ h2]

theorem splitOn_colon_length_pos (s : String) : 1 ≤ (s.splitOn ":").length :=
  splitOn_char_length_pos ':' s

theorem exists_cons_splitOn (spec : String) : ∃ p ps, spec.splitOn ":" = p :: ps := by
  have hlen := splitOn_colon_length_pos spec
  cases h : spec.splitOn ":" with
  | nil => simp [h] at hlen
  | cons p ps => exact ⟨p, ps, rfl⟩

/-! ## concrete argument lists -/

theorem parts_sha256 : "sha256".splitOn ":" = ["sha256"] := splitOn_colon_none _ (by decide)
theorem parts_tolist_eq : "tolist:=".splitOn ":" = ["tolist", "="] :=
  splitOn_colon_two "tolist" "=" (by decide) (by decide)
theorem parts_tolist_colon : "tolist::".splitOn ":" = ["tolist", "", ""] := by
  rw [splitOn_colon]; decide +kernel
theorem parts_prefix_dd : "prefix:--".splitOn ":" = ["prefix", "--"] :=
  splitOn_colon_two "prefix" "--" (by decide) (by decide)
theorem parts_join_ab : "join:a:b".splitOn ":" = ["join", "a", "b"] :=
  (splitOn_colon_cons "join" "a:b" (by decide)).trans
    (congrArg _ (splitOn_colon_two "a" "b" (by decide) (by decide)))

theorem parts_with_arg (cmd rest : String) (h : ':' ∉ cmd.toList) :
    ∃ p ps, (cmd ++ ":" ++ rest).splitOn ":" = cmd :: p :: ps := by
  rw [splitOn_colon_cons _ _ h]
  match rest.splitOn ":", splitOn_colon_length_pos rest with
  | p :: ps, _ => exact ⟨p, ps, rfl⟩

theorem parts_with_arg' (cmd rest : String) (h : ':' ∉ cmd.toList) :
    ∃ p ps, ((cmd ++ ":") ++ rest).splitOn ":" = cmd :: p :: ps := parts_with_arg cmd rest h

/-! ## specification functions (written independently of `encodeString`) -/

/-- `join:d` — the `%v` renderings of the items separated by `d` -/
def joinSpec (d : String) : Val → EncRes
  | .list xs => .ok (.str (d.intercalate (xs.map fmtV)))
  | _ => .err .invalidType

/-- `prefix:p` — every item rendered with `%v` and prefixed -/
def prefixSpec (p : String) : Val → EncRes
  | .list xs => .ok (.list (xs.map fun x => .str (p ++ fmtV x)))
  | _ => .err .invalidType

/-- one level of list nesting removed -/
def flattenItems : List Val → List Val
  | [] => []
  | .list inner :: rest => inner ++ flattenItems rest
  | x :: rest => x :: flattenItems rest

def flattenSpec : Val → EncRes
  | .list xs => .ok (.list (flattenItems xs))
  | _ => .err .invalidType

/-- the values of a map, in key order -/
def fieldValues : Fields → List Val
  | [] => []
  | (_, v) :: rest => v :: fieldValues rest

def valuesSpec : Val → EncRes
  | .map kvs => .ok (.list (fieldValues kvs))
  | _ => .err .invalidType

/-- one `key<d>value` item; an empty-string value gives the bare key -/
def tolistItem (d k : String) (v : Val) : Val :=
  if v = .str "" then .str k else .str (k ++ d ++ fmtV v)

/-- the items produced by one key: list values fan out -/
def tolistEntry (d k : String) : Val → List Val
  | .list items => items.map (tolistItem d k)
  | v => [tolistItem d k v]

def tolistFields (d : String) : Fields → List Val
  | [] => []
  | (k, v) :: rest => tolistEntry d k v ++ tolistFields d rest

/-- a list of maps: the concatenation; anything that is not a map is a type error -/
def tolistMaps (d : String) : List Val → Except Err (List Val)
  | [] => .ok []
  | .map kvs :: rest =>
    match tolistMaps d rest with
    | .ok l => .ok (tolistFields d kvs ++ l)
    | .error e => .error e
  | _ :: _ => .error .invalidType

def tolistSpec (d : String) : Val → EncRes
  | .map kvs => .ok (.list (tolistFields d kvs))
  | .list xs =>
    match tolistMaps d xs with
    | .ok l => .ok (.list l)
    | .error e => .err e
  | _ => .err .invalidType

/-- one step of the left fold of `$encode: [a, b, …]` -/
def encStep (acc : EncRes) (spec : Val) : EncRes :=
  match acc with
  | .ok v => encodeAny v spec
  | e => e

theorem flattenList_eq (xs : List Val) : flattenList xs = flattenItems xs := by
  induction xs with
  | nil => rfl
  | cons x xs ih =>
    rw [flattenList, List.flatMap_cons, ← flattenList, ih]
    cases x <;> rfl

theorem map_snd_eq (kvs : Fields) : kvs.map (·.2) = fieldValues kvs := by
  induction kvs with
  | nil => rfl
  | cons kv rest ih => exact congrArg (kv.2 :: ·) ih

theorem toListValue_eq (d k : String) : toListValue k d = tolistItem d k :=
  funext fun v => by simp only [toListValue, tolistItem, beq_iff_eq]

theorem toListMap_map (d : String) (kvs : Fields) :
    toListMap (.map kvs) d = .ok (tolistFields d kvs) := by
  refine congrArg Except.ok ?_
  induction kvs with
  | nil => rfl
  | cons kv rest ih =>
    obtain ⟨k, v⟩ := kv
    rw [List.flatMap_cons, tolistFields, ih]
    cases v <;> simp only [tolistEntry, toListValue_eq]

theorem toListMap_nonmap (d : String) (v : Val) (h : ∀ kvs, v ≠ .map kvs) :
    toListMap v d = .error .invalidType := by
  cases v <;> first | rfl | exact absurd rfl (h _)

theorem toListList_eq (d : String) (xs : List Val) : toListList xs d = tolistMaps d xs := by
  induction xs with
  | nil => rfl
  | cons x xs ih =>
    unfold toListList at ih ⊢
    rw [List.mapM_cons]
    cases x with
    | map kvs =>
      rw [toListMap_map, tolistMaps, ← ih]
      cases List.mapM (fun x => toListMap x d) xs <;> rfl
    | _ => rfl

theorem tolistMaps_nonmap (d : String) {xs : List Val} {x : Val} (hx : x ∈ xs)
    (hm : ∀ m, x ≠ .map m) : tolistMaps d xs = .error .invalidType := by
  induction xs with
  | nil => cases hx
  | cons y ys ih =>
    cases y with
    | map kvs =>
      rw [tolistMaps, ih ((List.mem_cons.1 hx).resolve_left (hm kvs))]
    | _ => rfl

/-! ## `encodeString` as a table

  `encodeCmd obj cmd args` says what the command `cmd` makes of `obj` and its arguments, row by row, with the
  specification functions above on the right; `encodeString obj spec` is the row for the command and the arguments
  that `spec.splitOn ":"` gives (`encodeString_eq`).  The rows are tested in the order of process2EncodeString. -/

def noArgs (args : List String) (r : EncRes) : EncRes := if args = [] then r else .err .invalidArguments

def oneArg (args : List String) (f : String → EncRes) : EncRes :=
  match args with
  | [a] => f a
  | _ => .err .invalidArguments

/-- `flags`: `tolist:=`, then `prefix:--` -/
def flagsSpec (obj : Val) : EncRes :=
  match tolistSpec "=" obj with
  | .ok v => prefixSpec "--" v
  | r => r

def encodeCmd (obj : Val) (cmd : String) (args : List String) : EncRes :=
  if cmd = "base64" then noArgs args (.ok (.str (base64 (fmtV obj))))
  else if cmd = "flags" then noArgs args (flagsSpec obj)
  else if cmd = "flatten" then noArgs args (flattenSpec obj)
  else if cmd = "join" then
    (match args with
     | [] => joinSpec "" obj
     | [d] => joinSpec d obj
     | _ => .err .invalidArguments)
  else if cmd = "prefix" then oneArg args fun p => prefixSpec p obj
  else if cmd = "sha256" then noArgs args (.ok (.str (sha256Hex (fmtV obj))))
  else if cmd = "tolist" then oneArg args fun d => tolistSpec d obj
  else if cmd = "values" then noArgs args (valuesSpec obj)
  else noArgs args (if isCodecFormat cmd then .codec cmd obj else .err .unknownFormat)

theorem litCase {α : Type} {x lit : String} (a b : α) :
    dite (x = lit) (Eq.ndrec_symm (motive := fun _ => α) a) (fun _ => b) = if x = lit then a else b := by
  split
  · subst ‹x = lit›; rfl
  · rfl

/-- The `match cmd with | "base64" => … | "flags" => … | _ => …` in `encodeString` (Bkl/Encode.lean) is compiled to the
    auxiliary definition `encodeString.match_3`: a chain of `dite`s on `cmd = "…"`, one per pattern, in the order
    of the patterns.  With a result type that does not depend on `cmd` it is the chain of `if`s below.  Should the
    patterns of that `match` change, `set_option pp.match false in #print Bkl.encodeString` shows the name and the
    arguments to use here. -/
theorem strMatch_eq_ite {α : Type} (cmd : String) (h1 h2 h3 h4 h5 h6 h7 h8 : Unit → α) (h9 : String → α) :
    encodeString.match_3 (fun _ => α) cmd h1 h2 h3 h4 h5 h6 h7 h8 h9
      = if cmd = "base64" then h1 () else if cmd = "flags" then h2 () else if cmd = "flatten" then h3 ()
        else if cmd = "join" then h4 () else if cmd = "prefix" then h5 () else if cmd = "sha256" then h6 ()
        else if cmd = "tolist" then h7 () else if cmd = "values" then h8 () else h9 cmd := by
  unfold encodeString.match_3
  rw [litCase, litCase, litCase, litCase, litCase, litCase, litCase, litCase]

theorem noArgs_eq (cmd : String) (args : List String) (r : EncRes) :
    (if ((cmd :: args).length != 1) = true then .err .invalidArguments else r) = noArgs args r := by
  cases args <;> rfl

theorem oneArg_eq (cmd : String) (args : List String) (f : String → EncRes) :
    (if ((cmd :: args).length != 2) = true then .err .invalidArguments else f ((cmd :: args).getD 1 ""))
      = oneArg args f := by
  match args with
  | [] | [_] | _ :: _ :: _ => rfl

theorem flattenSpec_eq (obj : Val) :
    (match obj with | .list xs => EncRes.ok (.list (flattenList xs)) | _ => .err .invalidType) = flattenSpec obj := by
  cases obj <;> simp only [flattenSpec, flattenList_eq]

theorem valuesSpec_eq (obj : Val) :
    (match obj with | .map kvs => EncRes.ok (.list (kvs.map (·.2))) | _ => .err .invalidType) = valuesSpec obj := by
  cases obj <;> simp only [valuesSpec, map_snd_eq]

theorem joinSpec_eq (d : String) (obj : Val) :
    (match toStringListPermissive obj with
      | .error e => EncRes.err e
      | .ok strs => .ok (.str (d.intercalate strs))) = joinSpec d obj := by
  cases obj <;> rfl

theorem prefixSpec_eq (p : String) (obj : Val) :
    (match toStringListPermissive obj with
      | .error e => EncRes.err e
      | .ok strs => .ok (.list (strs.map fun s => .str (p ++ s)))) = prefixSpec p obj := by
  cases obj with
  | list xs => exact congrArg (fun l => EncRes.ok (Val.list l)) List.map_map
  | _ => rfl

theorem tolistSpec_eq (d : String) (obj : Val) :
    (match (match obj with | .list xs => toListList xs d | o => toListMap o d) with
      | .error e => EncRes.err e
      | .ok l => .ok (.list l)) = tolistSpec d obj := by
  cases obj with
  | map kvs => simp only [toListMap_map]; rfl
  | list xs => simp only [toListList_eq, tolistSpec]; cases tolistMaps d xs <;> rfl
  | _ => rfl

theorem flagsSpec_eq (obj : Val) :
    (match (match obj with | .list xs => toListList xs "=" | o => toListMap o "=") with
      | .error e => EncRes.err e
      | .ok l => .ok (.list (l.map fun x => .str ("--" ++ fmtV x)))) = flagsSpec obj := by
  rw [flagsSpec, ← tolistSpec_eq]
  cases (match obj with | .list xs => toListList xs "=" | o => toListMap o "=") <;> rfl

theorem encodeString_eq (obj : Val) {spec cmd : String} {args : List String}
    (h : spec.splitOn ":" = cmd :: args) : encodeString obj spec = encodeCmd obj cmd args := by
  unfold encodeString encodeCmd
  rw [h]
  simp only [List.headD_cons, strMatch_eq_ite]
  -- the same chain of tests on both sides: row by row
  refine ite_congr rfl (fun _ => noArgs_eq ..) fun _ => ite_congr rfl (fun _ => ?flags) fun _ =>
    ite_congr rfl (fun _ => ?flatten) fun _ => ite_congr rfl (fun _ => ?join) fun _ =>
    ite_congr rfl (fun _ => ?pre) fun _ => ite_congr rfl (fun _ => noArgs_eq ..) fun _ =>
    ite_congr rfl (fun _ => ?tolist) fun _ => ite_congr rfl (fun _ => ?values) fun _ => noArgs_eq ..
  case flags => exact (noArgs_eq ..).trans (congrArg _ (flagsSpec_eq obj))
  case flatten => exact (noArgs_eq ..).trans (congrArg _ (flattenSpec_eq obj))
  case values => exact (noArgs_eq ..).trans (congrArg _ (valuesSpec_eq obj))
  case pre => exact (oneArg_eq cmd args _).trans (congrArg _ (funext fun p => prefixSpec_eq p obj))
  case tolist => exact (oneArg_eq cmd args _).trans (congrArg _ (funext fun d => tolistSpec_eq d obj))
  case join =>
    match args with
    | [] | [_] => exact joinSpec_eq _ obj
    | _ :: _ :: _ => rfl

theorem tolistMaps_error (d : String) : ∀ (xs : List Val) {e : Err}, tolistMaps d xs = .error e → e = .invalidType
  | [], _, h => by cases h
  | .map kvs :: rest, e, h => by
    rw [tolistMaps] at h
    cases hr : tolistMaps d rest with
    | ok l => rw [hr] at h; cases h
    | error e' => rw [hr] at h; cases h; exact tolistMaps_error d rest hr
  | .null :: _, _, h | .bool _ :: _, _, h | .int _ :: _, _, h | .flt _ :: _, _, h | .str _ :: _, _, h
  | .list _ :: _, _, h => by cases h; rfl

theorem tolistSpec_cases (d : String) (obj : Val) :
    (∃ l, tolistSpec d obj = .ok (.list l)) ∨ tolistSpec d obj = .err .invalidType := by
  cases obj with
  | map kvs => exact .inl ⟨_, rfl⟩
  | list xs =>
    rw [tolistSpec]
    cases h : tolistMaps d xs with
    | ok l => exact .inl ⟨_, rfl⟩
    | error e => cases tolistMaps_error d xs h; exact .inr rfl
  | _ => exact .inr rfl

/-- the commands that are transforms of the model; every other name is taken for a format name -/
def transformNames : List String := ["base64", "flags", "flatten", "join", "prefix", "sha256", "tolist", "values"]

theorem encodeCmd_other (obj : Val) {cmd : String} (h : cmd ∉ transformNames) (args : List String) :
    encodeCmd obj cmd args
      = noArgs args (if isCodecFormat cmd then .codec cmd obj else .err .unknownFormat) := by
  simp only [transformNames, List.mem_cons, List.not_mem_nil, or_false, not_or] at h
  simp only [encodeCmd, h, if_false]

/-- `prefix:p` for every prefix `p` without ':' -/
theorem C14_prefix (obj : Val) (p : String) (hp : ':' ∉ p.toList) :
    encodeString obj ("prefix:" ++ p) = prefixSpec p obj :=
  encodeString_eq obj (splitOn_colon_two "prefix" p (by decide) hp)

/-- `tolist:d` for every delimiter `d` without ':' -/
theorem C14_tolist (obj : Val) (d : String) (hd : ':' ∉ d.toList) :
    encodeString obj ("tolist:" ++ d) = tolistSpec d obj :=
  encodeString_eq obj (splitOn_colon_two "tolist" d (by decide) hd)

theorem encodeString_flags (obj : Val) : encodeString obj "flags" = flagsSpec obj :=
  encodeString_eq obj (splitOn_colon_none _ (by decide))

theorem encodeString_tolist_eq (obj : Val) : encodeString obj "tolist:=" = tolistSpec "=" obj :=
  C14_tolist obj "=" (by decide)

theorem encodeString_prefix_dd (obj : Val) : encodeString obj "prefix:--" = prefixSpec "--" obj :=
  C14_prefix obj "--" (by decide)

/-! ## base64: an independent decoder and the round trip -/

/-- RFC 4648 Table 1, inverted, written from the character ranges (not from `b64Alphabet`). -/
def b64Idx (c : Char) : Option Nat :=
  let n := c.toNat
  if 65 ≤ n ∧ n ≤ 90 then some (n - 65)
  else if 97 ≤ n ∧ n ≤ 122 then some (n - 71)
  else if 48 ≤ n ∧ n ≤ 57 then some (n + 4)
  else if n = 43 then some 62
  else if n = 47 then some 63
  else none

/-- RFC 4648 §4 decoder (padding required, non-canonical padding bits rejected). -/
def b64DecodeChars : List Char → Option (List UInt8)
  | [] => some []
  | c0 :: c1 :: c2 :: c3 :: rest =>
    match b64Idx c0, b64Idx c1 with
    | some a, some b =>
      if c3 = '=' then
        if rest ≠ [] then none
        else if c2 = '=' then
          (if b % 16 = 0 then some [UInt8.ofNat (a * 4 + b / 16)] else none)
        else match b64Idx c2 with
          | some c =>
            if c % 4 = 0 then some [UInt8.ofNat (a * 4 + b / 16), UInt8.ofNat ((b % 16) * 16 + c / 4)]
            else none
          | none => none
      else match b64Idx c2, b64Idx c3, b64DecodeChars rest with
        | some c, some d, some tl =>
          some (UInt8.ofNat (a * 4 + b / 16) :: UInt8.ofNat ((b % 16) * 16 + c / 4)
            :: UInt8.ofNat ((c % 4) * 64 + d) :: tl)
        | _, _, _ => none
    | _, _ => none
  | _ => none

theorem b64Idx_table : ∀ n, n < 64 → b64Idx (b64Char n) = some n := by
  unfold b64Char b64Alphabet
  -- the alphabet literal is `String.ofList` of its characters: its `toList` is that list
  rw [String.toList_ofList]
  decide +kernel

theorem b64Char_mod (k : Nat) : b64Char k = b64Char (k % 64) := by
  simp [b64Char]

theorem b64Idx_b64Char (k : Nat) : b64Idx (b64Char k) = some (k % 64) := by
  rw [b64Char_mod]; exact b64Idx_table _ (Nat.mod_lt _ (by decide))

theorem b64Char_ne_pad (k : Nat) : b64Char k ≠ '=' := by
  intro h
  have := b64Idx_b64Char k
  rw [h] at this
  cases this   -- `b64Idx '='` evaluates to `none`

/-- the four sextets of the 24-bit group `a b c` give the three bytes back -/
theorem b64_group {a b c n : Nat} (ha : a < 256) (hb : b < 256) (hc : c < 256)
    (hn : n = a * 65536 + b * 256 + c) :
    n / 262144 % 64 * 4 + n / 4096 % 64 / 16 = a ∧
    n / 4096 % 64 % 16 * 16 + n / 64 % 64 / 4 = b ∧
    n / 64 % 64 % 4 * 64 + n % 64 = c := by omega

theorem b64_roundtrip (bs : List UInt8) : b64DecodeChars (b64EncodeBytes bs) = some bs := by
  fun_induction b64EncodeBytes bs with
  | case1 a b c rest n ih =>
    obtain ⟨h1, h2, h3⟩ := b64_group a.toNat_lt b.toNat_lt c.toNat_lt (Eq.refl n)
    -- `rw`, not `simp only`: the unfolding `simp` produces is far slower for the kernel to check
    rw [b64DecodeChars]
    simp only [b64Idx_b64Char, b64Char_ne_pad, if_false, ih, h1, h2, h3, UInt8.ofNat_toNat]
  | case2 a b n =>
    have h3 : n / 64 % 64 % 4 = 0 := by omega
    obtain ⟨h1, h2, -⟩ :=
      b64_group (n := n) (c := 0) a.toNat_lt b.toNat_lt (by decide) (by omega)
    rw [b64DecodeChars]
    simp only [b64Idx_b64Char, b64Char_ne_pad, if_false, if_true, ne_eq, not_true_eq_false,
      h1, h2, h3, UInt8.ofNat_toNat]
  | case3 a n =>
    have h2 : n / 4096 % 64 % 16 = 0 := by omega
    obtain ⟨h1, -, -⟩ :=
      b64_group (n := n) (b := 0) (c := 0) a.toNat_lt (by decide) (by decide) (by omega)
    rw [b64DecodeChars]
    simp only [b64Idx_b64Char, if_true, ne_eq, not_true_eq_false, if_false, h1, h2,
      UInt8.ofNat_toNat]
  | case4 => rfl

/-! ## `ByteArray.toList` (a well-founded loop) in terms of the underlying array -/

theorem byteArray_toList_loop (bs : ByteArray) (i : Nat) (r : List UInt8) :
    ByteArray.toList.loop bs i r = r.reverse ++ bs.data.toList.drop i := by
  fun_induction ByteArray.toList.loop bs i r with
  | case1 i r h ih =>
    rw [ih]
    have h' : i < bs.data.toList.length := by rw [Array.length_toList]; exact h
    rw [List.drop_eq_getElem_cons h']
    have h'' : i < bs.data.size := h
    simp only [ByteArray.get!, List.reverse_cons, List.append_assoc, List.singleton_append,
      Array.getElem_toList]
    rw [getElem!_pos bs.data i h'']
  | case2 i r h =>
    have : bs.data.toList.length ≤ i := by rw [Array.length_toList]; exact Nat.le_of_not_lt h
    simp [List.drop_eq_nil_of_le this]

theorem byteArray_toList (bs : ByteArray) : bs.toList = bs.data.toList := by
  simp [ByteArray.toList, byteArray_toList_loop]


/-! ## a stack stops at its first failure -/

theorem encStep_foldl_stop {r : EncRes} (h : ∀ v, r ≠ .ok v) (specs : List Val) :
    specs.foldl encStep r = r := by
  induction specs with
  | nil => rfl
  | cons s rest ih => cases r <;> first | exact absurd rfl (h _) | exact ih

/-! ## SHA-256: kernel-evaluable form (the model's `for` loops over ranges are well-founded loops
    that `decide` cannot unfold; they are rewritten into `List.foldl`) -/


theorem forIn_range_id {β γ : Type} (f : Nat → β → β) (init : β) (a b : Nat) (k : β → γ) :
    (do let s ← forIn [a:b] init (fun i s => pure (ForInStep.yield (f i s))); pure (k s) : Id γ).run
      = k ((List.range' a (b - a)).foldl (fun s i => f i s) init) := by
  simp only [Std.Legacy.Range.forIn_eq_forIn_range', Std.Legacy.Range.size]
  rw [List.forIn_pure_yield_eq_foldl]
  have : (b - a + 1 - 1) / 1 = b - a := by simp
  rw [this]
  rfl

def schedStep (w : Array UInt32) (i : Nat) : Array UInt32 :=
  let w15 := w.getD (i - 15) 0
  let w2 := w.getD (i - 2) 0
  let s0 := rotr w15 7 ^^^ rotr w15 18 ^^^ (w15 >>> 3)
  let s1 := rotr w2 17 ^^^ rotr w2 19 ^^^ (w2 >>> 10)
  w.push (w.getD (i - 16) 0 + s0 + w.getD (i - 7) 0 + s1)

theorem sha256Schedule_eq (block : Array UInt32) :
    sha256Schedule block = (List.range' 16 48).foldl schedStep block :=
  forIn_range_id (fun i w => schedStep w i) block 16 64 id

abbrev ShaSt := UInt32 × UInt32 × UInt32 × UInt32 × UInt32 × UInt32 × UInt32 × UInt32

def compressStep (w : Array UInt32) (s : ShaSt) (i : Nat) : ShaSt :=
  let a := s.1; let b := s.2.1; let c := s.2.2.1; let d := s.2.2.2.1
  let e := s.2.2.2.2.1; let f := s.2.2.2.2.2.1; let g := s.2.2.2.2.2.2.1; let hh := s.2.2.2.2.2.2.2
  let s1 := rotr e 6 ^^^ rotr e 11 ^^^ rotr e 25
  let ch := (e &&& f) ^^^ ((~~~ e) &&& g)
  let t1 := hh + s1 + ch + sha256K.getD i 0 + w.getD i 0
  let s0 := rotr a 2 ^^^ rotr a 13 ^^^ rotr a 22
  let maj := (a &&& b) ^^^ (a &&& c) ^^^ (b &&& c)
  let t2 := s0 + maj
  ⟨t1 + t2, a, b, c, d + t1, e, f, g⟩

def compressFinish (h : Array UInt32) (s : ShaSt) : Array UInt32 :=
  #[h.getD 0 0 + s.1, h.getD 1 0 + s.2.1, h.getD 2 0 + s.2.2.1, h.getD 3 0 + s.2.2.2.1,
    h.getD 4 0 + s.2.2.2.2.1, h.getD 5 0 + s.2.2.2.2.2.1, h.getD 6 0 + s.2.2.2.2.2.2.1,
    h.getD 7 0 + s.2.2.2.2.2.2.2]

theorem sha256Compress_eq (h block : Array UInt32) :
    sha256Compress h block =
      compressFinish h ((List.range' 0 64).foldl (compressStep (sha256Schedule block))
        ⟨h.getD 0 0, h.getD 1 0, h.getD 2 0, h.getD 3 0, h.getD 4 0, h.getD 5 0, h.getD 6 0, h.getD 7 0⟩) :=
  forIn_range_id (fun i s => compressStep (sha256Schedule block) s i)
    ⟨h.getD 0 0, h.getD 1 0, h.getD 2 0, h.getD 3 0, h.getD 4 0, h.getD 5 0, h.getD 6 0, h.getD 7 0⟩ 0 64 (compressFinish h)

/-- kernel-evaluable form of `sha256Compress` (folds instead of `for` loops) -/
def sha256Compress' (h block : Array UInt32) : Array UInt32 :=
  compressFinish h ((List.range' 0 64).foldl (compressStep ((List.range' 16 48).foldl schedStep block))
    ⟨h.getD 0 0, h.getD 1 0, h.getD 2 0, h.getD 3 0, h.getD 4 0, h.getD 5 0, h.getD 6 0, h.getD 7 0⟩)

theorem sha256Compress_eq' : sha256Compress = sha256Compress' := by
  funext h block
  rw [sha256Compress_eq, sha256Schedule_eq]; rfl

/-- `sha256Hex` on the UTF-8 bytes, in kernel-evaluable form -/
def sha256HexBytes (bytes : List UInt8) : String :=
  let ws := bytesToWords (sha256Pad bytes)
  let h := (chunks16 ws (ws.length + 1)).foldl sha256Compress' sha256Init
  String.ofList (h.toList.flatMap hexWord)

theorem sha256Hex_eq (s : String) : sha256Hex s = sha256HexBytes s.toUTF8.data.toList := by
  simp only [sha256Hex, sha256HexBytes, sha256Compress_eq', byteArray_toList]

/-! ## SHA-256 on lists

  The message schedule of FIPS 180-4, `W t = σ1 (W (t-2)) + W (t-7) + σ0 (W (t-15)) + W (t-16)`, on a
  list that holds the words NEWEST FIRST: the four words the recurrence reads stand at positions 1, 6,
  14 and 15, and the new word is consed on (`schedNext`); the rounds fold over the round constants
  paired with the schedule words (`roundStep`).  `sha256CompressL` is `sha256Compress'` written this
  way, and the two are equal (`sha256Compress'_eq_L`).  `schedStep` counts positions from the start of
  the array, so the schedules agree on blocks of 16 words only (every block `chunks16` cuts from a
  padded message is one); on any other block `sha256CompressL` is `sha256Compress'` by definition, so
  that the equation needs no hypothesis and rewrites under the `foldl` of `sha256HexBytes`.  This is
  the form the test vectors of C14 are evaluated in: nothing is looked up through nested
  `Array.push`es. -/

def schedNext (w : List UInt32) : List UInt32 :=
  let w15 := w.getD 14 0
  let w2 := w.getD 1 0
  let s0 := rotr w15 7 ^^^ rotr w15 18 ^^^ (w15 >>> 3)
  let s1 := rotr w2 17 ^^^ rotr w2 19 ^^^ (w2 >>> 10)
  (w.getD 15 0 + s0 + w.getD 6 0 + s1) :: w

def schedRev : Nat → List UInt32 → List UInt32
  | 0, w => w
  | n + 1, w => schedRev n (schedNext w)

/-- one round on the constant `kw.1` and the schedule word `kw.2`.  They come separately:
    `compressStep` adds them to `hh + s1 + ch` one after the other, so with their sum as the argument
    `compressStep_eq` would hold up to associativity of `+` only, not by `rfl`. -/
def roundStep (s : ShaSt) (kw : UInt32 × UInt32) : ShaSt :=
  let a := s.1; let b := s.2.1; let c := s.2.2.1; let d := s.2.2.2.1
  let e := s.2.2.2.2.1; let f := s.2.2.2.2.2.1; let g := s.2.2.2.2.2.2.1; let hh := s.2.2.2.2.2.2.2
  let s1 := rotr e 6 ^^^ rotr e 11 ^^^ rotr e 25
  let ch := (e &&& f) ^^^ ((~~~ e) &&& g)
  let t1 := hh + s1 + ch + kw.1 + kw.2
  let s0 := rotr a 2 ^^^ rotr a 13 ^^^ rotr a 22
  let maj := (a &&& b) ^^^ (a &&& c) ^^^ (b &&& c)
  let t2 := s0 + maj
  ⟨t1 + t2, a, b, c, d + t1, e, f, g⟩

theorem compressStep_eq (w : Array UInt32) :
    compressStep w = fun s i => roundStep s (sha256K.getD i 0, w.getD i 0) := rfl

theorem getD_reverse (w : Array UInt32) {k : Nat} (h : k < w.size) :
    w.toList.reverse.getD k 0 = w.getD (w.size - 1 - k) 0 := by
  rw [List.getD_eq_getElem?_getD, List.getElem?_reverse (by simpa using h),
    Array.getD_eq_getD_getElem?]
  simp

theorem schedStep_reverse (w : Array UInt32) (h : 16 ≤ w.size) :
    (schedStep w w.size).toList.reverse = schedNext w.toList.reverse := by
  simp only [schedStep, schedNext, Array.toList_push, List.reverse_append, List.reverse_cons,
    List.reverse_nil, List.nil_append, List.singleton_append, getD_reverse w (k := 14) (by omega),
    getD_reverse w (k := 1) (by omega), getD_reverse w (k := 15) (by omega),
    getD_reverse w (k := 6) (by omega)]
  rfl

theorem schedule_reverse : ∀ (n : Nat) (w : Array UInt32), 16 ≤ w.size →
    ((List.range' w.size n).foldl schedStep w).toList = (schedRev n w.toList.reverse).reverse
  | 0, w, _ => (List.reverse_reverse _).symm
  | n + 1, w, h => by
    have := schedule_reverse n (schedStep w w.size) (by rw [schedStep, Array.size_push]; omega)
    rw [schedStep, Array.size_push, ← schedStep] at this
    rw [List.range'_succ, List.foldl_cons, this, schedStep_reverse w h, schedRev]

theorem schedRev_length : ∀ (n : Nat) (w : List UInt32), (schedRev n w).length = w.length + n
  | 0, w => rfl
  | n + 1, w => by rw [schedRev, schedRev_length n, schedNext, List.length_cons]; omega

theorem zip_getD (a b : Array UInt32) {n : Nat} (ha : a.size = n) (hb : b.size = n) :
    List.zip a.toList b.toList = (List.range' 0 n).map fun i => (a.getD i 0, b.getD i 0) := by
  apply List.ext_getElem
  · simp [ha, hb]
  · intro i _ h2
    have h : i < n := by simpa using h2
    simp [Array.getD_eq_getD_getElem?, ha ▸ h, hb ▸ h]

def sha256CompressL (h block : Array UInt32) : Array UInt32 :=
  if block.size = 16 then
    compressFinish h ((List.zip sha256K.toList (schedRev 48 block.toList.reverse).reverse).foldl
      roundStep ⟨h.getD 0 0, h.getD 1 0, h.getD 2 0, h.getD 3 0, h.getD 4 0, h.getD 5 0,
        h.getD 6 0, h.getD 7 0⟩)
  else sha256Compress' h block

theorem sha256Compress'_eq_L : sha256Compress' = sha256CompressL := by
  funext h block
  rw [sha256CompressL]
  split
  · rename_i hb
    have hw := schedule_reverse 48 block (by omega)
    rw [hb] at hw
    have hs : ((List.range' 16 48).foldl schedStep block).size = 64 := by
      rw [← Array.length_toList, hw, List.length_reverse, schedRev_length,
        List.length_reverse, Array.length_toList, hb]
    -- `n := 64` is given: left to unification it becomes `sha256K.size`, which is not the literal
    -- the `range'` of `sha256Compress'` runs over
    rw [sha256Compress', ← hw, zip_getD (n := 64) _ _ rfl hs, List.foldl_map, compressStep_eq]
  · rfl

end Bkl
