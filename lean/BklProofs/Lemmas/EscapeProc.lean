/-
  The phases on plain data (no key and no string leaf recognised by the evaluator): `process1`,
  `process2`, `repeatDoc`, `processDoc` and `outputDocument` only drop nulls, within the depth guard;
  `nest n` shows that the guard is met exactly at `depthLimit`.  C06's theorems are these; C08, C10
  and C14 use them for the plain parts of their documents.
-/
import BklProofs.Lemmas.EscapeEval
import BklProofs.Lemmas.Process2
import BklProofs.Lemmas.RefFree
import BklProofs.Lemmas.Interp
namespace Bkl

theorem e_plainList_fget {xs : List Val} (hp : allStrList e_P xs = true) {d : String}
    (hd : d ∈ directiveNames) : ∀ x ∈ xs, ∀ m, x = .map m → fget m d = none := by
  intro x hx m hm
  have := allStrList_iff.1 hp x hx
  subst hm
  simp only [allStr] at this
  exact e_plainFields_fget this hd

theorem e_process1_plain : ∀ (fuel : Nat) (docs : List Val) (root : Val) (loc : Loc) (v : Val),
    allStr e_P v = true → Val.wfB v = true → depth v < fuel →
    process1 fuel docs root loc v = .ok (dropNulls v, root) :=
  process1_untouched fun s h => refKey_of_unrecognised (by simpa [e_P] using h)

theorem e_process2String_plain (fuel : Nat) (docs : List Val) (root : Val) (ec : Vars) (s : String)
    (h : recognisedCore s = false) : process2String fuel docs root ec s = .ok (.str s) :=
  process2String_plain _ _ _ _ s (e_rc_interp h) (e_rc_env h) (e_rc_names h _ e_repeat_mem)

theorem e_process2_plain : ∀ (fuel : Nat) (docs : List Val) (root : Val) (ec : Vars) (v : Val),
    allStr e_P v = true → Val.wfB v = true → depth v < fuel →
    process2 fuel docs root ec v = .ok (dropNulls v) := by
  intro fuel
  induction fuel with
  | zero => intro _ _ _ v _ _ h; exact absurd h (Nat.not_lt_zero _)
  | succ fuel ih =>
    intro docs root ec v hp hw hd
    cases v with
    | null | bool | int | flt => unfold process2; rfl
    | str s =>
      rw [process2_str_eq]
      exact e_process2String_plain _ _ _ _ _ (by simpa [allStr, e_P] using hp)
    | map kvs =>
      -- no value is a `$repeat` map and no key is `$encode` / `$decode` / `$value`, so the loops are a
      -- `mapM` of the entries (`process2_map_plain`); a key evaluates to itself, a value to its
      -- `dropNulls`; what is kept is `dropNullsFields kvs`, still sorted, so `fofList` changes nothing
      simp only [allStr] at hp
      simp only [Val.wfB, Bool.and_eq_true] at hw
      have hkey : ∀ q ∈ kvs, recognisedCore q.1 = false := fun q hq => by
        simpa [e_P] using (allStrFields_iff.1 hp q hq).1
      rw [process2_map_plain _ _ _ _ kvs
          (fun q hq m e => e_plainFields_fget (by simpa [e, allStr] using (allStrFields_iff.1 hp q hq).2)
            e_repeat_mem)
          (fun q hq => ⟨e_rc_names (hkey q hq) _ e_encode_mem, e_rc_names (hkey q hq) _ e_decode_mem,
            e_rc_names (hkey q hq) _ e_value_mem⟩),
        fofList_of_sortedKeysB hw.1,
        mapM_ok_of_forall _ (fun q => (dropNullsVal q.2).map fun w => (q.1, w)) kvs, ok_bind,
        List.filterMap_map, Function.id_comp]
      · show Except.ok (Val.map (fofList (Fields.filterMapVal (fun _ => dropNullsVal) kvs))) = _
        rw [← dropNullsFields_eq, fofList_of_sortedKeysB (e_dropNullsFields_sorted kvs hw.1)]
        rfl
      · intro ⟨k, v⟩ hq
        have hlt : depth v < fuel :=
          Nat.lt_of_le_of_lt (e_depthFields_mem _ hq) (Nat.lt_of_succ_lt_succ hd)
        have hk : process2 fuel docs root ec (.str k) = .ok (.str k) := by
          cases fuel with
          | zero => exact absurd hlt (Nat.not_lt_zero _)
          | succ n => rw [process2_str_eq]; exact e_process2String_plain _ _ _ _ _ (hkey (k, v) hq)
        simp only [entryOut, ih docs root ec v (allStrFields_iff.1 hp _ hq).2
          (wfFieldsB_iff.1 hw.2 _ hq) hlt, ok_bind, e_dropNulls_isNull, dropNullsVal]
        split
        · rfl
        · simp only [hk, ok_bind]; rfl
    | list xs =>
      simp only [allStr] at hp
      simp only [Val.wfB] at hw
      rw [process2_list_plain _ _ _ _ xs (e_plainList_fget hp e_encode_mem)
          (e_plainList_fget hp e_repeat_mem),
        mapM_ok_of_forall _ dropNulls xs fun x hx => ih docs root ec x (allStrList_iff.1 hp _ hx)
          (wfListB_iff.1 hw _ hx)
          (Nat.lt_of_le_of_lt (e_depthList_mem _ hx) (Nat.lt_of_succ_lt_succ hd)),
        ok_bind, ← dropNullsList_eq]
      rfl

theorem e_repeatDoc_plain (v : Val) (ec : Vars) (hp : allStr e_P v = true) :
    repeatDoc v ec = .ok [(v, ec)] := by
  cases v with
  | map kvs =>
    exact C12_repeatDoc_no_repeat_map kvs ec (e_plainFields_fget (by rwa [allStr] at hp) e_repeat_mem)
  | list xs =>
    exact C12_repeatDoc_no_repeat_list xs ec fun x hx m e _ =>
      e_plainList_fget (by rwa [allStr] at hp) e_repeat_mem x hx m e
  | _ => rfl

theorem e_processDoc_plain (docs : List Val) (env : Vars) (v : Val)
    (hp : allStr e_P v = true) (hw : Val.wfB v = true) (hd : depth v < depthLimit) :
    processDoc docs env v = .ok [dropNulls v] := by
  have hp' := e_allStr_dropNulls e_P v hp
  have hw' := e_wf_dropNulls v hw
  have hd' : depth (dropNulls v) < depthLimit := Nat.lt_of_le_of_lt (e_depth_dropNulls v) hd
  rw [processDoc_single (e_process1_plain _ docs v (some []) v hp hw hd) (e_repeatDoc_plain _ env hp'),
    e_process2_plain _ docs _ env _ hp' hw' hd', dropNulls_idem]
  rfl

theorem e_outputDocument_plain (docs : List Val) (env : Vars) (v : Val)
    (hp : allStr e_P v = true) (hw : Val.wfB v = true) (hd : depth v < depthLimit) :
    outputDocument docs env v = .ok (if v.isNull then [] else [finalize (dropNulls v)]) := by
  have hp' := e_allStr_dropNulls e_P v hp
  rw [outputDocument, e_processDoc_plain docs env v hp hw hd, ok_bind]
  split
  · rename_i hn
    cases v with
    | null => exact e_emit_null
    | _ => cases hn
  · rename_i hn
    rw [emit_single _ _ (e_findOutputs_plain _ hp') (e_filterOutput_plain _ hp'
        (e_noNulls_dropNulls v) (by rw [e_dropNulls_isNull]; exact Bool.eq_false_iff.2 hn)),
      e_validate_plain _ hp']
    rfl

/-! ## the depth bound is necessary -/

def nest : Nat → Val
  | 0 => .int 1
  | n + 1 => .list [nest n]

theorem e_nest_props : ∀ n, inert (nest n) = true ∧ Val.wfB (nest n) = true ∧ depth (nest n) = n ∧ dropNulls (nest n) = nest n := by
  intro n
  induction n with
  | zero => decide
  | succ n ih =>
    simp only [nest, inert, allStr, allStrList, Val.wfB, Val.wfListB, depth, depthList, dropNulls, dropNullsList]
    obtain ⟨h1, h2, h3, h4⟩ := ih
    simp only [inert] at h1
    have : (nest n).isNull = false := by cases n <;> rfl
    simp [h1, h2, h3, h4, this]

theorem e_error_bind {ε α β} (e : ε) (f : α → Except ε β) : (Except.error e >>= f) = Except.error e := rfl

theorem e_nest_fail : ∀ (fuel n : Nat) (docs : List Val) (root : Val) (loc : Loc), fuel ≤ n →
    process1 fuel docs root loc (nest n) = .error .circularRef := by
  intro fuel
  induction fuel with
  | zero => intros; exact process1_zero ..
  | succ fuel ih =>
    intro n docs root loc h
    obtain ⟨m, rfl⟩ : ∃ m, n = m + 1 := ⟨n - 1, by omega⟩
    have hx : notMergeEntry (nest m) = true ∧ notReplaceEntry (nest m) = true := by
      cases m <;> exact ⟨rfl, rfl⟩
    have h0 : listObj0 [nest m] = [(nest m, some 0)] := by simp [listObj0, hx.1]
    rw [nest, process1_list_noDirective (by simpa using hx), h0, List.foldlM_cons, entryStep,
      ih m docs root _ (Nat.le_of_succ_le_succ h)]
    rfl

theorem e_outputDocument_nest_fail (docs : List Val) (env : Vars) (n : Nat) (h : depthLimit ≤ n) :
    outputDocument docs env (nest n) = .error .circularRef := by
  rw [outputDocument, processDoc_error (e_nest_fail depthLimit n docs _ _ h)]
  rfl

end Bkl
