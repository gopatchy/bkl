/-
  BklProofs.Lemmas.ToolsDiff — C15 (bkld): the shapes of `diff`, the per-key content of the patch
  it emits for two maps, the round trip `merge base (diff target base) = target`, and what an emitted
  patch is made of, with induction over the emitted patches (`diff_patch_induction`): the patch is well-formed
  (`Gen.diff_patch_wf`, at the end), and Facts/SourceC15 reads its depth off the same induction.
-/
import BklProofs.Lemmas.Tools
import BklProofs.Lemmas.Order
import BklProofs.Lemmas.MergeList
namespace Bkl

/-! ## what a result of `diff target base` promises -/

/-- `same`: nothing to do; `patch p`: layering `p` over `base` gives `target`;
    `replaceParent`: `base` is a non-empty map or a list and `target` is of another kind, so no
    patch at this position works (the enclosing map gets `$replace: true`). -/
def DiffSpec (target base : Val) : DRes → Prop
  | .same => target = base
  | .patch p => merge base p = .ok target
  | .replaceParent =>
    replaceable base = false ∧ (target.isMap && base.isMap) = false ∧
      (target.isList && base.isList) = false

/-! ## unfolding `diff` -/

/-- the `$delete` entries for the keys that only the base has -/
def diffDels (dm sm : Fields) : Fields :=
  (sm.filter fun (k, _) => !fhas dm k).map fun (k, _) => (k, Val.str "$delete")

/-- the patch map emitted when no child asks for its parent to be replaced -/
def diffAll (dm sm : Fields) : Fields := fsetAll (diffFields dm sm).1 (diffDels dm sm)

theorem diff_map_map (dm sm : Fields) :
    diff (.map dm) (.map sm) =
      if (diffFields dm sm).2 = true then .patch (.map (fset dm "$replace" (.bool true)))
      else if (diffAll dm sm).isEmpty = true then .same else .patch (.map (diffAll dm sm)) := by
  rw [diff]; rfl

theorem diff_list_list (dl sl : List Val) : diff (.list dl) (.list sl) = diffListList dl sl := by
  rw [diff]

theorem diff_map_other (dm : Fields) (b : Val) (h : b.isMap = false) :
    diff (.map dm) b = if replaceable b = true then .patch (.map dm) else .replaceParent := by
  rw [diff]
  rintro bm rfl; cases h

theorem diff_list_other (dl : List Val) (b : Val) (h : b.isList = false) :
    diff (.list dl) b = if replaceable b = true then .patch (.list dl) else .replaceParent := by
  rw [diff]
  rintro bl rfl; cases h

theorem diff_scalar (t b : Val) (h1 : t.isMap = false) (h2 : t.isList = false) :
    diff t b = if (t == b) = true then .same
      else if replaceable b = true then .patch t else .replaceParent := by
  rw [diff]
  · rintro dm rfl; cases h1
  · rintro dl rfl; cases h2

theorem diff_other {t b : Val} (h1 : (t.isMap && b.isMap) = false)
    (h2 : (t.isList && b.isList) = false) :
    diff t b = if (t == b) = true then .same
      else if replaceable b = true then .patch t else .replaceParent := by
  cases t with
  | map dm =>
    rw [diff_map_other dm b h1, beq_eq_false_iff_ne.2 (by rintro rfl; cases h1)]; rfl
  | list dl =>
    rw [diff_list_other dl b h2, beq_eq_false_iff_ne.2 (by rintro rfl; cases h2)]; rfl
  | _ => exact diff_scalar _ _ rfl rfl

/-! ## the shapes of a result -/

theorem diffListList_cases (dl sl : List Val) :
    diffListList dl sl = .same ∨ diffListList dl sl = .patch (replaceList dl) ∨
      ∃ q, listPatch dl sl = some q ∧ diffListList dl sl = .patch (.list q) := by
  unfold diffListList
  split
  · exact .inl rfl
  · split
    · exact .inr (.inl rfl)
    · rename_i q hq
      split
      · split
        · exact .inr (.inr ⟨q, hq, rfl⟩)
        · exact .inr (.inl rfl)
      · exact .inr (.inl rfl)

theorem diffListList_patch_cases {dl sl : List Val} {p : Val}
    (h : diffListList dl sl = .patch p) :
    p = replaceList dl ∨ ∃ q, listPatch dl sl = some q ∧ p = .list q := by
  rcases diffListList_cases dl sl with h' | h' | ⟨q, hq, h'⟩ <;> rw [h'] at h <;> cases h
  · exact .inl rfl
  · exact .inr ⟨q, hq, rfl⟩

/-- a map against a map never asks for the parent to be replaced -/
theorem diff_map_map_trichotomy (dm sm : Fields) :
    diff (.map dm) (.map sm) = .same ∨
      diff (.map dm) (.map sm) = .patch (.map (fset dm "$replace" (.bool true))) ∨
      diff (.map dm) (.map sm) = .patch (.map (diffAll dm sm)) := by
  rw [diff_map_map]
  split
  · exact .inr (.inl rfl)
  · split
    · exact .inl rfl
    · exact .inr (.inr rfl)

theorem diff_map_map_cases (dm sm : Fields) :
    diff (.map dm) (.map sm) = .same ∨ ∃ m, diff (.map dm) (.map sm) = .patch (.map m) := by
  rcases diff_map_map_trichotomy dm sm with h | h | h
  · exact .inl h
  · exact .inr ⟨_, h⟩
  · exact .inr ⟨_, h⟩

theorem diff_patch_cases {t b p : Val} (h : diff t b = .patch p) :
    p = t ∨ (∃ dl sl, t = .list dl ∧ b = .list sl ∧ diffListList dl sl = .patch p) ∨
      ∃ dm sm, t = .map dm ∧ b = .map sm ∧
        (p = .map (fset dm "$replace" (.bool true)) ∨ p = .map (diffAll dm sm)) := by
  rcases Val.kind_cases t b with ⟨dm, sm, rfl, rfl⟩ | ⟨dl, sl, rfl, rfl⟩ | ⟨h1, h2⟩
  · refine .inr (.inr ⟨dm, sm, rfl, rfl, ?_⟩)
    rcases diff_map_map_trichotomy dm sm with h' | h' | h' <;> rw [h'] at h <;> cases h
    · exact .inl rfl
    · exact .inr rfl
  · rw [diff_list_list] at h
    exact .inr (.inl ⟨_, _, rfl, rfl, h⟩)
  · rw [diff_other h1 h2] at h
    split at h
    · cases h
    · split at h <;> cases h
      exact .inl rfl

theorem diff_patch_shape {t b p : Val} (h : diff t b = .patch p) :
    p = t ∨ (∃ m, p = .map m) ∨ ∃ l, p = .list l := by
  rcases diff_patch_cases h with rfl | ⟨dl, sl, rfl, rfl, h'⟩ | ⟨dm, sm, rfl, rfl, rfl | rfl⟩
  · exact .inl rfl
  · rcases diffListList_patch_cases h' with rfl | ⟨q, _, rfl⟩ <;> exact .inr (.inr ⟨_, rfl⟩)
  · exact .inr (.inl ⟨_, rfl⟩)
  · exact .inr (.inl ⟨_, rfl⟩)

theorem diff_patch_toStr {t b p : Val} (h : diff t b = .patch p) (ht : t.toStr ≠ "$delete") :
    p.toStr ≠ "$delete" := by
  rcases diff_patch_shape h with rfl | ⟨m, rfl⟩ | ⟨l, rfl⟩
  · exact ht
  · simp [Val.toStr]
  · simp [Val.toStr]

theorem diff_patch_isNull {t b p : Val} (h : diff t b = .patch p) (ht : t.isNull = false) :
    p.isNull = false := by
  rcases diff_patch_shape h with rfl | ⟨m, rfl⟩ | ⟨l, rfl⟩
  · exact ht
  · rfl
  · rfl

theorem replaceable_false_of_not {b : Val} (h : ¬ replaceable b = true) :
    replaceable b = false := by simpa using h

theorem diff_replaceParent_iff (target base : Val) :
    diff target base = .replaceParent ↔
      (replaceable base = false ∧ (target.isMap && base.isMap) = false ∧
        (target.isList && base.isList) = false) := by
  rcases Val.kind_cases target base with ⟨dm, sm, rfl, rfl⟩ | ⟨dl, sl, rfl, rfl⟩ | ⟨h1, h2⟩
  · refine ⟨fun h => ?_, fun h => nomatch h.2.1⟩
    rcases diff_map_map_trichotomy dm sm with h' | h' | h' <;> rw [h'] at h <;> cases h
  · refine ⟨fun h => ?_, fun h => nomatch h.2.2⟩
    rw [diff_list_list] at h
    rcases diffListList_cases dl sl with h' | h' | ⟨q, _, h'⟩ <;> rw [h'] at h <;> cases h
  · rw [diff_other h1 h2]
    by_cases he : (target == base) = true
    · -- equal values that are neither maps nor lists: the base is a scalar or null
      have hr : replaceable base = true := by
        rw [eq_of_beq he] at h1 h2
        cases base with
        | map m => cases h1
        | list l => cases h2
        | _ => rfl
      rw [if_pos he, hr]
      exact ⟨nofun, fun h => nomatch h.1⟩
    · rw [if_neg he]
      by_cases hr : replaceable base = true
      · rw [if_pos hr, hr]
        exact ⟨nofun, fun h => nomatch h.1⟩
      · rw [if_neg hr]
        exact ⟨fun _ => ⟨replaceable_false_of_not hr, h1, h2⟩, fun _ => rfl⟩

/-! ## per-key content of the emitted patch -/

theorem diffDels_eq (dm sm : Fields) :
    diffDels dm sm =
      Fields.filterMapVal (fun k _ => if fhas dm k = true then none else some (.str "$delete")) sm := by
  unfold diffDels
  induction sm with
  | nil => rfl
  | cons kv rest ih =>
    obtain ⟨k, v⟩ := kv
    rw [List.filter_cons, filterMapVal_cons, ← ih]
    cases hh : fhas dm k <;> simp [hh]

theorem sorted_diffAll (dm sm : Fields) : Fields.SortedKeys (diffAll dm sm) :=
  sorted_fsetAll _ (sorted_diffFields dm sm)

theorem fget_diffAll {dm sm : Fields} (hd : Fields.SortedKeys dm) (hs : Fields.SortedKeys sm)
    (k : String) :
    fget (diffAll dm sm) k = match fget dm k with
      | some v => diffAt v (fget sm k)
      | none => (fget sm k).map (fun _ => Val.str "$delete") := by
  have hn := distinctKeys_of_sorted hs
  unfold diffAll
  rw [diffDels_eq, fget_fsetAll_distinct (distinctKeys_filterMapVal _ hn), fget_filterMapVal _ hn,
    fget_diffFields_fst (distinctKeys_of_sorted hd), fhas]
  cases fget dm k with
  | some v => cases fget sm k <;> rfl
  | none => cases fget sm k <;> rfl

theorem diffFields_snd_false {dm sm : Fields} (h : (diffFields dm sm).2 = false)
    {k : String} {v v2 : Val} (hk : (k, v) ∈ dm) (hk2 : fget sm k = some v2) :
    diff v v2 ≠ .replaceParent := by
  intro hd
  rw [diffFields_snd, List.any_eq_false] at h
  have := h (k, v) hk
  simp [diffRP, hk2, hd] at this

theorem diffFields_snd_true {dm sm : Fields} (h : (diffFields dm sm).2 = true) :
    ∃ k v v2, (k, v) ∈ dm ∧ fget sm k = some v2 ∧ diff v v2 = .replaceParent := by
  rw [diffFields_snd, List.any_eq_true] at h
  obtain ⟨⟨k, v⟩, hm, hr⟩ := h
  unfold diffRP at hr
  split at hr
  · cases hr
  · rename_i v2 hg
    split at hr
    · rename_i hd; exact ⟨k, v, v2, hm, hg, hd⟩
    · cases hr

/-! ## the map case of the round trip -/

theorem diffAt_some_of_not_null {v v2 : Val} (hv : v.isNull = false) :
    diffAt v (some v2) = match diff v v2 with
      | .patch p => some p
      | _ => none := by
  simp only [diffAt]
  cases hq : diff v v2 with
  | patch q => simp [diff_patch_isNull hq hv]
  | _ => rfl

/-- No child needs its parent replaced.  Key by key: the entry of the patch, seen from the base
    entry, produces the target entry; where the patch has no entry, base and target agree. -/
theorem diffAll_key {dm sm : Fields} (hd : Fields.SortedKeys dm) (hs : Fields.SortedKeys sm)
    (hplain : ∀ k v, fget dm k = some v → v.toStr ≠ "$delete")
    (hnn : ∀ k v, fget dm k = some v → v.isNull = false)
    (ih : ∀ k v v2, fget dm k = some v → fget sm k = some v2 → DiffSpec v v2 (diff v v2))
    (hrp : (diffFields dm sm).2 = false) (k : String) :
    MergeAt (fget sm k) (fget (diffAll dm sm) k) (fget dm k) := by
  rw [fget_diffAll hd hs]
  cases hdk : fget dm k with
  | none => cases fget sm k <;> rfl
  | some v =>
    cases hsk : fget sm k with
    | none => exact mergeAct_none (hplain k v hdk)
    | some v2 =>
      have hsp := ih k v v2 hdk hsk
      simp only [diffAt_some_of_not_null (hnn k v hdk)]
      cases hq : diff v v2 with
      | same => rw [hq] at hsp; exact congrArg some hsp
      | patch q =>
        rw [hq] at hsp
        exact (mergeAct_some (diff_patch_toStr hq (hplain k v hdk)) v2).trans (by rw [hsp]; rfl)
      | replaceParent => exact absurd hq (diffFields_snd_false hrp (fget_mem hdk) hsk)

/-- … so layering the emitted entries over the base map gives the target map (this also covers
    the empty patch: then the maps are equal). -/
theorem mergeFields_diffAll {dm sm : Fields} (hd : Fields.SortedKeys dm)
    (hs : Fields.SortedKeys sm)
    (hplain : ∀ k v, fget dm k = some v → v.toStr ≠ "$delete")
    (hnn : ∀ k v, fget dm k = some v → v.isNull = false)
    (ih : ∀ k v v2, fget dm k = some v → fget sm k = some v2 → DiffSpec v v2 (diff v v2))
    (hrp : (diffFields dm sm).2 = false) :
    mergeFields sm (diffAll dm sm) = .ok dm :=
  (mergeFields_eq_ok_iff hs (distinctKeys_of_sorted (sorted_diffAll dm sm))).2
    ⟨hd, diffAll_key hd hs hplain hnn ih hrp⟩

theorem diffAll_fget_none {dm sm : Fields} (hd : Fields.SortedKeys dm)
    (hs : Fields.SortedKeys sm) (k : String) (hk : fget dm k = none) (hk2 : fget sm k = none) :
    fget (diffAll dm sm) k = none := by
  rw [fget_diffAll hd hs, hk, hk2]; rfl

theorem diffAll_no_replace {dm sm : Fields} (hd : Fields.SortedKeys dm)
    (hs : Fields.SortedKeys sm) (k : String) (hk : fget dm k = none) (b : Bool) :
    fhasBool (diffAll dm sm) k b = false := by
  cases h : fhasBool (diffAll dm sm) k b with
  | false => rfl
  | true =>
    rw [fhasBool_iff, fget_diffAll hd hs, hk] at h
    cases hsk : fget sm k <;> rw [hsk] at h <;> cases h

/-! ## lists, scalars and kind changes -/

theorem merge_replaceList (src : List Val) {dst : List Val} (h : dst.all plainEntry = true) :
    merge (.list src) (replaceList dst) = .ok (.list dst) := by
  have := C01_list_replace_marker src dst [] h rfl
  simpa [replaceList] using this

/-- list against list: correct by construction (the entry patch is verified with `merge`) -/
theorem diffListList_spec (src : List Val) {dst : List Val} (h : dst.all plainEntry = true) :
    DiffSpec (.list dst) (.list src) (diffListList dst src) := by
  unfold diffListList
  split
  · rename_i he
    simp only [DiffSpec]
    rw [eq_of_beq he]
  · split
    · exact merge_replaceList src h
    · split
      · rename_i r hr
        split
        · rename_i he
          simp only [DiffSpec]
          rw [merge_list_list, hr, eq_of_beq he]
        · exact merge_replaceList src h
      · exact merge_replaceList src h

theorem merge_replaceable {b t : Val} (hb : replaceable b = true) (ht : t.isNull = false)
    (hne : t ≠ b) (hk : (t.isMap && b.isMap) = false) : merge b t = .ok t := by
  cases b with
  | null => exact merge_null t
  | list l => cases hb
  | map d =>
    have hd : d = [] := by simpa [replaceable] using hb
    subst hd
    have h1 : t.isMap = false := by simpa [Val.isMap] using hk
    rw [merge_map_other [] t h1 ht]; rfl
  | _ =>
    rw [merge_scalar _ _ rfl, beq_eq_false_iff_ne.2 hne]; rfl

theorem diff_spec_other {t b : Val} (h1 : (t.isMap && b.isMap) = false)
    (h2 : (t.isList && b.isList) = false) (htn : t.isNull = false) : DiffSpec t b (diff t b) := by
  rw [diff_other h1 h2]
  split
  · rename_i he
    exact eq_of_beq he
  · rename_i he
    split
    · rename_i hr
      exact merge_replaceable hr htn (by simpa using he) h1
    · rename_i hr
      exact ⟨replaceable_false_of_not hr, h1, h2⟩

/-! ## the round trip -/

theorem diff_spec (t b : Val) (ht : plainVal t = true) (hb : Val.WF b) :
    DiffSpec t b (diff t b) := by
  have htn : t.isNull = false := nullFree_isNull (plainVal_nullFree ht)
  induction t using Val.induction_mem_atom generalizing b with
  | scalar t h1 h2 => exact diff_spec_other (by rw [h1]; rfl) (by rw [h2]; rfl) htn
  | list dl =>
    cases b with
    | list sl =>
      rw [diff_list_list]
      exact diffListList_spec sl (plainList_all_plainEntry ht)
    | _ => exact diff_spec_other rfl rfl htn
  | map dm ih =>
    cases b with
    | map sm =>
      have hd := plainVal_sorted ht
      have hs := (wf_map_iff.1 hb).1
      have hrepl : fget dm "$replace" = none := plainVal_fget_dollar ht (by decide +kernel)
      rw [diff_map_map]
      split
      · -- some child needs this map replaced
        simp only [DiffSpec]
        rw [merge_map_map, mergeMapMap_replace (fhasBool_iff.2 (fget_fset_same _ _ _)), fdel_fset_same,
          fdel_of_not_mem hrepl]
      · rename_i hrp
        have hm : mergeFields sm (diffAll dm sm) = .ok dm :=
          mergeFields_diffAll hd hs
            (fun k v h1 => plainVal_toStr_dollar (plainVal_of_fget ht h1) (by decide +kernel))
            (fun k v h1 => nullFree_isNull (plainVal_nullFree (plainVal_of_fget ht h1)))
            (fun k v v2 h1 h2 =>
              let hv := plainVal_of_fget ht h1
              ih _ (fget_mem h1) v2 hv (wf_of_fget hb h2) (nullFree_isNull (plainVal_nullFree hv)))
            (by simpa using hrp)
        split
        · rename_i he
          rw [List.isEmpty_iff.1 he, mergeFields_nil] at hm
          simp only [DiffSpec]
          rw [Except.ok.inj hm]
        · simp only [DiffSpec]
          rw [merge_map_map, mergeMapMap_noreplace (diffAll_no_replace hd hs _ hrepl _), hm]
          rfl
    | _ => exact diff_spec_other rfl rfl htn

/-! ## equal data: the patch is empty -/

theorem diff_self (v : Val) (hv : Val.WF v) : diff v v = .same := by
  induction v using Val.induction_mem_atom with
  | scalar v h1 h2 => rw [diff_scalar _ _ h1 h2, if_pos (beq_self_eq_true v)]
  | list dl => rw [diff_list_list, diffListList, if_pos (beq_self_eq_true dl)]
  | map dm ih =>
    have hd := (wf_map_iff.1 hv).1
    have ih' : ∀ k x, fget dm k = some x → diff x x = .same := fun k x h1 =>
      ih _ (fget_mem h1) (wf_of_fget hv h1)
    have h2 : (diffFields dm dm).2 = false := by
      rw [diffFields_snd, List.any_eq_false]
      rintro ⟨k, x⟩ hp
      have hg := fget_of_mem_sorted hd hp
      simp [diffRP, hg, ih' k x hg]
    have h1 : diffAll dm dm = [] := by
      apply sorted_ext (sorted_diffAll dm dm) (by simp [Fields.SortedKeys])
      intro k
      rw [fget_diffAll hd hd]
      cases hg : fget dm k with
      | some x => simp [diffAt, ih' k x hg, fget]
      | none => simp [fget]
    rw [diff_map_map, h2, h1]
    rfl

/-! ## what an emitted patch is made of, and induction over the emitted patches -/

/-- only a nil target gives a nil patch -/
theorem diff_patch_null {d s : Val} (h : diff d s = .patch .null) : d = .null := by
  rcases diff_patch_cases h with h | ⟨_, _, _, _, h⟩ | ⟨_, _, _, _, h | h⟩
  · exact h.symm
  · rcases diffListList_patch_cases h with h | ⟨_, _, h⟩ <;> cases h
  · cases h
  · cases h

theorem mem_listPatch {dst src q : List Val} (h : listPatch dst src = some q) {x : Val} (hx : x ∈ q) :
    x ∈ dst ∨ ∃ y ∈ src, x = .map [("$delete", y)] := by
  unfold listPatch at h
  simp only [] at h
  split at h
  · cases h
    rcases List.mem_append.1 hx with hx | hx
    · exact .inl (List.mem_filter.1 hx).1
    · obtain ⟨y, hy, rfl⟩ := List.mem_map.1 hx
      exact .inr ⟨y, (List.mem_filter.1 hy).1, rfl⟩
  · cases h

theorem mem_diffAll {dm sm : Fields} (hd : Fields.SortedKeys dm) (hs : Fields.SortedKeys sm) {k : String} {v : Val}
    (h : (k, v) ∈ diffAll dm sm) :
    (k, v) ∈ dm ∨ v = .str "$delete" ∨ ∃ x y, (k, x) ∈ dm ∧ (k, y) ∈ sm ∧ diff x y = .patch v := by
  have hk := fget_of_mem_sorted (sorted_diffAll dm sm) h
  rw [fget_diffAll hd hs] at hk
  cases hg : fget dm k with
  | none =>
    rw [hg] at hk
    cases hg2 : fget sm k with
    | none => rw [hg2] at hk; cases hk
    | some y => rw [hg2] at hk; cases hk; exact .inr (.inl rfl)
  | some x =>
    rw [hg] at hk
    cases hg2 : fget sm k with
    | none => rw [hg2] at hk; cases hk; exact .inl (fget_mem hg)
    | some y =>
      rw [hg2] at hk
      simp only [diffAt] at hk
      cases hdxy : diff x y with
      | patch q =>
        rw [hdxy] at hk
        simp only [] at hk
        split at hk
        · cases hk
        · cases hk; exact .inr (.inr ⟨x, y, fget_mem hg, fget_mem hg2, hdxy⟩)
      | _ => rw [hdxy] at hk; cases hk

theorem diff_patch_induction {R : Val → Val → Val → Prop}
    (self : ∀ t b, R t b t)
    (list : ∀ dl sl p, diffListList dl sl = .patch p → R (.list dl) (.list sl) p)
    (repl : ∀ dm sm, R (.map dm) (.map sm) (.map (fset dm "$replace" (.bool true))))
    (all : ∀ dm sm, (∀ k x y q, (k, x) ∈ dm → (k, y) ∈ sm → diff x y = .patch q → R x y q) →
      R (.map dm) (.map sm) (.map (diffAll dm sm)))
    (t b p : Val) (h : diff t b = .patch p) : R t b p := by
  induction hn : sizeOf t using Nat.strongRecOn generalizing t b p with
  | ind n ih =>
    rcases diff_patch_cases h with rfl | ⟨dl, sl, rfl, rfl, h⟩ | ⟨dm, sm, rfl, rfl, rfl | rfl⟩
    · exact self _ b
    · exact list dl sl p h
    · exact repl dm sm
    · exact all dm sm fun k x y q hx _ hd => ih _ (hn ▸ sizeOf_lt_of_mem_fields hx) x y q hd rfl

/-! ## `diffDoc`: the emitted layer -/

theorem diffDoc_same {t b : Val} (h : diff t b = .same) : diffDoc t b = none := by
  unfold diffDoc; rw [h]

theorem diffDoc_none_iff (t b : Val) :
    diffDoc t b = none ↔ diff t b = .same ∨ diff t b = .replaceParent := by
  unfold diffDoc
  cases diff t b with
  | same => simp
  | replaceParent => simp
  | patch v => cases v <;> simp

theorem diff_map_map_no_match {dm sm m : Fields} (ht : plainVal (.map dm) = true)
    (hs : Fields.SortedKeys sm) (hb : fget sm "$match" = none)
    (h : diff (.map dm) (.map sm) = .patch (.map m)) : fget m "$match" = none := by
  have hk : fget dm "$match" = none := plainVal_fget_dollar ht (by decide)
  rcases diff_map_map_trichotomy dm sm with h' | h' | h' <;> rw [h'] at h <;> cases h
  · rw [fget_fset_ne _ _ _ _ (by decide)]; exact hk
  · exact diffAll_fget_none (plainVal_sorted ht) hs _ hk hb

/-- Map-rooted documents: either nothing is emitted and the documents are equal, or the emitted
    layer is a map carrying the document selector `$match: {}`; what the parser merges into the
    base — the layer without its `$match` entry (`mergeDocument`, Bkl/Parser.lean) — is accepted
    by `merge` and yields the target.  The base needs no `$match` key of its own
    (true of every plain base, `C15_roundtrip`). -/
theorem C15_roundtrip_wf_base (t b : Fields) (ht : plainVal (.map t) = true)
    (hb : Val.WF (.map b)) (hbm : fget b "$match" = none) :
    match diffDoc (.map t) (.map b) with
    | none => Val.map t = Val.map b
    | some layer => ∃ m, layer = .map m ∧ fget m "$match" = some (.map []) ∧
        merge (.map b) (.map (fdel m "$match")) = .ok (.map t) := by
  have hspec := diff_spec (.map t) (.map b) ht hb
  have hs := (wf_map_iff.1 hb).1
  rcases diff_map_map_cases t b with h | ⟨m, h⟩
  · rw [diffDoc_same h]
    rw [h] at hspec
    exact hspec
  · have hd : diffDoc (.map t) (.map b) = some (.map (fset m "$match" (.map []))) := by
      unfold diffDoc; rw [h]
    rw [hd]
    rw [h] at hspec
    refine ⟨_, rfl, fget_fset_same _ _ _, ?_⟩
    rw [fdel_fset_same, fdel_of_not_mem (diff_map_map_no_match ht hs hbm h)]
    exact hspec

/-! ### shared non-vacuity witnesses -/

/-- a plain target: nested map, list, scalars -/
def C15_target : Val :=
  .map [("a", .int 1), ("l", .list [.str "x", .map [("n", .int 1)]]),
        ("m", .map [("p", .str "q"), ("r", .flt "1.5")]), ("new", .bool false)]
/-- a plain base differing in a scalar, an extra key, a list and a nested map -/
def C15_base : Val :=
  .map [("a", .int 2), ("gone", .bool true), ("l", .list [.str "y"]),
        ("m", .map [("p", .str "old"), ("r", .flt "1.5"), ("s", .int 0)])]
/-- a plain base where the kind of `m` changes (map over a list): the parent is replaced -/
def C15_base2 : Val :=
  .map [("a", .int 2), ("l", .list [.str "y"]), ("m", .list [.int 1])]

theorem C15_witness_plain :
    plainVal C15_target = true ∧ plainVal C15_base = true ∧ plainVal C15_base2 = true := by
  decide +kernel

/-! ## the patch that `diff` emits is well-formed (what the translation of `merge` asks of a patch:
    BklProofs/Facts/SourceC15.lean uses `Gen.diff_patch_wf`) -/

theorem wf_delete_entry {v : Val} (h : Val.WF v) : Val.WF (.map [("$delete", v)]) := by
  rw [wf_map_iff]
  refine ⟨by simp [Fields.SortedKeys], fun p hp => ?_⟩
  simp only [List.mem_cons, List.not_mem_nil, or_false] at hp
  subst hp; exact h

theorem wf_replaceList {dst : List Val} (h : Val.WF (.list dst)) : Val.WF (replaceList dst) := by
  unfold replaceList
  rw [wf_list_iff] at *
  intro x hx
  rcases List.mem_append.1 hx with hx | hx
  · exact h x hx
  · simp only [List.mem_cons, List.not_mem_nil, or_false] at hx
    subst hx; decide

theorem diffListList_patch_wf (dst src : List Val) (hd : Val.WF (.list dst)) (hs : Val.WF (.list src)) (p : Val)
    (h : diffListList dst src = .patch p) : Val.WF p := by
  rcases diffListList_patch_cases h with rfl | ⟨q, hq, rfl⟩
  · exact wf_replaceList hd
  · rw [wf_list_iff] at *
    intro x hx
    rcases mem_listPatch hq hx with hx | ⟨y, hy, rfl⟩
    · exact hd x hx
    · exact wf_delete_entry (hs y hy)

theorem Gen.diff_patch_wf (t b : Val) (ht : Val.WF t) (hb : Val.WF b) (p : Val) (h : diff t b = .patch p) :
    Val.WF p := by
  refine diff_patch_induction (R := fun t b p => Val.WF t → Val.WF b → Val.WF p)
    (fun _ _ ht _ => ht) (fun dl sl p h hd hs => diffListList_patch_wf dl sl hd hs p h)
    (fun _ _ ht _ => wf_fset ht (by decide)) ?_ t b p h ht hb
  intro dm sm ih ht hb
  have hd := wf_map_iff.1 ht
  have hs := wf_map_iff.1 hb
  refine wf_map_iff.2 ⟨sorted_diffAll dm sm, fun ⟨k, v⟩ hm => ?_⟩
  rcases mem_diffAll hd.1 hs.1 hm with hv | rfl | ⟨x, y, hx, hy, hxy⟩
  · exact hd.2 _ hv
  · exact wf_str _
  · exact ih k x y v hx hy hxy (hd.2 _ hx) (hs.2 _ hy)

end Bkl
