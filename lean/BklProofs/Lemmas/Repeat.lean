/-
  BklProofs.Lemmas.Repeat — the document-level `$repeat` of repeat.go (`repeatGen`, `repeatDoc`): the independent
  specification `tuples` (lexicographic cartesian product) with its size, membership and duplicate-freeness; the
  variables `repeatGen` declares (`repeatEc1`); `repeatGen` on named counts as a fold that computes `tuples`
  (`repeatGen_map_eq`, `foldlM_repeatStep`); and `C12_repeatDoc_no_repeat_map`, `_list`, `_scalar`: a document without
  `$repeat` is one document.
-/
import Bkl.Process2
import BklProofs.Lemmas.Fields
import BklProofs.Lemmas.List
namespace Bkl

/-! ## specification: counts and index tuples -/

/-- the repeat count denoted by a value (`0` for negative counts and for non-integers) -/
def countOf : Val → Nat
  | .int n => n.toNat
  | _ => 0

/-- all index tuples for the named counts, in lexicographic order: the first name varies slowest -/
def tuples : List (String × Nat) → List (List (String × Nat))
  | [] => [[]]
  | (name, n) :: rest => (List.range n).flatMap fun i => (tuples rest).map fun t => (name, i) :: t

def bindTuple (ec : Vars) (t : List (String × Nat)) : Vars :=
  t.foldl (fun e ni => fset e ("$repeat:" ++ ni.1) (.int ni.2)) ec

/-- `ec` extended with the `$repeat.<name>` entries (the declared counts), as `repeatGen` does -/
def repeatEc1 (ec : Vars) : Fields → Vars
  | [] => ec
  | (k, v) :: rest => repeatEc1 (fset ec ("$repeat." ++ k) v) rest

def namedCounts (rs : Fields) : List (String × Nat) := rs.map fun kv => (kv.1, countOf kv.2)

theorem repeatEc1_eq_foldl (ec : Vars) (rs : Fields) :
    rs.foldl (fun e (kv : String × Val) => fset e ("$repeat." ++ kv.1) kv.2) ec = repeatEc1 ec rs := by
  induction rs generalizing ec with
  | nil => rfl
  | cons kv rest ih => obtain ⟨k, v⟩ := kv; simp [repeatEc1, ih]

theorem tuples_length (l : List (String × Nat)) :
    (tuples l).length = (l.map (·.2)).prod := by
  induction l with
  | nil => rfl
  | cons a rest ih =>
    simp only [tuples, List.length_flatMap, List.length_map, ih, List.map_const', List.length_range,
      List.sum_replicate_nat, List.map_cons, List.prod_cons]

/-- `t` has the names of `l`, in order, with every index below its count -/
def tupleOk : List (String × Nat) → List (String × Nat) → Prop
  | [], [] => True
  | (a, i) :: t, (b, n) :: l => a = b ∧ i < n ∧ tupleOk t l
  | _, _ => False

theorem mem_tuples {l : List (String × Nat)} {t : List (String × Nat)} :
    t ∈ tuples l ↔ tupleOk t l := by
  induction l generalizing t with
  | nil =>
    simp only [tuples, List.mem_singleton]
    cases t <;> simp [tupleOk]
  | cons a rest ih =>
    obtain ⟨name, n⟩ := a
    simp only [tuples, List.mem_flatMap, List.mem_range, List.mem_map]
    constructor
    · rintro ⟨i, hi, t', ht', rfl⟩
      exact ⟨rfl, hi, ih.1 ht'⟩
    · intro h
      match t, h with
      | (a, i) :: t', ⟨e1, e2, h3⟩ =>
        subst e1
        exact ⟨i, e2, t', ih.2 h3, rfl⟩

theorem tuples_nodup (l : List (String × Nat)) : (tuples l).Nodup := by
  induction l with
  | nil => simp [tuples]
  | cons a rest ih =>
    obtain ⟨name, n⟩ := a
    simp only [tuples]
    apply nodup_flatMap_range
    · intro i
      rw [List.nodup_iff_pairwise_ne] at ih ⊢
      exact List.Pairwise.map _ (fun a b hab e => hab (List.cons.inj e).2) ih
    · intro i j x hi hj
      simp only [List.mem_map] at hi hj
      obtain ⟨t, _, rfl⟩ := hi
      obtain ⟨t', _, e⟩ := hj
      have := (List.cons.inj e).1
      exact (Prod.mk.inj this).2.symm


/-! ## the declared counts are retrievable from `ec1` -/

/-- the fold stores the entries of `rs` under the keys `$repeat.<name>` -/
theorem repeatEc1_eq_fsetAll (ec : Vars) (rs : Fields) :
    repeatEc1 ec rs = fsetAll ec (rs.map fun p => ("$repeat." ++ p.1, p.2)) := by
  induction rs generalizing ec with
  | nil => rfl
  | cons kv rest ih => obtain ⟨k, v⟩ := kv; rw [repeatEc1, ih]; rfl

/-- … which are as distinct as the names -/
theorem distinctKeys_repeatKeys {rs : Fields} (h : Fields.DistinctKeys rs) :
    Fields.DistinctKeys (rs.map fun p => ("$repeat." ++ p.1, p.2)) := by
  show ((rs.map (fun p => ("$repeat." ++ p.1, p.2))).map (·.1)).Nodup
  rw [List.map_map]
  have : (rs.map (·.1)).Pairwise (fun a b => "$repeat." ++ a ≠ "$repeat." ++ b) :=
    List.Pairwise.imp (fun h e => h ((String.append_right_inj _).1 e)) h
  rw [List.pairwise_map] at this
  exact List.pairwise_map.2 this

theorem fget_repeatEc1_other (rs : Fields) (x : String) :
    ∀ ec : Vars, (∀ kv ∈ rs, "$repeat." ++ kv.1 ≠ x) → fget (repeatEc1 ec rs) x = fget ec x := by
  intro ec h
  rw [repeatEc1_eq_fsetAll]
  refine fget_fsetAll_of_not_mem fun p hp => ?_
  obtain ⟨kv, hkv, rfl⟩ := List.mem_map.1 hp
  exact h kv hkv

theorem fget_repeatEc1_mem (rs : Fields) (k : String) (v : Val) :
    ∀ ec : Vars, (rs.map (·.1)).Nodup → (k, v) ∈ rs →
      fget (repeatEc1 ec rs) ("$repeat." ++ k) = some v := by
  intro ec hnd hm
  rw [repeatEc1_eq_fsetAll, fget_fsetAll_distinct (distinctKeys_repeatKeys hnd),
    fget_of_mem_distinct (distinctKeys_repeatKeys hnd)
      (List.mem_map_of_mem (f := fun p : String × Val => ("$repeat." ++ p.1, p.2)) hm)]
  rfl

/-! ## `repeatGen`'s fold is the cartesian product -/

theorem bindTuple_cons (ec : Vars) (name : String) (i : Nat) (t : List (String × Nat)) :
    bindTuple ec ((name, i) :: t) = bindTuple (fset ec ("$repeat:" ++ name) (.int i)) t := rfl

/-- the step function of `repeatGen` on a named count -/
def repeatStep (pairs : List (Val × Vars)) (nc : String × Val) : R (List (Val × Vars)) :=
  match nc.2 with
  | .int n => pure (repeatInt ("$repeat:" ++ nc.1) n pairs)
  | _ => throw Err.invalidRepeat

theorem repeatGen_map_eq (data : Val) (ec : Vars) (rs : Fields) :
    repeatGen data ec (.map rs) = rs.foldlM repeatStep [(data, repeatEc1 ec rs)] := by
  simp only [repeatGen]
  rw [← repeatEc1_eq_foldl]
  congr 1

theorem foldlM_repeatStep (rs : Fields) (h : ∀ kv ∈ rs, ∃ n, kv.2 = Val.int n) :
    ∀ pairs : List (Val × Vars),
    rs.foldlM repeatStep pairs
      = .ok (pairs.flatMap fun p => (tuples (namedCounts rs)).map fun t => (p.1, bindTuple p.2 t)) := by
  induction rs with
  | nil =>
    intro pairs
    simp [namedCounts, tuples, bindTuple, pure, Except.pure]
  | cons kv rest ih =>
    intro pairs
    obtain ⟨name, v⟩ := kv
    obtain ⟨n, hn⟩ := h (name, v) (by simp)
    simp only at hn
    subst hn
    have ih' := ih (fun kv hkv => h kv (by simp [hkv]))
    simp only [List.foldlM_cons, repeatStep, pure_bind, ih', repeatInt]
    congr 1
    simp only [List.flatMap_assoc, namedCounts, List.map_cons, countOf, tuples]
    congr 1
    funext p
    simp only [List.flatMap_map, List.map_flatMap, List.map_map]
    congr 1

theorem foldlM_repeatStep_bad (rs : Fields) (h : ∃ kv ∈ rs, ∀ n, kv.2 ≠ Val.int n) :
    ∀ pairs : List (Val × Vars), rs.foldlM repeatStep pairs = .error .invalidRepeat := by
  induction rs with
  | nil => obtain ⟨kv, hkv, _⟩ := h; cases hkv
  | cons kv rest ih =>
    intro pairs
    obtain ⟨name, v⟩ := kv
    by_cases hv : ∃ n, v = .int n
    · obtain ⟨n, rfl⟩ := hv
      have : ∃ kv ∈ rest, ∀ n, kv.2 ≠ Val.int n := by
        obtain ⟨kv, hkv, hb⟩ := h
        rcases List.mem_cons.1 hkv with e | e
        · subst e; exact absurd rfl (hb n)
        · exact ⟨kv, e, hb⟩
      simp only [List.foldlM_cons, repeatStep, pure_bind]
      exact ih this _
    · simp only [List.foldlM_cons, repeatStep]
      cases v <;> first | rfl | exact absurd ⟨_, rfl⟩ hv

/-! ## no `$repeat`: exactly one document -/

theorem C12_repeatDoc_no_repeat_map (kvs : Fields) (ec : Vars) (h : fget kvs "$repeat" = none) :
    repeatDoc (.map kvs) ec = .ok [(.map kvs, ec)] := by
  simp [repeatDoc, h, pure, Except.pure]

theorem C12_repeatDoc_no_repeat_list (xs : List Val) (ec : Vars) (h : noSingleKey "$repeat" xs) :
    repeatDoc (.list xs) ec = .ok [(.list xs, ec)] := by
  simp [repeatDoc, popListMapValue_none _ _ h, Val.isNull, pure, Except.pure, bind, Except.bind]

theorem C12_repeatDoc_no_repeat_scalar (v : Val) (ec : Vars)
    (h1 : ∀ kvs, v ≠ .map kvs) (h2 : ∀ xs, v ≠ .list xs) :
    repeatDoc v ec = .ok [(v, ec)] := by
  cases v <;> first | rfl | exact absurd rfl (h1 _) | exact absurd rfl (h2 _)

/-! ## `repeatInt`, componentwise -/

namespace Gen.Lib

theorem repeatInt_fst (name : String) (count : Int) (pairs : List (Val × Vars)) :
    (repeatInt name count pairs).map (·.1) =
      (pairs.map (·.1)).flatMap fun d => (List.range count.toNat).map fun _ => d := by
  simp [repeatInt, List.map_flatMap, List.flatMap_map, Function.comp_def]

theorem repeatInt_snd (name : String) (count : Int) (pairs : List (Val × Vars)) :
    (repeatInt name count pairs).map (·.2) =
      (pairs.map (·.2)).flatMap fun e => (List.range count.toNat).map fun i => fset e name (.int (Int.ofNat i)) := by
  simp [repeatInt, List.map_flatMap, List.flatMap_map, Function.comp_def]

end Gen.Lib

end Bkl
