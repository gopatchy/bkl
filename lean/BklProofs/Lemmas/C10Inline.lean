/-
  BklProofs.Lemmas.C10Inline — helper definitions and lemmas for the end-to-end "inline"
  statements of C10: the evaluation of reference-free values inside a document, `processDoc` of two
  documents with the same phase-3 value, chains of forwarding references, the referenced subtree in
  the result, the relation between two runs that leave their roots alone (`SimRel`) and the host
  step of `$replace` / `$merge`, the condition `Safe h` on the other entries, the counterexample
  documents.  (Fuel monotonicity of `process1` and the references that denote key paths:
  Lemmas/Process1.)
-/
import BklProofs.Lemmas.Cycles
import BklProofs.Lemmas.EscapeProc
namespace Bkl

/-! ## references that denote a key path of the referencing document -/

theorem pathRef_list (k : String) (ks : List String) :
    PathRef (.list (.str k :: ks.map .str)) (k :: ks) :=
  fun root docs => get_list_strs root docs k ks

/-! ## reference-free values -/

theorem process1_refFree_inv {fuel : Nat} {docs : List Val} {root : Val} {loc : Loc}
    {c y rb : Val} (hcf : refFree c = true) (h : process1 fuel docs root loc c = .ok (y, rb)) :
    process1 fuel [] .null none c = .ok (y, .null) ∧ rb = root := by
  rw [process1_refFree fuel c hcf] at h
  cases hq : process1 fuel [] .null none c with
  | error e => rw [hq] at h; cases h
  | ok q =>
    obtain ⟨y', n⟩ := q
    rw [hq] at h
    cases h
    exact ⟨by rw [process1_frame fuel _ _ _ _ _ _ hq], rfl⟩

theorem process1_refFree_of {fuel : Nat} {c y : Val} (hcf : refFree c = true)
    (h : process1 fuel [] .null none c = .ok (y, .null)) (docs : List Val) (root : Val)
    (loc : Loc) : process1 fuel docs root loc c = .ok (y, root) := by
  rw [process1_refFree fuel c hcf, h]; rfl

theorem refFree_ne_circ {fuel : Nat} {v : Val} (hv : refFree v = true) (hd : depth v < fuel)
    (docs : List Val) (root : Val) (loc : Loc) :
    process1 fuel docs root loc v ≠ .error .circularRef := by
  obtain ⟨x, hx⟩ := process1_refFree_ok fuel v hv hd
  rw [process1_refFree_of hv hx]; intro h; cases h

/-- In the evaluation `x` of a map with distinct non-reference keys, the entry `k` — a
    reference-free value `c` — has become the evaluation of `c` (nothing, if that is `null`). -/
theorem map_entry_eval {fuel : Nat} {docs : List Val} {root : Val} {loc : Loc} {m : Fields}
    {x rt : Val} {k : String} {c : Val}
    (hs : Fields.SortedKeys m) (hkeys : ∀ p ∈ m, refKey p.1 = false)
    (h : process1 (fuel + 1) docs root loc (.map m) = .ok (x, rt))
    (hc : fget m k = some c) (hcf : refFree c = true) :
    ∃ y r, x = .map r ∧ process1 fuel [] .null none c = .ok (y, .null) ∧
      fget r k = if y.isNull then none else some y := by
  obtain ⟨r, rfl, hfold⟩ := process1_map_plain_inv hkeys h
  obtain ⟨_, hspec, _⟩ := mapFold_spec (fun _ => True) m [] r root rt (sorted_nodup hs) hkeys
    trivial (fun _ _ _ _ _ _ _ => trivial) hfold
  obtain ⟨ra, y, rb, _, hy, hfy⟩ := hspec (k, c) (fget_mem hc)
  exact ⟨y, r, rfl, (process1_refFree_inv hcf hy).1, hfy⟩

/-- … and below it: the path `k :: ks`, which holds `t` inside the well-formed, reference-free
    entry `c`, holds the evaluation of `t` in `x`. -/
theorem getPath_eval : ∀ (ks : List String) (fuel : Nat) (docs : List Val) (root : Val)
    (loc : Loc) (m : Fields) (x rt : Val) (k : String) (c t : Val),
    Fields.SortedKeys m → (∀ p ∈ m, refKey p.1 = false) →
    process1 (fuel + 1) docs root loc (.map m) = .ok (x, rt) →
    fget m k = some c → refFree c = true → Val.WF c → getPath c ks = .ok t →
    ∃ tv, process1 fuel [] .null none t = .ok (tv, .null) ∧
      getPath x (k :: ks) = if tv.isNull then .error .refNotFound else .ok tv := by
  intro ks
  induction ks with
  | nil =>
    intro fuel docs root loc m x rt k c t hs hkeys h hc hcf _ hg
    cases hg
    obtain ⟨y, r, rfl, hy, hfy⟩ := map_entry_eval hs hkeys h hc hcf
    refine ⟨y, hy, ?_⟩
    simp only [getPath, hfy]
    cases y.isNull <;> rfl
  | cons k2 ks ih =>
    intro fuel docs root loc m x rt k c t hs hkeys h hc hcf hcw hg
    obtain ⟨y, r, rfl, hy, hfy⟩ := map_entry_eval hs hkeys h hc hcf
    -- `c` holds a path, so it is a map, and so is its evaluation: not null
    cases c with
    | map cm =>
      cases fuel with
      | zero => rw [process1_zero] at hy; cases hy
      | succ f =>
        simp only [refFree] at hcf
        have hck := fun p hp => (refFreeFields_mem hcf p hp).1
        obtain ⟨yr, rfl, _⟩ := process1_map_plain_inv hck hy
        simp only [getPath] at hg
        cases hd : fget cm k2 with
        | none => rw [hd] at hg; cases hg
        | some d =>
          rw [hd] at hg
          obtain ⟨tv, htv, hp⟩ := ih f [] .null none cm _ _ k2 d t (wf_map_iff.1 hcw).1 hck hy hd
            (refFreeFields_mem hcf _ (fget_mem hd)).2 (wf_of_fget hcw hd) hg
          refine ⟨tv, (process1_mono f [] .null none t).ok htv, ?_⟩
          simp only [getPath, hfy, Val.isNull, Bool.false_eq_true, if_false]
          exact hp
    | _ => cases hg

/-! ## lifting to `processDoc` / `outputDocument` -/

theorem processDoc_congr {docs : List Val} {env : Vars} {a b : Val}
    (h : Except.map Prod.fst (process1 depthLimit docs a (some []) a) =
      Except.map Prod.fst (process1 depthLimit docs b (some []) b)) :
    processDoc docs env a = processDoc docs env b := by
  rw [processDoc_eq_fst, processDoc_eq_fst, h]

theorem outputDocument_congr {docs : List Val} {env : Vars} {a b : Val}
    (h : processDoc docs env a = processDoc docs env b) :
    outputDocument docs env a = outputDocument docs env b := by
  rw [outputDocument_eq, outputDocument_eq, h]

/-! ## chains of string-form references -/

/-- `a₁: "$replace:a₂"`, …, `aₖ₋₁: "$replace:aₖ"`, `aₖ: t` inside the map `kvs`; every `aᵢ` is a
    simple key -/
def chainLinks (kvs : Fields) (t : Val) : List String → Prop
  | [] => False
  | [a] => SimpleKey a ∧ fget kvs a = some t
  | a :: b :: rest =>
    SimpleKey a ∧ fget kvs a = some (.str ("$replace:" ++ b)) ∧ chainLinks kvs t (b :: rest)

theorem chainLinks_suffix {kvs : Fields} {t : Val} : ∀ (pre : List String) {a : String}
    {rest : List String}, chainLinks kvs t (pre ++ a :: rest) → chainLinks kvs t (a :: rest)
  | [], _, _, h => h
  | [x], a, rest, h => by
    simp only [List.cons_append, List.nil_append, chainLinks] at h
    exact h.2.2
  | x :: y :: pre, a, rest, h => by
    simp only [List.cons_append, chainLinks] at h
    exact chainLinks_suffix (y :: pre) h.2.2

theorem chain_ref {kvs : Fields} {t : Val} : ∀ (rest : List String) (a : String),
    chainLinks kvs t (a :: rest) → ∀ (fuel : Nat) (docs : List Val) (loc : Loc),
      process1 (fuel + rest.length + 1) docs (.map kvs) loc (.str ("$replace:" ++ a)) =
        process1 fuel docs (.map kvs) none t := by
  intro rest
  induction rest with
  | nil =>
    intro a h fuel docs loc
    simp only [chainLinks] at h
    rw [List.length_nil, Nat.add_zero, forwards_str_replace a fuel docs _ loc,
      get_simpleKey h.1 docs h.2, ok_bind]
  | cons b rest ih =>
    intro a h fuel docs loc
    simp only [chainLinks] at h
    rw [forwards_str_replace a _ docs _ loc, get_simpleKey h.1 docs h.2.1, ok_bind,
      List.length_cons]
    exact ih b h.2.2 fuel docs none

theorem chain_value {kvs : Fields} {t : Val} {a : String} {rest : List String}
    (h : chainLinks kvs t (a :: rest)) (htf : refFree t = true) :
    ∃ v, fget kvs a = some v ∧ ∀ (fuel : Nat) (docs : List Val) (loc : Loc),
      process1 (fuel + rest.length) docs (.map kvs) loc v =
        Except.map (fun r => (r.1, Val.map kvs)) (process1 fuel [] .null none t) := by
  cases rest with
  | nil =>
    simp only [chainLinks] at h
    exact ⟨t, h.2, fun fuel docs loc => process1_refFree fuel t htf docs _ loc⟩
  | cons b rest =>
    have h' := h
    simp only [chainLinks] at h'
    refine ⟨_, h'.2.1, fun fuel docs loc => ?_⟩
    rw [List.length_cons, ← Nat.add_assoc, chain_ref rest b h'.2.2 fuel docs loc]
    exact process1_refFree fuel t htf docs _ none

/-- every entry of a document made of a chain `as` ending in `t` and reference-free entries,
    evaluated with the fuel the document leaves its entries: the links yield the evaluation `tv`
    of `t`; nothing writes the root -/
theorem chain_entry {fuel : Nat} {docs : List Val} {kvs : Fields} {t tv : Val}
    {as : List String}
    (hs : Fields.SortedKeys kvs) (hc : chainLinks kvs t as) (htf : refFree t = true)
    (ho : ∀ p ∈ kvs, p.1 ∉ as → refFree p.2 = true)
    (htv : process1 fuel [] .null none t = .ok (tv, .null)) {p : String × Val} (hp : p ∈ kvs)
    (loc : Loc) :
    (p.1 ∈ as → process1 (fuel + as.length) docs (.map kvs) loc p.2 = .ok (tv, .map kvs)) ∧
    ∀ x rt', process1 (fuel + as.length) docs (.map kvs) loc p.2 = .ok (x, rt') →
      rt' = .map kvs := by
  by_cases hmem : p.1 ∈ as
  · obtain ⟨pre, rest, e⟩ := List.append_of_mem hmem
    obtain ⟨w, hw, hval⟩ := chain_value (chainLinks_suffix pre (e ▸ hc)) htf
    have hpw : p.2 = w := by
      have := fget_of_mem_sorted hs (show (p.1, p.2) ∈ kvs from hp)
      rw [hw] at this; cases this; rfl
    have hlen : fuel + as.length = (fuel + pre.length + 1) + rest.length := by
      rw [e, List.length_append, List.length_cons]; omega
    have htv' : process1 (fuel + pre.length + 1) [] .null none t = .ok (tv, .null) :=
      (process1_mono_add fuel (pre.length + 1) [] .null none t).ok htv
    have hval' := hval (fuel + pre.length + 1) docs loc
    rw [← hlen, ← hpw, htv'] at hval'
    exact ⟨fun _ => hval', fun x rt' hx => by rw [hval'] at hx; cases hx; rfl⟩
  · exact ⟨fun hm => absurd hm hmem,
      fun x rt' hx => (process1_refFree_inv (ho p hp hmem) hx).2⟩

theorem chain_document_core {fuel : Nat} {docs : List Val} {kvs : Fields} {t tv v r' : Val}
    {as : List String}
    (hs : Fields.SortedKeys kvs) (hc : chainLinks kvs t as) (htf : refFree t = true)
    (hkeys : ∀ p ∈ kvs, refKey p.1 = false)
    (ho : ∀ p ∈ kvs, p.1 ∉ as → refFree p.2 = true)
    (htv : process1 fuel [] .null none t = .ok (tv, .null))
    (hrun : process1 (fuel + as.length + 1) docs (.map kvs) (some []) (.map kvs) = .ok (v, r')) :
    r' = .map kvs ∧ ∀ a ∈ as,
      getPath v [a] = if tv.isNull then .error .refNotFound else .ok tv := by
  have hentry := fun p hp loc => chain_entry (docs := docs) hs hc htf ho htv (p := p) hp loc
  obtain ⟨r, rfl, hfold⟩ := process1_map_plain_inv hkeys hrun
  obtain ⟨hrt, hspec, _⟩ := mapFold_spec (· = Val.map kvs) kvs [] r _ r' (sorted_nodup hs) hkeys
    rfl (fun p hp ra x rb hra hx => (hentry p hp _).2 x rb (hra ▸ hx)) hfold
  refine ⟨hrt, fun a ha => ?_⟩
  -- `a` is a key of `kvs`
  obtain ⟨pre, rest, e⟩ := List.append_of_mem ha
  obtain ⟨w, hw, _⟩ := chain_value (chainLinks_suffix pre (e ▸ hc)) htf
  obtain ⟨ra, x, rb, rfl, hx, hfx⟩ := hspec (a, w) (fget_mem hw)
  rw [(hentry (a, w) (fget_mem hw) _).1 ha] at hx
  cases hx
  simp only [getPath, hfx, fget]
  cases tv.isNull <;> rfl

theorem chain_document_ok {fuel : Nat} {docs : List Val} {kvs : Fields} {t tv : Val}
    {as : List String}
    (hs : Fields.SortedKeys kvs) (hc : chainLinks kvs t as) (htf : refFree t = true)
    (hkeys : ∀ p ∈ kvs, refKey p.1 = false)
    (ho : ∀ p ∈ kvs, p.1 ∉ as → refFree p.2 = true ∧ depth p.2 < fuel + as.length)
    (htv : process1 fuel [] .null none t = .ok (tv, .null)) :
    ∃ v, process1 (fuel + as.length + 1) docs (.map kvs) (some []) (.map kvs) =
      .ok (v, .map kvs) := by
  obtain ⟨r, hr⟩ := mapFold_ok (fuel := fuel + as.length) (docs := docs)
    (root := .map kvs) (loc := some []) (l := kvs) (fun p hp => by
      refine ⟨hkeys p hp, ?_⟩
      by_cases hmem : p.1 ∈ as
      · exact ⟨tv, (chain_entry hs hc htf (fun p hp hm => (ho p hp hm).1) htv hp _).1 hmem⟩
      · obtain ⟨hf, hd⟩ := ho p hp hmem
        obtain ⟨x, hx⟩ := process1_refFree_ok _ p.2 hf hd
        exact ⟨x, process1_refFree_of hf hx _ _ _⟩) []
  rw [process1_map_plain (no_ref_keys hkeys).1 (no_ref_keys hkeys).2, hr]
  exact ⟨_, rfl⟩

/-! ## the referenced subtree in the result -/

theorem doc_entry {kvs : Fields} {h : String} (hs : Fields.SortedKeys kvs)
    (ho : refFreeFields (fdel kvs h) = true) {p : String × Val} (hp : p ∈ kvs) (hne : p.1 ≠ h) :
    refKey p.1 = false ∧ refFree p.2 = true :=
  refFreeFields_mem ho p (fget_mem (by
    rw [fget_fdel_ne _ _ _ hne]; exact fget_of_mem_sorted hs hp))

theorem doc_keys {kvs : Fields} {h : String} (hs : Fields.SortedKeys kvs)
    (hhk : refKey h = false) (ho : refFreeFields (fdel kvs h) = true) :
    ∀ p ∈ kvs, refKey p.1 = false := by
  intro p hp
  by_cases e : p.1 = h
  · rw [e]; exact hhk
  · exact (doc_entry hs ho hp e).1

theorem doc_getPath_eval {fuel : Nat} {docs : List Val} {kvs : Fields} {h k : String}
    {t v r' : Val} {ks : List String}
    (hw : Val.WF (.map kvs)) (hhk : refKey h = false) (hk : k ≠ h)
    (ht : getPath (.map kvs) (k :: ks) = .ok t) (ho : refFreeFields (fdel kvs h) = true)
    (hrun : process1 (fuel + 2) docs (.map kvs) (some []) (.map kvs) = .ok (v, r')) :
    ∃ tv, process1 (fuel + 1) [] .null none t = .ok (tv, .null) ∧
      getPath v (k :: ks) = (if tv.isNull then .error .refNotFound else .ok tv) := by
  have hs := (wf_map_iff.1 hw).1
  obtain ⟨c, hc, hg⟩ := getPath_cons_inv ht
  exact getPath_eval ks _ docs _ _ kvs v r' k c t hs (doc_keys hs hhk ho) hrun hc
    (doc_entry hs ho (fget_mem hc) hk).2 (wf_of_fget hw hc) hg

theorem replace_unchanged_core {fuel : Nat} {docs : List Val} {kvs : Fields} {h k : String}
    {hostv ref t v r' : Val} {ks : List String}
    (hw : Val.WF (.map kvs)) (hh : fget kvs h = some hostv) (hhk : refKey h = false)
    (hfw : Forwards hostv ref) (hp : PathRef ref (k :: ks)) (hk : k ≠ h)
    (ht : getPath (.map kvs) (k :: ks) = .ok t)
    (htf : refFree t = true) (ho : refFreeFields (fdel kvs h) = true)
    (hrun : process1 (fuel + 2) docs (.map kvs) (some []) (.map kvs) = .ok (v, r')) :
    r' = .map kvs ∧ ∃ tv, process1 (fuel + 1) [] .null none t = .ok (tv, .null) ∧
      getPath v (k :: ks) = (if tv.isNull then .error .refNotFound else .ok tv) ∧
      getPath v [h] = (if tv.isNull then .error .refNotFound else .ok tv) := by
  have hs := (wf_map_iff.1 hw).1
  have hkeys := doc_keys hs hhk ho
  obtain ⟨tv, htv, hpath⟩ := doc_getPath_eval hw hhk hk ht ho hrun
  -- the host yields the evaluation of `t` and hands the root back
  have hhost : ∀ x rb, process1 (fuel + 1) docs (.map kvs) (some [.key h]) hostv = .ok (x, rb) →
      x = tv ∧ rb = .map kvs := by
    intro x rb hx
    rw [hfw.to_path hp ht] at hx
    obtain ⟨hx, hrb⟩ := process1_refFree_inv htf hx
    have := (process1_mono fuel [] .null none t).ok hx
    rw [htv] at this
    cases this
    exact ⟨rfl, hrb⟩
  obtain ⟨r, rfl, hfold⟩ := process1_map_plain_inv hkeys hrun
  obtain ⟨hrt, hspec, _⟩ := mapFold_spec (· = Val.map kvs) kvs [] r _ r' (sorted_nodup hs) hkeys
    rfl (fun p hp ra x rb hra hx => by
      subst hra
      by_cases e : p.1 = h
      · have hp2 := fget_of_mem_sorted hs (show (p.1, p.2) ∈ kvs from hp)
        rw [e, hh] at hp2
        cases hp2
        rw [e] at hx
        exact (hhost x rb hx).2
      · exact (process1_refFree_inv (doc_entry hs ho hp e).2 hx).2) hfold
  obtain ⟨ra, x, rb, rfl, hx, hfx⟩ := hspec (h, hostv) (fget_mem hh)
  obtain ⟨rfl, _⟩ := hhost x rb hx
  refine ⟨hrt, x, htv, hpath, ?_⟩
  simp only [getPath, hfx, fget]
  cases x.isNull <;> rfl

theorem merge_unchanged_core {fuel : Nat} {docs : List Val} {kvs : Fields} {h k : String}
    {t v r' : Val} {ks : List String}
    (hw : Val.WF (.map kvs)) (hhk : refKey h = false)
    (hk : k ≠ h) (ht : getPath (.map kvs) (k :: ks) = .ok t)
    (ho : refFreeFields (fdel kvs h) = true)
    (hrun : process1 (fuel + 2) docs (.map kvs) (some []) (.map kvs) = .ok (v, r')) :
    getPath r' (k :: ks) = .ok t ∧ ∃ tv, process1 (fuel + 1) [] .null none t = .ok (tv, .null) ∧
      getPath v (k :: ks) = (if tv.isNull then .error .refNotFound else .ok tv) := by
  have hs := (wf_map_iff.1 hw).1
  have hkeys := doc_keys hs hhk ho
  refine ⟨?_, doc_getPath_eval hw hhk hk ht ho hrun⟩
  obtain ⟨r, rfl, hfold⟩ := process1_map_plain_inv hkeys hrun
  -- the host writes below `h` only, the other entries not at all
  exact (mapFold_spec (fun ra => getPath ra (k :: ks) = .ok t) kvs [] r _ r' (sorted_nodup hs)
    hkeys ht (fun p hp ra x rb hra hx => by
      by_cases e : p.1 = h
      · have hfr := process1_frame _ docs _ _ _ _ _ hx ((k :: ks).map .key)
          (disjoint_keys ks (e ▸ hk))
        rw [getPath_eq_getLoc, hfr, ← getPath_eq_getLoc, hra]
      · rw [(process1_refFree_inv (doc_entry hs ho hp e).2 hx).2]; exact hra) hfold).1

theorem fget_append_host_ne {h k : String} (pre post : Fields) (x y : Val) (hkh : k ≠ h) :
    fget (pre ++ (h, x) :: post) k = fget (pre ++ (h, y) :: post) k := by
  rw [fget_append, fget_append, fget_cons_ne hkh.symm, fget_cons_ne hkh.symm]

/-! ## the simulation relation -/

/-- both runs fail with the same error, or both succeed with the same value and hand their
    roots back unchanged -/
def SimRel {α : Type} (r1 r2 : Val) (x y : R (α × Val)) : Prop :=
  match x, y with
  | .error e, .error e' => e = e'
  | .ok p, .ok q => p.1 = q.1 ∧ p.2 = r1 ∧ q.2 = r2
  | _, _ => False

theorem simRel_ok {α : Type} (r1 r2 : Val) (a : α) :
    SimRel r1 r2 (.ok (a, r1) : R (α × Val)) (.ok (a, r2)) := ⟨rfl, rfl, rfl⟩

theorem simRel_error {α : Type} (r1 r2 : Val) (e : Err) :
    SimRel r1 r2 (.error e : R (α × Val)) (.error e) := rfl

theorem simRel_cases {α : Type} {r1 r2 : Val} {x y : R (α × Val)} (h : SimRel r1 r2 x y) :
    (∃ e, x = .error e ∧ y = .error e) ∨ (∃ a, x = .ok (a, r1) ∧ y = .ok (a, r2)) := by
  cases x with
  | error e =>
    cases y with
    | error e' => have : e = e' := h; subst this; exact Or.inl ⟨e, rfl, rfl⟩
    | ok q => exact h.elim
  | ok p =>
    cases y with
    | error e' => exact h.elim
    | ok q =>
      obtain ⟨a, ra⟩ := p
      obtain ⟨b, rb⟩ := q
      obtain ⟨h1, h2, h3⟩ := h
      simp only at h1 h2 h3
      subst h1 h2 h3
      exact Or.inr ⟨a, rfl, rfl⟩

theorem simRel_bind {α β : Type} {r1 r2 : Val} {x y : R (α × Val)}
    {F G : α × Val → R (β × Val)} (h : SimRel r1 r2 x y)
    (hF : ∀ a, SimRel r1 r2 (F (a, r1)) (G (a, r2))) : SimRel r1 r2 (x >>= F) (y >>= G) := by
  rcases simRel_cases h with ⟨e, rfl, rfl⟩ | ⟨a, rfl, rfl⟩
  · exact simRel_error _ _ _
  · exact hF a

theorem simRel_foldlM {α β : Type} {r1 r2 : Val} {f g : β × Val → α → R (β × Val)} :
    ∀ (l : List α), (∀ acc, ∀ p ∈ l, SimRel r1 r2 (f (acc, r1) p) (g (acc, r2) p)) →
      ∀ acc, SimRel r1 r2 (l.foldlM f (acc, r1)) (l.foldlM g (acc, r2)) := by
  intro l
  induction l with
  | nil => intro _ acc; exact simRel_ok _ _ _
  | cons p tl ih =>
    intro h acc
    rw [List.foldlM_cons, List.foldlM_cons]
    exact simRel_bind (h acc p List.mem_cons_self)
      (fun a => ih (fun acc q hq => h acc q (List.mem_cons_of_mem _ hq)) a)

theorem simRel_map_fst {α : Type} {r1 r2 : Val} {x y : R (α × Val)} (h : SimRel r1 r2 x y) :
    Except.map Prod.fst x = Except.map Prod.fst y := by
  rcases simRel_cases h with ⟨e, rfl, rfl⟩ | ⟨a, rfl, rfl⟩ <;> rfl

theorem simRel_refFree {fuel : Nat} {t : Val} (htf : refFree t = true)
    (hfuel : process1 fuel [] .null none t ≠ .error .circularRef)
    (docs : List Val) (r1 r2 : Val) (l1 l2 : Loc) :
    SimRel r1 r2 (process1 fuel docs r1 l1 t) (process1 (fuel + 1) docs r2 l2 t) := by
  rw [process1_refFree fuel t htf docs r1 l1, process1_refFree_succ htf hfuel]
  cases process1 fuel [] .null none t with
  | error e => exact simRel_error _ _ _
  | ok q => exact ⟨rfl, rfl, rfl⟩

/-! ## the host step -/

theorem replace_host_rel {fuel : Nat} {docs : List Val} {root root' : Val} {loc loc' : Loc}
    {hostv ref t : Val} {ks : List String}
    (hfw : Forwards hostv ref) (hp : PathRef ref ks) (ht : getPath root ks = .ok t)
    (htf : refFree t = true) (hfuel : process1 fuel [] .null none t ≠ .error .circularRef) :
    SimRel root root' (process1 (fuel + 1) docs root loc hostv)
      (process1 (fuel + 1) docs root' loc' t) := by
  rw [hfw.to_path hp ht]
  exact simRel_refFree htf hfuel _ _ _ _ _

theorem refFreeFields_no_marker {s : Fields} (h : refFreeFields s = true) :
    fhasBool s "$replace" true = false := by
  cases hb : fhasBool s "$replace" true with
  | false => rfl
  | true =>
    rw [fhasBool_iff, (refFreeFields_fget h).2] at hb
    cases hb

/-- the values that a map-level `$merge` can take in such that the result is the in-place
    evaluation of `merge local t`: a map without the `$replace: true` marker (whatever it
    contains), `null`, or any reference-free value -/
def MergeInlinable (t : Val) : Prop :=
  (∃ s, t = .map s ∧ fhasBool s "$replace" true = false) ∨ t = .null ∨ refFree t = true

theorem MergeInlinable.no_marker {t : Val} (h : MergeInlinable t) {s : Fields} (e : t = .map s) :
    fhasBool s "$replace" true = false := by
  subst e
  rcases h with ⟨s', e', hr⟩ | e' | htf
  · cases e'; exact hr
  · cases e'
  · exact refFreeFields_no_marker htf

theorem MergeInlinable.inPlace {t : Val} (h : MergeInlinable t) :
    mergesInPlace t = (t.isMap || t.isNull) := by
  cases t with
  | map s => simp only [mergesInPlace, h.no_marker rfl]; rfl
  | _ => rfl

/-- The `$merge` host `.map m` at the location `loc` of `root`, where `S x` is `root` with `x`
    written at `loc` and the referenced path `ks` does not see that write: `merge local t`, then
    a map or `null` target is evaluated in place, any other target as a copy. -/
theorem process1_merge_host {fuel : Nat} {docs : List Val} {root : Val} {loc : Loc}
    {S : Val → Val} {m : Fields} {ref t : Val} {ks : List String}
    (hS1 : ∀ x, setLoc root loc x = S x) (hS2 : ∀ x y, setLoc (S x) loc y = S y)
    (hS3 : ∀ x, getPath (S x) ks = getPath root ks)
    (hm : fget m "$merge" = some ref) (hp : PathRef ref ks) (ht : getPath root ks = .ok t)
    (hti : MergeInlinable t) :
    process1 (fuel + 1) docs root loc (.map m) =
      (merge (.map (fdel m "$merge")) t >>= fun nv =>
        if t.isMap || t.isNull then process1 fuel docs (S nv) loc nv
        else process1 fuel docs (S (.map (fdel m "$merge"))) none nv) := by
  rw [process1_merge_eq hm, hS1, hp, hS3, ht, ok_bind, hti.inPlace]
  simp only [hS2]

/-- Either the two evaluations of the host entry coincide (the merged map is evaluated in place
    in both documents), or they produce the same value and leave their roots `S local`, `S nv`
    alone (a scalar or list copied into an empty host). -/
theorem merge_host_rel {fuel : Nat} {docs : List Val} {root : Val} {loc : Loc}
    {S : Val → Val} {m : Fields} {ref t nv : Val} {ks : List String}
    (hS1 : ∀ x, setLoc root loc x = S x) (hS2 : ∀ x y, setLoc (S x) loc y = S y)
    (hS3 : ∀ x, getPath (S x) ks = getPath root ks)
    (hm : fget m "$merge" = some ref) (hp : PathRef ref ks) (ht : getPath root ks = .ok t)
    (hti : MergeInlinable t) (hn : merge (.map (fdel m "$merge")) t = .ok nv)
    (hfuel : process1 fuel docs (S nv) loc nv ≠ .error .circularRef) :
    process1 (fuel + 1) docs root loc (.map m) = process1 (fuel + 1) docs (S nv) loc nv ∨
      SimRel (S (.map (fdel m "$merge"))) (S nv)
        (process1 (fuel + 1) docs root loc (.map m))
        (process1 (fuel + 1) docs (S nv) loc nv) := by
  rw [process1_merge_host hS1 hS2 hS3 hm hp ht hti, hn, ok_bind]
  cases hin : t.isMap || t.isNull with
  | true => exact Or.inl ((process1_mono fuel docs (S nv) loc nv).eq hfuel).symm
  | false =>
    -- `t` is a reference-free scalar or list, the host is empty and `nv = t`
    rw [Bool.or_eq_false_iff] at hin
    rw [merge_map_other _ _ hin.1 hin.2] at hn
    split at hn
    · cases hn
      have htf : refFree t = true := by
        rcases hti with ⟨s, e, _⟩ | e | htf
        · rw [e] at hin; cases hin.1
        · rw [e] at hin; cases hin.2
        · exact htf
      refine Or.inr (simRel_refFree htf ?_ _ _ _ _ _)
      rw [process1_refFree fuel t htf] at hfuel
      intro e; rw [e] at hfuel; exact hfuel rfl
    · cases hn

/-! ## entries that never read the host

  `Safe h v`: `v` contains no map-level `$merge` key (so it is never expanded in place), and every
  reference it contains — the value of a `$replace` key, a `$merge:` / `$replace:` string, leaf
  or key — is a path reference into the referencing document whose first key is not `h` (no
  whole-document reference, no cross-document reference). -/

/-- the reference string `p` is a path that does not start at the key `h` (or is outside the
    modelled sub-language: an error whatever the document) -/
def safeStrRef (h : String) (p : String) : Bool :=
  match parseRef p with
  | some (.str s) =>
    match s.splitOn "." with
    | k :: _ => k != h
    | [] => false
  | some (.list l) =>
    match l with
    | .str k :: _ => k != h
    | _ => false
  | _ => true

/-- the reference value `ref` is such a path (string or list form), or not a reference at all
    (`get` fails whatever the document) -/
def safeRef (h : String) : Val → Bool
  | .str p => safeStrRef h p
  | .list l =>
    match l with
    | .str k :: _ => k != h
    | _ => false
  | .map _ => false
  | _ => true

def safeStr (h : String) (s : String) : Bool :=
  match stripPrefix s "$merge:" with
  | some p => safeStrRef h p
  | none =>
    match stripPrefix s "$replace:" with
    | some p => safeStrRef h p
    | none => true

mutual
def Safe (h : String) : Val → Bool
  | .str s => safeStr h s
  | .list xs => SafeList h xs
  | .map kvs => SafeFields h kvs
  | _ => true
def SafeList (h : String) : List Val → Bool
  | [] => true
  | x :: xs => Safe h x && SafeList h xs
def SafeFields (h : String) : Fields → Bool
  | [] => true
  | (k, v) :: rest =>
    !(k == "$merge") && safeStr h k && (!(k == "$replace") || safeRef h v) && Safe h v &&
      SafeFields h rest
end

theorem safeList_iff {h : String} {xs : List Val} :
    SafeList h xs = true ↔ ∀ x ∈ xs, Safe h x = true :=
  all_of_eqns (SafeList.eq_1 h) (SafeList.eq_2 h)

theorem safeFields_iff {h : String} {kvs : Fields} :
    SafeFields h kvs = true ↔ ∀ q ∈ kvs, q.1 ≠ "$merge" ∧ safeStr h q.1 = true ∧
      (q.1 = "$replace" → safeRef h q.2 = true) ∧ Safe h q.2 = true :=
  (all_of_eqns (SafeFields.eq_1 h) fun q l => SafeFields.eq_2 h q.1 q.2 l).trans
    (forall₂_congr fun q _ => by
      simp only [Bool.and_eq_true, Bool.not_eq_true', beq_eq_false_iff_ne, Bool.or_eq_true, and_assoc,
        ne_eq, ← Decidable.imp_iff_not_or])

theorem safeStr_of_not_refStr {h s : String} (hs : refStr s = false) : safeStr h s = true := by
  simp only [refStr, Bool.or_eq_false_iff] at hs
  simp only [safeStr, e_stripPrefix_none hs.1, e_stripPrefix_none hs.2]

theorem refFree_safe (h : String) : ∀ v : Val, refFree v = true → Safe h v = true := by
  intro v
  induction v using Val.induction_mem with
  | str s =>
    intro hv
    simp only [refFree, Bool.not_eq_true'] at hv
    simp only [Safe]; exact safeStr_of_not_refStr hv
  | list xs ih =>
    rw [refFree, refFreeList_iff, Safe, safeList_iff]
    exact fun hv x hx => ih x hx (hv x hx)
  | map kvs ih =>
    rw [refFree, refFreeFields_iff, Safe, safeFields_iff]
    intro hv q hq
    have hk := (hv q hq).1
    simp only [refKey, Bool.or_eq_false_iff, beq_eq_false_iff_ne] at hk
    exact ⟨hk.1.1, safeStr_of_not_refStr hk.2, fun e => absurd e hk.1.2, ih q hq (hv q hq).2⟩
  | _ => intro _; rfl
theorem refFreeList_safe (h : String) : ∀ xs : List Val, refFreeList xs = true →
    SafeList h xs = true :=
  fun xs hv => (Safe.eq_2 h xs).symm.trans (refFree_safe h (.list xs) (by rwa [refFree]))
theorem refFreeFields_safe (h : String) : ∀ kvs : Fields, refFreeFields kvs = true →
    SafeFields h kvs = true :=
  fun kvs hv => (Safe.eq_3 h kvs).symm.trans (refFree_safe h (.map kvs) (by rwa [refFree]))

theorem safeStrRef_a (h : String) (hne : "a" ≠ h) : safeStrRef h "a" = true := by
  simp only [safeStrRef, parseRef_a, splitOn_a]
  simpa using hne

theorem safe_str_replace {h p : String} (hp : safeStrRef h p = true) :
    Safe h (.str ("$replace:" ++ p)) = true := by
  simp only [Safe, safeStr, stripPrefix_replace_append_merge, stripPrefix_replace_append, hp]

theorem safe_str_merge {h p : String} (hp : safeStrRef h p = true) :
    Safe h (.str ("$merge:" ++ p)) = true := by
  simp only [Safe, safeStr, stripPrefix_merge_append, hp]

/-- `{$replace: "p"}` with a safe `p` -/
theorem safe_map_replace {h p : String} (hp : safeStrRef h p = true) (hps : refStr p = false) :
    Safe h (.map [("$replace", .str p)]) = true := by
  simp only [Safe]
  apply safeFields_iff.2
  intro q hq
  simp only [List.mem_cons, List.not_mem_nil, or_false] at hq
  subst hq
  have h1 : "$replace" ≠ "$merge" := by decide +kernel
  have h2 : refStr "$replace" = false := by decide +kernel
  refine ⟨h1, safeStr_of_not_refStr h2, fun _ => ?_, ?_⟩
  · simpa [safeRef] using hp
  · simp only [Safe]; exact safeStr_of_not_refStr hps

/-! ## concrete evaluations (counterexamples and non-vacuity) -/

theorem mergeFields_of_merge {d s : Fields} {r : R Fields}
    (hr : fhasBool s "$replace" true = false) (h : merge (.map d) (.map s) = r.map .map) :
    mergeFields d s = r := by
  rw [merge_map_map_noreplace hr] at h
  revert h
  cases mergeFields d s <;> cases r <;> intro h <;> cases h <;> rfl

theorem refKey_a : refKey "a" = false := by decide +kernel
theorem refKey_b : refKey "b" = false := by decide +kernel
theorem refKey_c : refKey "c" = false := by decide +kernel
theorem refKey_d : refKey "d" = false := by decide +kernel
theorem refKey_h : refKey "h" = false := by decide +kernel
theorem refKey_p : refKey "p" = false := by decide +kernel
theorem refKey_q : refKey "q" = false := by decide +kernel
theorem refKey_r : refKey "r" = false := by decide +kernel
theorem refKey_s : refKey "s" = false := by decide +kernel
theorem refKey_u : refKey "u" = false := by decide +kernel
theorem refKey_x : refKey "x" = false := by decide +kernel
theorem refKey_y : refKey "y" = false := by decide +kernel

theorem refStr_of_refKey {k : String} (h : refKey k = false) : refStr k = false := by
  simp only [refKey, Bool.or_eq_false_iff] at h
  exact h.2

theorem refFree_int_entry {k : String} (hk : refKey k = false) (i : Int) :
    refFree (.map [(k, .int i)]) = true := by
  simp only [refFree, refFreeFields, hk, Bool.not_false, Bool.and_self]

theorem safeFields_cons {h k : String} {v : Val} {rest : Fields} (hk : refKey k = false)
    (hv : Safe h v = true) (hr : SafeFields h rest = true) :
    SafeFields h ((k, v) :: rest) = true := by
  have := refKey_false hk
  simp only [SafeFields, Bool.and_eq_true, Bool.not_eq_true', beq_eq_false_iff_ne,
    Bool.or_eq_true]
  exact ⟨⟨⟨⟨this.1, safeStr_of_not_refStr (refStr_of_refKey hk)⟩, Or.inl this.2.1⟩, hv⟩, hr⟩

theorem process1_str_of_refKey {s : String} (hs : refKey s = false) (fuel : Nat) (docs : List Val)
    (root : Val) (loc : Loc) : process1 (fuel + 1) docs root loc (.str s) = .ok (.str s, root) :=
  process1_str_plain (refKey_false hs).2.2.1 (refKey_false hs).2.2.2

theorem process1_single {fuel : Nat} {docs : List Val} {root : Val} {loc : Loc} {k : String}
    {v x : Val} (hk : refKey k = false)
    (hv : process1 fuel docs root (childLoc loc k) v = .ok (x, root)) (hx : x.isNull = false) :
    process1 (fuel + 1) docs root loc (.map [(k, v)]) = .ok (.map [(k, x)], root) := by
  have hkeys : ∀ p ∈ [(k, v)], refKey p.1 = false := fun p hp => by
    rw [List.mem_singleton.1 hp]; exact hk
  rw [process1_map_plain (no_ref_keys hkeys).1 (no_ref_keys hkeys).2, foldlM_cons,
    mapStep_ok hk hv hx]
  rfl

theorem keys_pair {k1 k2 : String} (h1 : refKey k1 = false) (h2 : refKey k2 = false) (v w : Val) :
    ∀ p ∈ [(k1, v), (k2, w)], refKey p.1 = false := by
  intro p hp
  rcases List.mem_cons.1 hp with rfl | hp
  · exact h1
  · rw [List.mem_singleton.1 hp]; exact h2

theorem fset_pair {k1 k2 : String} (hlt : k1 < k2) (x y : Val) :
    fset [(k1, x)] k2 y = [(k1, x), (k2, y)] := by
  simp only [fset, if_neg (String.lt_asymm hlt), if_neg (str_ne_of_lt hlt).symm]

theorem process1_pair {fuel : Nat} {docs : List Val} {root : Val} {loc : Loc} {k1 k2 : String}
    {v w x y : Val} (h1 : refKey k1 = false) (h2 : refKey k2 = false) (hlt : k1 < k2)
    (hv : process1 fuel docs root (childLoc loc k1) v = .ok (x, root))
    (hw : process1 fuel docs root (childLoc loc k2) w = .ok (y, root))
    (hx : x.isNull = false) (hy : y.isNull = false) :
    process1 (fuel + 1) docs root loc (.map [(k1, v), (k2, w)]) =
      .ok (.map [(k1, x), (k2, y)], root) := by
  have hkeys := keys_pair h1 h2 v w
  rw [process1_map_plain (no_ref_keys hkeys).1 (no_ref_keys hkeys).2, foldlM_cons,
    mapStep_ok h1 hv hx]
  simp only []
  rw [foldlM_cons, mapStep_ok h2 hw hy]
  simp only [foldlM_nil, ok_bind, R_pure, fset, fset_pair hlt]

theorem process1_int_entry {k : String} (hk : refKey k = false) (i : Int) (fuel : Nat)
    (docs : List Val) (root : Val) (loc : Loc) :
    process1 (fuel + 2) docs root loc (.map [(k, .int i)]) = .ok (.map [(k, .int i)], root) :=
  process1_single hk (process1_int _ _ _ _ _) rfl

theorem process1_x_y (fuel : Nat) (docs : List Val) (root : Val) (loc : Loc) :
    process1 (fuel + 2) docs root loc (.map [("x", .int 1), ("y", .int 2)]) =
      .ok (.map [("x", .int 1), ("y", .int 2)], root) :=
  process1_pair refKey_x refKey_y (by decide) (process1_int _ _ _ _ _) (process1_int _ _ _ _ _) rfl rfl

/-- `a: {$merge: b, x: 1}`, `b: {$replace: c}`, `c: {x: 1}` — the entry `a` merges the host -/
def cexHostMerged : Fields :=
  [("a", .map [("$merge", .str "b"), ("x", .int 1)]), ("b", .map [("$replace", .str "c")]),
   ("c", .map [("x", .int 1)])]

theorem cexHostMerged_ref (fuel : Nat) (docs : List Val) :
    Except.map Prod.fst
      (process1 (fuel + 5) docs (.map cexHostMerged) (some []) (.map cexHostMerged)) =
    .ok (.map [("a", .map [("x", .int 1)]), ("b", .map [("x", .int 1)]),
               ("c", .map [("x", .int 1)])]) := by
  have hmf : mergeFields [("x", Val.int 1)] [("$replace", Val.str "c")] =
      .ok [("$replace", .str "c"), ("x", .int 1)] := by
    rw [mergeFields_cons]
    have h1 : ((Val.str "c").toStr = "$delete") = False := by decide
    have h2 : fget [("x", Val.int 1)] "$replace" = none := by decide
    have h3 : fset [("x", Val.int 1)] "$replace" (.str "c") =
        [("$replace", .str "c"), ("x", .int 1)] := by decide
    simp only [h1, if_false, h2, h3, mergeFields_nil]
  -- the root after the host `a` has been expanded in place
  let kvs2 : Fields :=
    [("a", .map [("$replace", .str "c"), ("x", .int 1)]), ("b", .map [("$replace", .str "c")]),
     ("c", .map [("x", .int 1)])]
  have hx1 := fun f => process1_int_entry refKey_x 1 f docs (.map kvs2)
  have hrepl : ∀ (f : Nat) (loc : Loc) (m : Fields), fget m "$merge" = none →
      fget m "$replace" = some (.str "c") →
      process1 (f + 3) docs (.map kvs2) loc (.map m) = .ok (.map [("x", .int 1)], .map kvs2) :=
    fun f loc m h0 h1 => ((forwards_map_replace h0 h1).to_path (pathRef_simpleKey simpleKey_c)
      rfl _ _ _).trans (hx1 f none)
  have ha : process1 (fuel + 4) docs (.map cexHostMerged) (some [.key "a"])
      (.map [("$merge", .str "b"), ("x", .int 1)]) = .ok (.map [("x", .int 1)], .map kvs2) :=
    host_eval (s := [("$replace", .str "c")]) simpleKey_b (by decide) (by decide) (by decide)
      (by decide) (by decide) hmf (hrepl fuel _ _ (by decide) (by decide))
  have hb : process1 (fuel + 4) docs (.map kvs2) (some [.key "b"])
      (.map [("$replace", .str "c")]) = .ok (.map [("x", .int 1)], .map kvs2) :=
    hrepl (fuel + 1) _ _ (by decide) (by decide)
  have hc : process1 (fuel + 4) docs (.map kvs2) (some [.key "c"])
      (.map [("x", .int 1)]) = .ok (.map [("x", .int 1)], .map kvs2) := hx1 (fuel + 2) _
  rw [process1_map_plain (by decide) (by decide)]
  simp only [cexHostMerged] at ha ⊢
  simp only [foldlM_cons, foldlM_nil,
    mapStep_ok (loc := some []) refKey_a ha rfl,
    mapStep_ok (loc := some []) refKey_b hb rfl,
    mapStep_ok (loc := some []) refKey_c hc rfl,
    ok_bind, R_pure, Except.map]
  exact congrArg (fun x => Except.ok (Val.map x)) (by decide)

theorem cexHostMerged_inline (fuel : Nat) (docs : List Val) :
    process1 (fuel + 3) docs (.map (fset cexHostMerged "b" (.map [("x", .int 1)]))) (some [])
      (.map (fset cexHostMerged "b" (.map [("x", .int 1)]))) = .error .uselessOverride := by
  have hkvs : fset cexHostMerged "b" (.map [("x", .int 1)]) =
      [("a", .map [("$merge", .str "b"), ("x", .int 1)]), ("b", .map [("x", .int 1)]),
       ("c", .map [("x", .int 1)])] := by decide
  rw [hkvs]
  have hmf : mergeFields [("x", Val.int 1)] [("x", Val.int 1)] = .error .uselessOverride :=
    mergeFields_of_merge (by decide) merge_x_x
  exact process1_map_head_error (by decide) (by decide)
    (host_step_error (x := .map [("$merge", .str "b"), ("x", .int 1)]) (s := [("x", .int 1)])
      simpleKey_b (by decide) (by decide) (by decide) (by decide) hmf)

/-- `a: nest n`, `b: {$replace: a}` -/
def cexDeep (n : Nat) : Fields := [("a", nest n), ("b", .map [("$replace", .str "a")])]

theorem nest_not_null (n : Nat) : (nest n).isNull = false := by cases n <;> rfl

theorem nest_refFree (n : Nat) : refFree (nest n) = true :=
  plain_refFree _ (e_inert_plain (e_nest_props n).1)

theorem nest_eval (n : Nat) (docs : List Val) (root : Val) (loc : Loc) :
    process1 (n + 1) docs root loc (nest n) = .ok (nest n, root) := by
  obtain ⟨h1, h2, h3, h4⟩ := e_nest_props n
  rw [e_process1_plain (n + 1) docs root loc (nest n) (e_inert_plain h1) h2 (by omega), h4]

theorem lt_a_b : "a" < "b" := by decide

/-- following the reference costs one level of the depth guard: with `fuel + 2` units the
    document `a: nest fuel, b: {$replace: a}` hits the guard … -/
theorem cexDeep_ref (fuel : Nat) (docs : List Val) :
    process1 (fuel + 2) docs (.map (cexDeep fuel)) (some []) (.map (cexDeep fuel)) =
      .error .circularRef := by
  have hkeys := keys_pair refKey_a refKey_b (nest fuel) (.map [("$replace", .str "a")])
  -- `a` evaluates with the fuel left; `b` follows the reference and finds one unit too few
  exact process1_map_error_at (pre := [("a", nest fuel)]) (post := []) (no_ref_keys hkeys).1
    (no_ref_keys hkeys).2
    (fun p hp => by rw [List.mem_singleton.1 hp]; exact ⟨refKey_a, _, nest_eval fuel docs _ _⟩)
    (((forwards_replace_only _).to_path (pathRef_simpleKey simpleKey_a) rfl _ _ _).trans
      (e_nest_fail fuel fuel docs _ _ (Nat.le_refl _)))

/-- … while the document with the subtree written inline evaluates -/
theorem cexDeep_inline (fuel : Nat) (docs : List Val) :
    process1 (fuel + 2) docs (.map (fset (cexDeep fuel) "b" (nest fuel))) (some [])
      (.map (fset (cexDeep fuel) "b" (nest fuel))) =
      .ok (.map [("a", nest fuel), ("b", nest fuel)], .map [("a", nest fuel), ("b", nest fuel)]) := by
  have hkvs : fset (cexDeep fuel) "b" (nest fuel) = [("a", nest fuel), ("b", nest fuel)] := by
    simp only [cexDeep, fset, if_neg (String.lt_asymm lt_a_b), if_neg (str_ne_of_lt lt_a_b).symm,
      if_neg (String.lt_irrefl "b"), if_true]
  rw [hkvs]
  exact process1_pair refKey_a refKey_b lt_a_b (nest_eval fuel docs _ _) (nest_eval fuel docs _ _)
    (nest_not_null fuel) (nest_not_null fuel)

theorem ok_of_map_fst {X : R (Val × Val)} {v : Val} (h : Except.map Prod.fst X = .ok v) :
    ∃ r', X = .ok (v, r') := by
  cases X with
  | error e => cases h
  | ok q =>
    obtain ⟨a, b⟩ := q
    simp only [Except.map, Except.ok.injEq] at h
    exact ⟨b, by rw [← h]⟩

theorem parseRef_a_c : parseRef "a.c" = some (.str "a.c") := by decide +kernel

theorem splitOn_a_c : "a.c".splitOn "." = ["a", "c"] := by
  rw [splitOn_dot]; decide

/-- `a: {$replace: [b, $merge]}`, `b: {$merge: c, x: 1}`, `c: {y: 2}` — the entry `a` reads the
    raw `$merge` key of the host `b` -/
def cexHostRead : Fields :=
  [("a", .map [("$replace", .list [.str "b", .str "$merge"])]),
   ("b", .map [("$merge", .str "c"), ("x", .int 1)]), ("c", .map [("y", .int 2)])]

theorem mergeFields_x_y :
    mergeFields [("x", Val.int 1)] [("y", Val.int 2)] = .ok [("x", .int 1), ("y", .int 2)] :=
  mergeFields_of_merge (by decide) merge_x_y

theorem cexHostRead_ref (fuel : Nat) (docs : List Val) :
    Except.map Prod.fst
      (process1 (fuel + 4) docs (.map cexHostRead) (some []) (.map cexHostRead)) =
    .ok (.map [("a", .str "c"), ("b", .map [("x", .int 1), ("y", .int 2)]),
               ("c", .map [("y", .int 2)])]) := by
  let kvs2 : Fields :=
    [("a", .map [("$replace", .list [.str "b", .str "$merge"])]),
     ("b", .map [("x", .int 1), ("y", .int 2)]), ("c", .map [("y", .int 2)])]
  have ha : process1 (fuel + 3) docs (.map cexHostRead) (some [.key "a"])
      (.map [("$replace", .list [.str "b", .str "$merge"])]) =
        .ok (.str "c", .map cexHostRead) :=
    ((forwards_replace_only _).to_path (pathRef_list "b" ["$merge"]) rfl _ _ _).trans
      (process1_str_of_refKey refKey_c _ _ _ _)
  have hb : process1 (fuel + 3) docs (.map cexHostRead) (some [.key "b"])
      (.map [("$merge", .str "c"), ("x", .int 1)]) =
        .ok (.map [("x", .int 1), ("y", .int 2)], .map kvs2) :=
    host_eval (s := [("y", .int 2)]) simpleKey_c (by decide) (by decide) (by decide)
      (by decide) (by decide) mergeFields_x_y (process1_x_y _ _ _ _)
  have hc : process1 (fuel + 3) docs (.map kvs2) (some [.key "c"])
      (.map [("y", .int 2)]) = .ok (.map [("y", .int 2)], .map kvs2) :=
    process1_int_entry refKey_y 2 _ _ _ _
  rw [process1_map_plain (by decide) (by decide)]
  simp only [cexHostRead] at ha hb ⊢
  simp only [foldlM_cons, foldlM_nil,
    mapStep_ok (loc := some []) refKey_a ha rfl,
    mapStep_ok (loc := some []) refKey_b hb rfl,
    mapStep_ok (loc := some []) refKey_c hc rfl,
    ok_bind, R_pure, Except.map]
  exact congrArg (fun x => Except.ok (Val.map x)) (by decide)

theorem cexHostRead_inline (fuel : Nat) (docs : List Val) :
    process1 (fuel + 2) docs
      (.map (fset cexHostRead "b" (.map [("x", .int 1), ("y", .int 2)]))) (some [])
      (.map (fset cexHostRead "b" (.map [("x", .int 1), ("y", .int 2)]))) =
        .error .refNotFound := by
  rw [show fset cexHostRead "b" (.map [("x", .int 1), ("y", .int 2)]) =
      [("a", .map [("$replace", .list [.str "b", .str "$merge"])]),
       ("b", .map [("x", .int 1), ("y", .int 2)]), ("c", .map [("y", .int 2)])] from by decide]
  exact process1_map_head_error (by decide) (by decide)
    ((forwards_replace_only _).dangling (pathRef_list "b" ["$merge"]) rfl _ _ _)

end Bkl
