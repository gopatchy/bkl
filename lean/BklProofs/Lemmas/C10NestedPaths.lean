/-
  BklProofs.Lemmas.C10NestedPaths — the weakest "nobody else reads the host" condition for the
  inline statements of C10: every reference outside the host is a key path into the document that
  is APART from the host's path `π` — it neither is a prefix of `π` (would read the host or one
  of its ancestors) nor extends `π` (would read inside the host).  Such a path may enter the
  top-level entry that contains the host, as long as it leaves the host's path at some level.

  `c10n_pSafe π v` is `Safe h v` (C10Inline) with "first key ≠ h" replaced by "apart from π"
  (`c10n_safe_imp`); `c10n_psim` is the simulation: such a value evaluates alike against two
  roots that agree apart from `π`; `c10n_pcontext` lifts a relation between two evaluations of
  the host to the two documents.  The statements for a first-key condition (`c10n_around`) and
  for a host at a top-level key are special cases.

  The vocabulary for a host at ARBITRARY DEPTH inside nested maps of the document comes first: writing at a key path,
  locations along a key path, and the conditions on the siblings of the path.
  The host sits at the key path `h :: ρ` of the document `.map kvs`.  `c10n_setKeys root π x` is
  the model's own `setPath` along the key path `π`.  `c10n_around h v ρ` says: along the path `ρ`
  below `v` every map is sorted, every key of `ρ` is a non-reference key, and the SIBLINGS of the
  path at every level are `SafeFields h` (no map-level `$merge` key; every reference in them is a
  path into the document whose first key is not `h`).
  `c10n_around h`, `c10n_aroundFree` and `c10n_paround Q` are this one predicate and differ only in
  what they ask of the siblings: `SafeFields h`, `refFreeFields`, `c10n_pSafeF Q`.  Reference-free
  siblings satisfy both others (`c10n_around_of_free`, `c10n_paround_of_free`), `c10n_around h`
  gives `c10n_paround (h :: π)` (`c10n_paround_of_around`), and the theorems are proved for
  `c10n_paround`.
-/
import BklProofs.Lemmas.C10Inline
import BklProofs.Lemmas.Get
namespace Bkl

/-! ## writing a value at a key path -/

/-- the document `root` with the value at the key path `π` replaced by `x`
    (the model's `setPath`, along map keys only) -/
def c10n_setKeys (root : Val) (π : List String) (x : Val) : Val :=
  setPath root (π.map PathElem.key) x

theorem c10n_setKeys_nil (root x : Val) : c10n_setKeys root [] x = x := rfl

theorem c10n_setKeys_cons {m : Fields} {k : String} {c : Val} (ρ : List String) (x : Val)
    (hc : fget m k = some c) :
    c10n_setKeys (.map m) (k :: ρ) x = .map (fset m k (c10n_setKeys c ρ x)) := by
  simp only [c10n_setKeys, List.map_cons, setPath, hc]

theorem c10n_setKeys_cons_none {m : Fields} {k : String} (ρ : List String) (x : Val)
    (hc : fget m k = none) : c10n_setKeys (.map m) (k :: ρ) x = .map m := by
  simp only [c10n_setKeys, List.map_cons, setPath, hc]

theorem c10n_setKeys_cons_nonmap {v : Val} {k : String} (ρ : List String) (x : Val)
    (hv : v.isMap = false) : c10n_setKeys v (k :: ρ) x = v := by
  cases v <;> simp [Val.isMap] at hv <;> simp [c10n_setKeys, setPath]

theorem c10n_setLoc (root : Val) (π : List String) (x : Val) :
    setLoc root (some (π.map PathElem.key)) x = c10n_setKeys root π x := rfl

theorem c10n_getPath_setKeys : ∀ (π : List String) (root old x : Val),
    getPath root π = .ok old → getPath (c10n_setKeys root π x) π = .ok x := by
  intro π
  induction π with
  | nil => intro root old x _; rfl
  | cons k ρ ih =>
    intro root old x hg
    cases root with
    | map m =>
      obtain ⟨c, hc, hg⟩ := getPath_cons_inv hg
      rw [c10n_setKeys_cons ρ x hc]
      simp only [getPath, fget_fset_same]
      exact ih c old x hg
    | _ => cases hg

theorem c10n_setKeys_setKeys (π : List String) (root x y : Val) :
    c10n_setKeys (c10n_setKeys root π x) π y = c10n_setKeys root π y :=
  setPath_setPath _ root x y

/-! ## locations along a key path -/

def c10n_locAt (loc : Loc) (ρ : List String) : Loc := ρ.foldl childLoc loc

theorem c10n_locAt_some : ∀ (ρ : List String) (p : List PathElem),
    c10n_locAt (some p) ρ = some (p ++ ρ.map PathElem.key) := by
  intro ρ
  induction ρ with
  | nil => intro p; simp [c10n_locAt]
  | cons k ρ ih =>
    intro p
    have : c10n_locAt (some p) (k :: ρ) = c10n_locAt (some (p ++ [.key k])) ρ := rfl
    rw [this, ih]
    simp

theorem c10n_locAt_top (π : List String) :
    c10n_locAt (some []) π = some (π.map PathElem.key) := by
  rw [c10n_locAt_some]; rfl

/-! ## the siblings of the path never read the top-level entry that contains the host -/

/-- along `ρ` below `v`: sorted maps, non-reference keys, siblings `SafeFields h` -/
def c10n_around (h : String) : Val → List String → Bool
  | _, [] => true
  | .map m, k :: ρ =>
    Fields.sortedKeysB m && !refKey k && SafeFields h (fdel m k) &&
      (match fget m k with
       | some c => c10n_around h c ρ
       | none => false)
  | _, _ :: _ => false

/-- the same with reference-free siblings (decidable by `decide` on concrete documents) -/
def c10n_aroundFree : Val → List String → Bool
  | _, [] => true
  | .map m, k :: ρ =>
    Fields.sortedKeysB m && !refKey k && refFreeFields (fdel m k) &&
      (match fget m k with
       | some c => c10n_aroundFree c ρ
       | none => false)
  | _, _ :: _ => false

theorem c10n_around_nil (h : String) (v : Val) : c10n_around h v [] = true := by
  cases v <;> rfl

theorem c10n_around_cons {h k : String} {m : Fields} {ρ : List String} :
    c10n_around h (.map m) (k :: ρ) = true ↔
      Fields.SortedKeys m ∧ refKey k = false ∧ SafeFields h (fdel m k) = true ∧
        ∃ c, fget m k = some c ∧ c10n_around h c ρ = true := by
  simp only [c10n_around, Bool.and_eq_true, Bool.not_eq_true', sortedKeysB_iff, and_assoc]
  cases fget m k <;> simp

theorem c10n_aroundFree_cons {k : String} {m : Fields} {ρ : List String} :
    c10n_aroundFree (.map m) (k :: ρ) = true ↔
      Fields.SortedKeys m ∧ refKey k = false ∧ refFreeFields (fdel m k) = true ∧
        ∃ c, fget m k = some c ∧ c10n_aroundFree c ρ = true := by
  simp only [c10n_aroundFree, Bool.and_eq_true, Bool.not_eq_true', sortedKeysB_iff, and_assoc]
  cases fget m k <;> simp

theorem c10n_around_of_free (h : String) : ∀ (ρ : List String) (v : Val),
    c10n_aroundFree v ρ = true → c10n_around h v ρ = true := by
  intro ρ
  induction ρ with
  | nil => intro v _; exact c10n_around_nil h v
  | cons k ρ ih =>
    intro v hv
    cases v with
    | map m =>
      obtain ⟨h1, h2, h3, c, hc, h4⟩ := c10n_aroundFree_cons.1 hv
      exact c10n_around_cons.2 ⟨h1, h2, refFreeFields_safe h _ h3, c, hc, ih c h4⟩
    | _ => cases hv

theorem c10n_bind_error {α β : Type} (e : Err) (F : α → R β) :
    ((Except.error e : R α) >>= F) = .error e := error_bind e F

/-! ## key paths apart from the host's path -/

/-- `p` and `π` differ at some common position: neither is a prefix of the other -/
def c10n_apart : List String → List String → Bool
  | a :: p, b :: π => if a = b then c10n_apart p π else true
  | _, _ => false

theorem c10n_apart_cons_ne {a b : String} (p π : List String) (h : a ≠ b) :
    c10n_apart (a :: p) (b :: π) = true := by
  simp only [c10n_apart, if_neg h]

theorem c10n_apart_cons_same (a : String) (p π : List String) :
    c10n_apart (a :: p) (a :: π) = c10n_apart p π := by
  simp only [c10n_apart, if_true]

theorem c10n_apart_nil_left (π : List String) : c10n_apart [] π = false := by
  cases π <;> rfl

theorem c10n_apart_nil_right (p : List String) : c10n_apart p [] = false := by
  cases p <;> rfl

/-- paths that are apart are disjoint locations -/
theorem c10n_apart_disjoint : ∀ (p π : List String), c10n_apart p π = true →
    Disjoint (π.map PathElem.key) (p.map PathElem.key)
  | [], π, h => by rw [c10n_apart_nil_left] at h; cases h
  | _ :: _, [], h => by cases h
  | a :: p, b :: π, h => by
    by_cases e : a = b
    · subst e
      rw [c10n_apart_cons_same] at h
      have := c10n_apart_disjoint p π h
      exact ⟨fun hp => this.1 ((List.prefix_cons_inj _).1 hp),
        fun hp => this.2 ((List.prefix_cons_inj _).1 hp)⟩
    · constructor <;> intro hp <;> simp only [List.map_cons, List.cons_prefix_cons] at hp
      · exact e (by cases hp.1; rfl)
      · exact e (by cases hp.1; rfl)

theorem c10n_getPath_setKeys_apart (π p : List String) (root x : Val)
    (h : c10n_apart p π = true) : getPath (c10n_setKeys root π x) p = getPath root p := by
  rw [getPath_eq_getLoc, getPath_eq_getLoc, c10n_setKeys,
    getLoc_setPath_disjoint _ _ _ _ (c10n_apart_disjoint p π h)]

/-! ## values whose references stay apart from `π` -/

/-- a list-form reference `[k, …]` of strings: the key path is apart from `π` (a list that is not
    all strings fails whatever the document) -/
def c10n_pSafeList (π : List String) (l : List Val) : Bool :=
  match l with
  | .str k :: rest =>
    match toStringList (.str k :: rest) with
    | .ok sl => c10n_apart sl π
    | .error _ => true
  | _ => false

def c10n_pSafeStrRef (π : List String) (p : String) : Bool :=
  match parseRef p with
  | some (.str s) => c10n_apart (s.splitOn ".") π
  | some (.list l) => c10n_pSafeList π l
  | _ => true

def c10n_pSafeRef (π : List String) : Val → Bool
  | .str p => c10n_pSafeStrRef π p
  | .list l => c10n_pSafeList π l
  | .map _ => false
  | _ => true

def c10n_pSafeStr (π : List String) (s : String) : Bool :=
  match stripPrefix s "$merge:" with
  | some p => c10n_pSafeStrRef π p
  | none =>
    match stripPrefix s "$replace:" with
    | some p => c10n_pSafeStrRef π p
    | none => true

mutual
def c10n_pSafe (π : List String) : Val → Bool
  | .str s => c10n_pSafeStr π s
  | .list xs => c10n_pSafeL π xs
  | .map kvs => c10n_pSafeF π kvs
  | _ => true
def c10n_pSafeL (π : List String) : List Val → Bool
  | [] => true
  | x :: xs => c10n_pSafe π x && c10n_pSafeL π xs
def c10n_pSafeF (π : List String) : Fields → Bool
  | [] => true
  | (k, v) :: rest =>
    !(k == "$merge") && c10n_pSafeStr π k && (!(k == "$replace") || c10n_pSafeRef π v) &&
      c10n_pSafe π v && c10n_pSafeF π rest
end

theorem c10n_pSafeL_iff {π : List String} {xs : List Val} :
    c10n_pSafeL π xs = true ↔ ∀ x ∈ xs, c10n_pSafe π x = true :=
  all_of_eqns (c10n_pSafeL.eq_1 π) (c10n_pSafeL.eq_2 π)

theorem c10n_pSafeL_mem {π : List String} {xs : List Val} (hs : c10n_pSafeL π xs = true) :
    ∀ x ∈ xs, c10n_pSafe π x = true := c10n_pSafeL_iff.1 hs

theorem c10n_pSafeF_iff {π : List String} {kvs : Fields} :
    c10n_pSafeF π kvs = true ↔ ∀ q ∈ kvs, q.1 ≠ "$merge" ∧ c10n_pSafeStr π q.1 = true ∧
      (q.1 = "$replace" → c10n_pSafeRef π q.2 = true) ∧ c10n_pSafe π q.2 = true :=
  (all_of_eqns (c10n_pSafeF.eq_1 π) fun q l => c10n_pSafeF.eq_2 π q.1 q.2 l).trans
    (forall₂_congr fun q _ => by
      simp only [Bool.and_eq_true, Bool.not_eq_true', beq_eq_false_iff_ne, Bool.or_eq_true, and_assoc,
        ne_eq, ← Decidable.imp_iff_not_or])

theorem c10n_pSafeF_subset {π : List String} {a b : Fields} (hb : c10n_pSafeF π b = true)
    (h : ∀ q ∈ a, q ∈ b) : c10n_pSafeF π a = true :=
  c10n_pSafeF_iff.2 fun q hq => c10n_pSafeF_iff.1 hb q (h q hq)

theorem c10n_pSafeF_replace {π : List String} {kvs : Fields} {ref : Val}
    (hs : c10n_pSafeF π kvs = true) (hr : fget kvs "$replace" = some ref) :
    c10n_pSafeRef π ref = true :=
  (c10n_pSafeF_iff.1 hs _ (fget_mem hr)).2.2.1 rfl

theorem c10n_pSafe_getPath {π : List String} (ks : List String) (v t : Val)
    (hv : c10n_pSafe π v = true) (hg : getPath v ks = .ok t) : c10n_pSafe π t = true :=
  Gen.Lib.getPath_closed (fun v => c10n_pSafe π v = true)
    (fun kvs k v hm hg =>
      (c10n_pSafeF_iff.1 (by simpa only [c10n_pSafe] using hm) _ (fget_mem hg)).2.2.2)
    ks v t hv hg

/-! ## roots -/

/-- everything a path apart from `π` can reach in the root is safe -/
def c10n_PSafeRoot (π : List String) (r : Val) : Prop :=
  ∀ p v, c10n_apart p π = true → getPath r p = .ok v → c10n_pSafe π v = true

/-- two roots that agree along every path apart from `π` -/
def c10n_PAgree (π : List String) (r r' : Val) : Prop :=
  ∀ p, c10n_apart p π = true → getPath r' p = getPath r p

theorem c10n_pagree_setKeys (π : List String) (r x : Val) :
    c10n_PAgree π r (c10n_setKeys r π x) :=
  fun p hp => c10n_getPath_setKeys_apart π p r x hp

theorem c10n_pagree_setKeys2 (π : List String) (r x y : Val) :
    c10n_PAgree π (c10n_setKeys r π x) (c10n_setKeys r π y) := by
  intro p hp
  rw [c10n_getPath_setKeys_apart π p r x hp, c10n_getPath_setKeys_apart π p r y hp]

theorem c10n_psafeRoot_setKeys {π : List String} {r : Val} (x : Val)
    (hinv : c10n_PSafeRoot π r) : c10n_PSafeRoot π (c10n_setKeys r π x) := by
  intro p v hp hg
  rw [c10n_getPath_setKeys_apart π p r x hp] at hg
  exact hinv p v hp hg

/-! ## resolving a safe reference -/

theorem c10n_pSafeList_denotes {π : List String} {l : List Val} (docs : List Val)
    (hl : c10n_pSafeList π l = true) :
    (∃ e, ∀ r, getPathFromList r docs l = .error e) ∨
      ∃ sl, c10n_apart sl π = true ∧ ∀ r, getPathFromList r docs l = getPath r sl := by
  unfold c10n_pSafeList at hl
  split at hl
  · rename_i k rest
    have e : ∀ r : Val, getPathFromList r docs (.str k :: rest) =
        (toStringList (.str k :: rest) >>= fun sl => getPath r sl) := fun r => rfl
    cases hsl : toStringList (.str k :: rest) with
    | error e' => exact Or.inl ⟨e', fun r => by rw [e, hsl]; rfl⟩
    | ok sl =>
      rw [hsl] at hl
      exact Or.inr ⟨sl, hl, fun r => by rw [e, hsl]; rfl⟩
  · cases hl

theorem c10n_pSafeRef_denotes {π : List String} {ref : Val} (docs : List Val)
    (hr : c10n_pSafeRef π ref = true) :
    (∃ e, ∀ r, get r docs ref = .error e) ∨
      ∃ sl, c10n_apart sl π = true ∧ ∀ r, get r docs ref = getPath r sl := by
  cases ref with
  | str p =>
    simp only [c10n_pSafeRef, c10n_pSafeStrRef] at hr
    simp only [get_str, getPathFromString]
    cases hpr : parseRef p with
    | none => exact Or.inl ⟨_, fun r => rfl⟩
    | some q =>
      rw [hpr] at hr
      cases q with
      | str s => exact Or.inr ⟨_, hr, fun r => rfl⟩
      | list l => exact c10n_pSafeList_denotes docs hr
      | _ => exact Or.inl ⟨_, fun r => rfl⟩
  | list l =>
    simp only [get_list]
    exact c10n_pSafeList_denotes docs hr
  | map _ => cases hr
  | null | bool _ | int _ | flt _ =>
    exact Or.inl ⟨.invalidType, fun r => get_invalid _ _ _ rfl rfl rfl⟩

/-! ## the simulation -/

theorem c10n_pSafe_notMergeEntry {π : List String} {v : Val} (hv : c10n_pSafe π v = true) :
    notMergeEntry v = true := by
  unfold notMergeEntry
  split
  · rename_i k ref
    simp only [c10n_pSafe] at hv
    have := (c10n_pSafeF_iff.1 hv (k, ref) List.mem_cons_self).1
    simpa using this
  · rfl

def c10n_PSimIH (π : List String) (fuel : Nat) : Prop :=
  ∀ (docs : List Val) (r r' : Val) (loc loc' : Loc) (obj : Val),
    c10n_PSafeRoot π r → c10n_PAgree π r r' → c10n_pSafe π obj = true →
    SimRel r r' (process1 fuel docs r loc obj) (process1 fuel docs r' loc' obj)

theorem c10n_psim_get_step {π : List String} {fuel : Nat} (ih : c10n_PSimIH π fuel)
    {docs : List Val} {r r' : Val} {ref : Val} (hinv : c10n_PSafeRoot π r)
    (hag : c10n_PAgree π r r') (hr : c10n_pSafeRef π ref = true) :
    SimRel r r'
      (get r docs ref >>= fun inp => process1 fuel docs r none inp)
      (get r' docs ref >>= fun inp => process1 fuel docs r' none inp) := by
  rcases c10n_pSafeRef_denotes docs hr with ⟨e, he⟩ | ⟨sl, hsl, he⟩
  · rw [he, he]; exact simRel_error _ _ _
  · rw [he, he, hag sl hsl]
    cases hg : getPath r sl with
    | error e => exact simRel_error _ _ _
    | ok inp => exact ih docs r r' none none inp hinv hag (hinv sl inp hsl hg)

theorem c10n_psim_mapStep {π : List String} {fuel : Nat} (ih : c10n_PSimIH π fuel)
    {docs : List Val} {r r' : Val} {loc loc' : Loc} (hinv : c10n_PSafeRoot π r)
    (hag : c10n_PAgree π r r') {k : String} {v : Val} (hk : c10n_pSafeStr π k = true)
    (hv : c10n_pSafe π v = true) (acc : Fields) :
    SimRel r r' (mapStep fuel docs loc (acc, r) (k, v))
      (mapStep fuel docs loc' (acc, r') (k, v)) := by
  rw [mapStep_eq, mapStep_eq]
  refine simRel_bind (ih docs r r' _ _ v hinv hag hv) ?_
  intro v2
  simp only []
  split
  · exact simRel_ok _ _ _
  · refine simRel_bind (ih docs r r' none none (.str k) hinv hag
      (by simpa [c10n_pSafe] using hk)) ?_
    intro k2
    cases k2 <;> first | exact simRel_error _ _ _ | exact simRel_ok _ _ _

theorem c10n_psim_entryStep {π : List String} {fuel : Nat} (ih : c10n_PSimIH π fuel)
    {docs : List Val} {r r' : Val} {loc loc' : Loc} (hinv : c10n_PSafeRoot π r)
    (hag : c10n_PAgree π r r') {v : Val} (tag : Option Nat) (hv : c10n_pSafe π v = true)
    (acc : List Val) :
    SimRel r r' (entryStep fuel docs loc (acc, r) (v, tag))
      (entryStep fuel docs loc' (acc, r') (v, tag)) := by
  rw [entryStep_eq, entryStep_eq]
  refine simRel_bind (ih docs r r' _ _ v hinv hag hv) ?_
  intro v2
  simp only []
  split <;> exact simRel_ok _ _ _

theorem c10n_pSafe_fwd {π : List String} {v ref : Val} (hv : c10n_pSafe π v = true)
    (hf : FwdForm v ref) : c10n_pSafeRef π ref = true := by
  cases hf with
  | strMerge h => simpa only [c10n_pSafe, c10n_pSafeStr, c10n_pSafeRef, h] using hv
  | strReplace h0 h => simpa only [c10n_pSafe, c10n_pSafeStr, c10n_pSafeRef, h0, h] using hv
  | mapReplace h0 h => exact c10n_pSafeF_replace hv h

/-- A value whose references stay apart from `π` evaluates alike — same value or same error,
    roots untouched — against two roots that agree apart from `π` and are safe apart from `π`. -/
theorem c10n_psim (π : List String) : ∀ fuel, c10n_PSimIH π fuel := by
  intro fuel
  induction fuel with
  | zero =>
    intro docs r r' loc loc' obj _ _ _
    rw [process1_zero, process1_zero]; exact simRel_error _ _ _
  | succ fuel ih =>
    intro docs r r' loc loc' obj hinv hag hobj
    cases p1View obj with
    | leaf hl => rw [hl, hl]; exact simRel_ok _ _ _
    | fwd hf =>
      rw [hf.forwards, hf.forwards]
      exact c10n_psim_get_step ih hinv hag (c10n_pSafe_fwd hobj hf)
    | host hm => exact absurd rfl (c10n_pSafeF_iff.1 hobj _ (fget_mem hm)).1
    | @fold kvs hm hr =>
      rw [process1_map_plain hm hr, process1_map_plain hm hr]
      refine simRel_bind (simRel_foldlM kvs (fun acc p hp => ?_) []) (fun r => simRel_ok _ _ _)
      have := c10n_pSafeF_iff.1 hobj p hp
      exact c10n_psim_mapStep ih hinv hag this.2.1 this.2.2.2 acc
    | list xs =>
      simp only [c10n_pSafe] at hobj
      have hmem := c10n_pSafeL_mem hobj
      have hnm : ∀ x ∈ xs, notMergeEntry x = true :=
        fun x hx => c10n_pSafe_notMergeEntry (hmem x hx)
      rw [process1_list, process1_list, listMerges_of_notMerge hnm, foldlM_nil, foldlM_nil,
        ok_bind, ok_bind]
      have hfst := listObj0_fst_self hnm
      cases hpop : popListMapValue ((listObj0 xs).map (·.1)) "$replace" with
      | error e => simp only [listFinish_error hpop]; exact simRel_error _ _ _
      | ok q =>
        obtain ⟨rep, rest⟩ := q
        cases hn : rep.isNull with
        | false =>
          simp only [listFinish_replace hpop hn]
          obtain ⟨m, hmm, hmr⟩ := popListMapValue_rep_mem (hfst ▸ hpop) hn
          exact c10n_psim_get_step ih hinv hag (c10n_pSafeF_replace (hmem _ hmm) hmr)
        | true =>
          simp only [listFinish_entries hpop hn]
          refine simRel_bind (simRel_foldlM _ (fun acc p hp => ?_) []) (fun r => simRel_ok _ _ _)
          exact c10n_psim_entryStep ih hinv hag p.2
            (hmem p.1 (listObj0_mem (List.mem_filter.1 hp).1)) acc

theorem c10n_psim_fold {π : List String} {fuel : Nat} {docs : List Val} {r r' : Val} {loc : Loc}
    (hinv : c10n_PSafeRoot π r) (hag : c10n_PAgree π r r') {l : Fields}
    (hl : c10n_pSafeF π l = true) (acc : Fields) :
    SimRel r r' (l.foldlM (mapStep fuel docs loc) (acc, r))
      (l.foldlM (mapStep fuel docs loc) (acc, r')) := by
  refine simRel_foldlM l (fun acc p hp => ?_) acc
  obtain ⟨k, v⟩ := p
  have := c10n_pSafeF_iff.1 hl (k, v) hp
  exact c10n_psim_mapStep (c10n_psim π fuel) hinv hag this.2.1 this.2.2.2 acc

/-! ## reference-free values are safe; `Safe h` values are safe for every `h :: ρ` -/

theorem c10n_pSafeStr_of_not_refStr {π : List String} {s : String} (hs : refStr s = false) :
    c10n_pSafeStr π s = true := by
  simp only [refStr, Bool.or_eq_false_iff] at hs
  simp only [c10n_pSafeStr, e_stripPrefix_none hs.1, e_stripPrefix_none hs.2]

theorem c10n_refFree_pSafe (π : List String) : ∀ v : Val, refFree v = true → c10n_pSafe π v = true := by
  intro v
  induction v using Val.induction_mem with
  | str s =>
    intro hv
    simp only [refFree, Bool.not_eq_true'] at hv
    simp only [c10n_pSafe]; exact c10n_pSafeStr_of_not_refStr hv
  | list xs ih =>
    rw [refFree, refFreeList_iff, c10n_pSafe, c10n_pSafeL_iff]
    exact fun hv x hx => ih x hx (hv x hx)
  | map kvs ih =>
    rw [refFree, refFreeFields_iff, c10n_pSafe, c10n_pSafeF_iff]
    intro hv q hq
    have hk := (hv q hq).1
    simp only [refKey, Bool.or_eq_false_iff, beq_eq_false_iff_ne] at hk
    exact ⟨hk.1.1, c10n_pSafeStr_of_not_refStr hk.2, fun e => absurd e hk.1.2, ih q hq (hv q hq).2⟩
  | _ => intro _; rfl
theorem c10n_refFreeList_pSafe (π : List String) : ∀ xs : List Val, refFreeList xs = true →
    c10n_pSafeL π xs = true :=
  fun xs hv => (c10n_pSafe.eq_2 π xs).symm.trans (c10n_refFree_pSafe π (.list xs) (by rwa [refFree]))
theorem c10n_refFreeFields_pSafe (π : List String) : ∀ kvs : Fields, refFreeFields kvs = true →
    c10n_pSafeF π kvs = true :=
  fun kvs hv => (c10n_pSafe.eq_3 π kvs).symm.trans (c10n_refFree_pSafe π (.map kvs) (by rwa [refFree]))

theorem c10n_pSafeList_of_head {h k : String} (ρ : List String) (rest : List Val) (hk : k ≠ h) :
    c10n_pSafeList (h :: ρ) (.str k :: rest) = true := by
  simp only [c10n_pSafeList]
  cases hsl : toStringList (.str k :: rest) with
  | error e => rfl
  | ok sl =>
    obtain ⟨ks, rfl⟩ := toStringList_str_cons hsl
    exact c10n_apart_cons_ne ks ρ hk

theorem c10n_safeStrRef_imp {h : String} (ρ : List String) {p : String}
    (hp : safeStrRef h p = true) : c10n_pSafeStrRef (h :: ρ) p = true := by
  unfold safeStrRef at hp
  unfold c10n_pSafeStrRef
  cases hpr : parseRef p with
  | none => rfl
  | some q =>
    rw [hpr] at hp
    cases q with
    | str s =>
      simp only [] at hp ⊢
      cases hsp : s.splitOn "." with
      | nil => rw [hsp] at hp; cases hp
      | cons k ks => rw [hsp] at hp; exact c10n_apart_cons_ne ks ρ (by simpa using hp)
    | list l =>
      simp only [] at hp ⊢
      cases l with
      | nil => cases hp
      | cons x rest =>
        cases x with
        | str k => exact c10n_pSafeList_of_head ρ rest (by simpa using hp)
        | _ => cases hp
    | _ => rfl

theorem c10n_safeRef_imp {h : String} (ρ : List String) {ref : Val}
    (hr : safeRef h ref = true) : c10n_pSafeRef (h :: ρ) ref = true := by
  cases ref with
  | str p => exact c10n_safeStrRef_imp ρ hr
  | list l =>
    simp only [safeRef] at hr
    simp only [c10n_pSafeRef]
    cases l with
    | nil => cases hr
    | cons x rest =>
      cases x with
      | str k => exact c10n_pSafeList_of_head ρ rest (by simpa using hr)
      | _ => cases hr
  | map _ => cases hr
  | null | bool _ | int _ | flt _ => rfl

theorem c10n_safeStr_imp {h : String} (ρ : List String) {s : String}
    (hs : safeStr h s = true) : c10n_pSafeStr (h :: ρ) s = true := by
  unfold safeStr at hs
  unfold c10n_pSafeStr
  cases hm : stripPrefix s "$merge:" with
  | some p => rw [hm] at hs; exact c10n_safeStrRef_imp ρ hs
  | none =>
    rw [hm] at hs
    simp only [] at hs ⊢
    cases hr : stripPrefix s "$replace:" with
    | some p => rw [hr] at hs; exact c10n_safeStrRef_imp ρ hs
    | none => rfl

/-- "first key is not `h`" implies "apart from `h :: ρ`" -/
theorem c10n_safe_imp (h : String) (ρ : List String) : ∀ v : Val, Safe h v = true →
    c10n_pSafe (h :: ρ) v = true := by
  intro v
  induction v using Val.induction_mem with
  | str s =>
    intro hv
    simp only [Safe] at hv
    simp only [c10n_pSafe]; exact c10n_safeStr_imp ρ hv
  | list xs ih =>
    rw [Safe, safeList_iff, c10n_pSafe, c10n_pSafeL_iff]
    exact fun hv x hx => ih x hx (hv x hx)
  | map kvs ih =>
    rw [Safe, safeFields_iff, c10n_pSafe, c10n_pSafeF_iff]
    intro hv q hq
    obtain ⟨h1, h2, h3, h4⟩ := hv q hq
    exact ⟨h1, c10n_safeStr_imp ρ h2, fun e => c10n_safeRef_imp ρ (h3 e), ih q hq h4⟩
  | _ => intro _; rfl
theorem c10n_safeList_imp (h : String) (ρ : List String) : ∀ xs : List Val,
    SafeList h xs = true → c10n_pSafeL (h :: ρ) xs = true :=
  fun xs hv => (c10n_pSafe.eq_2 _ xs).symm.trans (c10n_safe_imp h ρ (.list xs) (by rwa [Safe]))
theorem c10n_safeFields_imp (h : String) (ρ : List String) : ∀ kvs : Fields,
    SafeFields h kvs = true → c10n_pSafeF (h :: ρ) kvs = true :=
  fun kvs hv => (c10n_pSafe.eq_3 _ kvs).symm.trans (c10n_safe_imp h ρ (.map kvs) (by rwa [Safe]))

/-! ## the siblings of the host's path stay apart from it -/

/-- along `ρ` below `v`: sorted maps, non-reference keys, siblings `c10n_pSafeF Q`
    (`Q` is the full path of the host, `ρ` the part of it below `v`) -/
def c10n_paround (Q : List String) : Val → List String → Bool
  | _, [] => true
  | .map m, k :: ρ =>
    Fields.sortedKeysB m && !refKey k && c10n_pSafeF Q (fdel m k) &&
      (match fget m k with
       | some c => c10n_paround Q c ρ
       | none => false)
  | _, _ :: _ => false

theorem c10n_paround_nil (Q : List String) (v : Val) : c10n_paround Q v [] = true := by
  cases v <;> rfl

theorem c10n_paround_cons {Q : List String} {k : String} {m : Fields} {ρ : List String} :
    c10n_paround Q (.map m) (k :: ρ) = true ↔
      Fields.SortedKeys m ∧ refKey k = false ∧ c10n_pSafeF Q (fdel m k) = true ∧
        ∃ c, fget m k = some c ∧ c10n_paround Q c ρ = true := by
  simp only [c10n_paround, Bool.and_eq_true, Bool.not_eq_true', sortedKeysB_iff, and_assoc]
  cases fget m k <;> simp

theorem c10n_paround_of_free (Q : List String) : ∀ (ρ : List String) (v : Val),
    c10n_aroundFree v ρ = true → c10n_paround Q v ρ = true := by
  intro ρ
  induction ρ with
  | nil => intro v _; exact c10n_paround_nil Q v
  | cons k ρ ih =>
    intro v hv
    cases v with
    | map m =>
      obtain ⟨h1, h2, h3, c, hc, h4⟩ := c10n_aroundFree_cons.1 hv
      exact c10n_paround_cons.2 ⟨h1, h2, c10n_refFreeFields_pSafe Q _ h3, c, hc, ih c h4⟩
    | _ => cases hv

theorem c10n_paround_of_around (h : String) (π : List String) : ∀ (ρ : List String) (v : Val),
    c10n_around h v ρ = true → c10n_paround (h :: π) v ρ = true := by
  intro ρ
  induction ρ with
  | nil => intro v _; exact c10n_paround_nil _ v
  | cons k ρ ih =>
    intro v hv
    cases v with
    | map m =>
      obtain ⟨h1, h2, h3, c, hc, h4⟩ := c10n_around_cons.1 hv
      exact c10n_paround_cons.2 ⟨h1, h2, c10n_safeFields_imp h π _ h3, c, hc, ih c h4⟩
    | _ => cases hv

theorem c10n_paround_safe {Q : List String} : ∀ (ρ : List String) (v : Val) (p : List String)
    (x : Val), c10n_paround Q v ρ = true → c10n_apart p ρ = true → getPath v p = .ok x →
    c10n_pSafe Q x = true := by
  intro ρ
  induction ρ with
  | nil => intro v p x _ hp _; rw [c10n_apart_nil_right] at hp; cases hp
  | cons b ρ ih =>
    intro v p x har hp hg
    cases p with
    | nil => cases hp
    | cons a p =>
      cases v with
      | map m =>
        obtain ⟨_, _, ho, c, hc, harc⟩ := c10n_paround_cons.1 har
        obtain ⟨d, hd, hg⟩ := getPath_cons_inv hg
        by_cases hab : a = b
        · subst hab
          rw [c10n_apart_cons_same] at hp
          rw [hc] at hd
          cases hd
          exact ih _ p x harc hp hg
        · have hmem : fget (fdel m b) a = some d := by rw [fget_fdel_ne _ _ _ hab]; exact hd
          exact c10n_pSafe_getPath p d x (c10n_pSafeF_iff.1 ho _ (fget_mem hmem)).2.2.2 hg
      | _ => cases hg

theorem c10n_psafeRoot_of_paround {π : List String} {r : Val}
    (har : c10n_paround π r π = true) : c10n_PSafeRoot π r :=
  fun p v hp hg => c10n_paround_safe π r p v har hp hg

/-! ## the context of the host -/

/-- the two runs coincide (value, error and threaded root), or they fail alike / produce the same
    value and hand back two roots that agree apart from `π` and are safe apart from `π` -/
def c10n_PHostRel (π : List String) (X Y : R (Val × Val)) : Prop :=
  X = Y ∨ ∃ b b', c10n_PSafeRoot π b ∧ c10n_PAgree π b b' ∧ SimRel b b' X Y

theorem c10n_PHostRel_fst {π : List String} {X Y : R (Val × Val)} (hr : c10n_PHostRel π X Y) :
    Except.map Prod.fst X = Except.map Prod.fst Y := by
  rcases hr with e | ⟨b, b', _, _, hs⟩
  · rw [e]
  · exact simRel_map_fst hs

/-- One level: the map `m` holds `c` at the non-reference key `k`, its other entries are safe;
    the relation between the evaluations of `c` and `c'` (in place, under two roots that agree
    apart from `Q`) lifts to the evaluations of `m` and `m[k := c']`. -/
theorem c10n_plevel {Q : List String} {fuel : Nat} {docs : List Val} {r r' : Val} {loc : Loc}
    {m : Fields} {k : String} {c c' : Val}
    (hinv : c10n_PSafeRoot Q r) (hag : c10n_PAgree Q r r')
    (hs : Fields.SortedKeys m) (hk : refKey k = false) (hc : fget m k = some c)
    (ho : c10n_pSafeF Q (fdel m k) = true)
    (hrel : c10n_PHostRel Q (process1 fuel docs r (childLoc loc k) c)
      (process1 fuel docs r' (childLoc loc k) c')) :
    c10n_PHostRel Q (process1 (fuel + 1) docs r loc (.map m))
      (process1 (fuel + 1) docs r' loc (.map (fset m k c'))) := by
  obtain ⟨pre, post, e1, e2, e3⟩ := sorted_split hs hc
  rw [e3] at ho
  rw [e2 c']
  subst e1
  have hkf := refKey_false hk
  have ho' := c10n_pSafeF_iff.1 ho
  -- the entries at the other keys are those of `pre ++ post`
  have hmem : ∀ (x : Val) (q : String × Val), q ∈ pre ++ (k, x) :: post → q.1 ≠ k →
      q ∈ pre ++ post := by
    intro x q hq hne
    rcases List.mem_append.1 hq with hq | hq
    · exact List.mem_append_left _ hq
    · rcases List.mem_cons.1 hq with rfl | hq
      · exact absurd rfl hne
      · exact List.mem_append_right _ hq
  have hmerge : ∀ x : Val, fget (pre ++ (k, x) :: post) "$merge" = none := fun x =>
    fget_none_iff.2 fun q hq => by
      by_cases e : q.1 = k
      · rw [e]; exact hkf.1
      · exact (ho' q (hmem x q hq e)).1
  have hrep := fget_append_host_ne pre post c' c (Ne.symm hkf.2.1)
  cases hr : fget (pre ++ (k, c) :: post) "$replace" with
  | some ref =>
    -- the map on the path is itself a `$replace` host: the path is never evaluated
    have hsafe : c10n_pSafeRef Q ref = true :=
      (ho' _ (hmem c _ (fget_mem hr) (Ne.symm hkf.2.1))).2.2.1 rfl
    rw [process1_map_replace (hmerge c) hr, process1_map_replace (hmerge c') (hrep.trans hr)]
    exact Or.inr ⟨r, r', hinv, hag, c10n_psim_get_step (c10n_psim Q fuel) hinv hag hsafe⟩
  | none =>
    rw [process1_map_plain (hmerge c) hr, process1_map_plain (hmerge c') (hrep.trans hr),
      List.foldlM_append, List.foldlM_append]
    have hpost : c10n_pSafeF Q post = true :=
      c10n_pSafeF_subset ho fun q hq => List.mem_append_right _ hq
    rcases simRel_cases (c10n_psim_fold (fuel := fuel) (docs := docs) (loc := loc) hinv hag
      (c10n_pSafeF_subset ho fun q hq => List.mem_append_left _ hq) []) with
      ⟨e, e1, e2⟩ | ⟨acc1, e1, e2⟩
    · rw [e1, e2]; exact Or.inl rfl
    · rw [e1, e2, ok_bind, ok_bind, List.foldlM_cons, List.foldlM_cons, mapStep_key hk,
        mapStep_key hk]
      rcases hrel with heq | ⟨b, b', hb, hbb, hsim⟩
      · rw [heq]; exact Or.inl rfl
      · exact Or.inr ⟨b, b', hb, hbb, simRel_bind
          (simRel_bind (simRel_bind hsim fun a => simRel_ok _ _ _)
            fun acc2 => c10n_psim_fold hb hbb hpost acc2)
          fun r => simRel_ok _ _ _⟩

/-- The context of the host: the relation between the evaluations of `hostv` and `hostv'` at the
    end of the path `ρ` lifts, one unit of fuel per level, to the evaluations of `v` and
    `v[ρ := hostv']`. -/
theorem c10n_pcontext {Q : List String} {docs : List Val} {r r' : Val}
    (hinv : c10n_PSafeRoot Q r) (hag : c10n_PAgree Q r r') {hostv hostv' : Val} {fuel : Nat} :
    ∀ (ρ : List String) (v : Val) (loc : Loc),
      c10n_paround Q v ρ = true → getPath v ρ = .ok hostv →
      c10n_PHostRel Q (process1 fuel docs r (c10n_locAt loc ρ) hostv)
        (process1 fuel docs r' (c10n_locAt loc ρ) hostv') →
      c10n_PHostRel Q (process1 (fuel + ρ.length) docs r loc v)
        (process1 (fuel + ρ.length) docs r' loc (c10n_setKeys v ρ hostv')) := by
  intro ρ
  induction ρ with
  | nil =>
    intro v loc _ hg hrel
    cases hg
    exact hrel
  | cons k ρ ih =>
    intro v loc har hg hrel
    cases v with
    | map m =>
      obtain ⟨hs, hk, ho, c, hc, harc⟩ := c10n_paround_cons.1 har
      obtain ⟨c', hc', hgc⟩ := getPath_cons_inv hg
      rw [hc] at hc'
      cases hc'
      rw [c10n_setKeys_cons ρ hostv' hc]
      exact c10n_plevel hinv hag hs hk hc ho (ih c (childLoc loc k) harc hgc hrel)
    | _ => cases hg

/-! ## the inline statements -/

theorem c10n_inline_replace_apart_core {fuel : Nat} {docs : List Val} {root : Val}
    {π : List String} {hostv ref t : Val} {ks : List String}
    (hhost : getPath root π = .ok hostv)
    (har : c10n_paround π root π = true)
    (hfw : Forwards hostv ref) (hp : PathRef ref ks) (ht : getPath root ks = .ok t)
    (htf : refFree t = true) (hfuel : process1 fuel [] .null none t ≠ .error .circularRef) :
    Except.map Prod.fst (process1 (fuel + π.length + 1) docs root (some []) root) =
      Except.map Prod.fst
        (process1 (fuel + π.length + 1) docs (c10n_setKeys root π t) (some [])
          (c10n_setKeys root π t)) := by
  have hinv := c10n_psafeRoot_of_paround har
  have hag := c10n_pagree_setKeys π root t
  have := c10n_pcontext hinv hag π root (some []) har hhost
    (Or.inr ⟨_, _, hinv, hag, replace_host_rel (docs := docs) hfw hp ht htf hfuel⟩)
  rw [Nat.add_right_comm] at this
  exact c10n_PHostRel_fst this

theorem c10n_inline_merge_apart_core {fuel : Nat} {docs : List Val} {root : Val} {m : Fields}
    {π : List String} {ref t nv : Val} {ks : List String}
    (hhost : getPath root π = .ok (.map m))
    (har : c10n_paround π root π = true)
    (hm : fget m "$merge" = some ref) (hp : PathRef ref ks) (hk : c10n_apart ks π = true)
    (ht : getPath root ks = .ok t) (hti : MergeInlinable t)
    (hn : merge (.map (fdel m "$merge")) t = .ok nv)
    (hfuel : process1 fuel docs (c10n_setKeys root π nv)
      (some (π.map PathElem.key)) nv ≠ .error .circularRef) :
    Except.map Prod.fst (process1 (fuel + π.length + 1) docs root (some []) root) =
      Except.map Prod.fst
        (process1 (fuel + π.length + 1) docs (c10n_setKeys root π nv) (some [])
          (c10n_setKeys root π nv)) := by
  have hinv := c10n_psafeRoot_of_paround har
  have hrel : c10n_PHostRel π
      (process1 (fuel + 1) docs root (c10n_locAt (some []) π) (.map m))
      (process1 (fuel + 1) docs (c10n_setKeys root π nv) (c10n_locAt (some []) π) nv) := by
    rw [c10n_locAt_top]
    exact (merge_host_rel (S := c10n_setKeys root π) (fun x => c10n_setLoc _ _ x)
      (fun x y => by rw [c10n_setLoc, c10n_setKeys_setKeys])
      (fun x => c10n_getPath_setKeys_apart π ks root x hk) hm hp ht hti hn hfuel).imp_right
      fun hsim => ⟨_, _, c10n_psafeRoot_setKeys _ hinv, c10n_pagree_setKeys2 π root _ _, hsim⟩
  have := c10n_pcontext hinv (c10n_pagree_setKeys π root nv) π root (some []) har hhost hrel
  rw [Nat.add_right_comm] at this
  exact c10n_PHostRel_fst this

/-! ## the first-key condition, and a host at a top-level key -/

theorem c10n_inline_replace_core {fuel : Nat} {docs : List Val} {kvs : Fields} {h : String}
    {ρ : List String} {hostv ref t : Val} {ks : List String}
    (hhost : getPath (.map kvs) (h :: ρ) = .ok hostv)
    (har : c10n_around h (.map kvs) (h :: ρ) = true)
    (hfw : Forwards hostv ref) (hp : PathRef ref ks) (ht : getPath (.map kvs) ks = .ok t)
    (htf : refFree t = true) (hfuel : process1 fuel [] .null none t ≠ .error .circularRef) :
    Except.map Prod.fst (process1 (fuel + ρ.length + 2) docs (.map kvs) (some []) (.map kvs)) =
      Except.map Prod.fst
        (process1 (fuel + ρ.length + 2) docs (c10n_setKeys (.map kvs) (h :: ρ) t) (some [])
          (c10n_setKeys (.map kvs) (h :: ρ) t)) :=
  c10n_inline_replace_apart_core hhost (c10n_paround_of_around h ρ _ _ har) hfw hp ht htf hfuel

theorem c10n_inline_merge_core {fuel : Nat} {docs : List Val} {kvs m : Fields} {h k : String}
    {ρ : List String} {ref t nv : Val} {ks : List String}
    (hhost : getPath (.map kvs) (h :: ρ) = .ok (.map m))
    (har : c10n_around h (.map kvs) (h :: ρ) = true)
    (hm : fget m "$merge" = some ref) (hp : PathRef ref (k :: ks)) (hk : k ≠ h)
    (ht : getPath (.map kvs) (k :: ks) = .ok t) (hti : MergeInlinable t)
    (hn : merge (.map (fdel m "$merge")) t = .ok nv)
    (hfuel : process1 fuel docs (c10n_setKeys (.map kvs) (h :: ρ) nv)
      (some ((h :: ρ).map PathElem.key)) nv ≠ .error .circularRef) :
    Except.map Prod.fst (process1 (fuel + ρ.length + 2) docs (.map kvs) (some []) (.map kvs)) =
      Except.map Prod.fst
        (process1 (fuel + ρ.length + 2) docs (c10n_setKeys (.map kvs) (h :: ρ) nv) (some [])
          (c10n_setKeys (.map kvs) (h :: ρ) nv)) :=
  c10n_inline_merge_apart_core hhost (c10n_paround_of_around h ρ _ _ har) hm hp
    (c10n_apart_cons_ne ks ρ hk) ht hti hn hfuel

theorem c10n_around_top {kvs : Fields} {h : String} {hostv : Val} (hs : Fields.SortedKeys kvs)
    (hh : fget kvs h = some hostv) (hhk : refKey h = false)
    (ho : SafeFields h (fdel kvs h) = true) :
    getPath (.map kvs) [h] = .ok hostv ∧ c10n_around h (.map kvs) [h] = true ∧
      ∀ x, c10n_setKeys (.map kvs) [h] x = .map (fset kvs h x) :=
  ⟨by simp only [getPath, hh]; rfl,
   c10n_around_cons.2 ⟨hs, hhk, ho, hostv, hh, c10n_around_nil h hostv⟩,
   fun x => c10n_setKeys_cons [] x hh⟩

theorem inline_replace_top {fuel : Nat} {docs : List Val} {kvs : Fields} {h : String}
    {hostv ref t : Val} {ks : List String}
    (hs : Fields.SortedKeys kvs) (hh : fget kvs h = some hostv) (hhk : refKey h = false)
    (hfw : Forwards hostv ref) (hp : PathRef ref ks) (ht : getPath (.map kvs) ks = .ok t)
    (htf : refFree t = true) (ho : SafeFields h (fdel kvs h) = true)
    (hfuel : process1 fuel [] .null none t ≠ .error .circularRef) :
    Except.map Prod.fst (process1 (fuel + 2) docs (.map kvs) (some []) (.map kvs)) =
      Except.map Prod.fst
        (process1 (fuel + 2) docs (.map (fset kvs h t)) (some []) (.map (fset kvs h t))) := by
  obtain ⟨hhost, har, hset⟩ := c10n_around_top hs hh hhk ho
  have := c10n_inline_replace_core (docs := docs) hhost har hfw hp ht htf hfuel
  rw [hset] at this
  exact this

theorem inline_merge_top {fuel : Nat} {docs : List Val} {kvs m : Fields} {h k : String}
    {ref t nv : Val} {ks : List String}
    (hs : Fields.SortedKeys kvs) (hh : fget kvs h = some (.map m)) (hhk : refKey h = false)
    (hm : fget m "$merge" = some ref) (hp : PathRef ref (k :: ks)) (hk : k ≠ h)
    (ht : getPath (.map kvs) (k :: ks) = .ok t) (hti : MergeInlinable t)
    (ho : SafeFields h (fdel kvs h) = true)
    (hn : merge (.map (fdel m "$merge")) t = .ok nv)
    (hfuel : process1 fuel docs (.map (fset kvs h nv)) (some [.key h]) nv ≠ .error .circularRef) :
    Except.map Prod.fst (process1 (fuel + 2) docs (.map kvs) (some []) (.map kvs)) =
      Except.map Prod.fst
        (process1 (fuel + 2) docs (.map (fset kvs h nv)) (some []) (.map (fset kvs h nv))) := by
  obtain ⟨hhost, har, hset⟩ := c10n_around_top hs hh hhk ho
  have := c10n_inline_merge_core (docs := docs) (fuel := fuel) hhost har hm hp hk ht hti hn
    (by rw [hset]; exact hfuel)
  rw [hset] at this
  exact this

theorem inline_merge_core {fuel : Nat} {docs : List Val} {kvs m : Fields} {h k : String}
    {ref t nv : Val} {ks : List String}
    (hs : Fields.SortedKeys kvs) (hh : fget kvs h = some (.map m)) (hhk : refKey h = false)
    (hm : fget m "$merge" = some ref) (hp : PathRef ref (k :: ks)) (hk : k ≠ h)
    (ht : getPath (.map kvs) (k :: ks) = .ok t) (hti : MergeInlinable t)
    (ho : refFreeFields (fdel kvs h) = true)
    (hn : merge (.map (fdel m "$merge")) t = .ok nv)
    (hfuel : process1 fuel docs (.map (fset kvs h nv)) (some [.key h]) nv ≠ .error .circularRef) :
    Except.map Prod.fst (process1 (fuel + 2) docs (.map kvs) (some []) (.map kvs)) =
      Except.map Prod.fst
        (process1 (fuel + 2) docs (.map (fset kvs h nv)) (some []) (.map (fset kvs h nv))) :=
  inline_merge_top hs hh hhk hm hp hk ht hti (refFreeFields_safe h _ ho) hn hfuel

/-! ## a merge conflict at a top-level host is the error of the document -/

/-- the host at the top-level key `h`, its target at a path that starts at another key -/
theorem merge_host_error_top {fuel : Nat} {docs : List Val} {kvs m : Fields} {h k : String}
    {ref t : Val} {ks : List String} {e : Err}
    (hh : fget kvs h = some (.map m)) (hm : fget m "$merge" = some ref)
    (hp : PathRef ref (k :: ks)) (hk : k ≠ h) (ht : getPath (.map kvs) (k :: ks) = .ok t)
    (hn : merge (.map (fdel m "$merge")) t = .error e) :
    process1 (fuel + 1) docs (.map kvs) (some [.key h]) (.map m) = .error e := by
  have hg : getPath (.map (fset kvs h (.map (fdel m "$merge")))) (k :: ks) = .ok t := by
    simp only [getPath, fget_fset_ne _ _ _ _ hk] at ht ⊢; exact ht
  rw [process1_merge_top hh hm hp, hg, ok_bind, hn]
  rfl

theorem inline_merge_error_core {fuel : Nat} {docs : List Val} {kvs m : Fields} {h k : String}
    {ref t : Val} {ks : List String} {e : Err}
    (hs : Fields.SortedKeys kvs) (hh : fget kvs h = some (.map m)) (hhk : refKey h = false)
    (hm : fget m "$merge" = some ref) (hp : PathRef ref (k :: ks)) (hk : k ≠ h)
    (ht : getPath (.map kvs) (k :: ks) = .ok t)
    (ho : refFreeFields (fdel kvs h) = true)
    (hd : ∀ p ∈ fdel kvs h, depth p.2 < fuel + 1)
    (hn : merge (.map (fdel m "$merge")) t = .error e) :
    process1 (fuel + 2) docs (.map kvs) (some []) (.map kvs) = .error e := by
  obtain ⟨h0, h1⟩ := no_ref_keys (doc_keys hs hhk ho)
  obtain ⟨pre, post, e1, e2, e3⟩ := sorted_split hs hh
  rw [e3] at hd ho
  subst e1
  refine process1_map_error_at h0 h1 (fun p hp => ?_) (merge_host_error_top hh hm hp hk ht hn)
  have hp' := List.mem_append_left post hp
  have := refFreeFields_mem ho p hp'
  obtain ⟨x, hx⟩ := process1_refFree_ok _ p.2 this.2 (hd p hp')
  exact ⟨this.1, x, process1_refFree_of this.2 hx _ _ _⟩

/-- with safe entries around the host, a merge conflict at the host makes the document fail
    (an entry before the host may fail first) -/
theorem inline_merge_error_safe_core {fuel : Nat} {docs : List Val} {kvs m : Fields}
    {h k : String} {ref t : Val} {ks : List String} {e : Err}
    (hs : Fields.SortedKeys kvs) (hh : fget kvs h = some (.map m)) (hhk : refKey h = false)
    (hm : fget m "$merge" = some ref) (hp : PathRef ref (k :: ks)) (hk : k ≠ h)
    (ht : getPath (.map kvs) (k :: ks) = .ok t)
    (ho : SafeFields h (fdel kvs h) = true) (h1 : fget kvs "$replace" = none)
    (hn : merge (.map (fdel m "$merge")) t = .error e) :
    ∃ e', process1 (fuel + 2) docs (.map kvs) (some []) (.map kvs) = .error e' := by
  have herr := merge_host_error_top (fuel := fuel) (docs := docs) hh hm hp hk ht hn
  obtain ⟨_, har, _⟩ := c10n_around_top hs hh hhk ho
  have hinv := c10n_psafeRoot_of_paround (c10n_paround_of_around h [] _ _ har)
  have ho' := c10n_safeFields_imp h [] _ ho
  have h0 : fget kvs "$merge" = none := fget_none_iff.2 fun p hp' => by
    by_cases e : p.1 = h
    · rw [e]; exact (refKey_false hhk).1
    · have : fget (fdel kvs h) p.1 = some p.2 := by
        rw [fget_fdel_ne _ _ _ e]; exact fget_of_mem_sorted hs hp'
      exact (safeFields_iff.1 ho _ (fget_mem this)).1
  obtain ⟨pre, post, e1, e2, e3⟩ := sorted_split hs hh
  rw [e3] at ho'
  rcases simRel_cases (c10n_psim_fold (fuel := fuel + 1) (docs := docs) (loc := some []) hinv
    (fun _ _ => rfl) (c10n_pSafeF_subset ho' fun q hq => List.mem_append_left _ hq) []) with
    ⟨e', hpre, _⟩ | ⟨acc1, hpre, _⟩
  · exact ⟨e', by have := process1_map_prefix_error (e1 ▸ h0) (e1 ▸ h1) hpre; rwa [← e1] at this⟩
  · exact ⟨e, by have := process1_map_entry_error (e1 ▸ h0) (e1 ▸ h1) hpre herr; rwa [← e1] at this⟩

/-! ## small facts for the non-vacuity examples -/

theorem c10n_pSafeL_strs {π : List String} : ∀ ks : List String,
    (∀ s ∈ ks, refStr s = false) → c10n_pSafeL π (ks.map .str) = true
  | [], _ => rfl
  | k :: ks, h => by
    simp only [List.map_cons, c10n_pSafeL, Bool.and_eq_true, c10n_pSafe]
    exact ⟨c10n_pSafeStr_of_not_refStr (h k List.mem_cons_self),
      c10n_pSafeL_strs ks (fun s hs => h s (List.mem_cons_of_mem _ hs))⟩

theorem c10n_pSafeF_cons {π : List String} {k : String} {v : Val} {rest : Fields}
    (hk : refKey k = false) (hv : c10n_pSafe π v = true) (hr : c10n_pSafeF π rest = true) :
    c10n_pSafeF π ((k, v) :: rest) = true := by
  have := refKey_false hk
  simp only [c10n_pSafeF, Bool.and_eq_true, Bool.not_eq_true', beq_eq_false_iff_ne,
    Bool.or_eq_true]
  exact ⟨⟨⟨⟨this.1, c10n_pSafeStr_of_not_refStr (refStr_of_refKey hk)⟩, Or.inl this.2.1⟩, hv⟩, hr⟩

/-- `{$replace: [k, …]}` with a list path of plain keys apart from `π` -/
theorem c10n_pSafe_map_replace_list {π : List String} {k : String} {ks : List String}
    (hap : c10n_apart (k :: ks) π = true) (hks : ∀ s ∈ k :: ks, refStr s = false) :
    c10n_pSafe π (.map [("$replace", .list (.str k :: ks.map .str))]) = true := by
  simp only [c10n_pSafe]
  apply c10n_pSafeF_iff.2
  intro q hq
  simp only [List.mem_cons, List.not_mem_nil, or_false] at hq
  subst hq
  have h1 : "$replace" ≠ "$merge" := by decide +kernel
  have h2 : refStr "$replace" = false := by decide +kernel
  refine ⟨h1, c10n_pSafeStr_of_not_refStr h2, fun _ => ?_, ?_⟩
  · have : toStringList (.str k :: ks.map .str) = .ok (k :: ks) := toStringList_strs (k :: ks)
    simp only [c10n_pSafeRef, c10n_pSafeList, this, hap]
  · simp only [c10n_pSafe]
    exact c10n_pSafeL_strs (k :: ks) hks

/-! ## a sibling inside the top-level entry that reads the raw host -/

/-- `a: {x: 1}`, `p: {h: {$replace: a}, u: {$replace: [p, h, $replace]}}` — the sibling `u` of
    the host `p.h` reads the raw `$replace` key of the host (its path EXTENDS the host's path) -/
def c10n_cexRead : Fields :=
  [("a", .map [("x", .int 1)]),
   ("p", .map [("h", .map [("$replace", .str "a")]),
               ("u", .map [("$replace", .list [.str "p", .str "h", .str "$replace"])])])]

theorem c10n_cexRead_ref (fuel : Nat) (docs : List Val) :
    Except.map Prod.fst
      (process1 (fuel + 5) docs (.map c10n_cexRead) (some []) (.map c10n_cexRead)) =
    .ok (.map [("a", .map [("x", .int 1)]),
               ("p", .map [("h", .map [("x", .int 1)]), ("u", .str "a")])]) := by
  have hx := fun f => process1_int_entry refKey_x 1 f docs (.map c10n_cexRead)
  have hh := ((forwards_replace_only (.str "a")).to_path (pathRef_simpleKey simpleKey_a)
    (root := .map c10n_cexRead) rfl (fuel + 2) docs (childLoc (some [.key "p"]) "h")).trans
    (hx fuel none)
  have hu := ((forwards_replace_only _).to_path (pathRef_list "p" ["h", "$replace"])
    (root := .map c10n_cexRead) rfl (fuel + 2) docs (childLoc (some [.key "p"]) "u")).trans
    (process1_str_of_refKey refKey_a _ _ _ _)
  exact congrArg (Except.map Prod.fst) (process1_pair (fuel := fuel + 4) (loc := some []) refKey_a
    refKey_p (by decide +kernel) (hx (fuel + 2) _)
    (process1_pair refKey_h refKey_u (by decide +kernel) hh hu rfl rfl) rfl rfl)

theorem c10n_cexRead_inline (fuel : Nat) (docs : List Val) :
    process1 (fuel + 4) docs
      (c10n_setKeys (.map c10n_cexRead) ["p", "h"] (.map [("x", .int 1)])) (some [])
      (c10n_setKeys (.map c10n_cexRead) ["p", "h"] (.map [("x", .int 1)])) =
        .error .refNotFound := by
  rw [show c10n_setKeys (.map c10n_cexRead) ["p", "h"] (.map [("x", .int 1)]) =
      .map [("a", .map [("x", .int 1)]),
        ("p", .map [("h", .map [("x", .int 1)]),
                    ("u", .map [("$replace", .list [.str "p", .str "h", .str "$replace"])])])] from by
    decide +kernel]
  have hx := fun f => process1_int_entry refKey_x 1 f docs
  -- `a` evaluates; inside `p`, `h` evaluates and `u` dangles
  refine process1_map_error_at (pre := [("a", _)]) (post := []) (by decide +kernel)
    (by decide +kernel) (fun p hp => by
      rw [List.mem_singleton.1 hp]; exact ⟨refKey_a, _, hx (fuel + 1) _ _⟩) ?_
  exact process1_map_error_at (pre := [("h", _)]) (post := []) (by decide +kernel)
    (by decide +kernel) (fun p hp => by
      rw [List.mem_singleton.1 hp]; exact ⟨refKey_h, _, hx fuel _ _⟩)
    ((forwards_replace_only _).dangling (pathRef_list "p" ["h", "$replace"]) rfl _ _ _)

end Bkl
