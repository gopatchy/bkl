/-
  BklProofs.Lemmas.C12Subst — helper definitions and lemmas for the C12 (`$repeat`) theorems
  about copies:
  * `substRepeat i` — "the document written out by hand with the index substituted":
    every string value `"$repeat"` becomes the integer `i`, and inside `$"…"` interpolation
    strings every `{$repeat}` reference becomes the decimal text of `i`;
  * the class `repeatBody` of bodies for which the substitution theorem is proved;
  * scanner lemmas: after the textual substitution the interpolation scanner finds no reference;
  * the nested map-entry form of `$repeat` (`repeatEntry`; `process2MapTail` is in Lemmas/Process2);
  * `process1` on documents without `$merge`/`$replace`, the merge of an upper layer that sets the count,
    and the closed evaluations the examples and counterexamples of C12 use.
-/
import BklProofs.Lemmas.RefFree
import BklProofs.Lemmas.Interp
import BklProofs.Lemmas.Process2
namespace Bkl

/-! ## the substitution -/

def repeatChars : List Char := ['$', 'r', 'e', 'p', 'e', 'a', 't']

theorem repeatChars_eq : "$repeat".toList = repeatChars := by decide

theorem ofList_repeatChars : String.ofList repeatChars = "$repeat" := by
  rw [← repeatChars_eq, String.ofList_toList]

/-- `{$repeat}` becomes the decimal text of the index; everything else is kept -/
def substSeg (i : Int) : Seg → Seg
  | .ref r => if r = repeatChars then .lit (toString i).toList else .ref r
  | .lit l => .lit l

/-- the body of a `$"…"` string with every `{$repeat}` replaced by the decimal text of `i` -/
def substChars (i : Int) (b : List Char) : List Char :=
  render ((interpSegs b).map (substSeg i))

/-- a string leaf: `"$repeat"` is the index itself; in `$"…"` the references are replaced -/
def substStr (i : Int) (s : String) : Val :=
  if s = "$repeat" then .int i
  else match interpBody s with
    | some b => .str (String.ofList ('$' :: '"' :: (substChars i b ++ ['"'])))
    | none => .str s

mutual
/-- the document written out by hand for index `i` (map keys are left alone) -/
def substRepeat (i : Int) : Val → Val
  | .str s => substStr i s
  | .list xs => .list (substRepeatList i xs)
  | .map kvs => .map (substRepeatFields i kvs)
  | v => v
def substRepeatList (i : Int) : List Val → List Val
  | [] => []
  | x :: xs => substRepeat i x :: substRepeatList i xs
def substRepeatFields (i : Int) : Fields → Fields
  | [] => []
  | (k, v) :: rest => (k, substRepeat i v) :: substRepeatFields i rest
end

theorem substRepeatList_eq (i : Int) (xs : List Val) :
    substRepeatList i xs = xs.map (substRepeat i) := by
  induction xs with
  | nil => rfl
  | cons x xs ih => simp [substRepeatList, ih]

theorem substRepeatFields_eq (i : Int) (kvs : Fields) :
    substRepeatFields i kvs = kvs.map fun kv => (kv.1, substRepeat i kv.2) := by
  induction kvs with
  | nil => rfl
  | cons kv rest ih => obtain ⟨k, v⟩ := kv; simp [substRepeatFields, ih]

/-! ## the class of bodies -/

def segOK : Seg → Bool
  | .lit _ => true
  | .ref r => decide (r = repeatChars)

/-- a string leaf: not an interpolation, or (if `interp`) one whose references are all
    `{$repeat}` -/
def strOK (interp : Bool) (s : String) : Bool :=
  match interpBody s with
  | none => true
  | some b => interp && (interpSegs b).all segOK

/-- a map key: not an interpolation, not `$repeat`, not one of the process2 directives -/
def keyOK (k : String) : Bool :=
  (interpBody k).isNone && k != "$repeat" && k != "$encode" && k != "$decode" && k != "$value"

mutual
def repeatBody (interp : Bool) : Val → Bool
  | .str s => strOK interp s
  | .list xs => repeatBodyList interp xs
  | .map kvs => repeatBodyFields interp kvs
  | _ => true
def repeatBodyList (interp : Bool) : List Val → Bool
  | [] => true
  | x :: xs => repeatBody interp x && repeatBodyList interp xs
def repeatBodyFields (interp : Bool) : Fields → Bool
  | [] => true
  | (k, v) :: rest => keyOK k && repeatBody interp v && repeatBodyFields interp rest
end

theorem repeatBodyList_mem {interp : Bool} {xs : List Val} (h : repeatBodyList interp xs = true) :
    ∀ x ∈ xs, repeatBody interp x = true :=
  (all_of_eqns (repeatBodyList.eq_1 interp) (repeatBodyList.eq_2 interp)).1 h

theorem repeatBodyFields_mem {interp : Bool} {kvs : Fields}
    (h : repeatBodyFields interp kvs = true) :
    ∀ q ∈ kvs, keyOK q.1 = true ∧ repeatBody interp q.2 = true :=
  fun q hq => Bool.and_eq_true_iff.1
    ((all_of_eqns (repeatBodyFields.eq_1 interp) fun q l => repeatBodyFields.eq_2 interp q.1 q.2 l).1 h q hq)

theorem keyOK_iff {k : String} : keyOK k = true ↔
    interpBody k = none ∧ k ≠ "$repeat" ∧ k ≠ "$encode" ∧ k ≠ "$decode" ∧ k ≠ "$value" := by
  simp [keyOK, and_assoc]

/-! ## the scanner after substitution -/

/-- no `{` of `cs` has a matching `}` -/
def NoRef (cs : List Char) : Prop :=
  ∀ pre post, cs = pre ++ '{' :: post → scanClose post [] = none

theorem scanSegs_noRef : ∀ (cs lit : List Char) (f : Nat), cs.length ≤ f → NoRef cs →
    scanSegs cs lit f = flush (cs.reverse ++ lit) := by
  intro cs
  induction cs with
  | nil => intro lit f _ _; exact scanSegs_nil lit f
  | cons c rest ih =>
    intro lit f hf hn
    obtain ⟨f', rfl⟩ : ∃ f', f = f' + 1 := ⟨f - 1, by simp at hf; omega⟩
    have hn' : NoRef rest := fun pre post e => hn (c :: pre) post (by rw [e]; rfl)
    have hf' : rest.length ≤ f' := by simpa using hf
    rw [List.reverse_cons, List.append_assoc]
    by_cases hc : c = '{'
    · subst hc
      rw [scanSegs_unclosed (hn [] rest rfl), ih _ _ hf' hn']; rfl
    · rw [scanSegs_char hc, ih _ _ hf' hn']; rfl

theorem interpSegs_noRef (cs : List Char) (h : NoRef cs) : interpSegs cs = flush cs.reverse := by
  rw [interpSegs, scanSegs_noRef cs [] _ (Nat.le_succ _) h, List.append_nil]

/-- if the close of a `{` is blocked although a `{R}` follows, it is blocked whatever follows -/
theorem scanClose_none_prefix (R after Z : List Char) (h1 : '}' ∉ R) (h2 : '\n' ∉ R) :
    ∀ (l2 acc acc' : List Char),
      scanClose (l2 ++ '{' :: (R ++ '}' :: after)) acc = none → scanClose (l2 ++ Z) acc' = none := by
  intro l2
  induction l2 with
  | nil =>
    intro acc acc' h
    have := scanClose_inner ('{' :: R) after acc (by simp [h1]) (by simp [h2])
    rw [List.nil_append, ← List.cons_append, this] at h
    cases h
  | cons c l2 ih =>
    intro acc acc' h
    by_cases hc1 : c = '}'
    · subst hc1; cases h
    · by_cases hc2 : c = '\n'
      · subst hc2; rfl
      · rw [List.cons_append, scanClose_char hc1 hc2] at h ⊢
        exact ih _ _ h

theorem noRef_append {A B : List Char}
    (hA : ∀ pre post, A = pre ++ '{' :: post → scanClose (post ++ B) [] = none)
    (hB : NoRef B) : NoRef (A ++ B) := by
  intro pre post e
  rcases List.append_eq_append_iff.1 e with ⟨a', rfl, e2⟩ | ⟨c', rfl, e2⟩
  · exact hB a' post e2
  · cases c' with
    | nil => exact hB [] post (by simpa using e2.symm)
    | cons x c'' =>
      obtain ⟨rfl, rfl⟩ := List.cons.inj e2
      exact hA pre c'' rfl

theorem lbrace_not_mem_toString (i : Int) : '{' ∉ (toString i).toList := by
  have hn : ∀ n : Nat, '{' ∉ n.repr.toList := by
    intro n h
    rw [Nat.toList_repr] at h
    exact absurd (Nat.isDigit_of_mem_toDigits (by decide) (by decide) h) (by decide)
  rw [Int.toString_eq_repr, Int.repr_eq_if]
  split
  · exact hn _
  · rw [String.toList_append, List.mem_append, not_or]
    exact ⟨by decide, hn _⟩

/-- the pending literal never contains a `{` that could still be closed -/
def LitInv (lit cs : List Char) : Prop :=
  ∀ pre post, lit.reverse ++ cs = pre ++ '{' :: post → pre.length < lit.length →
    scanClose post [] = none

theorem litInv_nil (cs : List Char) : LitInv [] cs :=
  fun _ _ _ h => absurd h (Nat.not_lt_zero _)

theorem litInv_push {c : Char} {lit rest : List Char} (h : LitInv lit (c :: rest))
    (hc : c = '{' → scanClose rest [] = none) : LitInv (c :: lit) rest := by
  intro pre post e hl
  have e' : lit.reverse ++ c :: rest = pre ++ '{' :: post := by simpa using e
  by_cases hlt : pre.length < lit.length
  · exact h pre post e' hlt
  · have hlen : pre.length = lit.reverse.length := by simp at hl ⊢; omega
    obtain ⟨rfl, e2⟩ := List.append_inj e'.symm hlen
    obtain ⟨rfl, rfl⟩ := List.cons.inj e2
    exact hc rfl

theorem render_map_flush (i : Int) (lit : List Char) :
    render ((flush lit).map (substSeg i)) = lit.reverse := by
  cases lit with
  | nil => rfl
  | cons c cs => simp [flush_cons, render, renderSeg, substSeg]

/-- Along the scanner, with the invariant `LitInv`: no `{` of the pending literal can still be closed.  At a `{$repeat}`
    the output is the pending literal, then the digits, then the rest: a pending `{` stays unclosed because its close
    was blocked before the reference was reached (`scanClose_none_prefix`), and digits contain no `{`. -/
theorem noRef_subst (i : Int) : ∀ (f : Nat) (cs lit : List Char), cs.length ≤ f → LitInv lit cs →
    (scanSegs cs lit f).all segOK = true →
    NoRef (render ((scanSegs cs lit f).map (substSeg i))) := by
  have hnil : ∀ (lit : List Char) (f : Nat), LitInv lit [] →
      NoRef (render ((scanSegs [] lit f).map (substSeg i))) := by
    intro lit f hinv pre post e
    rw [scanSegs_nil, render_map_flush] at e
    refine hinv pre post (by simpa using e) ?_
    have := congrArg List.length e
    simp at this
    omega
  intro f
  induction f with
  | zero =>
    intro cs lit hf hinv _
    obtain rfl : cs = [] := List.eq_nil_of_length_eq_zero (by omega)
    exact hnil lit 0 hinv
  | succ f ih =>
    intro cs lit hf hinv hok
    cases cs with
    | nil => exact hnil lit _ hinv
    | cons c rest =>
      have hf' : rest.length ≤ f := by simpa using hf
      by_cases hc : c = '{'
      · subst hc
        cases hsc : scanClose rest [] with
        | none =>
          rw [scanSegs_unclosed hsc] at hok ⊢
          exact ih rest _ hf' (litInv_push hinv (fun _ => hsc)) hok
        | some p =>
          obtain ⟨inner, after⟩ := p
          obtain ⟨e2, n1, n2⟩ := scanClose_nil_some hsc
          have hlen : after.length ≤ f := by
            have := congrArg List.length e2
            simp at this
            omega
          rw [scanSegs_ref hsc] at hok ⊢
          simp only [List.all_append, List.all_cons, Bool.and_eq_true, segOK, decide_eq_true_eq] at hok
          obtain ⟨_, rfl, hrest⟩ := hok
          simp only [List.map_append, List.map_cons, render_append, render_map_flush, render,
            substSeg, if_true, renderSeg]
          apply noRef_append
          · intro pre post e
            have h1 := hinv pre (post ++ '{' :: rest)
              (by rw [e]; simp) (by have := congrArg List.length e; simp at this; omega)
            rw [e2] at h1
            exact scanClose_none_prefix repeatChars after _ (by decide) (by decide) post [] [] h1
          · apply noRef_append
            · intro pre post e
              exact absurd (by rw [e]; simp) (lbrace_not_mem_toString i)
            · exact ih after [] hlen (litInv_nil _) hrest
      · rw [scanSegs_char hc] at hok ⊢
        exact ih rest _ hf' (litInv_push hinv (fun e => absurd e hc)) hok

theorem interpSegs_substChars (i : Int) (b : List Char) (h : (interpSegs b).all segOK = true) :
    interpSegs (substChars i b) = flush (substChars i b).reverse :=
  interpSegs_noRef _ (noRef_subst i _ b [] (Nat.le_succ _) (litInv_nil _) h)

/-! ## evaluating `{$repeat}` under the binding -/

theorem isPlainRef_repeat : isPlainRef "$repeat" = true := by
  rw [isPlainRef, toLower_eq]; decide +kernel

theorem process2String_repeat (fuel : Nat) (docs : List Val) (root : Val) (ec : Vars) :
    process2String fuel docs root ec "$repeat" = getVar ec "$repeat" := by
  rw [process2String_not_interp _ _ _ _ interpBody_repeat, if_pos (by simp)]

theorem process2_repeat_leaf (fuel : Nat) (docs : List Val) (root : Val) (ec : Vars) (i : Int) :
    process2 (fuel + 1) docs root (fset ec "$repeat" (.int i)) (.str "$repeat") = .ok (.int i) := by
  rw [process2_str_eq, process2String_repeat, getVar_some (fget_fset_same _ _ _)]

/-- a `{$repeat}` reference is not captured by the referencing document: the path lookup of
    `$repeat` in `root` fails (with a modelled error), so the variable is used -/
def rootOK (root : Val) (docs : List Val) : Prop :=
  ∃ e, get root docs (.str "$repeat") = .error e ∧ e ≠ .unmodelled

theorem get_repeat (root : Val) (docs : List Val) :
    get root docs (.str "$repeat") = getPath root ["$repeat"] :=
  get_simple_key root docs "$repeat" isPlainRef_repeat (by decide)

theorem rootOK_of_no_key (root : Val) (docs : List Val)
    (h : ∀ kvs, root = .map kvs → fget kvs "$repeat" = none) : rootOK root docs := by
  refine ⟨.refNotFound, ?_, by decide⟩
  rw [get_repeat]
  cases root with
  | map kvs => simp [getPath, h kvs rfl]; rfl
  | _ => rfl

theorem getWithVar_repeat (root : Val) (docs : List Val) (ec : Vars) (i : Int)
    (h : rootOK root docs) :
    getWithVar root docs (fset ec "$repeat" (.int i)) "$repeat" = .ok (.int i) := by
  obtain ⟨e, he, hu⟩ := h
  rw [getWithVar_of_get_error _ he hu, getVar_some (fget_fset_same _ _ _)]

theorem interpSeg_bound (fuel : Nat) (docs : List Val) (root : Val) (ec : Vars) (i : Int)
    (hroot : rootOK root docs) (s : Seg) (hs : segOK s = true) :
    interpSeg fuel docs root (fset ec "$repeat" (.int i)) s
      = .ok (String.ofList (renderSeg (substSeg i s))) := by
  cases s with
  | lit cs => rfl
  | ref r =>
    obtain rfl : r = repeatChars := by simpa [segOK] using hs
    simp only [interpSeg, ofList_repeatChars, getWithVar_repeat root docs ec i hroot, fmtV, substSeg,
      if_true, renderSeg, String.ofList_toList]

theorem interpSpec_bound (fuel : Nat) (docs : List Val) (root : Val) (ec : Vars) (i : Int)
    (hroot : rootOK root docs) (segs : List Seg) (hs : segs.all segOK = true) :
    interpSpec fuel docs root (fset ec "$repeat" (.int i)) segs
      = .ok (.str (String.ofList (render (segs.map (substSeg i))))) :=
  interpSpec_render _ _ _ _ _ (substSeg i) fun s h =>
    interpSeg_bound fuel docs root ec i hroot s (List.all_eq_true.1 hs s h)

theorem interpSpec_flush (fuel : Nat) (docs : List Val) (root : Val) (ec : Vars) (T : List Char) :
    interpSpec fuel docs root ec (flush T.reverse) = .ok (.str (String.ofList T)) := by
  have h : ∀ s ∈ flush T.reverse,
      interpSeg fuel docs root ec s = .ok (String.ofList (renderSeg (id s))) := by
    intro s hs
    unfold flush at hs
    split at hs
    · cases hs
    · obtain rfl := List.mem_singleton.1 hs; rfl
  rw [interpSpec_render _ _ _ _ _ id h, List.map_id, render_flush, List.reverse_reverse]

theorem process2String_bound (fuel : Nat) (docs : List Val) (root : Val) (ec : Vars) (i : Int)
    (hroot : rootOK root docs) {s : String} {b : List Char} (hb : interpBody s = some b)
    (hs : (interpSegs b).all segOK = true) :
    process2String (fuel + 1) docs root (fset ec "$repeat" (.int i)) s
      = .ok (.str (String.ofList (substChars i b))) := by
  rw [process2String_interp_eq _ _ _ _ _ _ hb, interpSpec_bound fuel docs root ec i hroot _ hs]
  rfl

/-- the same for a closed string: `hb` is an evaluation -/
theorem process2String_bound_closed (fuel : Nat) (docs : List Val) (root : Val) (ec : Vars) (i : Int)
    (hroot : rootOK root docs) {s : String} (segs : List Seg)
    (hb : (interpBody s).map interpSegs = some segs) (hs : segs.all segOK = true) :
    process2String (fuel + 1) docs root (fset ec "$repeat" (.int i)) s
      = .ok (.str (String.ofList (render (segs.map (substSeg i))))) := by
  cases h : interpBody s with
  | none => rw [h] at hb; cases hb
  | some b => rw [h] at hb; cases hb; exact process2String_bound fuel docs root ec i hroot h hs

theorem process2String_substChars (fuel : Nat) (docs : List Val) (root : Val) (ec : Vars) (i : Int)
    (b : List Char) (hs : (interpSegs b).all segOK = true) :
    process2String (fuel + 1) docs root ec (String.ofList ('$' :: '"' :: (substChars i b ++ ['"'])))
      = .ok (.str (String.ofList (substChars i b))) := by
  rw [process2String_interp_eq _ _ _ _ _ _ (interpBody_quoted _), interpSegs_substChars i b hs,
    interpSpec_flush]

theorem process2_str_subst (interp : Bool) (fuel : Nat) (docs docs' : List Val) (root root' : Val)
    (ec : Vars) (i : Int) (hroot : interp = true → rootOK root docs) (s : String)
    (hs : strOK interp s = true) :
    process2 (fuel + 1) docs root (fset ec "$repeat" (.int i)) (.str s)
      = process2 (fuel + 1) docs' root' ec (substStr i s) := by
  rw [substStr]
  by_cases hrep : s = "$repeat"
  · subst hrep
    rw [if_pos rfl, process2_repeat_leaf]
    rfl
  · rw [if_neg hrep, process2_str_eq]
    cases hb : interpBody s with
    | none =>
      rw [process2_str_eq, process2String_not_interp _ _ _ _ hb, process2String_not_interp _ _ _ _ hb,
        getVar_fset_ne _ _ hrep]
    | some b =>
      simp only [strOK, hb, Bool.and_eq_true] at hs
      rw [process2_str_eq, process2String_bound _ _ _ _ _ (hroot hs.1) hb hs.2,
        process2String_substChars _ _ _ _ _ _ hs.2]

/-! ## `substRepeat` and the association-list operations -/

theorem substRepeatFields_fset (i : Int) (m : Fields) (k : String) (v : Val) :
    substRepeatFields i (fset m k v) = fset (substRepeatFields i m) k (substRepeat i v) := by
  rw [substRepeatFields_eq, substRepeatFields_eq]
  exact (fset_map_entries (g := id) (fun _ _ => Iff.rfl) (fun _ _ => Iff.rfl) m k v).symm

theorem substRepeatFields_fsetAll (i : Int) (l acc : Fields) :
    substRepeatFields i (fsetAll acc l) = fsetAll (substRepeatFields i acc) (substRepeatFields i l) := by
  induction l generalizing acc with
  | nil => rfl
  | cons hd tl ih =>
    obtain ⟨k, v⟩ := hd
    simp only [fsetAll, List.foldl_cons, substRepeatFields] at ih ⊢
    rw [ih, substRepeatFields_fset]

theorem fget_substRepeatFields (i : Int) (m : Fields) (k : String) :
    fget (substRepeatFields i m) k = (fget m k).map (substRepeat i) := by
  rw [substRepeatFields_eq]; exact fget_map_entries (g := id) (fun _ _ => Iff.rfl) m k

theorem substRepeat_map_inv {i : Int} {x : Val} {m' : Fields} (h : substRepeat i x = .map m') :
    ∃ m, x = .map m ∧ m' = substRepeatFields i m := by
  cases x with
  | map m => simp only [substRepeat, Val.map.injEq] at h; exact ⟨m, rfl, h.symm⟩
  | str s =>
    simp only [substRepeat, substStr] at h
    split at h
    · cases h
    · split at h <;> cases h
  | _ => simp [substRepeat] at h

theorem lacksKey_substRepeat {k : String} {i : Int} {v : Val} (h : lacksKey k v) :
    lacksKey k (substRepeat i v) := by
  intro m' e
  obtain ⟨m, rfl, rfl⟩ := substRepeat_map_inv e
  rw [fget_substRepeatFields, h m rfl]
  rfl

theorem fget_none_of_keyOK {interp : Bool} {m : Fields} (h : repeatBodyFields interp m = true)
    {d : String} (hd : keyOK d = false) : fget m d = none := by
  apply fget_none_iff.2
  intro p hp e
  have := (repeatBodyFields_mem h p hp).1
  rw [e, hd] at this
  cases this

theorem lacksKey_of_repeatBody {interp : Bool} {v : Val} {d : String}
    (h : repeatBody interp v = true) (hd : keyOK d = false) : lacksKey d v := by
  intro m e
  subst e
  simp only [repeatBody] at h
  exact fget_none_of_keyOK h hd

/-- a map of the class meets the hypotheses of `process2_map_plain`: no nested `$repeat` entry, no directive key -/
theorem repeatBodyFields_plain {interp : Bool} {kvs : Fields} (h : repeatBodyFields interp kvs = true) :
    (∀ q ∈ kvs, lacksKey "$repeat" q.2) ∧ ∀ q ∈ kvs, q.1 ≠ "$encode" ∧ q.1 ≠ "$decode" ∧ q.1 ≠ "$value" :=
  ⟨fun q hq => lacksKey_of_repeatBody (repeatBodyFields_mem h q hq).2 (by decide),
    fun q hq => (keyOK_iff.1 (repeatBodyFields_mem h q hq).1).2.2⟩

theorem substStr_key {i : Int} {k : String} (h : keyOK k = true) : substStr i k = .str k := by
  obtain ⟨h1, h2, _⟩ := keyOK_iff.1 h
  simp [substStr, h1, h2]

/-! ## the substitution theorem -/

/-- Induction on the fuel.  A string leaf is `process2_str_subst`.  A list or map of the class has no directive keys and
    no nested `$repeat`, and `substRepeat` keeps that (`lacksKey_substRepeat`), so both sides are the entry-wise
    evaluations `process2_list_plain` / `process2_map_plain`; `substRepeat` leaves keys alone, hence commutes with the
    sorting `fofList` (`substRepeatFields_fsetAll`), and a key is evaluated as a string leaf that `substStr` does not
    touch (`substStr_key`).  The substituted body never looks anything up: `docs'` and `root'` are free. -/
theorem process2_subst_gen (interp : Bool) (docs docs' : List Val) (root root' : Val) (i : Int)
    (hroot : interp = true → rootOK root docs) :
    ∀ (fuel : Nat) (ec : Vars) (body : Val), repeatBody interp body = true →
      process2 fuel docs root (fset ec "$repeat" (.int i)) body
        = process2 fuel docs' root' ec (substRepeat i body) := by
  intro fuel
  induction fuel with
  | zero => intro ec body _; rfl
  | succ fuel ih =>
    intro ec body hb
    cases body with
    | null | bool | int | flt => exact (process2_scalar _ _ _ _ rfl rfl rfl).trans (process2_scalar _ _ _ _ rfl rfl rfl).symm
    | str s =>
      simp only [repeatBody] at hb
      exact process2_str_subst interp fuel docs docs' root root' ec i hroot s hb
    | list xs =>
      simp only [repeatBody] at hb
      have hx := repeatBodyList_mem hb
      have hl : ∀ d, keyOK d = false → ∀ x ∈ xs, lacksKey d x :=
        fun d hd x h => lacksKey_of_repeatBody (hx x h) hd
      have hl' : ∀ d, keyOK d = false → ∀ y ∈ xs.map (substRepeat i), lacksKey d y := by
        intro d hd y hy
        obtain ⟨x, hxm, rfl⟩ := List.mem_map.1 hy
        exact lacksKey_substRepeat (hl d hd x hxm)
      rw [substRepeat, substRepeatList_eq,
        process2_list_plain _ _ _ _ _ (hl _ (by decide)) (hl _ (by decide)),
        process2_list_plain _ _ _ _ _ (hl' _ (by decide)) (hl' _ (by decide)), List.mapM_map]
      congr 1
      exact mapM_congr_mem fun x hxm => ih ec x (hx x hxm)
    | map kvs0 =>
      simp only [repeatBody] at hb
      have hq := repeatBodyFields_mem hb
      obtain ⟨h0, hd⟩ := repeatBodyFields_plain hb
      -- the substituted map has the same keys, and `substRepeat` puts no `$repeat` key into a value
      have hq' : ∀ q ∈ substRepeatFields i kvs0,
          (q.1 ≠ "$encode" ∧ q.1 ≠ "$decode" ∧ q.1 ≠ "$value") ∧ lacksKey "$repeat" q.2 := by
        rw [substRepeatFields_eq]
        intro q' h
        obtain ⟨q, hqm, rfl⟩ := List.mem_map.1 h
        exact ⟨hd q hqm, lacksKey_substRepeat (h0 q hqm)⟩
      rw [substRepeat, process2_map_plain _ _ _ _ _ h0 hd,
        process2_map_plain _ _ _ _ _ (fun q h => (hq' q h).2) (fun q h => (hq' q h).1),
        show fofList (substRepeatFields i kvs0) = substRepeatFields i (fofList kvs0) from
          (substRepeatFields_fsetAll i kvs0 []).symm,
        substRepeatFields_eq, List.mapM_map]
      congr 1
      apply mapM_congr_mem
      intro q hqm
      obtain ⟨hk, hv⟩ := hq q ((mem_fsetAll hqm).resolve_left (List.not_mem_nil))
      have hkey := ih ec (.str q.1) (by simp only [repeatBody, strOK, (keyOK_iff.1 hk).1])
      rw [substRepeat, substStr_key hk] at hkey
      simp only [Function.comp, entryOut, ih ec q.2 hv, hkey]

/-! ## nested `$repeat` in a map entry -/

/-- the `i`-th copy of a map entry `k: {$repeat: n, …body…}`: `entryOut` at `P := process2 fuel docs root` on `(k, body)`
    under the binding `$repeat ↦ i` (`repeatEntry_eq`) -/
def repeatEntry (fuel : Nat) (docs : List Val) (root : Val) (ec : Vars) (k : String) (body : Val)
    (i : Nat) : R (Option (String × Val)) := do
  let ec' := fset ec "$repeat" (.int (Int.ofNat i))
  let v2 ← process2 fuel docs root ec' body
  if v2.isNull then pure none
  else
    match ← process2 fuel docs root ec' (.str k) with
    | .str k2 => pure (some (k2, v2))
    | _ => throw Err.invalidType

theorem repeatEntry_eq (fuel : Nat) (docs : List Val) (root : Val) (ec : Vars) (k : String) (body : Val) (i : Nat) :
    repeatEntry fuel docs root ec k body i = entryOut (process2 fuel docs root) (repEc ec i) (k, body) := rfl

/-- entries that are already evaluated contribute themselves -/
theorem mapM_entryOut_fix (P : Vars → Val → R Val) (ec : Vars) (E : Fields)
    (h : ∀ q ∈ E, P ec q.2 = .ok q.2 ∧ q.2.isNull = false ∧ P ec (.str q.1) = .ok (.str q.1)) :
    E.mapM (entryOut P ec) = .ok (E.map some) := by
  exact mapM_ok_of_forall _ _ _ fun q hq => entryOut_ok (h q hq).1 (h q hq).2.1 (h q hq).2.2

/-! ## small evaluations used by the examples -/

theorem ofList_ne_of_head {c d : Char} {l : List Char} {s : String} (hs : s.toList.head? = some d)
    (hcd : c ≠ d) : String.ofList (c :: l) ≠ s := by
  rintro rfl
  rw [String.toList_ofList] at hs
  exact hcd (Option.some.inj hs)

theorem process2_single_int (fuel : Nat) (docs : List Val) (root : Val) (ec : Vars) (k k2 : String)
    (j : Int) (hk : process2 (fuel + 1) docs root ec (.str k) = .ok (.str k2))
    (h1 : k ≠ "$encode") (h2 : k ≠ "$decode") (h3 : k ≠ "$value") :
    process2 (fuel + 2) docs root ec (.map [(k, .int j)]) = .ok (.map [(k2, .int j)]) := by
  rw [process2_single_entry (fuel + 1) docs root ec k (.int j) (.int j) (fun _ e => by cases e)
    (process2_scalar _ _ _ _ rfl rfl rfl) rfl ⟨h1, h2, h3⟩, hk]
  rfl

theorem process2_key_k_repeat (fuel : Nat) (docs : List Val) (root : Val) (ec : Vars) (i : Int)
    (hroot : rootOK root docs) :
    process2 (fuel + 2) docs root (fset ec "$repeat" (.int i)) (.str "$\"k{$repeat}\"")
      = .ok (.str (String.ofList ('k' :: (toString i).toList))) := by
  refine ((process2_str_eq ..).trans (process2String_bound_closed (fuel + 1) docs root ec i hroot
    [.lit ['k'], .ref repeatChars] (by decide +kernel) rfl)).trans ?_
  simp [substSeg, render, renderSeg]

theorem process2_body_v_repeat (fuel : Nat) (docs : List Val) (root : Val) (ec : Vars) (i : Int) :
    process2 (fuel + 2) docs root (fset ec "$repeat" (.int i)) (.map [("v", .str "$repeat")])
      = .ok (.map [("v", .int i)]) := by
  rw [process2_subst_gen false docs docs root root i (fun h => by cases h) _ ec _ (by decide),
    show substRepeat i (.map [("v", .str "$repeat")]) = .map [("v", .int i)] by
      simp [substRepeat, substRepeatFields, substStr]]
  exact process2_single_int fuel docs root ec "v" "v" i
    (process2_str_nodollar _ _ _ _ _ (by decide)) (by decide) (by decide) (by decide)

/-! ## `process1` on documents without `$merge` / `$replace`

  (`p1OK` — unlike `plain` of Lemmas/EscapeVal — allows `$repeat`, interpolations, `$env:` … ) -/

/-- a key or string leaf that phase 3 (`process1`) leaves alone -/
def p1OK (s : String) : Bool :=
  !("$merge:".toList.isPrefixOf s.toList) && !("$replace:".toList.isPrefixOf s.toList) &&
  s != "$merge" && s != "$replace"

theorem process1_p1 : ∀ (fuel : Nat) (docs : List Val) (root : Val) (loc : Loc) (v : Val),
    allStr p1OK v = true → Val.wfB v = true → depth v < fuel →
    process1 fuel docs root loc v = .ok (dropNulls v, root) :=
  process1_untouched fun s h => by
    simp only [p1OK, Bool.and_eq_true, Bool.not_eq_true', bne_iff_ne, ne_eq] at h
    simp only [refKey, refStr, Bool.or_eq_false_iff, beq_eq_false_iff_ne]
    exact ⟨⟨h.1.2, h.2⟩, h.1.1.1, h.1.1.2⟩

theorem fget_dropNullsFields_int {kvs : Fields} {k : String} {n : Int}
    (h : fget kvs k = some (.int n)) : fget (dropNullsFields kvs) k = some (.int n) := by
  rw [dropNullsFields_eq]; exact fget_filterMapVal_of_some h rfl

/-- the example document `{$repeat: 3, idx: $repeat, name: $"item-{$repeat}"}` -/
def exRepeatDoc : Fields :=
  [("$repeat", .int 3), ("idx", .str "$repeat"), ("name", .str "$\"item-{$repeat}\"")]

def exRepeatBody : Fields := [("idx", .str "$repeat"), ("name", .str "$\"item-{$repeat}\"")]

theorem exRepeatBody_eq : fdel (dropNullsFields exRepeatDoc) "$repeat" = exRepeatBody := by
  decide +kernel

theorem process2_item_repeat (fuel : Nat) (docs : List Val) (root : Val) (ec : Vars) (i : Int)
    (hroot : rootOK root docs) :
    process2 (fuel + 1) docs root (fset ec "$repeat" (.int i)) (.str "$\"item-{$repeat}\"")
      = .ok (.str (String.ofList ("item-".toList ++ (toString i).toList))) := by
  refine ((process2_str_eq ..).trans (process2String_bound_closed fuel docs root ec i hroot
    [.lit "item-".toList, .ref repeatChars] (by decide +kernel) rfl)).trans ?_
  simp [substSeg, render, renderSeg]

theorem process2_exRepeatBody_root (fuel : Nat) (docs : List Val) (root : Val) (env : Vars) (i : Int)
    (hroot : rootOK root docs) :
    process2 (fuel + 2) docs root (fset env "$repeat" (.int i)) (.map exRepeatBody)
      = .ok (.map [("idx", .int i),
          ("name", .str (String.ofList ("item-".toList ++ (toString i).toList)))]) := by
  refine (process2_map_closed (kvs := exRepeatBody) (by decide +kernel) (by decide +kernel)
    (.cons (entryOut_ok (process2_repeat_leaf ..) rfl (process2_str_nodollar _ _ _ _ _ (by decide +kernel)))
      (.cons (entryOut_ok (process2_item_repeat _ _ _ _ _ hroot) rfl
        (process2_str_nodollar _ _ _ _ _ (by decide +kernel))) .nil))).trans ?_
  exact congrArg (fun m => Except.ok (Val.map m)) (fofList_of_sortedKeysB rfl)

theorem process2_exRepeatBody (fuel : Nat) (docs : List Val) (env : Vars) (i : Int) :
    process2 (fuel + 2) docs (.map exRepeatBody) (fset env "$repeat" (.int i)) (.map exRepeatBody)
      = .ok (.map [("idx", .int i),
          ("name", .str (String.ofList ("item-".toList ++ (toString i).toList)))]) :=
  process2_exRepeatBody_root fuel docs _ env i
    (rootOK_of_no_key _ _ fun _ e => by cases e; decide)

/-! ## an upper layer overriding the count -/

theorem merge_int_at_key {d s : Fields} {r : Val} {m : Int} (k : String) (hs : Fields.SortedKeys s)
    (hrep : fhasBool s "$replace" true = false) (hm : fget s k = some (.int m))
    (h : merge (.map d) (.map s) = .ok r) :
    ∃ rm, r = .map rm ∧ fget rm k = some (.int m) := by
  obtain ⟨rm, rfl, -, hat⟩ := merge_map_at (distinctKeys_of_sorted hs) hrep h
  refine ⟨rm, rfl, ?_⟩
  have := hat k
  have hts : (Val.int m).toStr ≠ "$delete" := by show "" ≠ "$delete"; decide
  rw [hm] at this
  cases hd : fget d k with
  | none => rw [hd] at this; exact (Except.ok.inj ((mergeAct_none hts).symm.trans this)).symm
  | some e =>
    rw [hd] at this
    obtain ⟨r', h1, h2⟩ := R_map_ok_iff.1 ((mergeAct_some hts e).symm.trans this)
    rw [← h2, merge_int_ok h1]

theorem merge_single_int_key (d : Fields) (k : String) (n0 m : Int) (hold : fget d k = some (.int n0)) :
    merge (.map d) (.map [(k, .int m)])
      = if m = n0 then .error .uselessOverride else .ok (.map (fset d k (.int m))) := by
  rw [merge_map_map, mergeMapMap_noreplace (by simp [fhasBool, fget]), mergeFields_cons]
  have hts : (Val.int m).toStr ≠ "$delete" := by show "" ≠ "$delete"; decide
  simp only [hold]
  rw [if_neg hts, merge_scalar _ _ rfl]
  by_cases hmn : m = n0
  · subst hmn; simp; rfl
  · have : (Val.int m == Val.int n0) = false := by
      rw [beq_eq_false_iff_ne]; intro e; cases e; exact hmn rfl
    simp only [this, Bool.false_eq_true, if_false, hmn, mergeFields_nil]
    rfl

/-! ## evaluations for the counterexamples -/

/-- `$"{a}"` where the referencing document has `a: "$repeat"` (an unevaluated string): the
    referenced string is evaluated with the current variables -/
theorem process2_ref_a (docs : List Val) (ec : Vars) :
    process2 2 docs (.map [("a", .str "$repeat")]) ec (.str "$\"{a}\"")
      = (getVar ec "$repeat" >>= fun v => pure (.str (String.join [fmtV v]))) := by
  rw [process2_str_eq, process2String_interp_eq 1 _ _ _ _ "{a}".toList (by decide),
    show interpSegs "{a}".toList = [.ref "a".toList] by decide]
  have hg : getWithVar (.map [("a", .str "$repeat")]) docs ec (String.ofList "a".toList)
      = .ok (.str "$repeat") :=
    getWithVar_simple_key _ _ _ _ _ (by simpa using isPlainRef_a) (by decide) (by decide)
  simp only [interpSpec, List.mapM_cons, List.mapM_nil, interpSeg, hg, process2String_repeat]
  cases getVar ec "$repeat" <;> rfl

/-- `$"{$repeat}"` where the referencing document itself has a `$repeat` entry: the document
    wins over the variable -/
theorem process2_ref_repeat_captured (docs : List Val) (ec : Vars) (v : Int) :
    process2 2 docs (.map [("$repeat", .int v)]) ec (.str "$\"{$repeat}\"")
      = .ok (.str (String.join [toString v])) := by
  exact (process2_str_eq ..).trans (process2String_parts [.ref repeatChars] (by decide +kernel)
    (.cons (interpSeg_ref_val (v := .int v) (by
      rw [ofList_repeatChars]
      exact getWithVar_simple_key _ _ _ _ _ isPlainRef_repeat (by decide) (by simp [fget])) nofun) .nil))

end Bkl
