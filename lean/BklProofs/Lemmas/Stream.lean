/-
  BklProofs.Lemmas.Stream — helper lemmas for C05 (multi-document framing: `splitAt`,
  `yamlMarshalStream`, `tomlMarshalStream`, `jsonMarshalStream` and their readers) and C04
  (normalisation of decoder output: `parseInt64`, `normalize`, when it fails (`hasMapAny`) and
  what it yields (`ym_norm`)).
-/
import Bkl.Stream
import BklProofs.Lemmas.Fields
import BklProofs.Lemmas.Except
import BklProofs.Lemmas.IntText
namespace Bkl

theorem s_bind_error {α β : Type} (e : Err) (f : α → R β) :
    ((Except.error e : R α) >>= f) = .error e := error_bind e f

/-! ## `splitAt` and `joinWith` -/

/-- blocks joined by a separator line -/
def joinWith (sep : String) : List Lines → Lines
  | [] => []
  | [b] => b
  | b :: b' :: bs => b ++ sep :: joinWith sep (b' :: bs)

theorem joinWith_cons (sep : String) (b : Lines) (bs : List Lines) :
    joinWith sep (b :: bs) = b ++ bs.flatMap (sep :: ·) := by
  induction bs generalizing b with
  | nil => simp [joinWith]
  | cons b' bs ih => simp only [joinWith, ih b', List.flatMap_cons, List.cons_append]

theorem splitAt_ne_nil (isSep : String → Bool) : ∀ (t : Lines), splitAt isSep t ≠ []
  | [] => by simp [splitAt]
  | l :: rest => by
    simp only [splitAt]
    split
    · simp
    · split <;> simp

theorem splitAt_block_sep (isSep : String → Bool) (sep : String) (hs : isSep sep = true)
    (rest : Lines) : ∀ (b : Lines), (∀ l ∈ b, isSep l = false) →
    splitAt isSep (b ++ sep :: rest) = b :: splitAt isSep rest
  | [], _ => by simp [splitAt, hs]
  | l :: b, h => by
    have hl : isSep l = false := h l List.mem_cons_self
    have ih := splitAt_block_sep isSep sep hs rest b (fun x hx => h x (List.mem_cons_of_mem _ hx))
    simp only [List.cons_append, splitAt, hl, Bool.false_eq_true, if_false, ih]

theorem splitAt_block (isSep : String → Bool) : ∀ (b : Lines), (∀ l ∈ b, isSep l = false) →
    splitAt isSep b = [b]
  | [], _ => rfl
  | l :: b, h => by
    have hl : isSep l = false := h l List.mem_cons_self
    have ih := splitAt_block isSep b (fun x hx => h x (List.mem_cons_of_mem _ hx))
    simp only [splitAt, hl, Bool.false_eq_true, if_false, ih]

theorem splitAt_joinWith (isSep : String → Bool) (sep : String) (hs : isSep sep = true) :
    ∀ (b : Lines) (bs : List Lines), (∀ x ∈ b :: bs, ∀ l ∈ x, isSep l = false) →
    splitAt isSep (joinWith sep (b :: bs)) = b :: bs
  | b, [], h => splitAt_block isSep b (h b List.mem_cons_self)
  | b, b' :: bs, h => by
    simp only [joinWith]
    rw [splitAt_block_sep isSep sep hs _ b (h b List.mem_cons_self),
      splitAt_joinWith isSep sep hs b' bs (fun x hx => h x (List.mem_cons_of_mem _ hx))]

theorem splitAt_length (isSep : String → Bool) : ∀ (t : Lines),
    (splitAt isSep t).length = (t.filter isSep).length + 1
  | [] => rfl
  | l :: rest => by
    have ih := splitAt_length isSep rest
    simp only [splitAt]
    cases hl : isSep l
    · simp only [Bool.false_eq_true, if_false, List.filter_cons, hl]
      cases hr : splitAt isSep rest with
      | nil => exact absurd hr (splitAt_ne_nil isSep rest)
      | cons p ps => rw [hr] at ih; simpa using ih
    · simp only [if_true, List.filter_cons, hl, List.length_cons, ih]

/-! ## the writers as joins of per-document bodies -/

/-- what one document contributes to a YAML/TOML stream: nothing for null, its encoding otherwise -/
def streamBody (c : Codec) (v : Val) : R Lines := if v.isNull then pure [] else c.enc v

theorem streamBody_null (c : Codec) : streamBody c .null = .ok [] := rfl
theorem streamBody_nonnull (c : Codec) {v : Val} (h : v ≠ .null) : streamBody c v = c.enc v := by
  cases v <;> first | exact absurd rfl h | rfl

theorem tomlGo_cons (c : Codec) (first : Bool) (v : Val) (vs : List Val) :
    tomlMarshalStream.go c first (v :: vs) =
      (do let body ← streamBody c v
          let tail ← tomlMarshalStream.go c false vs
          pure ((if first then [] else ["---"]) ++ body ++ tail)) := by
  rw [tomlMarshalStream.go, streamBody]; cases v.isNull <;> rfl

theorem tomlGo_f (c : Codec) : ∀ (vs : List Val),
    tomlMarshalStream.go c false vs =
      (do let bs ← vs.mapM (streamBody c); pure (bs.flatMap ("---" :: ·)))
  | [] => rfl
  | v :: vs => by
    rw [tomlGo_cons, List.mapM_cons, tomlGo_f c vs]
    simp only [bind_assoc, pure_bind, List.flatMap_cons, Bool.false_eq_true, if_false]
    rfl

theorem tomlMarshalStream_eq (c : Codec) : ∀ (vs : List Val),
    tomlMarshalStream c vs = (do let bs ← vs.mapM (streamBody c); pure (joinWith "---" bs))
  | [] => rfl
  | v :: vs => by
    rw [tomlMarshalStream, tomlGo_cons, tomlGo_f, List.mapM_cons]
    simp only [bind_assoc, pure_bind, joinWith_cons, if_true, List.nil_append]

theorem yamlGo_null (c : Codec) (first encFirst : Bool) (vs : List Val) :
    yamlMarshalStream.go c first encFirst (.null :: vs) =
      (do let tail ← yamlMarshalStream.go c false encFirst vs
          pure ((if first then [] else ["---"]) ++ tail)) := by
  rw [yamlMarshalStream.go]; rfl

theorem yamlGo_nonnull (c : Codec) (first encFirst : Bool) {v : Val} (hv : v ≠ .null)
    (vs : List Val) :
    yamlMarshalStream.go c first encFirst (v :: vs) =
      (do let body ← c.enc v
          let tail ← yamlMarshalStream.go c false false vs
          pure ((if encFirst then [] else ["---"]) ++ body ++ tail)) := by
  rw [yamlMarshalStream.go]
  cases v <;> first | exact absurd rfl hv | rfl

theorem yamlGo_ff (c : Codec) : ∀ (vs : List Val),
    yamlMarshalStream.go c false false vs =
      (do let bs ← vs.mapM (streamBody c); pure (bs.flatMap ("---" :: ·)))
  | [] => rfl
  | v :: vs => by
    by_cases hv : v = .null
    · subst hv
      rw [yamlGo_null, List.mapM_cons, yamlGo_ff c vs, streamBody_null]
      simp only [bind_assoc, pure_bind, ok_bind, List.flatMap_cons, Bool.false_eq_true, if_false]
    · rw [yamlGo_nonnull c _ _ hv, List.mapM_cons, yamlGo_ff c vs, streamBody_nonnull c hv]
      simp only [bind_assoc, pure_bind, List.flatMap_cons, Bool.false_eq_true, if_false]
      rfl

theorem yamlMarshalStream_eq (c : Codec) (v : Val) (hv : v ≠ .null) (vs : List Val) :
    yamlMarshalStream c (v :: vs) =
      (do let bs ← (v :: vs).mapM (streamBody c); pure (joinWith "---" bs)) := by
  rw [yamlMarshalStream, yamlGo_nonnull c _ _ hv, yamlGo_ff, List.mapM_cons,
    streamBody_nonnull c hv]
  simp only [bind_assoc, pure_bind, joinWith_cons, if_true, List.nil_append]

theorem yamlMarshalStream_null_cons (c : Codec) (v : Val) (hv : v ≠ .null) (vs : List Val) :
    yamlMarshalStream c (.null :: v :: vs) = yamlMarshalStream c (v :: vs) := by
  rw [yamlMarshalStream, yamlMarshalStream, yamlGo_null, yamlGo_nonnull c _ _ hv,
    yamlGo_nonnull c _ _ hv]
  simp only [bind_assoc, pure_bind, if_true, List.nil_append]

/-! ## the generic round trip -/

theorem mapM_enc_dec {α β γ : Type} (e : α → R β) (d : β → R γ) (f : α → γ) (P : β → Prop)
    (vs : List α) (h : ∀ v ∈ vs, ∃ b, e v = .ok b ∧ P b ∧ d b = .ok (f v)) :
    ∃ bs, vs.mapM e = .ok bs ∧ (∀ b ∈ bs, P b) ∧ bs.mapM d = .ok (vs.map f) := by
  -- `v ↦ b ↦ f v` element by element: the relation between `vs` and `vs.map f` factors through a list `bs`
  obtain ⟨bs, h1, h2⟩ := Pointwise.comp_iff.1 (Pointwise.map_right (g := f)
    (R := fun v c => ∃ b, (e v = .ok b ∧ P b) ∧ d b = .ok c)
    fun v hv => let ⟨b, hb, hp, hd⟩ := h v hv; ⟨b, ⟨hb, hp⟩, hd⟩)
  exact ⟨bs, (mapM_ok_iff ..).2 (h1.imp fun _ _ _ hb => hb.1),
    fun b hb => let ⟨_, _, hr⟩ := h1.mem_right hb; hr.2, (mapM_ok_iff ..).2 h2⟩

theorem stream_rt_gen {β : Type} (isSep : String → Bool) (sep : String) (hs : isSep sep = true)
    (e : Val → R Lines) (d : Lines → R β) (f : Val → β) (vs : List Val) (hne : vs ≠ [])
    (h : ∀ v ∈ vs, ∃ ls, e v = .ok ls ∧ (∀ l ∈ ls, isSep l = false) ∧ d ls = .ok (f v)) :
    ∃ bs, vs.mapM e = .ok bs ∧ (splitAt isSep (joinWith sep bs)).mapM d = .ok (vs.map f) := by
  obtain ⟨bs, f1, f2, f3⟩ := mapM_enc_dec e d f (fun ls => ∀ l ∈ ls, isSep l = false) vs h
  refine ⟨bs, f1, ?_⟩
  cases bs with
  | nil =>
    rw [List.mapM_nil] at f3
    exact absurd (List.map_eq_nil_iff.1 (Except.ok.inj f3).symm) hne
  | cons b bs => rw [splitAt_joinWith isSep sep hs b bs f2]; exact f3

/-- a line that YAML's reader treats as blank -/
def blankLine (l : String) : Bool := l.trimAscii.toString == ""

theorem yamlPartDocs_eq (c : Codec) (part : Lines) :
    yamlPartDocs c part =
      (if part.all blankLine then pure [Val.null]
       else (c.decMany part >>= fun ds => pure (if ds.isEmpty then [Val.null] else ds))) := rfl

theorem yamlUnmarshalStream_eq (c : Codec) (text : Lines) :
    yamlUnmarshalStream c text =
      (do let parts ← (splitAt sepYaml text).mapM (yamlPartDocs c); pure parts.flatten) := rfl

/-- the hypotheses on a third-party single-document codec under which the stream framing
    round-trips: on its domain, encoding succeeds, produces no separator line and at least one
    non-blank line, and decoding the produced text gives the value back -/
structure CodecOK (c : Codec) (isSep : String → Bool) (dom : Val → Prop) : Prop where
  rt : ∀ v, dom v → ∃ ls, c.enc v = .ok ls ∧ (∀ l ∈ ls, isSep l = false) ∧
    ls.all blankLine = false ∧ c.dec ls = .ok v
  /-- the encoding of one value holds exactly one document for the decoder loop (used by the YAML
      reader only, which decodes every document of a part) -/
  one : ∀ v ls, dom v → c.enc v = .ok ls → c.decMany ls = .ok [v]

theorem sepYaml_sep : sepYaml "---" = true := by decide
theorem sepToml_sep : sepToml "---" = true := by decide

theorem yaml_rt_general (c : Codec) (dom : Val → Prop) (ok : CodecOK c sepYaml dom)
    (v : Val) (vs : List Val) (hv : v ≠ .null) (hd : ∀ w ∈ v :: vs, w ≠ .null → dom w) :
    ∃ text, yamlMarshalStream c (v :: vs) = .ok text ∧
      yamlUnmarshalStream c text = .ok (v :: vs) := by
  obtain ⟨bs, h1, h2⟩ := stream_rt_gen sepYaml "---" sepYaml_sep (streamBody c) (yamlPartDocs c)
    (fun w => [w]) (v :: vs) (by simp) (by
      intro w hw
      by_cases hn : w = .null
      · subst hn
        exact ⟨[], rfl, (fun l hl => nomatch hl), rfl⟩
      · obtain ⟨ls, e1, e2, e3, e4⟩ := ok.rt w (hd w hw hn)
        refine ⟨ls, by rw [streamBody_nonnull c hn, e1], e2, ?_⟩
        rw [yamlPartDocs_eq]
        simp only [e3, Bool.false_eq_true, if_false, ok.one w ls (hd w hw hn) e1, ok_bind]
        rfl)
  refine ⟨joinWith "---" bs, ?_, ?_⟩
  · rw [yamlMarshalStream_eq c v hv vs, h1]; rfl
  · rw [yamlUnmarshalStream_eq, h2, ok_bind, R_pure]
    exact congrArg _ (List.flatMap_singleton' (v :: vs))

theorem toml_rt_general (c : Codec) (dom : Val → Prop) (ok : CodecOK c sepToml dom)
    (v : Val) (vs : List Val) (hd : ∀ w ∈ v :: vs, w ≠ .null → dom w)
    (hnull : .null ∈ v :: vs → c.dec [] = .ok .null) :
    ∃ text, tomlMarshalStream c (v :: vs) = .ok text ∧
      tomlUnmarshalStream c text = .ok (v :: vs) := by
  obtain ⟨bs, h1, h2⟩ := stream_rt_gen sepToml "---" sepToml_sep (streamBody c) c.dec id
    (v :: vs) (by simp) (by
      intro w hw
      by_cases hn : w = .null
      · subst hn
        exact ⟨[], rfl, (fun l hl => nomatch hl), hnull hw⟩
      · obtain ⟨ls, e1, e2, e3, e4⟩ := ok.rt w (hd w hw hn)
        exact ⟨ls, by rw [streamBody_nonnull c hn, e1], e2, e4⟩)
  refine ⟨joinWith "---" bs, ?_, ?_⟩
  · rw [tomlMarshalStream_eq, h1]; rfl
  · rw [tomlUnmarshalStream, h2, List.map_id]

theorem mapM_flatten_singletons {β : Type} (d : Lines → R β) : ∀ (bs : List Lines),
    (∀ b ∈ bs, ∃ l, b = [l]) → bs.flatten.mapM (fun l => d [l]) = bs.mapM d
  | [], _ => rfl
  | b :: bs, h => by
    obtain ⟨l, rfl⟩ := h _ List.mem_cons_self
    rw [List.flatten_cons, List.singleton_append, List.mapM_cons, List.mapM_cons,
      mapM_flatten_singletons d bs fun b hb => h b (List.mem_cons_of_mem _ hb)]

theorem json_rt (c : Codec) (dom : Val → Prop)
    (ok : ∀ v, dom v → ∃ l, c.enc v = .ok [l] ∧ c.dec [l] = .ok v) :
    ∀ (vs : List Val), (∀ v ∈ vs, dom v) →
    ∃ text, jsonMarshalStream c vs = .ok text ∧ jsonUnmarshalLines c text = .ok vs := by
  intro vs hd
  obtain ⟨bs, f1, f2, f3⟩ := mapM_enc_dec c.enc c.dec id (fun b => ∃ l, b = [l]) vs fun v hv => by
    obtain ⟨l, h1, h2⟩ := ok v (hd v hv)
    exact ⟨[l], h1, ⟨l, rfl⟩, h2⟩
  refine ⟨bs.flatten, ?_, ?_⟩
  · rw [jsonMarshalStream, f1]; rfl
  · rw [jsonUnmarshalLines, mapM_flatten_singletons c.dec bs f2, f3, List.map_id]

theorem blankLine_eq (l : String) : blankLine l = l.toList.all Char.isWhitespace := by
  unfold blankLine
  rw [String.Slice.toString_eq]
  have h1 : (l.trimAscii.copy == "") = l.trimAscii.isEmpty := by
    rw [Bool.eq_iff_iff, beq_iff_eq, String.Slice.copy_eq_empty_iff]
  rw [h1]
  show ((l.toSlice.dropWhile Char.isWhitespace).dropEndWhile Char.isWhitespace).isEmpty = _
  rw [String.Slice.isEmpty_dropEndWhile, String.Slice.revAll_bool_eq]
  have h2 := String.Slice.takeWhile_append_dropWhile (pat := Char.isWhitespace) (s := l.toSlice)
  have h3 : (l.toSlice.takeWhile Char.isWhitespace).copy.toList.all Char.isWhitespace = true := by
    rw [← String.Slice.all_bool_eq]
    have := String.Slice.takeWhile_takeWhile (pat := Char.isWhitespace) (s := l.toSlice)
    exact String.Slice.takeWhile_eq_self_iff.1 this
  have h4 : l.toList = (l.toSlice.takeWhile Char.isWhitespace).copy.toList ++
      (l.toSlice.dropWhile Char.isWhitespace).copy.toList := by
    rw [← String.toList_append, h2]; simp
  rw [h4, List.all_append, h3, Bool.true_and]

/-! ## decimal text of an integer (the text itself: Lemmas/IntText.lean) is no separator line, and `goDecInt` / `parseInt64` read it back -/

theorem int_toString_not_blank (i : Int) : blankLine (toString i) = false := by
  obtain ⟨c, cs, h, hc, _⟩ := int_toString_shape i
  rw [blankLine_eq, h, List.all_cons]
  have : c.isWhitespace = false := by
    rcases hc with hc | hc
    · exact isDigit_not_ws hc
    · subst hc; decide
  rw [this]; rfl

theorem int_toString_not_sep (i : Int) :
    sepYaml (toString i) = false ∧ sepToml (toString i) = false := by
  obtain ⟨c, cs, h, hc, hcs⟩ := int_toString_shape i
  have h1 : toString i ≠ "---" := by
    intro e
    rw [e] at h
    have h' : ['-', '-', '-'] = c :: cs := h
    injection h' with _ h2
    subst h2
    have := hcs '-' (by simp)
    revert this; decide
  have h2 : toString i ≠ "+++" := by
    intro e
    rw [e] at h
    have h' : ['+', '+', '+'] = c :: cs := h
    injection h' with h2 _
    subst h2
    rcases hc with hc | hc <;> (revert hc; decide)
  simp only [sepYaml, sepToml, Bool.or_eq_false_iff, beq_eq_false_iff_ne]
  exact ⟨h1, h1, h2⟩

theorem goDecInt_eq_toInt? (s : String) (hp : ∀ cs, s.toList ≠ '+' :: cs) (hu : '_' ∉ s.toList) :
    goDecInt s = s.toInt? := by
  unfold goDecInt
  split
  · rename_i rest h; exact absurd h (hp rest)
  · rename_i cs _
    have : s.toList.any (· == '_') = false := by
      rw [List.any_eq_false]
      intro c hc
      simp only [beq_iff_eq]
      intro e; subst e; exact hu hc
    rw [this]; rfl

theorem goDecInt_toString (i : Int) : goDecInt (toString i) = some i := by
  obtain ⟨c, cs, h, hc, hcs⟩ := int_toString_shape i
  rw [goDecInt_eq_toInt?, int_toString_toInt]
  · intro cs' h'
    rw [h] at h'
    injection h' with h1 _
    subst h1
    rcases hc with hc | hc <;> (revert hc; decide)
  · rw [h]
    intro hm
    rcases List.mem_cons.1 hm with e | hm
    · subst e; rcases hc with hc | hc <;> (revert hc; decide)
    · have := hcs _ hm; revert this; decide

theorem goDecInt_none_of_bad_char (s : String) (c : Char) (hc : c ∈ s.toList)
    (h1 : c.isDigit = false) (h2 : c ≠ '_') (h3 : c ≠ '-') (h4 : c ≠ '+') : goDecInt s = none := by
  unfold goDecInt
  split
  · rename_i rest h
    have hc' : c ∈ rest := by
      rw [h] at hc
      rcases List.mem_cons.1 hc with e | hc
      · exact absurd e h4
      · exact hc
    have : rest.all Char.isDigit = false := by
      rw [List.all_eq_false]
      exact ⟨c, hc', by simp [h1]⟩
    simp [this]
  · split
    · rfl
    · exact toInt?_none_of_bad_char s c hc h1 h2 h3

theorem parseInt64_none_of_bad_char (s : String) (c : Char) (hc : c ∈ s.toList)
    (h1 : c.isDigit = false) (h2 : c ≠ '_') (h3 : c ≠ '-') (h4 : c ≠ '+') : parseInt64 s = none := by
  unfold parseInt64
  rw [goDecInt_none_of_bad_char s c hc h1 h2 h3 h4]

/-- the same as a test that evaluates on a literal text -/
theorem parseInt64_none_of_bad (s : String)
    (h : s.toList.any (fun c => !c.isDigit && c != '_' && c != '-' && c != '+') = true) :
    parseInt64 s = none := by
  obtain ⟨c, hc, h⟩ := List.any_eq_true.1 h
  simp only [Bool.and_eq_true, Bool.not_eq_true', bne_iff_ne] at h
  exact parseInt64_none_of_bad_char s c hc h.1.1.1 h.1.1.2 h.1.2 h.2

/-! ## a toy single-document codec (integers as decimal text) meeting the hypotheses -/

def toyCodec : Codec where
  enc v := match v with
    | .int i => .ok [toString i]
    | _ => .error .marshal
  dec ls := match ls with
    | [] => .ok .null
    | [s] => (match s.toInt? with
      | some i => .ok (.int i)
      | none => .error .unmarshal)
    | _ => .error .unmarshal

def toyDom (v : Val) : Prop := ∃ i, v = .int i

theorem toyCodec_dec (i : Int) : toyCodec.dec [toString i] = .ok (.int i) := by
  simp only [toyCodec, int_toString_toInt]

theorem toyCodec_ok (isSep : String → Bool) (h : ∀ i : Int, isSep (toString i) = false) :
    CodecOK toyCodec isSep toyDom where
  rt := by
    rintro v ⟨i, rfl⟩
    refine ⟨[toString i], rfl, ?_, ?_, toyCodec_dec i⟩
    · intro l hl
      rw [List.mem_singleton.1 hl]; exact h i
    · rw [List.all_cons, List.all_nil, Bool.and_true]; exact int_toString_not_blank i
  one := by
    rintro v ls ⟨i, rfl⟩ he
    cases he
    show (do let v ← toyCodec.dec [toString i]; pure [v] : R (List Val)) = .ok [.int i]
    rw [toyCodec_dec]; rfl

theorem toyCodec_ok_yaml : CodecOK toyCodec sepYaml toyDom :=
  toyCodec_ok sepYaml fun i => (int_toString_not_sep i).1

theorem toyCodec_ok_toml : CodecOK toyCodec sepToml toyDom :=
  toyCodec_ok sepToml fun i => (int_toString_not_sep i).2

theorem toyCodec_ok_json : ∀ v, toyDom v →
    ∃ l, toyCodec.enc v = .ok [l] ∧ toyCodec.dec [l] = .ok v := by
  rintro v ⟨i, rfl⟩
  exact ⟨toString i, rfl, toyCodec_dec i⟩

/-! # C04: normalisation of decoder output -/

/-! ## integers -/

theorem parseInt64_toString_eq (n : Int) :
    parseInt64 (toString n) = if int64Min ≤ n ∧ n ≤ int64Max then some n else none := by
  rw [parseInt64, goDecInt_toString]

theorem parseInt64_toString (n : Int) (h1 : int64Min ≤ n) (h2 : n ≤ int64Max) :
    parseInt64 (toString n) = some n := by
  rw [parseInt64_toString_eq, if_pos ⟨h1, h2⟩]

theorem normalize_jnum (text fr : String) :
    normalize (.jnum text fr) =
      match parseInt64 text with
      | some i => .ok (.int i)
      | none => if fr.isEmpty then .error .other else .ok (.flt fr) := by
  rw [normalize]; rfl

/-! ## `normalize` fails exactly on `map[any]any` and on numbers no float64 can hold -/

mutual
/-- does the decoder output contain a `map[any]any` (a mapping with a non-string key), or a JSON
    number that is neither an int64 nor convertible to float64 (`floatRepr = ""`, e.g. `1e400`)? -/
def hasMapAny : Raw → Bool
  | .jnum text fr => (parseInt64 text).isNone && fr.isEmpty
  | .list xs => hasMapAnyList xs
  | .map kvs => hasMapAnyFields kvs
  | .listOfMaps ms => hasMapAnyMaps ms
  | .mapAny => true
  | _ => false
def hasMapAnyList : List Raw → Bool
  | [] => false
  | x :: xs => hasMapAny x || hasMapAnyList xs
def hasMapAnyFields : List (String × Raw) → Bool
  | [] => false
  | (_, v) :: rest => hasMapAny v || hasMapAnyFields rest
def hasMapAnyMaps : List (List (String × Raw)) → Bool
  | [] => false
  | m :: ms => hasMapAnyFields m || hasMapAnyMaps ms
end

theorem hasMapAnyFields_eq_false_iff {kvs : List (String × Raw)} :
    hasMapAnyFields kvs = false ↔ ∀ p ∈ kvs, hasMapAny p.2 = false :=
  any_of_eqns hasMapAnyFields.eq_1 fun p l => hasMapAnyFields.eq_2 p.1 p.2 l

/-- the two possible outcomes of a normalisation.  `b` says that it FAILS: the opposite polarity of
    `ym_Out b` below, where `b` says that the step succeeds (`ym_Out.normOutcome`). -/
def NormOutcome {α : Type} (b : Bool) (r : R α) : Prop :=
  (b = true ∧ (r = .error .invalidType ∨ r = .error .other)) ∨ (b = false ∧ ∃ v, r = .ok v)

/-! ## a total `normalize` -/

abbrev RFields := List (String × Raw)

mutual
/-- `normalize` as a total function; agrees with it wherever it succeeds (`ym_normalize_eq`) -/
def ym_norm : Raw → Val
  | .null => .null
  | .bool b => .bool b
  | .goInt i => .int i
  | .goInt64 i => .int i
  | .goFloat r => .flt r
  | .jnum text fr =>
    match parseInt64 text with
    | some i => .int i
    | none => .flt fr
  | .str s => .str s
  | .list xs => .list (ym_normList xs)
  | .map kvs => .map (fofList (ym_normFields kvs))
  | .listOfMaps ms => .list (ym_normMaps ms)
  | .mapAny => .null
def ym_normList : List Raw → List Val
  | [] => []
  | x :: xs => ym_norm x :: ym_normList xs
def ym_normFields : List (String × Raw) → Fields
  | [] => []
  | (k, v) :: rest => (k, ym_norm v) :: ym_normFields rest
def ym_normMaps : List (List (String × Raw)) → List Val
  | [] => []
  | m :: ms => .map (fofList (ym_normFields m)) :: ym_normMaps ms
end

/-! ## how a step of the loaders ends -/

def ym_ok {α : Type} : R α → Bool | .ok _ => true | .error _ => false

theorem ym_ok_iff {α : Type} (a : R α) : ym_ok a = true ↔ ∃ r, a = .ok r := by
  cases a with
  | ok r => exact ⟨fun _ => ⟨r, rfl⟩, fun _ => rfl⟩
  | error e => exact ⟨fun h => (by cases h), fun ⟨r, h⟩ => (by cases h)⟩

theorem ym_ok_false_iff {α : Type} (a : R α) : ym_ok a = false ↔ ∃ e, a = .error e := by
  cases a with
  | ok r => exact ⟨fun h => (by cases h), fun ⟨r, h⟩ => (by cases h)⟩
  | error e => exact ⟨fun _ => ⟨e, rfl⟩, fun _ => rfl⟩

def ym_All {α : Type} (P : α → Prop) (a : R α) : Prop := ∀ r, a = .ok r → P r

def ym_ErrOK {α : Type} (a : R α) : Prop := ∀ e, a = .error e → e = .invalidType ∨ e = .other

/-- `ym_Out b P a`: the step `a` succeeds exactly when `b`, then with a result satisfying `P`; when it
    fails, with `invalidType` or `other`.  `normalize` (`normalize_spec`) and `yamlTranslate`
    (`ym_T_spec`, BklProofs/Lemmas/C04Yaml.lean) are each described once in this form; `NormOutcome`,
    `ym_ok`, `ym_All` and `ym_ErrOK` are its parts.  The expansion of merge keys has an outcome of its
    own, `ym_OutO` (C04Yaml.lean), which holds one way only. -/
def ym_Out {α : Type} (b : Bool) (P : α → Prop) : R α → Prop
  | .ok v => b = true ∧ P v
  | .error e => b = false ∧ (e = .invalidType ∨ e = .other)

section
variable {α β γ : Type} {b c : Bool} {P : α → Prop} {Q : β → Prop} {S : γ → Prop} {a : R α}

theorem ym_Out.ok {v : α} (h : P v) : ym_Out true P (.ok v) := ⟨rfl, h⟩

theorem ym_Out.bind {f : α → R β} (h1 : ym_Out b P a)
    (h2 : ∀ x, a = .ok x → P x → ym_Out c Q (f x)) : ym_Out (b && c) Q (a >>= f) := by
  cases a with
  | error e => exact ⟨by rw [h1.1]; rfl, h1.2⟩
  | ok x => rw [h1.1, Bool.true_and]; exact h2 x rfl h1.2

theorem ym_Out.map (g : α → β) (h : ym_Out b P a) (hg : ∀ x, P x → Q (g x)) :
    ym_Out b Q (a >>= fun x => pure (g x)) := by
  cases a with
  | error e => exact h
  | ok x => exact ⟨h.1, hg x h.2⟩

theorem ym_Out.bind2 {a' : R β} (g : α → β → γ) (h1 : ym_Out b P a) (h2 : ym_Out c Q a')
    (hg : ∀ x y, P x → Q y → S (g x y)) :
    ym_Out (b && c) S (a >>= fun x => a' >>= fun y => pure (g x y)) :=
  h1.bind fun x _ hx => h2.map (g x) fun y hy => hg x y hx hy

theorem ym_Out.mono {P' : α → Prop} (h : ym_Out b P a) (hP : ∀ x, P x → P' x) : ym_Out b P' a := by
  cases a with
  | error e => exact h
  | ok x => exact ⟨h.1, hP x h.2⟩

theorem ym_Out.ok_eq (h : ym_Out b P a) : ym_ok a = b := by
  cases a <;> exact h.1.symm

theorem ym_Out.all (h : ym_Out b P a) : ym_All P a := by
  intro r hr; subst hr; exact h.2

theorem ym_Out.errOK (h : ym_Out b P a) : ym_ErrOK a := by
  intro e he; subst he; exact h.2

theorem ym_Out.eq_ok {v : α} (h : ym_Out true (· = v) a) : a = .ok v := by
  cases a with
  | error e => cases h.1
  | ok x => rw [h.2]

theorem ym_Out.fails (h : ym_Out false P a) : ∃ e, a = .error e := by
  cases a with
  | error e => exact ⟨e, rfl⟩
  | ok x => cases h.1

theorem ym_Out.normOutcome (h : ym_Out (!b) P a) : NormOutcome b a := by
  cases a with
  | error e =>
    refine Or.inl ⟨by simpa using h.1, ?_⟩
    rcases h.2 with rfl | rfl
    · exact Or.inl rfl
    · exact Or.inr rfl
  | ok x => exact Or.inr ⟨by simpa using h.1, x, rfl⟩
end

/-! ## `normalize` succeeds exactly off `hasMapAny`, and then it computes `ym_norm` -/

mutual
theorem normalize_spec : ∀ (r : Raw), ym_Out (!hasMapAny r) (· = ym_norm r) (normalize r)
  | .null => by rw [normalize]; exact .ok rfl
  | .bool _ => by rw [normalize]; exact .ok rfl
  | .goInt _ => by rw [normalize]; exact .ok rfl
  | .goInt64 _ => by rw [normalize]; exact .ok rfl
  | .goFloat _ => by rw [normalize]; exact .ok rfl
  | .str _ => by rw [normalize]; exact .ok rfl
  | .jnum text fr => by
    rw [normalize_jnum, hasMapAny, ym_norm]
    cases parseInt64 text with
    | some i => exact .ok rfl
    | none =>
      cases fr.isEmpty
      · exact .ok rfl
      · exact ⟨rfl, Or.inr rfl⟩
  | .list xs => by
    rw [normalize, hasMapAny]
    exact (normalizeList_spec xs).map _ fun _ h => by rw [h, ym_norm]
  | .map kvs => by
    rw [normalize, hasMapAny]
    exact (normalizeFields_spec kvs).map _ fun _ h => by rw [h, ym_norm]
  | .listOfMaps ms => by
    rw [normalize, hasMapAny]
    exact (normalizeMaps_spec ms).map _ fun _ h => by rw [h, ym_norm]
  | .mapAny => by rw [normalize]; exact ⟨rfl, Or.inl rfl⟩
theorem normalizeList_spec : ∀ (xs : List Raw),
    ym_Out (!hasMapAnyList xs) (· = ym_normList xs) (normalizeList xs)
  | [] => by rw [normalizeList]; exact .ok rfl
  | x :: xs => by
    rw [normalizeList, hasMapAnyList, Bool.not_or]
    exact (normalize_spec x).bind2 _ (normalizeList_spec xs) fun _ _ h1 h2 => by
      rw [h1, h2, ym_normList]
theorem normalizeFields_spec : ∀ (kvs : List (String × Raw)),
    ym_Out (!hasMapAnyFields kvs) (· = ym_normFields kvs) (normalizeFields kvs)
  | [] => by rw [normalizeFields]; exact .ok rfl
  | (k, v) :: rest => by
    rw [normalizeFields, hasMapAnyFields, Bool.not_or]
    exact (normalize_spec v).bind2 (fun a b => (k, a) :: b) (normalizeFields_spec rest)
      fun _ _ h1 h2 => by rw [h1, h2, ym_normFields]
theorem normalizeMaps_spec : ∀ (ms : List (List (String × Raw))),
    ym_Out (!hasMapAnyMaps ms) (· = ym_normMaps ms) (normalizeMaps ms)
  | [] => by rw [normalizeMaps]; exact .ok rfl
  | m :: ms => by
    rw [normalizeMaps, hasMapAnyMaps, Bool.not_or]
    exact (normalizeFields_spec m).bind2 (fun a b => Val.map (fofList a) :: b)
      (normalizeMaps_spec ms) fun _ _ h1 h2 => by rw [h1, h2, ym_normMaps]
end

theorem normalize_outcome : ∀ (r : Raw), NormOutcome (hasMapAny r) (normalize r) :=
  fun r => (normalize_spec r).normOutcome
theorem normalizeList_outcome : ∀ (xs : List Raw),
    NormOutcome (hasMapAnyList xs) (normalizeList xs) :=
  fun xs => (normalizeList_spec xs).normOutcome
theorem normalizeFields_outcome : ∀ (kvs : List (String × Raw)),
    NormOutcome (hasMapAnyFields kvs) (normalizeFields kvs) :=
  fun kvs => (normalizeFields_spec kvs).normOutcome
theorem normalizeMaps_outcome : ∀ (ms : List (List (String × Raw))),
    NormOutcome (hasMapAnyMaps ms) (normalizeMaps ms) :=
  fun ms => (normalizeMaps_spec ms).normOutcome

theorem ym_normalize_eq : ∀ (r : Raw), hasMapAny r = false → normalize r = .ok (ym_norm r) :=
  fun r h => (h ▸ normalize_spec r).eq_ok
theorem ym_normalizeList_eq : ∀ (xs : List Raw), hasMapAnyList xs = false →
    normalizeList xs = .ok (ym_normList xs) :=
  fun xs h => (h ▸ normalizeList_spec xs).eq_ok
theorem ym_normalizeFields_eq : ∀ (kvs : List (String × Raw)), hasMapAnyFields kvs = false →
    normalizeFields kvs = .ok (ym_normFields kvs) :=
  fun kvs h => (h ▸ normalizeFields_spec kvs).eq_ok
theorem ym_normalizeMaps_eq : ∀ (ms : List (List (String × Raw))), hasMapAnyMaps ms = false →
    normalizeMaps ms = .ok (ym_normMaps ms) :=
  fun ms h => (h ▸ normalizeMaps_spec ms).eq_ok

theorem ym_hasMapAny_list (xs : List Raw) : hasMapAny (.list xs) = hasMapAnyList xs := rfl
theorem ym_hasMapAny_map (kvs : RFields) : hasMapAny (.map kvs) = hasMapAnyFields kvs := rfl
theorem ym_hasMapAny_listOfMaps (ms : List RFields) :
    hasMapAny (.listOfMaps ms) = hasMapAnyMaps ms := rfl

theorem ym_norm_goInt (i : Int) : ym_norm (.goInt i) = .int i := rfl
theorem ym_norm_goInt64 (i : Int) : ym_norm (.goInt64 i) = .int i := rfl
theorem ym_norm_map (kvs : RFields) : ym_norm (.map kvs) = .map (fofList (ym_normFields kvs)) := rfl
theorem ym_norm_list (xs : List Raw) : ym_norm (.list xs) = .list (ym_normList xs) := rfl
theorem ym_norm_listOfMaps (ms : List RFields) :
    ym_norm (.listOfMaps ms) = .list (ym_normMaps ms) := rfl
theorem ym_normList_cons (x : Raw) (xs : List Raw) :
    ym_normList (x :: xs) = ym_norm x :: ym_normList xs := rfl
theorem ym_normFields_cons (k : String) (v : Raw) (rest : RFields) :
    ym_normFields ((k, v) :: rest) = (k, ym_norm v) :: ym_normFields rest := rfl

theorem ym_normFields_eq_map : ∀ (kvs : RFields),
    ym_normFields kvs = kvs.map fun p => (p.1, ym_norm p.2)
  | [] => by rw [ym_normFields]; rfl
  | (k, v) :: rest => by rw [ym_normFields_cons, List.map_cons, ym_normFields_eq_map rest]

/-! ## maps: the order in which a decoder lists the entries does not matter -/

theorem normalizeFields_cons (k : String) (v : Raw) (rest : List (String × Raw)) :
    normalizeFields ((k, v) :: rest) =
      (do let a ← normalize v; let b ← normalizeFields rest; pure ((k, a) :: b)) := by
  rw [normalizeFields]

theorem normalizeFields_nil : normalizeFields [] = .ok [] := by rw [normalizeFields]; rfl

theorem normalize_map (kvs : List (String × Raw)) :
    normalize (.map kvs) = (do let fs ← normalizeFields kvs; pure (.map (fofList fs))) := by
  rw [normalize]

/-- permuting the entries: both fail (which of the two possible errors is met first may depend on the
    order, exactly as in Go where the decoder's map is walked in random order), or both succeed with
    the same map: a list normalises iff each entry does, and then entry by entry -/
theorem normalize_map_perm {kvs' kvs : List (String × Raw)} (hp : kvs'.Perm kvs)
    (hn : (kvs.map (·.1)).Nodup) :
    (∃ e' e, normalize (.map kvs') = .error e' ∧ normalize (.map kvs) = .error e) ∨
    (∃ v, normalize (.map kvs') = .ok v ∧ normalize (.map kvs) = .ok v) := by
  have hb : hasMapAnyFields kvs' = hasMapAnyFields kvs := by
    rw [Bool.eq_iff_iff, ← Bool.not_eq_false, ← Bool.not_eq_false, hasMapAnyFields_eq_false_iff,
      hasMapAnyFields_eq_false_iff]
    exact not_congr (forall_congr' fun p => by rw [hp.mem_iff])
  rw [normalize_map, normalize_map]
  cases h : hasMapAnyFields kvs with
  | true =>
    obtain ⟨e', he'⟩ := (hb.trans h ▸ normalizeFields_spec kvs').fails
    obtain ⟨e, he⟩ := (h ▸ normalizeFields_spec kvs).fails
    rw [he', he]; exact Or.inl ⟨e', e, rfl, rfl⟩
  | false =>
    rw [ym_normalizeFields_eq kvs' (hb.trans h), ym_normalizeFields_eq kvs h, ok_bind, ok_bind]
    refine Or.inr ⟨_, congrArg _ (congrArg Val.map (fofList_perm ?_ ?_)), rfl⟩
    · unfold Fields.DistinctKeys
      rw [ym_normFields_eq_map, List.map_map]; exact hn
    · rw [ym_normFields_eq_map, ym_normFields_eq_map]; exact hp.map _

/-! ## go-toml arrays of tables -/

theorem normalizeMaps_eq_list : ∀ (ms : List (List (String × Raw))),
    normalizeMaps ms = normalizeList (ms.map Raw.map)
  | [] => by rw [normalizeMaps, List.map_nil, normalizeList]
  | m :: ms => by
    rw [normalizeMaps, List.map_cons, normalizeList, normalize_map, normalizeMaps_eq_list ms]
    cases normalizeFields m <;> rfl

theorem normalize_listOfMaps (ms : List (List (String × Raw))) :
    normalize (.listOfMaps ms) = normalize (.list (ms.map Raw.map)) := by
  rw [normalize, normalize, normalizeMaps_eq_list]

end Bkl
