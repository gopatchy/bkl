/-
  BklProofs.Lemmas.Merge — the equations of `merge` (merge.go) and the map half of it.
  Each step of the `range src` loop of `mergeFields` reads and writes only its own key
  (`mergeAct`, `fput`); from this comes the description of the loop key by key
  (`mergeFields_eq_ok_iff`: for a key-sorted `d` and a patch with distinct keys, `r` is the result iff
  it is key-sorted and `MergeAt` holds at every key), hence C01's per-key statements (`merge_map_at`: the same for
  `merge` of two maps, which is this loop unless the patch says `$replace: true`, `merge_map_map_noreplace`) and the
  independence of the order in which the patch entries are visited (C09).
-/
import Bkl.Merge
import BklProofs.Lemmas.Fields
namespace Bkl

/-! ## Definitions used in the C01 statements -/

def Val.isScalar : Val → Bool
  | .bool _ | .int _ | .flt _ | .str _ => true
  | _ => false

theorem Val.scalar_or_list_iff {s : Val} :
    (s.isScalar = true ∨ s.isList = true) ↔ (s.isMap = false ∧ s.isNull = false) := by
  rw [← Bool.or_eq_true, ← Bool.not_eq_true', ← Bool.not_eq_true', ← Bool.and_eq_true]
  cases s <;> exact Iff.rfl

theorem Val.scalar_or_map_iff {s : Val} :
    (s.isScalar = true ∨ s.isMap = true) ↔ (s.isList = false ∧ s.isNull = false) := by
  rw [← Bool.or_eq_true, ← Bool.not_eq_true', ← Bool.not_eq_true', ← Bool.and_eq_true]
  cases s <;> exact Iff.rfl

/-- two maps, two lists, or neither -/
theorem Val.kind_cases (t b : Val) :
    (∃ dm sm, t = .map dm ∧ b = .map sm) ∨ (∃ dl sl, t = .list dl ∧ b = .list sl) ∨
      ((t.isMap && b.isMap) = false ∧ (t.isList && b.isList) = false) := by
  cases t with
  | map dm =>
    cases b with
    | map sm => exact .inl ⟨_, _, rfl, rfl⟩
    | _ => exact .inr (.inr ⟨rfl, rfl⟩)
  | list dl =>
    cases b with
    | list sl => exact .inr (.inl ⟨_, _, rfl, rfl⟩)
    | _ => exact .inr (.inr ⟨rfl, rfl⟩)
  | _ => exact .inr (.inr ⟨rfl, rfl⟩)

/-- a list-patch entry that carries no list directive (`$replace`, `$delete`, `$match`) -/
def plainEntry (v : Val) : Bool :=
  match v with
  | .map kvs => !(fhas kvs "$delete") && !(fhas kvs "$match") && !(fhasBool kvs "$replace" true)
  | v => !(v == .str "$replace")

def dropRequired (d : List Val) : List Val := d.filter (fun x => !(x == .str "$required"))

theorem merge_map_map (d s : Fields) : merge (.map d) (.map s) = mergeMapMap d s :=
  merge.eq_1 d s

theorem merge_list_list (d s : List Val) : merge (.list d) (.list s) = mergeListList d s :=
  merge.eq_4 d s

theorem merge_map_null (d : Fields) : merge (.map d) .null = .ok (.map d) :=
  merge.eq_2 d

theorem merge_list_null (d : List Val) : merge (.list d) .null = .ok (.list d) :=
  merge.eq_5 d

theorem merge_null (s : Val) : merge .null s = .ok s :=
  merge.eq_7 s

theorem merge_map_other (d : Fields) (src : Val) (h1 : src.isMap = false) (h2 : src.isNull = false) :
    merge (.map d) src = if d.isEmpty then .ok src else .error .invalidType :=
  merge.eq_3 src d (fun _ h => by subst h; cases h1) (fun h => by subst h; cases h2)

theorem merge_list_other (d : List Val) (src : Val) (h1 : src.isList = false) (h2 : src.isNull = false) :
    merge (.list d) src = .error .invalidType :=
  merge.eq_6 src d (fun _ h => by subst h; cases h1) (fun h => by subst h; cases h2)

theorem merge_scalar (dst src : Val) (h : dst.isScalar = true) :
    merge dst src = if src == dst then .error .uselessOverride else .ok src :=
  merge.eq_8 dst src (fun _ h' => by subst h'; cases h) (fun _ h' => by subst h'; cases h)
    (fun h' => by subst h'; cases h)

theorem merge_int (i : Int) (src : Val) :
    merge (.int i) src = if src == .int i then .error .uselessOverride else .ok src :=
  merge_scalar _ _ rfl

theorem merge_ok_cases {dst src r : Val} (h : merge dst src = .ok r) :
    r = src ∨ r = dst ∨ (∃ d s, dst = .map d ∧ src = .map s) ∨ (∃ d s, dst = .list d ∧ src = .list s) := by
  have scalar : dst.isScalar = true → r = src := fun hd => by
    rw [merge_scalar _ _ hd] at h
    split at h
    · cases h
    · exact (Except.ok.inj h).symm
  cases dst with
  | null => exact Or.inl (Except.ok.inj ((merge_null src).symm.trans h)).symm
  | map d =>
    have other : src.isMap = false → src.isNull = false → r = src := fun h1 h2 => by
      rw [merge_map_other _ _ h1 h2] at h
      split at h
      · exact (Except.ok.inj h).symm
      · cases h
    cases src with
    | map s => exact Or.inr (Or.inr (Or.inl ⟨d, s, rfl, rfl⟩))
    | null => exact Or.inr (Or.inl (Except.ok.inj ((merge_map_null d).symm.trans h)).symm)
    | _ => exact Or.inl (other rfl rfl)
  | list d =>
    have other : src.isList = false → src.isNull = false → False := fun h1 h2 => by
      rw [merge_list_other _ _ h1 h2] at h
      cases h
    cases src with
    | list s => exact Or.inr (Or.inr (Or.inr ⟨d, s, rfl, rfl⟩))
    | null => exact Or.inr (Or.inl (Except.ok.inj ((merge_list_null d).symm.trans h)).symm)
    | _ => exact (other rfl rfl).elim
  | _ => exact Or.inl (scalar rfl)

theorem merge_int_ok {e r : Val} {m : Int} (h : merge e (.int m) = .ok r) : r = .int m := by
  cases e with
  | null => rw [merge_null] at h; exact (Except.ok.inj h).symm
  | map d =>
    rw [merge_map_other _ _ rfl rfl] at h
    split at h <;> cases h
    rfl
  | list d => rw [merge_list_other _ _ rfl rfl] at h; cases h
  | _ =>
    rw [merge_scalar _ _ rfl] at h
    split at h <;> cases h
    rfl

theorem mergeMapMap_eq (d s : Fields) :
    mergeMapMap d s =
      if fhasBool s "$replace" true then .ok (.map (fdel s "$replace"))
      else (mergeFields d s).map .map := by
  rw [mergeMapMap]
  split
  · rfl
  · cases mergeFields d s <;> rfl

theorem mergeMapMap_replace {d s : Fields} (h : fhasBool s "$replace" true = true) :
    mergeMapMap d s = .ok (.map (fdel s "$replace")) := by
  rw [mergeMapMap_eq, if_pos h]

theorem mergeMapMap_noreplace {d s : Fields} (h : fhasBool s "$replace" true = false) :
    mergeMapMap d s = (mergeFields d s).map .map := by
  rw [mergeMapMap_eq, h]
  rfl

/-- `merge` of two maps is the loop `mergeFields`, unless the patch says `$replace: true` -/
theorem merge_map_map_noreplace {d s : Fields} (h : fhasBool s "$replace" true = false) :
    merge (.map d) (.map s) = (mergeFields d s).map .map :=
  (merge_map_map d s).trans (mergeMapMap_noreplace h)

/-- what one step of the `range src` loop does with the current value at its key:
    `none` = delete the key, `some v` = store `v` -/
def mergeAct (cur : Option Val) (v : Val) : R (Option Val) :=
  if v.toStr = "$delete" then
    (if cur ≠ none then .ok none else .error .uselessOverride)
  else match cur with
    | some e =>
      (match merge e v with
       | .error err => .error err
       | .ok v2 => .ok (some v2))
    | none => .ok (some v)

/-- write back the outcome of one step -/
def fput (d : Fields) (k : String) : Option Val → Fields
  | none => fdel d k
  | some v => fset d k v

theorem fget_fput_same (d : Fields) (k : String) (a : Option Val) : fget (fput d k a) k = a := by
  cases a with
  | none => exact fget_fdel_same d k
  | some v => exact fget_fset_same d k v

theorem fget_fput_ne (d : Fields) (k k' : String) (a : Option Val) (h : k' ≠ k) :
    fget (fput d k a) k' = fget d k' := by
  cases a with
  | none => exact fget_fdel_ne d k k' h
  | some v => exact fget_fset_ne d k k' v h

theorem sorted_fput {d : Fields} (k : String) (a : Option Val) (h : Fields.SortedKeys d) :
    Fields.SortedKeys (fput d k a) := by
  cases a with
  | none => exact sorted_fdel h
  | some v => exact sorted_fset h

theorem fput_fput_comm {d : Fields} (hd : Fields.SortedKeys d) {k1 k2 : String}
    (a1 a2 : Option Val) (hne : k1 ≠ k2) :
    fput (fput d k1 a1) k2 a2 = fput (fput d k2 a2) k1 a1 := by
  cases a1 <;> cases a2
  · exact fdel_fdel_comm d k1 k2
  · exact (fset_fdel_comm hd _ (Ne.symm hne))
  · exact (fset_fdel_comm hd _ hne).symm
  · exact (fset_fset_comm hd _ _ hne)

theorem mergeAct_delete_none {v : Val} (hv : v.toStr = "$delete") :
    mergeAct none v = .error .uselessOverride := by
  rw [mergeAct, if_pos hv]; rfl

theorem mergeAct_delete_some {v : Val} (hv : v.toStr = "$delete") (e : Val) :
    mergeAct (some e) v = .ok none := by
  rw [mergeAct, if_pos hv]; rfl

theorem mergeAct_none {v : Val} (hv : v.toStr ≠ "$delete") : mergeAct none v = .ok (some v) := by
  rw [mergeAct, if_neg hv]

theorem mergeAct_some {v : Val} (hv : v.toStr ≠ "$delete") (e : Val) :
    mergeAct (some e) v = (merge e v).map some := by
  rw [mergeAct, if_neg hv]
  show (match merge e v with
    | .error err => (.error err : R (Option Val))
    | .ok v2 => .ok (some v2)) = _
  cases merge e v <;> rfl

theorem mergeAct_ok_iff {cur : Option Val} {v : Val} {a : Option Val} :
    mergeAct cur v = .ok a ↔
      if v.toStr = "$delete" then (cur ≠ none ∧ a = none)
      else match cur with
        | none => a = some v
        | some e => ∃ r', merge e v = .ok r' ∧ a = some r' := by
  by_cases hv : v.toStr = "$delete"
  · rw [if_pos hv]
    cases cur with
    | none =>
      rw [mergeAct_delete_none hv]
      constructor
      · intro h; cases h
      · intro h; exact absurd rfl h.1
    | some e =>
      rw [mergeAct_delete_some hv]
      constructor
      · intro h; cases h; exact ⟨Option.some_ne_none e, rfl⟩
      · intro h; rw [h.2]
  · rw [if_neg hv]
    cases cur with
    | none =>
      rw [mergeAct_none hv]
      constructor
      · intro h; cases h; rfl
      · intro h; rw [h]
    | some e =>
      rw [mergeAct_some hv, R_map_ok_iff]
      exact exists_congr fun r' => and_congr_right fun _ => eq_comm

theorem mergeAct_ok_some {cur : Option Val} {w v : Val} (h : mergeAct cur w = .ok (some v)) :
    v = w ∨ ∃ e, cur = some e ∧ merge e w = .ok v := by
  have := mergeAct_ok_iff.1 h
  by_cases hw : w.toStr = "$delete"
  · rw [if_pos hw] at this; cases this.2
  · rw [if_neg hw] at this
    cases cur with
    | none => exact Or.inl (Option.some.inj this)
    | some e =>
      obtain ⟨r', hm, hr⟩ := this
      cases hr
      exact Or.inr ⟨e, rfl, hm⟩

theorem mergeAct_error_iff {cur : Option Val} {v : Val} :
    (∃ err, mergeAct cur v = .error err) ↔
      (v.toStr = "$delete" ∧ cur = none) ∨
      (v.toStr ≠ "$delete" ∧ ∃ e, cur = some e ∧ ∃ err, merge e v = .error err) := by
  by_cases hv : v.toStr = "$delete"
  · cases cur with
    | none =>
      rw [mergeAct_delete_none hv]
      exact ⟨fun _ => Or.inl ⟨hv, rfl⟩, fun _ => ⟨_, rfl⟩⟩
    | some e =>
      rw [mergeAct_delete_some hv]
      constructor
      · rintro ⟨_, h⟩; cases h
      · rintro (⟨_, h⟩ | ⟨h, _⟩)
        · cases h
        · exact absurd hv h
  · cases cur with
    | none =>
      rw [mergeAct_none hv]
      constructor
      · rintro ⟨_, h⟩; cases h
      · rintro (⟨h, _⟩ | ⟨_, _, h, _⟩)
        · exact absurd h hv
        · cases h
    | some e =>
      rw [mergeAct_some hv, R_map_error_iff]
      constructor
      · intro h; exact Or.inr ⟨hv, e, rfl, h⟩
      · rintro (⟨h, _⟩ | ⟨_, _, he, h⟩)
        · exact absurd h hv
        · cases he; exact h

theorem mergeFields_nil (d : Fields) : mergeFields d [] = .ok d :=
  mergeFields.eq_1 d

theorem mergeFields_cons_act (d : Fields) (k : String) (v : Val) (rest : Fields) :
    mergeFields d ((k, v) :: rest) =
      match mergeAct (fget d k) v with
      | .error e => .error e
      | .ok a => mergeFields (fput d k a) rest := by
  rw [mergeFields.eq_2]
  by_cases hv : v.toStr = "$delete"
  · rw [if_pos (beq_iff_eq.2 hv), fhas]
    cases fget d k with
    | none => rw [mergeAct_delete_none hv]; rfl
    | some e => rw [mergeAct_delete_some hv]; rfl
  · rw [if_neg (mt beq_iff_eq.1 hv)]
    cases fget d k with
    | none => rw [mergeAct_none hv]; rfl
    | some e =>
      rw [mergeAct_some hv]
      show (merge e v >>= _) = _
      cases merge e v <;> rfl

theorem mergeFields_cons (d : Fields) (k : String) (v : Val) (rest : Fields) :
    mergeFields d ((k, v) :: rest) =
      if v.toStr = "$delete" then
        (if fget d k ≠ none then mergeFields (fdel d k) rest else .error .uselessOverride)
      else match fget d k with
        | some e =>
          (match merge e v with
           | .error err => .error err
           | .ok v2 => mergeFields (fset d k v2) rest)
        | none => mergeFields (fset d k v) rest := by
  rw [mergeFields_cons_act]
  by_cases hv : v.toStr = "$delete"
  · rw [if_pos hv]
    cases fget d k with
    | none => rw [mergeAct_delete_none hv]; rfl
    | some e => rw [mergeAct_delete_some hv]; rfl
  · rw [if_neg hv]
    cases fget d k with
    | none => rw [mergeAct_none hv]; rfl
    | some e =>
      rw [mergeAct_some hv]
      dsimp only
      cases merge e v <;> rfl

theorem mergeFields_cons_ok {d : Fields} {k : String} {v : Val} {rest r : Fields} :
    mergeFields d ((k, v) :: rest) = .ok r ↔
      ∃ a, mergeAct (fget d k) v = .ok a ∧ mergeFields (fput d k a) rest = .ok r := by
  rw [mergeFields_cons_act]
  cases mergeAct (fget d k) v with
  | error e =>
    constructor
    · intro h; cases h
    · rintro ⟨_, h, _⟩; cases h
  | ok a =>
    constructor
    · intro h; exact ⟨a, rfl, h⟩
    · rintro ⟨_, h1, h2⟩; cases h1; exact h2

theorem mergeFields_append (d a b : Fields) :
    mergeFields d (a ++ b) = mergeFields d a >>= fun r => mergeFields r b := by
  induction a generalizing d with
  | nil => rw [List.nil_append, mergeFields_nil]; rfl
  | cons p tl ih =>
    obtain ⟨k, v⟩ := p
    rw [List.cons_append, mergeFields_cons_act, mergeFields_cons_act]
    cases mergeAct (fget d k) v with
    | error e => rfl
    | ok a => exact ih _

theorem mergeFields_sorted {d s rm : Fields} (hd : Fields.SortedKeys d)
    (h : mergeFields d s = .ok rm) : Fields.SortedKeys rm := by
  induction s generalizing d with
  | nil => rw [mergeFields_nil] at h; cases h; exact hd
  | cons p tl ih =>
    obtain ⟨k, v⟩ := p
    obtain ⟨a, -, h⟩ := mergeFields_cons_ok.1 h
    exact ih (sorted_fput k a hd) h

theorem mergeFields_frame {d s rm : Fields} {k : String} (hk : fget s k = none)
    (h : mergeFields d s = .ok rm) : fget rm k = fget d k := by
  induction s generalizing d with
  | nil => rw [mergeFields_nil] at h; cases h; rfl
  | cons p tl ih =>
    obtain ⟨k', v⟩ := p
    obtain ⟨a, -, h⟩ := mergeFields_cons_ok.1 h
    obtain ⟨hne, hk⟩ := List.forall_mem_cons.1 (fget_none_iff.1 hk)
    rw [ih (fget_none_iff.2 hk) h, fget_fput_ne _ _ _ _ (Ne.symm hne)]

theorem mergeFields_ok_iff {d s : Fields} (hn : Fields.DistinctKeys s) :
    (∃ r, mergeFields d s = .ok r) ↔ ∀ p ∈ s, ∃ a, mergeAct (fget d p.1) p.2 = .ok a := by
  induction s generalizing d with
  | nil => exact ⟨fun _ _ h => absurd h List.not_mem_nil, fun _ => ⟨d, mergeFields_nil d⟩⟩
  | cons p tl ih =>
    obtain ⟨k, v⟩ := p
    rw [distinctKeys_cons] at hn
    rw [List.forall_mem_cons]
    -- the steps of the tail do not see what the head step wrote
    have tail : ∀ a, (∃ r, mergeFields (fput d k a) tl = .ok r) ↔
        ∀ p ∈ tl, ∃ a, mergeAct (fget d p.1) p.2 = .ok a := fun a => by
      rw [ih hn.2]
      exact forall_congr' fun p => forall_congr' fun hp => by rw [fget_fput_ne _ _ _ _ (hn.1 p hp)]
    constructor
    · rintro ⟨r, h⟩
      obtain ⟨a, ha, h⟩ := mergeFields_cons_ok.1 h
      exact ⟨⟨a, ha⟩, (tail a).1 ⟨r, h⟩⟩
    · rintro ⟨⟨a, ha⟩, hall⟩
      obtain ⟨r, hr⟩ := (tail a).2 hall
      exact ⟨r, mergeFields_cons_ok.2 ⟨a, ha, hr⟩⟩

theorem mergeFields_error_iff {d s : Fields} (hn : Fields.DistinctKeys s) :
    (∃ err, mergeFields d s = .error err) ↔
      ∃ p ∈ s, ∃ err, mergeAct (fget d p.1) p.2 = .error err := by
  rw [← R_not_ok_iff, mergeFields_ok_iff hn]
  simp only [Classical.not_forall, R_not_ok_iff, exists_prop]

theorem mergeFields_fget_of_mem {d s r : Fields} (hn : Fields.DistinctKeys s)
    (h : mergeFields d s = .ok r) {k : String} {v : Val} (hm : (k, v) ∈ s) :
    mergeAct (fget d k) v = .ok (fget r k) := by
  induction s generalizing d with
  | nil => cases hm
  | cons p tl ih =>
    obtain ⟨k0, v0⟩ := p
    rw [distinctKeys_cons] at hn
    obtain ⟨a, ha, htl⟩ := mergeFields_cons_ok.1 h
    rcases List.mem_cons.1 hm with hm | hm
    · cases hm
      rw [mergeFields_frame (fget_none_iff.2 hn.1) htl, fget_fput_same, ha]
    · rw [← fget_fput_ne d k0 k a (hn.1 _ hm)]
      exact ih hn.2 htl hm

/-- what a patch does at one key (`pv` its entry there, if any): `cur` before, `out` after -/
def MergeAt (cur pv out : Option Val) : Prop :=
  match pv with
  | none => out = cur
  | some v => mergeAct cur v = .ok out

/-- the result of the loop at one key (no hypothesis on `d`) -/
theorem mergeFields_at {d s r : Fields} (hn : Fields.DistinctKeys s) (h : mergeFields d s = .ok r)
    (k : String) : MergeAt (fget d k) (fget s k) (fget r k) := by
  unfold MergeAt
  cases hk : fget s k with
  | none => exact mergeFields_frame hk h
  | some v => exact mergeFields_fget_of_mem hn h (fget_mem hk)

/-- `merge` of two maps, key by key: the result is a map, key-sorted if `d` is, and right at every key -/
theorem merge_map_at {d s : Fields} {r : Val} (hn : Fields.DistinctKeys s)
    (hrep : fhasBool s "$replace" true = false) (h : merge (.map d) (.map s) = .ok r) :
    ∃ rm, r = .map rm ∧ (Fields.SortedKeys d → Fields.SortedKeys rm) ∧
      ∀ k, MergeAt (fget d k) (fget s k) (fget rm k) := by
  obtain ⟨rm, hmf, rfl⟩ := R_map_ok_iff.1 ((merge_map_map_noreplace hrep).symm.trans h)
  exact ⟨rm, rfl, fun hd => mergeFields_sorted hd hmf, mergeFields_at hn hmf⟩

/-- **the loop of `mergeMapMap`, key by key**: for a key-sorted `d` and a patch with distinct
    keys, `r` is the result iff it is key-sorted and right at every key.  Nothing in the
    right-hand side depends on the order of the patch entries. -/
theorem mergeFields_eq_ok_iff {d s r : Fields} (hd : Fields.SortedKeys d)
    (hn : Fields.DistinctKeys s) :
    mergeFields d s = .ok r ↔
      Fields.SortedKeys r ∧ ∀ k, MergeAt (fget d k) (fget s k) (fget r k) := by
  refine ⟨fun h => ⟨mergeFields_sorted hd h, mergeFields_at hn h⟩, fun ⟨hr, hk⟩ => ?_⟩
  obtain ⟨r', h'⟩ := (mergeFields_ok_iff hn).2 fun p hp => ⟨fget r p.1, by
    have := hk p.1
    rwa [fget_of_mem_distinct hn hp] at this⟩
  rw [h', sorted_ext (mergeFields_sorted hd h') hr fun k => ?_]
  have h1 := mergeFields_at hn h' k
  have h2 := hk k
  unfold MergeAt at h1 h2
  cases hs : fget s k with
  | none => rw [hs] at h1 h2; rw [h1, h2]
  | some v => rw [hs] at h1 h2; exact Except.ok.inj (h1.symm.trans h2)

theorem mergeFields_ok_perm {d s s' : Fields} (hn : Fields.DistinctKeys s) (hp : s'.Perm s) :
    (∃ r', mergeFields d s' = .ok r') ↔ ∃ r, mergeFields d s = .ok r := by
  rw [mergeFields_ok_iff hn, mergeFields_ok_iff (distinctKeys_perm hp hn)]
  exact forall_congr' fun p => by rw [hp.mem_iff]

theorem mergeFields_perm {d s s' r : Fields} (hd : Fields.SortedKeys d)
    (hn : Fields.DistinctKeys s) (hp : s'.Perm s) (h : mergeFields d s = .ok r) :
    mergeFields d s' = .ok r := by
  rw [mergeFields_eq_ok_iff hd hn] at h
  rw [mergeFields_eq_ok_iff hd (distinctKeys_perm hp hn)]
  exact ⟨h.1, fun k => fget_perm hn hp k ▸ h.2 k⟩

theorem mergeMapMap_error_iff {d s : Fields} (hs : Fields.SortedKeys s) :
    (∃ err, mergeMapMap d s = .error err) ↔
      fhasBool s "$replace" true = false ∧
      ∃ k v, fget s k = some v ∧
        ((v.toStr = "$delete" ∧ fget d k = none) ∨
         (v.toStr ≠ "$delete" ∧ ∃ e, fget d k = some e ∧ ∃ err, merge e v = .error err)) := by
  cases hrep : fhasBool s "$replace" true with
  | true =>
    rw [mergeMapMap_replace hrep]
    constructor
    · rintro ⟨_, h⟩; cases h
    · rintro ⟨h, _⟩; cases h
  | false =>
    rw [mergeMapMap_noreplace hrep, R_map_error_iff,
      mergeFields_error_iff (distinctKeys_of_sorted hs),
      exists_mem_iff_fget hs (P := fun k v => ∃ err, mergeAct (fget d k) v = .error err)]
    simp only [mergeAct_error_iff, true_and]

theorem merge_two_layers {d s1 s2 : Fields} (hr1 : fhasBool s1 "$replace" true = false)
    (hr2 : fhasBool s2 "$replace" true = false) :
    (merge (.map d) (.map s1) >>= fun x => merge x (.map s2)) =
      (mergeFields d (s1 ++ s2)).map .map := by
  rw [merge_map_map_noreplace hr1, mergeFields_append]
  cases mergeFields d s1 with
  | error e => rfl
  | ok r1 => exact merge_map_map_noreplace hr2

/-! ## a one-entry patch at a new key, and two concrete merges used by the non-vacuity examples -/

theorem merge_map_single {d : Fields} {k : String} {v : Val}
    (hr : fhasBool [(k, v)] "$replace" true = false) (hd : v.toStr ≠ "$delete")
    (hk : fget d k = none) : merge (.map d) (.map [(k, v)]) = .ok (.map (fset d k v)) := by
  rw [merge_map_map, mergeMapMap_noreplace hr, mergeFields_cons, if_neg hd, hk, mergeFields_nil]
  rfl

theorem merge_x_y :
    merge (.map [("x", .int 1)]) (.map [("y", .int 2)]) = .ok (.map [("x", .int 1), ("y", .int 2)]) :=
  merge_map_single rfl (by decide) rfl

theorem merge_x_x :
    merge (.map [("x", .int 1)]) (.map [("x", .int 1)]) = .error .uselessOverride := by
  rw [merge_map_map, mergeMapMap_noreplace (by decide), mergeFields_cons]
  have h1 : ((Val.int 1).toStr = "$delete") = False := by decide
  have h2 : fget [("x", Val.int 1)] "x" = some (.int 1) := by decide
  have h3 : merge (.int 1) (.int 1) = .error .uselessOverride := by
    rw [merge_scalar _ _ rfl]; rfl
  simp only [h1, if_false, h2, h3]
  rfl

theorem mergeFields_empty_single (k : String) (v : Val) (h : v.toStr ≠ "$delete") :
    mergeFields [] [(k, v)] = .ok [(k, v)] := by
  rw [mergeFields_cons, if_neg h]
  simp only [fget, fset, mergeFields_nil]

end Bkl
