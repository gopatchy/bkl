/-
  Lemmas for the translation-equivalence theorems of util.go (BklProofs/Facts/TransUtil.lean):
  * rebuilding a map entry by entry (`fsetAll` / `fofList`, what Go's `ret[k] = v` loop does) gives back a
    key-sorted map unchanged;
  * `Val.norm` (rebuild every map) is the identity exactly on well-formed values;
  * the model's `toStringList`, entry by entry.
-/
import BklProofs.Lemmas.Fields
import BklProofs.Lemmas.ValInduction
namespace Bkl
/-! ## rebuilding a map -/

/-- rebuilding a map entry by entry gives it back exactly when it is key-sorted -/
theorem gu_fofList_eq_self_iff (l : Fields) : fofList l = l ↔ Fields.SortedKeys l :=
  ⟨fun h => h ▸ sorted_fofList l, fun h => fofList_of_sorted h⟩

theorem gu_wf_fsetAll {d : Fields} (s : Fields) (hd : Val.WF (.map d)) (hs : ∀ p ∈ s, Val.WF p.2) :
    Val.WF (.map (fsetAll d s)) := by
  induction s generalizing d with
  | nil => exact hd
  | cons p tl ih =>
    exact ih (wf_fset hd (hs p List.mem_cons_self)) (fun q hq => hs q (List.mem_cons_of_mem _ hq))

theorem normList_eq_map (xs : List Val) : Val.normList xs = xs.map Val.norm :=
  map_of_eqns Val.normList.eq_1 Val.normList.eq_2 xs

theorem normFields_eq_map (kvs : Fields) : Val.normFields kvs = kvs.map fun p => (p.1, Val.norm p.2) :=
  map_of_eqns Val.normFields.eq_1 (fun p l => Val.normFields.eq_2 p.1 p.2 l) kvs

theorem gu_wf_norm : ∀ (v : Val), Val.WF (Val.norm v) := by
  intro v
  induction v using Val.induction_mem with
  | list xs ih =>
    rw [Val.norm, normList_eq_map]
    exact wf_list_iff.2 (List.forall_mem_map.2 ih)
  | map kvs ih =>
    rw [Val.norm, normFields_eq_map]
    exact gu_wf_fsetAll _ (by decide) (List.forall_mem_map.2 ih)
  | _ => rfl

theorem gu_wf_normList : ∀ (xs : List Val), ∀ x ∈ Val.normList xs, Val.WF x := fun xs => by
  rw [normList_eq_map]; exact List.forall_mem_map.2 fun x _ => gu_wf_norm x
theorem gu_wf_normFields : ∀ (kvs : Fields), ∀ p ∈ Val.normFields kvs, Val.WF p.2 := fun kvs => by
  rw [normFields_eq_map]; exact List.forall_mem_map.2 fun p _ => gu_wf_norm p.2

theorem gu_norm_of_wf : ∀ (v : Val), Val.WF v → Val.norm v = v := by
  intro v
  induction v using Val.induction_mem with
  | list xs ih =>
    intro h
    rw [Val.norm, normList_eq_map,
      List.map_congr_left fun x hx => ih x hx (wf_list_iff.1 h x hx), List.map_id']
  | map kvs ih =>
    intro h
    have h' := wf_map_iff.1 h
    rw [Val.norm, normFields_eq_map,
      List.map_congr_left fun p hp => congrArg (Prod.mk p.1) (ih p hp (h'.2 p hp)), List.map_id',
      fofList_of_sorted h'.1]
  | _ => intro _; rfl

theorem gu_normList_of_wf : ∀ (xs : List Val), Val.wfListB xs = true → Val.normList xs = xs := fun xs h => by
  rw [normList_eq_map, List.map_congr_left fun x hx => gu_norm_of_wf x (wfListB_iff.1 h x hx), List.map_id']
theorem gu_normFields_of_wf : ∀ (kvs : Fields), Val.wfFieldsB kvs = true → Val.normFields kvs = kvs :=
  fun kvs h => by
  rw [normFields_eq_map,
    List.map_congr_left fun p hp => congrArg (Prod.mk p.1) (gu_norm_of_wf p.2 (wfFieldsB_iff.1 h p hp)),
    List.map_id']

theorem gu_norm_eq_self_iff (v : Val) : Val.norm v = v ↔ Val.WF v :=
  ⟨fun h => h ▸ gu_wf_norm v, gu_norm_of_wf v⟩

/-- only nil has the normal form nil -/
theorem gu_norm_eq_null {r : Val} (h : Val.norm r = .null) : r = .null := by
  cases r <;> first | rfl | cases h

/-- the two folds of the `deepClone` loops -/
theorem gu_foldl_norm_fields (kvs : Fields) (acc : Fields) :
    kvs.foldl (fun acc (p : String × Val) => fset acc p.1 (Val.norm p.2)) acc = fsetAll acc (Val.normFields kvs) := by
  induction kvs generalizing acc with
  | nil => rfl
  | cons p rest ih =>
    obtain ⟨k, v⟩ := p
    rw [List.foldl_cons, ih, Val.normFields, fsetAll_cons]

theorem gu_foldl_norm_list (xs : List Val) (acc : List Val) :
    xs.foldl (fun acc x => acc ++ [Val.norm x]) acc = acc ++ Val.normList xs := by
  induction xs generalizing acc with
  | nil => simp [Val.normList]
  | cons x rest ih => rw [List.foldl_cons, ih, Val.normList]; simp

/-! ## `toStringList`, entry by entry (in `Gen.Lib`, the namespace of the translated util.go) -/

namespace Gen.Lib

theorem toStringList_nil : toStringList [] = .ok [] := rfl

theorem toStringList_cons_str (s : String) (l : List Val) :
    toStringList (.str s :: l) = (match toStringList l with | .ok ss => .ok (s :: ss) | .error e => .error e) := by
  unfold toStringList
  rw [List.mapM_cons]
  cases List.mapM (m := Except Err) _ l <;> rfl

theorem toStringList_cons_other (x : Val) (l : List Val) (h : ∀ s, x ≠ .str s) :
    toStringList (x :: l) = .error Err.invalidType := by
  unfold toStringList
  rw [List.mapM_cons]
  cases x with
  | str s => exact absurd rfl (h s)
  | _ => rfl

theorem toStringList_length {l : List Val} {ss : List String} (h : toStringList l = .ok ss) : ss.length = l.length := by
  induction l generalizing ss with
  | nil => simp [toStringList_nil] at h; simp [← h]
  | cons x xs ih =>
    by_cases hx : ∃ s, x = .str s
    · obtain ⟨s, rfl⟩ := hx
      rw [toStringList_cons_str] at h
      cases hr : toStringList xs with
      | error e => simp [hr] at h
      | ok ts => simp [hr] at h; simp [← h, ih hr]
    · rw [toStringList_cons_other x xs (fun s e => hx ⟨s, e⟩)] at h; cases h

end Gen.Lib

end Bkl
