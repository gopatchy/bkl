/-
  BklProofs.Lemmas.Except — `>>=`, `pure`, `throw`, `Except.map`, `List.mapM` and `List.foldlM` in
  `Except`, mostly at the model's result type `R = Except Err`: when a bind or a `map` succeeds, two
  results compared through their successes (`R_eq_of_ok_iff`), invariants of a `foldlM`
  (`foldlM_inv`).  A successful `mapM` is the element-by-element relation `Pointwise` between input
  and output (`mapM_ok_iff`); what a proof needs of a successful `mapM` (lengths, members,
  positions, composition, the output as a `map`) is read off that relation, and a failing one
  fails at its first failing element (`mapM_eq_error_iff`).
-/
import Bkl.Val
namespace Bkl

theorem ok_bind {ε α β} (a : α) (f : α → Except ε β) : (Except.ok a >>= f) = f a := rfl
theorem error_bind {α β : Type} (e : Err) (f : α → R β) : (Except.error e >>= f) = .error e := rfl
theorem R_bind_error {α β : Type} (e : Err) (f : α → R β) :
    ((Except.error e : R α) >>= f) = .error e := error_bind e f
theorem R_map_ok {α β : Type} (a : α) (f : α → β) : (f <$> (Except.ok a : R α)) = .ok (f a) := rfl
theorem R_map_error {α β : Type} (e : Err) (f : α → β) :
    (f <$> (Except.error e : R α)) = .error e := rfl

theorem ok_bind' {α β : Type} (a : α) (f : α → R β) : (Except.ok a >>= f) = f a := ok_bind a f
theorem error_bind' {α β : Type} (e : Err) (f : α → R β) : (Except.error e >>= f) = .error e := error_bind e f
theorem R_pure {α : Type} (a : α) : (pure a : R α) = .ok a := rfl
theorem R_throw {α : Type} (e : Err) : (throw e : R α) = .error e := rfl
theorem R_pure_eq {α : Type} (a : α) : (pure a : R α) = .ok a := R_pure a
theorem R_throw_eq {α : Type} (e : Err) : (throw e : R α) = .error e := R_throw e

theorem e_pure_eq {ε α} (a : α) : (pure a : Except ε α) = Except.ok a := rfl

/-- `Except ε α` has decidable equality (so that `decide` can evaluate `validate … = .ok ()`,
    `findOutputs … = .ok …`, …). -/
instance instDecEqExcept {ε α : Type} [DecidableEq ε] [DecidableEq α] : DecidableEq (Except ε α) :=
  fun a b =>
  match a, b with
  | .ok x, .ok y =>
    if h : x = y then isTrue (h ▸ rfl) else isFalse (by intro h'; cases h'; exact h rfl)
  | .error e1, .error e2 =>
    if h : e1 = e2 then isTrue (h ▸ rfl) else isFalse (by intro h'; cases h'; exact h rfl)
  | .ok _, .error _ => isFalse (by intro h; cases h)
  | .error _, .ok _ => isFalse (by intro h; cases h)

theorem R_bind_eq_ok {α β : Type} {x : R α} {f : α → R β} {b : β} :
    (x >>= f) = .ok b ↔ ∃ a, x = .ok a ∧ f a = .ok b := by
  cases x with
  | error e => exact ⟨nofun, fun ⟨_, h, _⟩ => nomatch h⟩
  | ok a => exact ⟨fun h => ⟨a, rfl, h⟩, fun ⟨_, h, h'⟩ => by cases h; exact h'⟩

theorem R_not_ok_iff {α : Type} {x : R α} : (¬ ∃ a, x = .ok a) ↔ ∃ e, x = .error e := by
  cases x with
  | error e =>
    constructor
    · intro _; exact ⟨e, rfl⟩
    · rintro _ ⟨_, h⟩; cases h
  | ok a =>
    constructor
    · intro h; exact absurd ⟨a, rfl⟩ h
    · rintro ⟨_, h⟩; cases h

theorem R_map_ok_iff {α β : Type} {x : R α} {f : α → β} {b : β} :
    x.map f = .ok b ↔ ∃ a, x = .ok a ∧ f a = b := by
  cases x with
  | error e =>
    constructor
    · intro h; cases h
    · rintro ⟨_, h, _⟩; cases h
  | ok a =>
    constructor
    · intro h; exact ⟨a, rfl, Except.ok.inj h⟩
    · rintro ⟨_, h, rfl⟩; cases h; rfl

theorem R_map_error_iff {α β : Type} {x : R α} {f : α → β} :
    (∃ e, x.map f = .error e) ↔ ∃ e, x = .error e := by
  cases x with
  | error e => exact ⟨fun _ => ⟨e, rfl⟩, fun _ => ⟨e, rfl⟩⟩
  | ok a =>
    constructor
    · rintro ⟨_, h⟩; cases h
    · rintro ⟨_, h⟩; cases h

theorem R_error_iff_of_ok_iff {α : Type} {x y : R α} (h : ∀ a, x = .ok a ↔ y = .ok a) :
    (∃ e, x = .error e) ↔ ∃ e, y = .error e := by
  rw [← R_not_ok_iff, ← R_not_ok_iff]
  exact not_congr (exists_congr h)

theorem R_eq_of_ok_iff {α : Type} {x y : R α} (h : ∀ a, x = .ok a ↔ y = .ok a)
    (he : ∀ e1 e2, x = .error e1 → y = .error e2 → e1 = e2) : x = y := by
  cases x with
  | ok a => exact ((h a).1 rfl).symm
  | error e =>
    cases y with
    | ok a => exact (h a).2 rfl
    | error e' => rw [he e e' rfl rfl]

theorem o_seq_ok {x : R Unit} {y : R Unit} : (do x; y) = .ok () ↔ x = .ok () ∧ y = .ok () := by
  cases x with
  | ok u => cases u; simp [bind, Except.bind]
  | error e => simp [bind, Except.bind]

theorem o_seq_of_ok {x : R Unit} {y : R α} (h : x = .ok ()) : (do x; y) = y := by
  subst h; rfl

theorem o_seq_of_error {x : R Unit} {y : R α} {e : Err} (h : x = .error e) :
    (do x; y) = .error e := by
  subst h; rfl

theorem o_isOk_unit {x : R Unit} (h : x.isOk = true) : x = .ok () := by
  cases x with
  | ok u => rfl
  | error e => cases h

theorem o_seq_error {x : R Unit} {y : R Unit} {e : Err} (h : (do x; y) = .error e) :
    x = .error e ∨ y = .error e := by
  cases x with
  | ok u => right; exact h
  | error e' => left; exact h

theorem mapM_nil {α β : Type} (f : α → R β) : List.mapM f [] = .ok [] := rfl

theorem mapM_cons {α β : Type} (f : α → R β) (a : α) (l : List α) :
    List.mapM f (a :: l) =
      (match f a with
       | .error e => .error e
       | .ok b => match List.mapM f l with
         | .error e => .error e
         | .ok bs => .ok (b :: bs)) := by
  rw [List.mapM_cons]
  cases f a with
  | error e => rfl
  | ok b => cases List.mapM f l <;> rfl

theorem foldlM_nil {α β : Type} (f : β → α → R β) (b : β) : List.foldlM f b [] = .ok b := rfl

theorem foldlM_cons {α β : Type} (f : β → α → R β) (b : β) (a : α) (l : List α) :
    List.foldlM f b (a :: l) =
      (match f b a with
       | .error e => .error e
       | .ok b' => List.foldlM f b' l) := by
  rw [List.foldlM_cons]
  cases f b a <;> rfl

theorem mapM_congr_mem {α β : Type} {f g : α → R β} {l : List α} (h : ∀ a ∈ l, f a = g a) :
    l.mapM f = l.mapM g := by
  induction l with
  | nil => rfl
  | cons a l ih =>
    rw [List.mapM_cons, List.mapM_cons, h a (List.mem_cons_self ..),
      ih fun b hb => h b (List.mem_cons_of_mem _ hb)]

theorem foldlM_congr_mem {α β : Type} (f g : β → α → R β) (l : List α)
    (h : ∀ b, ∀ a ∈ l, f b a = g b a) (b : β) : l.foldlM f b = l.foldlM g b := by
  induction l generalizing b with
  | nil => rfl
  | cons a l ih =>
    simp only [List.foldlM_cons, h b a (List.mem_cons_self ..)]
    congr 1
    funext b'
    exact ih (fun b a ha => h b a (List.mem_cons_of_mem _ ha)) b'

theorem foldlM_inv {α β : Type} (P : β → Prop) (f : β → α → R β) :
    ∀ (l : List α) (init res : β), P init →
      (∀ s a s', a ∈ l → P s → f s a = .ok s' → P s') →
      l.foldlM f init = .ok res → P res := by
  intro l
  induction l with
  | nil => intro init res h0 _ h; rw [foldlM_nil] at h; cases h; exact h0
  | cons a tl ih =>
    intro init res h0 hstep h
    rw [foldlM_cons] at h
    split at h
    · cases h
    · rename_i b' hb
      exact ih b' res (hstep init a b' List.mem_cons_self h0 hb)
        (fun s x s' hx => hstep s x s' (List.mem_cons_of_mem _ hx)) h

theorem foldlM_append_R {α β : Type} (f : β → α → R β) (b : β) (l1 l2 : List α) :
    (l1 ++ l2).foldlM f b = (l1.foldlM f b >>= fun b' => l2.foldlM f b') := by
  simp [List.foldlM_append]

/-- an element on which the step does nothing can be left out -/
theorem foldlM_drop {α β : Type} {f : β → α → R β} {x : α} (pre post : List α)
    (hstep : ∀ b, f b x = .ok b) (init : β) :
    (pre ++ x :: post).foldlM f init = (pre ++ post).foldlM f init := by
  rw [foldlM_append_R, foldlM_append_R]
  cases pre.foldlM f init with
  | error e => rfl
  | ok b => rw [ok_bind, ok_bind, foldlM_cons, hstep b]

/-! ## `List.mapM` in `R`: success is an element-by-element relation -/

/-- two lists related element by element.  Core has no `List.Forall₂`; Batteries' one, which the
    statements about bkli use, is tied to this one in Lemmas/ToolsCliProofs.lean
    (`forall₂_iff_pointwise`) -/
inductive Pointwise {α β : Type} (R : α → β → Prop) : List α → List β → Prop
  | nil : Pointwise R [] []
  | cons {a : α} {b : β} {as : List α} {bs : List β} :
      R a b → Pointwise R as bs → Pointwise R (a :: as) (b :: bs)

namespace Pointwise
variable {α β γ : Type} {R : α → β → Prop} {l : List α} {l' : List β}

theorem imp {S : α → β → Prop} (h : Pointwise R l l') (hi : ∀ a ∈ l, ∀ b, R a b → S a b) :
    Pointwise S l l' := by
  induction h with
  | nil => exact .nil
  | cons h1 _ ih =>
    exact .cons (hi _ List.mem_cons_self _ h1) (ih fun a ha => hi a (List.mem_cons_of_mem _ ha))

theorem length_eq (h : Pointwise R l l') : l.length = l'.length := by
  induction h with
  | nil => rfl
  | cons _ _ ih => rw [List.length_cons, List.length_cons, ih]

theorem getElem? (h : Pointwise R l l') (i : Nat) {a : α} (ha : l[i]? = some a) :
    ∃ b, l'[i]? = some b ∧ R a b := by
  induction h generalizing i with
  | nil => cases ha
  | cons h1 _ ih =>
    cases i with
    | zero => cases ha; exact ⟨_, rfl, h1⟩
    | succ i => exact ih i ha

/-- and conversely: equal lengths and the relation at every position -/
theorem of_getElem? (hl : l.length = l'.length)
    (h : ∀ (i : Nat) a b, l[i]? = some a → l'[i]? = some b → R a b) : Pointwise R l l' := by
  induction l generalizing l' with
  | nil => cases l' with | nil => exact .nil | cons _ _ => cases hl
  | cons a l ih =>
    cases l' with
    | nil => cases hl
    | cons b l' => exact .cons (h 0 a b rfl rfl) (ih (Nat.succ.inj hl) fun i => h (i + 1))

theorem mem_left (h : Pointwise R l l') {a : α} (ha : a ∈ l) : ∃ b, b ∈ l' ∧ R a b := by
  obtain ⟨i, hi⟩ := List.getElem?_of_mem ha
  obtain ⟨b, hb, hr⟩ := h.getElem? i hi
  exact ⟨b, List.mem_of_getElem? hb, hr⟩

theorem flip (h : Pointwise R l l') : Pointwise (fun b a => R a b) l' l := by
  induction h with
  | nil => exact .nil
  | cons h1 _ ih => exact .cons h1 ih

theorem mem_right (h : Pointwise R l l') {b : β} (hb : b ∈ l') : ∃ a, a ∈ l ∧ R a b :=
  h.flip.mem_left hb

theorem comp_iff {S : β → γ → Prop} {l'' : List γ} :
    Pointwise (fun a c => ∃ b, R a b ∧ S b c) l l'' ↔ ∃ l', Pointwise R l l' ∧ Pointwise S l' l'' := by
  constructor
  · intro h
    induction h with
    | nil => exact ⟨[], .nil, .nil⟩
    | cons hb _ ih =>
      obtain ⟨b, hr, hs⟩ := hb
      obtain ⟨l', h1, h2⟩ := ih
      exact ⟨b :: l', .cons hr h1, .cons hs h2⟩
  · rintro ⟨l', h1, h2⟩
    induction h1 generalizing l'' with
    | nil => cases h2; exact .nil
    | cons hr _ ih =>
      cases h2 with
      | cons hs h2 => exact .cons ⟨_, hr, hs⟩ (ih h2)

/-- two projections that the relation identifies give the same list -/
theorem map_eq {f : α → γ} {g : β → γ} (h : Pointwise R l l')
    (hfg : ∀ a ∈ l, ∀ b, R a b → g b = f a) : l'.map g = l.map f := by
  induction h with
  | nil => rfl
  | cons h1 _ ih =>
    rw [List.map_cons, List.map_cons, hfg _ List.mem_cons_self _ h1,
      ih fun a ha => hfg a (List.mem_cons_of_mem _ ha)]

/-- a relation that determines its right side determines the right list -/
theorem eq_map {g : α → β} (h : Pointwise R l l') (hg : ∀ a ∈ l, ∀ b, R a b → b = g a) :
    l' = l.map g :=
  (List.map_id l').symm.trans (h.map_eq hg)

theorem map_right {g : α → β} (h : ∀ a ∈ l, R a (g a)) : Pointwise R l (l.map g) := by
  induction l with
  | nil => exact .nil
  | cons a l ih =>
    exact .cons (h a List.mem_cons_self) (ih fun x hx => h x (List.mem_cons_of_mem _ hx))

end Pointwise

theorem mapM_cons_ok {α β : Type} {f : α → R β} {a : α} {l : List α} {r : List β} :
    (a :: l).mapM f = .ok r ↔ ∃ b bs, f a = .ok b ∧ l.mapM f = .ok bs ∧ r = b :: bs := by
  rw [List.mapM_cons, R_bind_eq_ok]
  constructor
  · rintro ⟨b, h1, h⟩
    obtain ⟨bs, h2, h⟩ := R_bind_eq_ok.1 h
    cases h
    exact ⟨b, bs, h1, h2, rfl⟩
  · rintro ⟨b, bs, h1, h2, rfl⟩
    exact ⟨b, h1, R_bind_eq_ok.2 ⟨bs, h2, rfl⟩⟩

theorem mapM_ok_iff {α β : Type} (f : α → R β) (l : List α) (r : List β) :
    l.mapM f = .ok r ↔ Pointwise (fun a b => f a = .ok b) l r := by
  induction l generalizing r with
  | nil => exact ⟨fun h => by cases h; exact .nil, fun h => by cases h; rfl⟩
  | cons a l ih =>
    rw [mapM_cons_ok]
    constructor
    · rintro ⟨b, bs, h1, h2, rfl⟩; exact .cons h1 ((ih bs).1 h2)
    · rintro (_ | ⟨h1, h2⟩); exact ⟨_, _, h1, (ih _).2 h2, rfl⟩

theorem mapM_ok_of_forall {α β : Type} (f : α → R β) (g : α → β) (l : List α)
    (h : ∀ i ∈ l, f i = .ok (g i)) : l.mapM f = .ok (l.map g) :=
  (mapM_ok_iff f l _).2 (Pointwise.map_right h)

/-- the first failing element decides the error -/
theorem mapM_eq_error_iff {α β : Type} (f : α → R β) (l : List α) (e : Err) :
    l.mapM f = .error e ↔
      ∃ l1 a l2, l = l1 ++ a :: l2 ∧ (∀ x ∈ l1, ∃ y, f x = .ok y) ∧ f a = .error e := by
  induction l with
  | nil =>
    rw [mapM_nil]
    constructor
    · intro h; cases h
    · rintro ⟨l1, a, l2, h, _⟩
      cases l1 <;> cases h
  | cons x l ih =>
    rw [mapM_cons]
    cases hfx : f x with
    | error e1 =>
      constructor
      · intro h
        cases h
        exact ⟨[], x, l, rfl, fun _ h => (nomatch h), hfx⟩
      · rintro ⟨l1, a, l2, h, hok, herr⟩
        cases l1 with
        | nil =>
          cases h
          rw [hfx] at herr; cases herr; rfl
        | cons y l1 =>
          cases h
          obtain ⟨y', hy'⟩ := hok x List.mem_cons_self
          rw [hfx] at hy'; cases hy'
    | ok b =>
      constructor
      · intro h
        cases hl : l.mapM f with
        | ok bs => rw [hl] at h; cases h
        | error e1 =>
          rw [hl] at h
          cases h
          obtain ⟨l1, a, l2, h1, h2, h3⟩ := (ih).1 hl
          refine ⟨x :: l1, a, l2, by rw [h1]; rfl, ?_, h3⟩
          intro z hz
          rcases List.mem_cons.1 hz with rfl | hz
          · exact ⟨b, hfx⟩
          · exact h2 z hz
      · rintro ⟨l1, a, l2, h, hok, herr⟩
        cases l1 with
        | nil =>
          cases h
          rw [hfx] at herr; cases herr
        | cons y l1 =>
          cases h
          rw [(ih).2 ⟨l1, a, l2, rfl, fun z hz => hok z (List.mem_cons_of_mem _ hz), herr⟩]

theorem mapM_error_of_mem {α β : Type} (f : α → R β) (l : List α) {a : α} {e : Err}
    (ha : a ∈ l) (hf : f a = .error e) : ∃ e', l.mapM f = .error e' := by
  cases h : l.mapM f with
  | error e' => exact ⟨e', rfl⟩
  | ok l' =>
    obtain ⟨b, _, hb⟩ := ((mapM_ok_iff f l l').1 h).mem_left ha
    rw [hf] at hb; cases hb

theorem mapM_forall {α β : Type} (f : α → R β) (P : β → Prop) {l : List α} {r : List β}
    (h : List.mapM f l = .ok r) (hp : ∀ x ∈ l, ∀ y, f x = .ok y → P y) : ∀ y ∈ r, P y := by
  intro y hy
  obtain ⟨x, hx, hxy⟩ := ((mapM_ok_iff f l r).1 h).mem_right hy
  exact hp x hx y hxy

/-- a `mapM` fails exactly when one of its elements does -/
theorem mapM_error_iff {α β : Type} {f : α → R β} {P : α → Prop}
    (hf : ∀ a, (∃ err, f a = .error err) ↔ P a) (l : List α) :
    (∃ err, List.mapM f l = .error err) ↔ ∃ x ∈ l, P x :=
  ⟨fun ⟨e, h⟩ =>
    let ⟨_, a, _, hl, _, ha⟩ := (mapM_eq_error_iff f l e).1 h
    ⟨a, hl ▸ List.mem_append_right _ List.mem_cons_self, (hf a).1 ⟨e, ha⟩⟩,
   fun ⟨x, hx, hp⟩ => let ⟨_, he⟩ := (hf x).2 hp; mapM_error_of_mem f l hx he⟩

theorem mapM_ok_iff_pointwise {α β : Type} {f : α → R β} {Q : α → β → Prop}
    (hf : ∀ a b, f a = .ok b ↔ Q a b) (l : List α) (r : List β) :
    List.mapM f l = .ok r ↔ Pointwise Q l r :=
  (mapM_ok_iff f l r).trans
    ⟨fun h => h.imp fun a _ b => (hf a b).1, fun h => h.imp fun a _ b => (hf a b).2⟩

theorem mapM_length_ok {α β : Type} (f : α → R β) (l : List α) (outs : List β)
    (h : l.mapM f = .ok outs) : outs.length = l.length :=
  ((mapM_ok_iff f l outs).1 h).length_eq.symm

theorem mapM_append {α β : Type} (f : α → R β) (l₁ l₂ : List α) :
    (l₁ ++ l₂).mapM f =
      (match l₁.mapM f with
       | .error e => .error e
       | .ok b₁ => match l₂.mapM f with
         | .error e => .error e
         | .ok b₂ => .ok (b₁ ++ b₂)) := by
  rw [List.mapM_append]
  cases l₁.mapM f with
  | error e => rfl
  | ok b₁ => cases l₂.mapM f <;> rfl

/-- about success only: the two sides may report different errors -/
theorem mapM_bind_ok_iff {α β γ : Type} (f : α → R β) (g : β → R γ) (l : List α) (vs : List γ) :
    l.mapM (fun a => f a >>= g) = .ok vs ↔ ∃ l', l.mapM f = .ok l' ∧ l'.mapM g = .ok vs := by
  have : (fun a c => (f a >>= g) = .ok c) = fun a c => ∃ b, f a = .ok b ∧ g b = .ok c :=
    funext fun a => funext fun c => propext R_bind_eq_ok
  rw [mapM_ok_iff, this, Pointwise.comp_iff]
  simp only [mapM_ok_iff]

/-- a fold whose step computes something without looking at the accumulator and then puts it in, is `mapM` of the
    steps followed by putting everything in -/
theorem foldlM_emit {α γ σ : Type} (put : σ → γ → σ) (f : α → R γ) (l : List α) (acc : σ) :
    l.foldlM (fun acc a => f a >>= fun c => pure (put acc c)) acc
      = (l.mapM f >>= fun cs => pure (cs.foldl put acc)) := by
  induction l generalizing acc with
  | nil => rfl
  | cons a l ih =>
    rw [List.foldlM_cons, List.mapM_cons]
    cases f a with
    | error e => rfl
    | ok c =>
      rw [ok_bind, pure_bind, ih, ok_bind]
      cases List.mapM f l <;> rfl

theorem mapM_bind_pure {α β γ : Type} (f : α → R β) (g : β → γ) (l : List α) :
    l.mapM (fun a => f a >>= fun b => pure (g b)) = l.mapM f >>= fun bs => pure (bs.map g) := by
  induction l with
  | nil => rfl
  | cons a l ih =>
    rw [List.mapM_cons, List.mapM_cons, ih]
    cases f a with
    | error e => rfl
    | ok b => cases List.mapM f l <;> rfl

end Bkl
