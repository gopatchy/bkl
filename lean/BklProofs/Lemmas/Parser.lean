/-
  BklProofs.Lemmas.Parser — the parser model (`Bkl/Parser.lean`): `mergeInto` as an element-wise
  relation on the documents, the filters of `parentsOf` / `findMatches` over plain ancestor
  membership, `allParents` as reachability along the recorded parent links (`Ancestor`: `Reach`
  over the parent table; reachability and its fuel are stated for any successor function), the
  parent table after `addParents`, runs of `mergeDocument` (`runMerges`), and ids that do not end
  in the `|matchnull` suffix of a `$match: null` document (`NoMN`).
-/
import Bkl.Parser
import BklProofs.Lemmas.Except
import BklProofs.Lemmas.List
namespace Bkl

/-- what `mergeInto` does with one document -/
def mergeStep (targets : List String) (body : Val) (p : String × Val) : R (String × Val) :=
  if targets.contains p.1 then
    match merge p.2 body with
    | .error e => .error e
    | .ok v => .ok (p.1, v)
  else .ok p

theorem mergeInto_eq (st : PState) (pid : String) (targets : List String) (body : Val) :
    mergeInto st pid targets body =
      match st.docs.mapM (mergeStep targets body) with
      | .error e => .error e
      | .ok docs => .ok { docs := docs, known := addParents st.known pid targets } := by
  have hf : (fun (x : String × Val) =>
      match x with
      | (id, d) =>
        if targets.contains id = true then do pure (id, ← merge d body) else (pure (id, d) : R _)) =
      mergeStep targets body := by
    funext ⟨id, d⟩
    simp only [mergeStep]
    split
    · cases merge d body <;> rfl
    · rfl
  unfold mergeInto
  rw [hf]
  cases st.docs.mapM (mergeStep targets body) <;> rfl

/-- the per-document relation established by a successful `mergeInto` -/
def StepRel (targets : List String) (body : Val) (old new : String × Val) : Prop :=
  new.1 = old.1 ∧
    (if old.1 ∈ targets then merge old.2 body = .ok new.2 else new.2 = old.2)

theorem mergeStep_ok_iff (targets : List String) (body : Val) (old new : String × Val) :
    mergeStep targets body old = .ok new ↔ StepRel targets body old new := by
  obtain ⟨i, d⟩ := old
  obtain ⟨i', d'⟩ := new
  simp only [mergeStep, StepRel, List.contains_iff_mem]
  by_cases h : i ∈ targets
  · simp only [h, if_true]
    cases hm : merge d body with
    | error e => simp
    | ok v =>
      simp only [Except.ok.injEq, Prod.mk.injEq]
      constructor
      · rintro ⟨rfl, rfl⟩; exact ⟨rfl, rfl⟩
      · rintro ⟨rfl, rfl⟩; exact ⟨rfl, rfl⟩
  · simp only [h, if_false, Except.ok.injEq, Prod.mk.injEq]
    constructor
    · rintro ⟨rfl, rfl⟩; exact ⟨rfl, rfl⟩
    · rintro ⟨rfl, rfl⟩; exact ⟨rfl, rfl⟩

theorem mapM_mergeStep_ok_iff (targets : List String) (body : Val)
    (docs docs' : List (String × Val)) :
    docs.mapM (mergeStep targets body) = .ok docs' ↔
      Pointwise (StepRel targets body) docs docs' := by
  rw [mapM_ok_iff]
  have : (fun a b => mergeStep targets body a = .ok b) = StepRel targets body := by
    funext a b; exact propext (mergeStep_ok_iff targets body a b)
  rw [this]

theorem mergeInto_ok_iff (st st' : PState) (pid : String) (targets : List String) (body : Val) :
    mergeInto st pid targets body = .ok st' ↔
      Pointwise (StepRel targets body) st.docs st'.docs ∧
        st'.known = addParents st.known pid targets := by
  rw [mergeInto_eq, ← mapM_mergeStep_ok_iff]
  cases h : st.docs.mapM (mergeStep targets body) with
  | error e => simp
  | ok docs =>
    obtain ⟨d', k'⟩ := st'
    simp only [Except.ok.injEq, PState.mk.injEq]
    constructor
    · rintro ⟨rfl, rfl⟩; exact ⟨rfl, rfl⟩
    · rintro ⟨rfl, rfl⟩; exact ⟨rfl, rfl⟩

/-- the (total) function computed by a successful pass: data of a failed merge left as is -/
def stepFun (targets : List String) (body : Val) (p : String × Val) : String × Val :=
  (p.1, if p.1 ∈ targets then (match merge p.2 body with | .ok v => v | .error _ => p.2) else p.2)

theorem stepRel_stepFun {targets : List String} {body : Val} {a b : String × Val}
    (h : StepRel targets body a b) : b = stepFun targets body a := by
  obtain ⟨i, d⟩ := a
  obtain ⟨i', d'⟩ := b
  obtain ⟨e, r⟩ := h
  simp only at e r
  subst e
  simp only [stepFun]
  by_cases h : i' ∈ targets
  · rw [if_pos h] at r; rw [if_pos h, r]
  · rw [if_neg h] at r; rw [if_neg h, r]

theorem stepRel_functional {targets : List String} {body : Val} {a b1 b2 : String × Val}
    (h1 : StepRel targets body a b1) (h2 : StepRel targets body a b2) : b1 = b2 :=
  (stepRel_stepFun h1).trans (stepRel_stepFun h2).symm

theorem stepRel_of_ok {targets : List String} {body : Val} {a : String × Val}
    (h : a.1 ∈ targets → ∃ v, merge a.2 body = .ok v) :
    StepRel targets body a (stepFun targets body a) := by
  refine ⟨rfl, ?_⟩
  simp only [stepFun]
  by_cases ht : a.1 ∈ targets
  · obtain ⟨v, hv⟩ := h ht
    rw [if_pos ht, if_pos ht, hv]
  · rw [if_neg ht, if_neg ht]

theorem mergeInto_ok_iff_map (st st' : PState) (pid : String) (targets : List String) (body : Val) :
    mergeInto st pid targets body = .ok st' ↔
      (∀ p ∈ st.docs, p.1 ∈ targets → ∃ v, merge p.2 body = .ok v) ∧
        st' = ⟨st.docs.map (stepFun targets body), addParents st.known pid targets⟩ := by
  rw [mergeInto_ok_iff]
  constructor
  · rintro ⟨hf, hk⟩
    refine ⟨fun p hp ht => ?_, by rw [← hf.eq_map fun _ _ _ => stepRel_stepFun, ← hk]⟩
    obtain ⟨b, _, _, hr⟩ := Pointwise.mem_left hf hp
    rw [if_pos ht] at hr
    exact ⟨b.2, hr⟩
  · rintro ⟨h, rfl⟩
    exact ⟨.map_right fun p hp => stepRel_of_ok (h p hp), rfl⟩

theorem mergeStep_error_iff (targets : List String) (body : Val) (p : String × Val) (e : Err) :
    mergeStep targets body p = .error e ↔ p.1 ∈ targets ∧ merge p.2 body = .error e := by
  simp only [mergeStep, List.contains_iff_mem]
  by_cases h : p.1 ∈ targets
  · simp only [h, if_true, true_and]
    cases merge p.2 body <;> simp
  · simp [h]

theorem mergeStep_isOk_iff (targets : List String) (body : Val) (p : String × Val) :
    (∃ y, mergeStep targets body p = .ok y) ↔ (p.1 ∈ targets → ∃ v, merge p.2 body = .ok v) := by
  simp only [mergeStep, List.contains_iff_mem]
  by_cases h : p.1 ∈ targets
  · simp only [h, if_true, true_implies]
    cases merge p.2 body <;> simp
  · simp [h]

theorem mergeInto_error_iff (st : PState) (pid : String) (targets : List String) (body : Val)
    (e : Err) :
    mergeInto st pid targets body = .error e ↔
      st.docs.mapM (mergeStep targets body) = .error e := by
  rw [mergeInto_eq]
  cases st.docs.mapM (mergeStep targets body) <;> simp

theorem contains_parentsOf (st : PState) (direct : List String) {d : String × Val}
    (hd : d ∈ st.docs) :
    (parentsOf st direct).contains d.1 =
      (allParents st.known (st.known.length + 1) direct).contains d.1 := by
  rw [Bool.eq_iff_iff, List.contains_iff_mem, List.contains_iff_mem]
  unfold parentsOf
  simp only [List.mem_map, List.mem_filter, List.contains_iff_mem]
  constructor
  · rintro ⟨d', ⟨_, h⟩, he⟩
    rw [← he]; exact h
  · intro h
    exact ⟨d, ⟨hd, h⟩, rfl⟩

/-- `parentsOf` looks at the ids of the documents and at the parent table only -/
theorem parentsOf_eq_filter_ids (st : PState) (direct : List String) :
    parentsOf st direct = (st.docs.map (·.1)).filter fun id =>
      (allParents st.known (st.known.length + 1) direct).contains id := by
  rw [List.filter_map]
  rfl

theorem findMatches_eq (st : PState) (direct : List String) (pat : Val) :
    findMatches st direct pat =
      let anc := allParents st.known (st.known.length + 1) direct
      let m1 := (st.docs.filter fun d => anc.contains d.1 && matchV d.2 pat).map (·.1)
      if m1 ≠ [] then m1 else (st.docs.filter fun d => matchV d.2 pat).map (·.1) := by
  unfold findMatches
  have h : (st.docs.filter fun d => (parentsOf st direct).contains d.1 && matchV d.2 pat) =
      (st.docs.filter fun d =>
        (allParents st.known (st.known.length + 1) direct).contains d.1 && matchV d.2 pat) :=
    List.filter_congr (fun d hd => by rw [contains_parentsOf st direct hd])
  simp only [h]
  cases hm : (List.map (fun x => x.fst) (List.filter (fun d =>
      (allParents st.known (st.known.length + 1) direct).contains d.1 && matchV d.2 pat) st.docs)) with
  | nil => simp
  | cons a l => simp

/-! ## `allParents` computes the reflexive-transitive closure of the recorded parent links

  Neither the closure nor its fuel depends on how the links are stored, so both are stated for a
  successor function `next`; the table enters through `lookupParents known` at the end. -/

section closure
variable {α : Type}

/-- `allParents` over any successor function -/
def closure (next : α → List α) : Nat → List α → List α
  | 0, D => D
  | n + 1, D => D ++ D.flatMap fun p => closure next n (next p)

/-- `x` is in `D` or reachable from `D` along `next` -/
inductive Reach (next : α → List α) (D : List α) : α → Prop
  | direct {x : α} : x ∈ D → Reach next D x
  | step {p x : α} : Reach next D p → x ∈ next p → Reach next D x

variable {next next' : α → List α} {D : List α} {x : α}

theorem Reach.mono (hk : ∀ q y, y ∈ next q → y ∈ next' q) (h : Reach next D x) :
    Reach next' D x := by
  induction h with
  | direct hx => exact .direct hx
  | step _ hx ih => exact .step ih (hk _ _ hx)

theorem Reach.closed (P : α → Prop) (hD : ∀ d ∈ D, P d) (hstep : ∀ p, P p → ∀ x ∈ next p, P x)
    (h : Reach next D x) : P x := by
  induction h with
  | direct hx => exact hD _ hx
  | step _ hx ih => exact hstep _ ih _ hx

theorem Reach.of_next {p : α} (hp : p ∈ D) (h : Reach next (next p) x) : Reach next D x := by
  induction h with
  | direct hx => exact .step (.direct hp) hx
  | step _ hx ih => exact .step ih hx

theorem Reach.front (h : Reach next D x) : x ∈ D ∨ ∃ d, d ∈ D ∧ Reach next (next d) x := by
  induction h with
  | direct hx => exact .inl hx
  | @step p x _ hx ih =>
    rcases ih with hp | ⟨d, hd, hr⟩
    · exact .inr ⟨p, hp, .direct hx⟩
    · exact .inr ⟨d, hd, .step hr hx⟩

theorem reach_of_mem_closure {n : Nat} (h : x ∈ closure next n D) : Reach next D x := by
  induction n generalizing D x with
  | zero => exact .direct h
  | succ n ih =>
    rcases List.mem_append.1 h with h | h
    · exact .direct h
    · obtain ⟨p, hp, hx⟩ := List.mem_flatMap.1 h
      exact (ih hx).of_next hp

theorem closure_mono (hk : ∀ q y, y ∈ next q → y ∈ next' q) (n : Nat) :
    ∀ D D', (∀ y ∈ D, y ∈ D') → x ∈ closure next n D → x ∈ closure next' n D' := by
  induction n generalizing x with
  | zero => exact fun D D' hD h => hD x h
  | succ n ih =>
    intro D D' hD h
    rcases List.mem_append.1 h with h | h
    · exact List.mem_append_left _ (hD x h)
    · obtain ⟨p, hp, hx⟩ := List.mem_flatMap.1 h
      exact List.mem_append_right _ (List.mem_flatMap.2 ⟨p, hD p hp, ih _ _ (hk p) hx⟩)

variable [DecidableEq α]

/-- `next` without the links out of `a` -/
def cutAt (next : α → List α) (a : α) (p : α) : List α := if p = a then [] else next p

/-- a path need not pass through `a` twice: what is reachable from `D` is reachable without the
    links out of `a`, from `D` or from the successors of `a` -/
theorem Reach.cut (a : α) (h : Reach next D x) :
    Reach (cutAt next a) D x ∨ Reach (cutAt next a) (next a) x := by
  induction h with
  | direct hx => exact .inl (.direct hx)
  | @step p x _ hx ih =>
    by_cases hpa : p = a
    · exact .inr (.direct (hpa ▸ hx))
    · have hx' : x ∈ cutAt next a p := by rw [cutAt, if_neg hpa]; exact hx
      exact ih.imp (.step · hx') (.step · hx')

/-- Fuel: one more than the number of `keys` that have successors at all.  After its first step,
    out of `d`, a path need not pass through `d` again (`Reach.cut`), so the rest is a path for the
    successor function without `d`'s links, which has one key less. -/
theorem mem_closure_of_reach : ∀ (n : Nat) (keys : List α) (next : α → List α), keys.length < n →
    (∀ p, next p ≠ [] → p ∈ keys) → ∀ {D : List α} {x : α}, Reach next D x →
      x ∈ closure next n D := by
  intro n
  induction n with
  | zero => exact fun _ _ hn => absurd hn (Nat.not_lt_zero _)
  | succ n ih =>
    intro keys next hn hkeys D x h
    rcases h.front with hx | ⟨d, hd, hr⟩
    · exact List.mem_append_left _ hx
    · refine List.mem_append_right _ (List.mem_flatMap.2 ⟨d, hd, ?_⟩)
      have hdk : d ∈ keys := hkeys d fun e => by
        rw [e] at hr
        exact hr.closed (fun _ => False) (fun _ h => List.not_mem_nil h) (fun _ h _ _ => h)
      refine closure_mono (next := cutAt next d) (fun q y hy => ?_) n _ _ (fun _ h => h)
        (ih (keys.erase d) (cutAt next d) ?_ (fun p hp => ?_) ((hr.cut d).elim id id))
      · rw [cutAt] at hy; split at hy
        · cases hy
        · exact hy
      · rw [List.length_erase_of_mem hdk]
        have := List.length_pos_of_mem hdk
        omega
      · rw [cutAt] at hp
        split at hp
        · exact absurd rfl hp
        · rename_i hpd; exact (List.mem_erase_of_ne hpd).2 (hkeys p hp)

end closure

theorem allParents_eq_closure (known : List (String × List String)) : ∀ (fuel : Nat)
    (direct : List String), allParents known fuel direct = closure (lookupParents known) fuel direct
  | 0, _ => rfl
  | n + 1, D => by
    rw [allParents, closure]
    exact congrArg (fun f => D ++ D.flatMap f) (funext fun p => allParents_eq_closure known n _)

/-- `x` is `direct` or reachable from `direct` along recorded parent links: `Reach` over the parent
    table, so `.direct` and `.step` build it and the `Reach` lemmas apply as they stand -/
abbrev Ancestor (known : List (String × List String)) (direct : List String) (x : String) : Prop :=
  Reach (lookupParents known) direct x

theorem ancestor_of_mem_allParents {known : List (String × List String)} {fuel : Nat}
    {direct : List String} {x : String} (h : x ∈ allParents known fuel direct) :
    Ancestor known direct x :=
  reach_of_mem_closure (allParents_eq_closure known fuel direct ▸ h)

theorem lookupParents_of_not_key (known : List (String × List String)) (a : String)
    (h : known.any (·.1 == a) = false) : lookupParents known a = [] := by
  unfold lookupParents
  have : known.find? (·.1 == a) = none := by
    rw [List.find?_eq_none]
    intro e he
    have := List.any_eq_false.1 h e he
    simpa using this
  rw [this]

theorem mem_allParents_iff_ancestor (known : List (String × List String)) (direct : List String)
    (x : String) :
    x ∈ allParents known (known.length + 1) direct ↔ Ancestor known direct x := by
  rw [allParents_eq_closure]
  refine ⟨reach_of_mem_closure, mem_closure_of_reach _ (known.map (·.1)) _ (by simp) fun p hp => ?_⟩
  cases hk : known.any (·.1 == p) with
  | false => exact absurd (lookupParents_of_not_key known p hk) hp
  | true =>
    obtain ⟨e, he, hep⟩ := List.any_eq_true.1 hk
    exact List.mem_map.2 ⟨e, he, beq_iff_eq.1 hep⟩

/-! ## the parent table: `lookupParents` after `addParents` and after appended entries -/

/-- the `map` branch of `addParents` -/
def bumpParents (id : String) (ps : List String) (known : List (String × List String)) :
    List (String × List String) :=
  known.map fun (i, old) => if i == id then (i, old ++ ps) else (i, old)

theorem addParents_eq (known : List (String × List String)) (id : String) (ps : List String) :
    addParents known id ps =
      if known.any (·.1 == id) then bumpParents id ps known else known ++ [(id, ps)] := rfl

/-- the keys of the table stay -/
theorem any_key_bumpParents (id q : String) (ps : List String) (known : List (String × List String)) :
    (bumpParents id ps known).any (·.1 == q) = known.any (·.1 == q) := by
  induction known with
  | nil => rfl
  | cons e l ih =>
    show ((if (e.1 == id) = true then (e.1, e.2 ++ ps) else (e.1, e.2)).1 == q ||
      (bumpParents id ps l).any (·.1 == q)) = _
    rw [ih, List.any_cons]
    split <;> rfl

theorem addParents_any_self (known : List (String × List String)) (id : String)
    (ps : List String) : (addParents known id ps).any (·.1 == id) = true := by
  rw [addParents_eq]
  split
  · rwa [any_key_bumpParents]
  · rw [List.any_append, List.any_cons, beq_self_eq_true, Bool.true_or, Bool.or_true]

theorem bumpParents_nil (id : String) (known : List (String × List String)) :
    bumpParents id [] known = known := by
  induction known with
  | nil => rfl
  | cons e l ih =>
    show (if (e.1 == id) = true then (e.1, e.2 ++ []) else (e.1, e.2)) :: bumpParents id [] l = e :: l
    rw [ih, List.append_nil, ite_self]

theorem addParents_nil_of_any (known : List (String × List String)) (id : String)
    (h : known.any (·.1 == id) = true) : addParents known id [] = known := by
  rw [addParents_eq, if_pos h, bumpParents_nil]

theorem addParents_fresh (known : List (String × List String)) (id : String) (ps : List String)
    (h : known.any (·.1 == id) = false) : addParents known id ps = known ++ [(id, ps)] := by
  rw [addParents_eq, h]
  rfl

theorem bumpParents_of_not_key (id : String) (ts : List String)
    (known : List (String × List String)) (h : known.any (·.1 == id) = false) :
    bumpParents id ts known = known := by
  induction known with
  | nil => rfl
  | cons e l ih =>
    rw [List.any_cons, Bool.or_eq_false_iff] at h
    show (if (e.1 == id) = true then (e.1, e.2 ++ ts) else (e.1, e.2)) :: bumpParents id ts l = e :: l
    rw [if_neg (by rw [h.1]; exact Bool.false_ne_true), ih h.2]

/-- a fresh key: registering its parents and then what it was layered onto adds one entry -/
theorem addParents_fresh2 (known : List (String × List String)) (id : String)
    (ps ts : List String) (h : known.any (·.1 == id) = false) :
    addParents (addParents known id ps) id ts = known ++ [(id, ps ++ ts)] := by
  have hkey : (known ++ [(id, ps)]).any (·.1 == id) = true := by
    rw [List.any_append, h, List.any_cons, beq_self_eq_true]; rfl
  rw [addParents_fresh _ _ _ h, addParents_eq, if_pos hkey,
    show bumpParents id ts (known ++ [(id, ps)]) =
      bumpParents id ts known ++ bumpParents id ts [(id, ps)] from List.map_append,
    bumpParents_of_not_key id ts known h]
  show known ++ [if (id == id) = true then (id, ps ++ ts) else (id, ps)] = _
  rw [if_pos (beq_self_eq_true id)]
theorem any_key_append_fresh (known : List (String × List String)) (e : String × List String)
    (q : String) (h : known.any (·.1 == q) = false) (hq : e.1 ≠ q) :
    (known ++ [e]).any (·.1 == q) = false := by
  rw [List.any_append, h]
  simp [hq]

theorem lookupParents_cons (i : String) (old : List String) (l : List (String × List String))
    (q : String) :
    lookupParents ((i, old) :: l) q = if i = q then old else lookupParents l q := by
  unfold lookupParents
  rw [List.find?_cons]
  by_cases h : i = q
  · rw [if_pos h, beq_iff_eq.2 h]
  · rw [if_neg h, beq_eq_false_iff_ne.2 h]

theorem lookupParents_append (known L : List (String × List String)) (q : String) :
    lookupParents (known ++ L) q =
      if known.any (·.1 == q) then lookupParents known q else lookupParents L q := by
  unfold lookupParents
  rw [List.find?_append]
  cases h : known.find? (·.1 == q) with
  | some e =>
    rw [if_pos (List.any_eq_true.2 ⟨e, List.mem_of_find?_eq_some h, List.find?_some h⟩)]; rfl
  | none =>
    rw [if_neg (by rw [List.any_eq_false.2 (List.find?_eq_none.1 h)]; exact Bool.false_ne_true)]
    rfl

theorem mem_lookupParents_append (known L : List (String × List String)) (q x : String)
    (hx : x ∈ lookupParents known q) : x ∈ lookupParents (known ++ L) q := by
  rw [lookupParents_append]
  cases h : known.any (·.1 == q) with
  | true => exact hx
  | false => rw [lookupParents_of_not_key known q h] at hx; cases hx

theorem lookupParents_bump (id q : String) (ps : List String) (known : List (String × List String)) :
    lookupParents (bumpParents id ps known) q =
      if q = id ∧ known.any (·.1 == id) = true then lookupParents known q ++ ps
      else lookupParents known q := by
  induction known with
  | nil => rw [if_neg (fun h => nomatch h.2)]; rfl
  | cons e l ih =>
    obtain ⟨i, old⟩ := e
    show lookupParents ((if (i == id) = true then (i, old ++ ps) else (i, old)) :: bumpParents id ps l) q = _
    by_cases hi : i = id
    · subst hi
      rw [if_pos (beq_self_eq_true i), lookupParents_cons, lookupParents_cons]
      by_cases hq : i = q
      · subst hq
        rw [if_pos rfl, if_pos rfl, if_pos ⟨rfl, by rw [List.any_cons, beq_self_eq_true]; rfl⟩]
      · rw [if_neg hq, if_neg hq, ih, if_neg (fun h => hq h.1.symm), if_neg (fun h => hq h.1.symm)]
    · rw [if_neg (fun h => hi (beq_iff_eq.1 h)), lookupParents_cons, lookupParents_cons]
      by_cases hq : i = q
      · rw [if_pos hq, if_pos hq, if_neg (fun h => hi (hq.trans h.1))]
      · rw [if_neg hq, if_neg hq, ih, List.any_cons, beq_eq_false_iff_ne.2 hi, Bool.false_or]

theorem lookupParents_addParents (known : List (String × List String)) (id q : String)
    (ps : List String) :
    lookupParents (addParents known id ps) q =
      if q = id then lookupParents known id ++ ps else lookupParents known q := by
  rw [addParents_eq]
  cases hany : known.any (·.1 == id) with
  | true =>
    rw [if_pos rfl, lookupParents_bump, hany]
    by_cases hq : q = id
    · rw [if_pos ⟨hq, rfl⟩, if_pos hq, hq]
    · rw [if_neg (fun h => hq h.1), if_neg hq]
  | false =>
    rw [if_neg Bool.false_ne_true, lookupParents_append]
    by_cases hq : q = id
    · rw [hq, hany, if_neg Bool.false_ne_true, if_pos rfl, lookupParents_cons, if_pos rfl,
        lookupParents_of_not_key known id hany]
      rfl
    · rw [if_neg hq]
      cases hk : known.any (·.1 == q) with
      | true => rfl
      | false =>
        rw [if_neg Bool.false_ne_true, lookupParents_cons, if_neg (fun e => hq e.symm),
          lookupParents_of_not_key known q hk]
        rfl

theorem lookupParents_addParents_ne (known : List (String × List String)) (id q : String)
    (ps : List String) (h : q ≠ id) :
    lookupParents (addParents known id ps) q = lookupParents known q := by
  rw [lookupParents_addParents, if_neg h]

theorem mem_lookupParents_addParents (known : List (String × List String)) (id q : String)
    (ps : List String) (x : String) (hx : x ∈ lookupParents known q) :
    x ∈ lookupParents (addParents known id ps) q := by
  rw [lookupParents_addParents]
  by_cases hq : q = id
  · rw [if_pos hq]; exact List.mem_append_left _ (hq ▸ hx)
  · rw [if_neg hq]; exact hx

theorem lookupParents_map_key (f : String → List String) (q : String) (ids : List String)
    (h : q ∈ ids) : lookupParents (ids.map fun i => (i, f i)) q = f q := by
  induction ids with
  | nil => cases h
  | cons i l ih =>
    rw [List.map_cons, lookupParents_cons]
    by_cases hi : i = q
    · rw [if_pos hi, hi]
    · rw [if_neg hi]
      exact ih ((List.mem_cons.1 h).resolve_left fun e => hi e.symm)

theorem lookupParents_map_nil (ids : List String) (q : String) :
    lookupParents (ids.map (fun i => (i, ([] : List String)))) q = [] := by
  by_cases h : q ∈ ids
  · exact lookupParents_map_key (fun _ => []) q ids h
  · exact lookupParents_of_not_key _ q (any_key_map ids (fun _ => []) q h)

/-- a stream of patches applied one after the other (`Parser.MergeDocument` in a loop) -/
def runMerges (st : PState) (ps : List Doc) : R PState := ps.foldlM mergeDocument st

theorem runMerges_nil (st : PState) : runMerges st [] = .ok st := rfl

theorem runMerges_cons (st : PState) (p : Doc) (ps : List Doc) :
    runMerges st (p :: ps) =
      match mergeDocument st p with
      | .error e => .error e
      | .ok st' => runMerges st' ps := by
  unfold runMerges
  rw [List.foldlM_cons]
  cases mergeDocument st p <;> rfl

theorem runMerges_one (st : PState) (p : Doc) : runMerges st [p] = mergeDocument st p := by
  rw [runMerges_cons]
  cases mergeDocument st p <;> rfl

theorem runMerges_append (st : PState) (ds₁ ds₂ : List Doc) :
    runMerges st (ds₁ ++ ds₂) =
      match runMerges st ds₁ with
      | .error e => .error e
      | .ok st' => runMerges st' ds₂ := by
  unfold runMerges
  rw [List.foldlM_append]
  cases List.foldlM mergeDocument st ds₁ <;> rfl

theorem runMerges_induct (P : PState → Prop) (ds : List Doc) {st st' : PState}
    (hstep : ∀ c ∈ ds, ∀ s s', P s → mergeDocument s c = .ok s' → P s') (h0 : P st)
    (h : runMerges st ds = .ok st') : P st' :=
  foldlM_inv P mergeDocument ds st st' h0 (fun s c s' hc hs hm => hstep c hc s s' hs hm) h

theorem append_matchnull_ne (s : String) : s ++ "|matchnull" ≠ s := fun h =>
  nomatch (String.append_right_inj s).1 (h.trans String.append_empty.symm)

/-- `s` does not end in the suffix the parser gives the document it appends for `$match: null`: an
    id like that (every id the loader assigns, `noMN_docId`) never collides with such a document's -/
def NoMN (s : String) : Prop := ∀ t, s ≠ t ++ "|matchnull"

end Bkl
