/-
  BklProofs.Lemmas.ValInduction — induction over a value, and the companions of a function on values.
  `Val` is a nested inductive type: a function on values is defined by mutual structural recursion
  together with a companion on `List Val` and one on `Fields`.  `Val.induction₃` proves a statement
  about the three together from the recursors; `Val.induction_mem` is induction on the value alone,
  the hypothesis speaking of the entries of a list and the values of a map.  The companions are
  `List.all` / `any` / `map` / a maximum / a sequence of checks of the function over the entries: `all_of_eqns`
  and its neighbours read that off the two defining equations, so that a statement proved by
  `Val.induction_mem` gives the companions' statements as its instances at every entry.
  Before them, what is said of a value alone: `isNull` is equality with `null`, an entry is smaller than its container, `toStr`.
-/
import Bkl.Val
namespace Bkl

theorem Val.induction₃ {P : Val → Prop} {PL : List Val → Prop} {PF : Fields → Prop}
    (null : P .null) (bool : ∀ b, P (.bool b)) (int : ∀ i, P (.int i)) (flt : ∀ r, P (.flt r))
    (str : ∀ s, P (.str s))
    (list : ∀ xs, PL xs → P (.list xs)) (map : ∀ kvs, PF kvs → P (.map kvs))
    (lnil : PL []) (lcons : ∀ x xs, P x → PL xs → PL (x :: xs))
    (fnil : PF []) (fcons : ∀ k v rest, P v → PF rest → PF ((k, v) :: rest)) :
    (∀ v, P v) ∧ (∀ xs, PL xs) ∧ (∀ kvs, PF kvs) :=
  ⟨Val.rec (motive_1 := P) (motive_2 := PL) (motive_3 := PF) (motive_4 := fun p => P p.2)
      null bool int flt str list map lnil lcons fnil (fun _ _ => fcons _ _ _) (fun _ _ h => h),
   Val.rec_1 (motive_1 := P) (motive_2 := PL) (motive_3 := PF) (motive_4 := fun p => P p.2)
      null bool int flt str list map lnil lcons fnil (fun _ _ => fcons _ _ _) (fun _ _ h => h),
   Val.rec_2 (motive_1 := P) (motive_2 := PL) (motive_3 := PF) (motive_4 := fun p => P p.2)
      null bool int flt str list map lnil lcons fnil (fun _ _ => fcons _ _ _) (fun _ _ h => h)⟩

theorem Val.induction_mem {P : Val → Prop}
    (null : P .null) (bool : ∀ b, P (.bool b)) (int : ∀ i, P (.int i)) (flt : ∀ r, P (.flt r))
    (str : ∀ s, P (.str s))
    (list : ∀ xs, (∀ x ∈ xs, P x) → P (.list xs))
    (map : ∀ kvs, (∀ p ∈ kvs, P p.2) → P (.map kvs)) : ∀ v, P v :=
  (Val.induction₃ (PL := fun xs => ∀ x ∈ xs, P x) (PF := fun kvs => ∀ p ∈ kvs, P p.2)
    null bool int flt str list map (fun _ h => nomatch h)
    (fun _ _ hx hxs y hy => (List.mem_cons.1 hy).elim (· ▸ hx) (hxs y)) (fun _ h => nomatch h)
    (fun _ _ _ hv hr p hp => (List.mem_cons.1 hp).elim (· ▸ hv) (hr p))).1

/-- the same with one case for everything that is neither a list nor a map -/
theorem Val.induction₃_atom {P : Val → Prop} {PL : List Val → Prop} {PF : Fields → Prop}
    (scalar : ∀ v, v.isMap = false → v.isList = false → P v)
    (list : ∀ xs, PL xs → P (.list xs)) (map : ∀ kvs, PF kvs → P (.map kvs))
    (lnil : PL []) (lcons : ∀ x xs, P x → PL xs → PL (x :: xs))
    (fnil : PF []) (fcons : ∀ k v rest, P v → PF rest → PF ((k, v) :: rest)) :
    (∀ v, P v) ∧ (∀ xs, PL xs) ∧ (∀ kvs, PF kvs) :=
  Val.induction₃ (scalar _ rfl rfl) (fun _ => scalar _ rfl rfl) (fun _ => scalar _ rfl rfl)
    (fun _ => scalar _ rfl rfl) (fun _ => scalar _ rfl rfl) list map lnil lcons fnil fcons

theorem Val.induction_mem_atom {P : Val → Prop}
    (scalar : ∀ v, v.isMap = false → v.isList = false → P v)
    (list : ∀ l, (∀ x ∈ l, P x) → P (.list l))
    (map : ∀ m, (∀ p ∈ m, P p.2) → P (.map m)) : ∀ v, P v :=
  Val.induction_mem (scalar _ rfl rfl) (fun _ => scalar _ rfl rfl) (fun _ => scalar _ rfl rfl)
    (fun _ => scalar _ rfl rfl) (fun _ => scalar _ rfl rfl) list map

/-! ## kinds of values -/

theorem isNull_null : Val.null.isNull = true := rfl

theorem isNull_iff {v : Val} : v.isNull = true ↔ v = .null := by
  cases v <;> simp [Val.isNull]

theorem isNull_eq_false_iff {v : Val} : v.isNull = false ↔ v ≠ .null := by
  rw [← Bool.not_eq_true, isNull_iff]

theorem Val.isNull_of_ne {v : Val} (h : v ≠ .null) : v.isNull = false :=
  isNull_eq_false_iff.2 h

/-! ## the size of an entry, `toStr` -/

theorem sizeOf_lt_of_mem_fields {m : Fields} {k : String} {v : Val} (h : (k, v) ∈ m) :
    sizeOf v < sizeOf (Val.map m) := by
  have := List.sizeOf_lt_of_mem h
  simp at this ⊢; omega

theorem sizeOf_lt_list_of_mem {s : List Val} {x : Val} (h : x ∈ s) :
    sizeOf x < sizeOf (Val.list s) := by
  have := List.sizeOf_lt_of_mem h
  simp; omega

theorem toStr_eq_delete_iff {v : Val} : v.toStr = "$delete" ↔ v = .str "$delete" := by
  cases v with
  | str s => exact ⟨congrArg Val.str, fun h => by cases h; rfl⟩
  | _ =>
    constructor
    · intro h; exact absurd (show ("" : String) = "$delete" from h) (by decide)
    · intro h; cases h

/-! ## a function given by its two equations is the list combinator -/

section
variable {α β : Type}

theorem all_of_eqns {p : α → Bool} {g : List α → Bool} (hnil : g [] = true)
    (hcons : ∀ a l, g (a :: l) = (p a && g l)) {l : List α} : g l = true ↔ ∀ a ∈ l, p a = true := by
  induction l with
  | nil => exact ⟨fun _ _ => nofun, fun _ => hnil⟩
  | cons a l ih => rw [hcons, Bool.and_eq_true, ih, List.forall_mem_cons]

/-- the same for a companion that is a conjunction of propositions -/
theorem forall_of_eqns {p : α → Prop} {g : List α → Prop} (hnil : g [] = True)
    (hcons : ∀ a l, g (a :: l) = (p a ∧ g l)) {l : List α} : g l ↔ ∀ a ∈ l, p a := by
  induction l with
  | nil => exact ⟨fun _ _ => nofun, fun _ => hnil ▸ trivial⟩
  | cons a l ih => rw [hcons, ih, List.forall_mem_cons]

theorem any_of_eqns {p : α → Bool} {g : List α → Bool} (hnil : g [] = false)
    (hcons : ∀ a l, g (a :: l) = (p a || g l)) {l : List α} : g l = false ↔ ∀ a ∈ l, p a = false := by
  induction l with
  | nil => exact ⟨fun _ _ => nofun, fun _ => hnil⟩
  | cons a l ih => rw [hcons, Bool.or_eq_false_iff, ih, List.forall_mem_cons]

theorem max_of_eqns {f : α → Nat} {g : List α → Nat} (hnil : g [] = 0)
    (hcons : ∀ a l, g (a :: l) = max (f a) (g l)) {l : List α} {n : Nat} :
    g l ≤ n ↔ ∀ a ∈ l, f a ≤ n := by
  induction l with
  | nil => exact ⟨fun _ _ => nofun, fun _ => hnil ▸ Nat.zero_le n⟩
  | cons a l ih => rw [hcons, Nat.max_le, ih, List.forall_mem_cons]

theorem map_of_eqns {f : α → β} {g : List α → List β} (hnil : g [] = [])
    (hcons : ∀ a l, g (a :: l) = f a :: g l) (l : List α) : g l = l.map f := by
  induction l with
  | nil => exact hnil
  | cons a l ih => rw [hcons, ih, List.map_cons]

/-- entries satisfying `c` are dropped, the others mapped -/
theorem filter_map_of_eqns {c : α → Bool} {f : α → β} {g : List α → List β} (hnil : g [] = [])
    (hcons : ∀ a l, g (a :: l) = if c a then g l else f a :: g l) (l : List α) :
    g l = (l.filter fun a => !c a).map f := by
  induction l with
  | nil => exact hnil
  | cons a l ih => rw [hcons, ih, List.filter_cons]; cases c a <;> rfl

/-- a loop that runs a check on every entry -/
theorem forM_of_eqns {f : α → R Unit} {g : List α → R Unit} (hnil : g [] = pure ())
    (hcons : ∀ a l, g (a :: l) = (do f a; g l)) {l : List α} :
    g l = .ok () ↔ ∀ a ∈ l, f a = .ok () := by
  induction l with
  | nil => exact ⟨fun _ _ => nofun, fun _ => hnil⟩
  | cons a l ih =>
    rw [hcons, List.forall_mem_cons, ← ih]
    cases f a with
    | ok u => exact (and_iff_right rfl).symm
    | error e => exact ⟨nofun, fun h => nomatch h.1⟩

/-- … and fails only with an error of one of the checks -/
theorem forM_error_of_eqns {f : α → R Unit} {g : List α → R Unit} (hnil : g [] = pure ())
    (hcons : ∀ a l, g (a :: l) = (do f a; g l)) {l : List α} {e : Err} (h : g l = .error e) :
    ∃ a ∈ l, f a = .error e := by
  induction l with
  | nil => rw [hnil] at h; cases h
  | cons a l ih =>
    rw [hcons] at h
    cases hf : f a with
    | error e' => rw [hf] at h; exact ⟨a, List.mem_cons_self, hf.trans h⟩
    | ok u =>
      rw [hf] at h
      obtain ⟨b, hb, hfb⟩ := ih h
      exact ⟨b, List.mem_cons_of_mem _ hb, hfb⟩

end

end Bkl
