/-
  BklProofs.Lemmas.Tools — the input domain `plainVal` of C15 (bkld) and C16 (bkli); `Val.nullFree`,
  the domain of C16's maximality statements; `matchV` is reflexive on plain values.
-/
import BklProofs.Lemmas.Match
import BklProofs.Lemmas.Merge
namespace Bkl

/-! ## the input domain -/

/-- the string does not start with `$` (stated on `String.toList`) -/
def dollarFree (s : String) : Bool := decide (s.toList.head? ≠ some '$')

mutual
/-- no `.null` anywhere -/
def Val.nullFree : Val → Bool
  | .null => false
  | .bool _ => true
  | .int _ => true
  | .flt _ => true
  | .str _ => true
  | .list xs => Val.nullFreeList xs
  | .map kvs => Val.nullFreeFields kvs
def Val.nullFreeList : List Val → Bool
  | [] => true
  | x :: xs => Val.nullFree x && Val.nullFreeList xs
def Val.nullFreeFields : Fields → Bool
  | [] => true
  | (_, v) :: rest => Val.nullFree v && Val.nullFreeFields rest
end

mutual
/-- no map key and no string leaf starts with `$` -/
def Val.dollarFreeV : Val → Bool
  | .null => true
  | .bool _ => true
  | .int _ => true
  | .flt _ => true
  | .str s => dollarFree s
  | .list xs => Val.dollarFreeList xs
  | .map kvs => Val.dollarFreeFields kvs
def Val.dollarFreeList : List Val → Bool
  | [] => true
  | x :: xs => Val.dollarFreeV x && Val.dollarFreeList xs
def Val.dollarFreeFields : Fields → Bool
  | [] => true
  | (k, v) :: rest => dollarFree k && Val.dollarFreeV v && Val.dollarFreeFields rest
end

/-- the input domain of C15/C16: well-formed, null-free, `$`-free -/
def plainVal (v : Val) : Bool := v.wfB && v.nullFree && v.dollarFreeV

theorem nullFreeList_iff {l : List Val} :
    Val.nullFreeList l = true ↔ ∀ x ∈ l, x.nullFree = true :=
  all_of_eqns Val.nullFreeList.eq_1 Val.nullFreeList.eq_2

theorem nullFreeFields_iff {m : Fields} :
    Val.nullFreeFields m = true ↔ ∀ p ∈ m, p.2.nullFree = true :=
  all_of_eqns Val.nullFreeFields.eq_1 fun p l => Val.nullFreeFields.eq_2 p.1 p.2 l

theorem nullFree_list_iff {l : List Val} :
    (Val.list l).nullFree = true ↔ ∀ x ∈ l, x.nullFree = true := by
  rw [Val.nullFree, nullFreeList_iff]

theorem nullFree_map_iff {m : Fields} :
    (Val.map m).nullFree = true ↔ ∀ p ∈ m, p.2.nullFree = true := by
  rw [Val.nullFree, nullFreeFields_iff]

theorem nullFree_isNull {v : Val} (h : v.nullFree = true) : v.isNull = false := by
  cases v <;> simp_all [Val.nullFree, Val.isNull]

theorem nullFree_ne_null {v : Val} (h : v.nullFree = true) : v ≠ .null :=
  isNull_eq_false_iff.1 (nullFree_isNull h)

theorem dollarFreeList_iff {l : List Val} :
    Val.dollarFreeList l = true ↔ ∀ x ∈ l, x.dollarFreeV = true :=
  all_of_eqns Val.dollarFreeList.eq_1 Val.dollarFreeList.eq_2

theorem dollarFreeFields_iff {m : Fields} :
    Val.dollarFreeFields m = true ↔ ∀ p ∈ m, dollarFree p.1 = true ∧ p.2.dollarFreeV = true :=
  (all_of_eqns Val.dollarFreeFields.eq_1 fun p l => Val.dollarFreeFields.eq_2 p.1 p.2 l).trans
    (forall₂_congr fun _ _ => Bool.and_eq_true_iff)

theorem plainVal_iff {v : Val} :
    plainVal v = true ↔ Val.WF v ∧ v.nullFree = true ∧ v.dollarFreeV = true := by
  simp [plainVal, Val.WF, and_assoc]

theorem plainVal_list_iff {l : List Val} :
    plainVal (.list l) = true ↔ ∀ x ∈ l, plainVal x = true := by
  simp only [plainVal_iff, wf_list_iff, nullFree_list_iff, Val.dollarFreeV, dollarFreeList_iff]
  constructor
  · rintro ⟨h1, h2, h3⟩ x hx; exact ⟨h1 x hx, h2 x hx, h3 x hx⟩
  · intro h
    exact ⟨fun x hx => (h x hx).1, fun x hx => (h x hx).2.1, fun x hx => (h x hx).2.2⟩

theorem plainVal_map_iff {m : Fields} :
    plainVal (.map m) = true ↔
      Fields.SortedKeys m ∧ ∀ p ∈ m, dollarFree p.1 = true ∧ plainVal p.2 = true := by
  simp only [plainVal_iff, wf_map_iff, nullFree_map_iff, Val.dollarFreeV, dollarFreeFields_iff]
  constructor
  · rintro ⟨⟨hs, h1⟩, h2, h3⟩
    exact ⟨hs, fun p hp => ⟨(h3 p hp).1, h1 p hp, h2 p hp, (h3 p hp).2⟩⟩
  · rintro ⟨hs, h⟩
    exact ⟨⟨hs, fun p hp => (h p hp).2.1⟩, fun p hp => (h p hp).2.2.1,
      fun p hp => ⟨(h p hp).1, (h p hp).2.2.2⟩⟩

theorem plainVal_wf {v : Val} (h : plainVal v = true) : Val.WF v := (plainVal_iff.1 h).1

theorem plainVal_nullFree {v : Val} (h : plainVal v = true) : v.nullFree = true :=
  (plainVal_iff.1 h).2.1

theorem plainVal_sorted {m : Fields} (h : plainVal (.map m) = true) : Fields.SortedKeys m :=
  (plainVal_map_iff.1 h).1

theorem plainVal_of_fget {m : Fields} {k : String} {v : Val} (h : plainVal (.map m) = true)
    (hg : fget m k = some v) : plainVal v = true :=
  ((plainVal_map_iff.1 h).2 _ (fget_mem hg)).2

theorem dollarFree_ne {k s : String} (hk : dollarFree k = true) (hs : dollarFree s = false) :
    k ≠ s := by
  rintro rfl; rw [hk] at hs; cases hs

theorem plainVal_fget_dollar {m : Fields} {k : String} (h : plainVal (.map m) = true)
    (hk : dollarFree k = false) : fget m k = none :=
  fget_none_iff.2 fun p hp => dollarFree_ne ((plainVal_map_iff.1 h).2 p hp).1 hk

theorem plainVal_str {s : String} : plainVal (.str s) = true ↔ dollarFree s = true := by
  simp [plainVal, Val.wfB, Val.nullFree, Val.dollarFreeV]

theorem plainVal_null : plainVal .null = false := rfl

theorem plainVal_toStr_dollar {v : Val} (h : plainVal v = true) {s : String}
    (hs : dollarFree s = false) : v.toStr ≠ s := by
  cases v with
  | str t => exact dollarFree_ne (plainVal_str.1 h) hs
  | _ => rintro rfl; cases hs

theorem plainVal_ne_str_dollar {v : Val} (h : plainVal v = true) {s : String}
    (hs : dollarFree s = false) : v ≠ .str s := by
  rintro rfl
  exact dollarFree_ne (plainVal_str.1 h) hs rfl

theorem plainVal_plainEntry {v : Val} (h : plainVal v = true) : plainEntry v = true := by
  cases v with
  | map kvs =>
    simp only [plainEntry, fhas, fhasBool, plainVal_fget_dollar h (k := "$delete") (by decide +kernel),
      plainVal_fget_dollar h (k := "$match") (by decide +kernel),
      plainVal_fget_dollar h (k := "$replace") (by decide +kernel)]
    rfl
  | str s =>
    simp only [plainEntry, Bool.not_eq_true', beq_eq_false_iff_ne, ne_eq]
    exact plainVal_ne_str_dollar h (by decide +kernel)
  | _ => rfl

theorem plainList_all_plainEntry {l : List Val} (h : plainVal (.list l) = true) :
    l.all plainEntry = true :=
  List.all_eq_true.2 fun x hx => plainVal_plainEntry (plainVal_list_iff.1 h x hx)

theorem plainVal_not_placeholder {m : Fields} (h : plainVal (.map m) = true) :
    isPlaceholder m = false := by
  unfold isPlaceholder
  split
  · rename_i k v
    have hk : dollarFree k = true := ((plainVal_map_iff.1 h).2 (k, v) List.mem_cons_self).1
    rw [beq_eq_false_iff_ne.2 (dollarFree_ne (s := "$merge") hk (by decide +kernel)),
      beq_eq_false_iff_ne.2 (dollarFree_ne (s := "$replace") hk (by decide +kernel)),
      beq_eq_false_iff_ne.2 (dollarFree_ne (s := "$encode") hk (by decide +kernel))]
    rfl
  · rfl

/-! ## `matchV` is reflexive on plain values (a `$delete: e` entry finds `e`) -/

theorem matchV_refl_plain (e : Val) (h : plainVal e = true) : matchV e e = true := by
  induction e using Val.induction_mem_atom with
  | scalar v h1 h2 =>
    cases v with
    | null => cases h
    | map m => cases h1
    | list l => cases h2
    | _ => simp [matchV]
  | list l ih =>
    rw [matchV, matchAll_eq_all, List.all_eq_true]
    intro p hp
    rw [List.any_eq_true]
    exact ⟨p, hp, ih p hp (plainVal_list_iff.1 h p hp)⟩
  | map m ih =>
    have hinv : fhasBool m "$invert" true = false := by
      rw [fhasBool, plainVal_fget_dollar h (show dollarFree "$invert" = false by decide)]
    rw [matchV]
    simp only [hinv, plainVal_not_placeholder h, Bool.false_eq_true, if_false]
    rw [matchFields_eq_all, List.all_eq_true]
    rintro ⟨k, v⟩ hp
    simp only [Bool.false_and, Bool.false_eq_true, if_false,
      fget_of_mem_sorted (plainVal_sorted h) hp, Option.getD_some]
    exact ih _ hp ((plainVal_map_iff.1 h).2 _ hp).2

end Bkl
