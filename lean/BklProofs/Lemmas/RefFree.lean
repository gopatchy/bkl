/-
  BklProofs.Lemmas.RefFree — reference-free values (`refFree`: no `$merge` / `$replace` key, no
  `$merge:` / `$replace:` string, anywhere) and what `process1` does on them, exactly
  (`refFree_eval`): a value that depends on the data alone, as soon as the fuel reaches a
  threshold within the depth of the data.  No lookup (`process1_refFree`), evaluation within the
  depth guard (`process1_refFree_ok`) and plain data left alone (`process1_untouched`) follow.
-/
import BklProofs.Lemmas.Process1
import BklProofs.Lemmas.EscapeVal
namespace Bkl

/-! ## reference-free documents -/

mutual
/-- no `$merge` / `$replace` key and no `$merge:` / `$replace:` string (key or leaf), anywhere;
    in particular no `{$merge: …}` / `{$replace: …}` list entries -/
def refFree : Val → Bool
  | .str s => !refStr s
  | .list xs => refFreeList xs
  | .map kvs => refFreeFields kvs
  | _ => true
def refFreeList : List Val → Bool
  | [] => true
  | x :: xs => refFree x && refFreeList xs
def refFreeFields : Fields → Bool
  | [] => true
  | (k, v) :: rest => !refKey k && refFree v && refFreeFields rest
end

theorem refFreeList_iff {xs : List Val} : refFreeList xs = true ↔ ∀ x ∈ xs, refFree x = true :=
  all_of_eqns refFreeList.eq_1 refFreeList.eq_2

theorem refFreeFields_iff {kvs : Fields} :
    refFreeFields kvs = true ↔ ∀ q ∈ kvs, refKey q.1 = false ∧ refFree q.2 = true :=
  (all_of_eqns refFreeFields.eq_1 fun q l => refFreeFields.eq_2 q.1 q.2 l).trans
    (forall₂_congr fun _ _ => by rw [Bool.and_eq_true, Bool.not_eq_true'])

theorem refFreeList_mem {xs : List Val} (h : refFreeList xs = true) :
    ∀ x ∈ xs, refFree x = true := refFreeList_iff.1 h

theorem refFreeFields_mem {kvs : Fields} (h : refFreeFields kvs = true) :
    ∀ q ∈ kvs, refKey q.1 = false ∧ refFree q.2 = true := refFreeFields_iff.1 h

theorem refFreeFields_fget {kvs : Fields} (h : refFreeFields kvs = true) :
    fget kvs "$merge" = none ∧ fget kvs "$replace" = none :=
  no_ref_keys fun p hp => (refFreeFields_mem h p hp).1

theorem refFree_notMergeEntry {v : Val} (h : refFree v = true) : notMergeEntry v = true := by
  unfold notMergeEntry
  split
  · rename_i k ref
    simp only [refFree, refFreeFields, Bool.and_eq_true, Bool.not_eq_true'] at h
    have := (refKey_false h.1.1).1
    simpa using this
  · rfl

theorem refFree_notReplaceEntry {v : Val} (h : refFree v = true) : notReplaceEntry v = true := by
  unfold notReplaceEntry
  split
  · rename_i k ref
    simp only [refFree, refFreeFields, Bool.and_eq_true, Bool.not_eq_true'] at h
    have := (refKey_false h.1.1).2.1
    simpa using this
  · rfl

theorem guard_bind {α β : Type} (c : Prop) [Decidable c] (a : α) (f : α → R β) :
    ((if c then .ok a else .error .circularRef : R α) >>= f) =
      if c then f a else .error .circularRef := by
  split <;> rfl

theorem guard_guard {α : Type} (n m fuel : Nat) (x : R α) :
    (if n ≤ fuel then (if m ≤ fuel then x else .error .circularRef) else .error .circularRef) =
      if max n m ≤ fuel then x else .error .circularRef := by
  simp only [Nat.max_le]
  by_cases h1 : n ≤ fuel <;> by_cases h2 : m ≤ fuel <;> simp [h1, h2]

theorem foldlM_cons_guard {α β : Type} {f : β → α → R β} {b b' : β} {a : α} (l : List α)
    {n m fuel : Nat} {r : R β} (h : f b a = if n ≤ fuel then .ok b' else .error .circularRef)
    (hl : l.foldlM f b' = if m ≤ fuel then r else .error .circularRef) :
    (a :: l).foldlM f b = if max n m ≤ fuel then r else .error .circularRef := by
  rw [foldlM_cons, h, ← guard_guard, ← hl]
  by_cases hn : n ≤ fuel
  · rw [if_pos hn, if_pos hn]
  · rw [if_neg hn, if_neg hn]

/-- What `process1` does on reference-free data, exactly: there are a value `x` and a threshold
    `n ≤ depth v + 1` such that every evaluation of `v` — whatever the stream, the root and the
    location — yields `x` and hands the root back when the fuel reaches `n`, and hits the depth
    guard otherwise.  On well-formed data `x` is `dropNulls v`.
    The threshold is not `depth v + 1` itself: an empty map or list has depth 1 and evaluates
    with one unit of fuel. -/
theorem refFree_eval_all :
    (∀ v, refFree v = true → ∃ (x : Val) (n : Nat), n ≤ depth v + 1 ∧
        (Val.wfB v = true → x = dropNulls v) ∧
        ∀ fuel docs root loc, process1 fuel docs root loc v =
          if n ≤ fuel then .ok (x, root) else .error .circularRef) ∧
    (∀ xs, refFreeList xs = true → ∃ (ys : List Val) (n : Nat), n ≤ depthList xs + 1 ∧
        (Val.wfListB xs = true → ys = dropNullsList xs) ∧
        ∀ fuel docs loc (t : Tagged) acc rt, t.map (·.1) = xs →
          t.foldlM (entryStep fuel docs loc) (acc, rt) =
            if n ≤ fuel then .ok (acc ++ ys, rt) else .error .circularRef) ∧
    (∀ kvs, refFreeFields kvs = true → ∃ (g : Fields → Fields) (n : Nat),
        n ≤ depthFields kvs + 1 ∧
        (Val.wfFieldsB kvs = true → ∀ acc, g acc = fsetAll acc (dropNullsFields kvs)) ∧
        ∀ fuel docs loc acc rt, kvs.foldlM (mapStep fuel docs loc) (acc, rt) =
            if n ≤ fuel then .ok (g acc, rt) else .error .circularRef) := by
  have scalar : ∀ v : Val, (∀ fuel docs root loc, process1 (fuel + 1) docs root loc v = .ok (v, root)) →
      dropNulls v = v → ∃ (x : Val) (n : Nat), n ≤ depth v + 1 ∧
        (Val.wfB v = true → x = dropNulls v) ∧
        ∀ fuel docs root loc, process1 fuel docs root loc v =
          if n ≤ fuel then .ok (x, root) else .error .circularRef := by
    intro v h hd
    refine ⟨v, 1, Nat.le_add_left _ _, fun _ => hd.symm, fun fuel docs root loc => ?_⟩
    cases fuel with
    | zero => rfl
    | succ f => rw [h, if_pos (Nat.le_add_left _ _)]
  apply Val.induction₃
  case null => exact fun _ => scalar _ (process1_null · · · ·) rfl
  case bool => exact fun b _ => scalar _ (process1_bool · · · · b) rfl
  case int => exact fun i _ => scalar _ (process1_int · · · · i) rfl
  case flt => exact fun r _ => scalar _ (process1_flt · · · · r) rfl
  case str =>
    intro s hs
    simp only [refFree, refStr, Bool.not_eq_true', Bool.or_eq_false_iff] at hs
    exact scalar _ (fun _ _ _ _ => process1_str_plain (e_stripPrefix_none hs.1)
      (e_stripPrefix_none hs.2)) rfl
  case list =>
    intro xs ih hv
    simp only [refFree] at hv
    obtain ⟨ys, n, hn, hw, h⟩ := ih hv
    have hnd : ∀ x ∈ xs, notMergeEntry x = true ∧ notReplaceEntry x = true := fun x hx =>
      ⟨refFree_notMergeEntry (refFreeList_mem hv x hx),
       refFree_notReplaceEntry (refFreeList_mem hv x hx)⟩
    refine ⟨.list ys, n + 1, by simp only [depth]; omega,
      fun hwf => by rw [hw (by simpa only [Val.wfB] using hwf)]; rfl,
      fun fuel docs root loc => ?_⟩
    cases fuel with
    | zero => rfl
    | succ f =>
      rw [process1_list_noDirective hnd, h f docs loc _ [] root
        (listObj0_fst_self fun x hx => (hnd x hx).1), guard_bind]
      simp only [Nat.add_le_add_iff_right, List.nil_append]; rfl
  case map =>
    intro kvs ih hv
    simp only [refFree] at hv
    obtain ⟨g, n, hn, hw, h⟩ := ih hv
    obtain ⟨h0, h1⟩ := refFreeFields_fget hv
    refine ⟨.map (g []), n + 1, by simp only [depth]; omega, fun hwf => ?_,
      fun fuel docs root loc => ?_⟩
    · simp only [Val.wfB, Bool.and_eq_true] at hwf
      rw [hw hwf.2, ← fofList, fofList_of_sortedKeysB (e_dropNullsFields_sorted kvs hwf.1)]; rfl
    · cases fuel with
      | zero => rfl
      | succ f =>
        rw [process1_map_plain h0 h1, h f docs loc [] root, guard_bind]
        simp only [Nat.add_le_add_iff_right]; rfl
  case lnil =>
    intro _
    refine ⟨[], 0, Nat.zero_le _, fun _ => rfl, fun fuel docs loc t acc rt ht => ?_⟩
    rw [List.map_eq_nil_iff.1 ht, if_pos (Nat.zero_le _), List.append_nil]; rfl
  case lcons =>
    intro x xs ih1 ih2 hv
    simp only [refFreeList, Bool.and_eq_true] at hv
    obtain ⟨xv, n1, hn1, hw1, h1⟩ := ih1 hv.1
    obtain ⟨ys, n2, hn2, hw2, h2⟩ := ih2 hv.2
    refine ⟨(if xv.isNull then [] else [xv]) ++ ys, max n1 n2, by simp only [depthList]; omega,
      fun hwf => ?_, fun fuel docs loc t acc rt ht => ?_⟩
    · simp only [Val.wfListB, Bool.and_eq_true] at hwf
      rw [hw1 hwf.1, hw2 hwf.2, e_dropNulls_isNull, dropNullsList]
      split <;> rfl
    · match t, ht with
      | (x', tag) :: t', ht =>
        simp only [List.map_cons, List.cons.injEq] at ht
        obtain ⟨rfl, ht'⟩ := ht
        have hstep : entryStep fuel docs loc (acc, rt) (x', tag) =
            if n1 ≤ fuel then .ok (if xv.isNull then acc else acc ++ [xv], rt)
            else .error .circularRef := by
          simp only [entryStep, h1, guard_bind]
          split
          · cases xv.isNull <;> rfl
          · rfl
        rw [foldlM_cons_guard t' hstep (h2 fuel docs loc t' _ rt ht')]
        cases xv.isNull <;> simp
  case fnil =>
    intro _
    exact ⟨id, 0, Nat.zero_le _, fun _ _ => rfl, fun fuel docs loc acc rt => by
      rw [if_pos (Nat.zero_le _)]; rfl⟩
  case fcons =>
    intro k v rest ih1 ih2 hv
    simp only [refFreeFields, Bool.and_eq_true, Bool.not_eq_true'] at hv
    obtain ⟨xv, n1, hn1, hw1, h1⟩ := ih1 hv.1.2
    obtain ⟨g, n2, hn2, hw2, h2⟩ := ih2 hv.2
    refine ⟨fun acc => g (if xv.isNull then acc else fset acc k xv), max n1 n2,
      by simp only [depthFields]; omega, fun hwf acc => ?_, fun fuel docs loc acc rt => ?_⟩
    · simp only [Val.wfFieldsB, Bool.and_eq_true] at hwf
      show g _ = _
      rw [hw2 hwf.2, hw1 hwf.1, e_dropNulls_isNull, dropNullsFields]
      split <;> rfl
    · have hstep : mapStep fuel docs loc (acc, rt) (k, v) =
          if n1 ≤ fuel then .ok (if xv.isNull then acc else fset acc k xv, rt)
          else .error .circularRef := by
        rw [mapStep_key hv.1.1, h1, guard_bind]; rfl
      exact foldlM_cons_guard rest hstep (h2 ..)


theorem refFree_eval {v : Val} (hv : refFree v = true) :
    ∃ (x : Val) (n : Nat), n ≤ depth v + 1 ∧ (Val.wfB v = true → x = dropNulls v) ∧
      ∀ fuel docs root loc, process1 fuel docs root loc v =
        if n ≤ fuel then .ok (x, root) else .error .circularRef :=
  refFree_eval_all.1 v hv


/-- On a reference-free value `process1` never looks anything up: whatever the stream, the
    root and the location, the result is the one obtained with an empty stream and a `null`
    root, and the root is handed back unchanged. -/
theorem process1_refFree (fuel : Nat) (v : Val) (hv : refFree v = true) (docs : List Val)
    (root : Val) (loc : Loc) :
    process1 fuel docs root loc v =
      Except.map (fun r => (r.1, root)) (process1 fuel [] .null none v) := by
  obtain ⟨x, n, _, _, h⟩ := refFree_eval hv
  rw [h, h]
  split <;> rfl

theorem process1_refFree_ok (fuel : Nat) (v : Val) (hv : refFree v = true) (hd : depth v < fuel) :
    ∃ x, process1 fuel [] .null none v = .ok (x, .null) := by
  obtain ⟨x, n, hn, _, h⟩ := refFree_eval hv
  exact ⟨x, by rw [h, if_pos (by omega)]⟩

/-- more fuel does not change the evaluation of a reference-free value that is not the depth
    guard -/
theorem process1_refFree_succ {fuel : Nat} {t : Val} (htf : refFree t = true)
    (hfuel : process1 fuel [] .null none t ≠ .error .circularRef) (docs : List Val) (root : Val)
    (loc : Loc) : process1 (fuel + 1) docs root loc t =
      Except.map (fun r => (r.1, root)) (process1 fuel [] .null none t) := by
  rw [process1_refFree _ t htf, (process1_mono fuel [] .null none t).eq hfuel]

/-- data whose keys and string leaves all satisfy `p`, none of which is a reference -/
theorem allStr_refFree {p : String → Bool} (hp : ∀ s, p s = true → refKey s = false) :
    ∀ v : Val, allStr p v = true → refFree v = true := by
  intro v
  induction v using Val.induction_mem with
  | str s =>
    intro h
    have := hp s h
    simp only [refKey, Bool.or_eq_false_iff] at this
    simp [refFree, this.2]
  | list xs ih =>
    rw [allStr, allStrList_iff, refFree, refFreeList_iff]
    exact fun h x hx => ih x hx (h x hx)
  | map kvs ih =>
    rw [allStr, allStrFields_iff, refFree, refFreeFields_iff]
    exact fun h q hq => ⟨hp _ (h q hq).1, ih q hq (h q hq).2⟩
  | _ => intro _; rfl
theorem allStrList_refFree {p : String → Bool} (hp : ∀ s, p s = true → refKey s = false) :
    ∀ xs : List Val, allStrList p xs = true → refFreeList xs = true :=
  fun xs h => (refFree.eq_2 xs).symm.trans (allStr_refFree hp (.list xs) (by rwa [allStr]))
theorem allStrFields_refFree {p : String → Bool} (hp : ∀ s, p s = true → refKey s = false) :
    ∀ kvs : Fields, allStrFields p kvs = true → refFreeFields kvs = true :=
  fun kvs h => (refFree.eq_3 kvs).symm.trans (allStr_refFree hp (.map kvs) (by rwa [allStr]))

/-- well-formed data without references, within the depth guard, evaluates to itself minus its
    nulls -/
theorem process1_untouched {p : String → Bool} (hp : ∀ s, p s = true → refKey s = false)
    (fuel : Nat) (docs : List Val) (root : Val) (loc : Loc) (v : Val)
    (hv : allStr p v = true) (hw : Val.wfB v = true) (hd : depth v < fuel) :
    process1 fuel docs root loc v = .ok (dropNulls v, root) := by
  obtain ⟨x, n, hn, hx, h⟩ := refFree_eval (allStr_refFree hp v hv)
  rw [h, if_pos (by omega), hx hw]

end Bkl
