/-
  Values under `$`-doubling and null dropping.  `double`, `dropNulls`, the nesting depth `depth`, and
  `allStr p` (every key and every string leaf satisfies `p`) with `plain`, `inert`, `noDD` as instances;
  what `dropNulls` keeps (`mem_dropNullsList`, `mem_dropNullsFields`) and what it and `double` preserve:
  well-formedness, depth, `allStr`; `finalize` undoes `double` and leaves `$$`-free data alone.
  C06 is stated in these terms; `depth`, `dropNulls` and `plain` also serve RefFree, Cycles, Json, C08,
  C10 and C14.
-/
import BklProofs.Lemmas.Escape
import BklProofs.Lemmas.List
import BklProofs.Lemmas.Output
namespace Bkl

mutual
/-- double every `$` in every map key and every string leaf -/
def double : Val → Val
  | .null => .null
  | .bool b => .bool b
  | .int i => .int i
  | .flt r => .flt r
  | .str s => .str (doubleStr s)
  | .list xs => .list (doubleList xs)
  | .map kvs => .map (doubleFields kvs)
def doubleList : List Val → List Val
  | [] => []
  | x :: xs => double x :: doubleList xs
def doubleFields : Fields → Fields
  | [] => []
  | (k, v) :: rest => (doubleStr k, double v) :: doubleFields rest
end

mutual
/-- what evaluation does to nulls: null map values and null list entries disappear -/
def dropNulls : Val → Val
  | .null => .null
  | .bool b => .bool b
  | .int i => .int i
  | .flt r => .flt r
  | .str s => .str s
  | .list xs => .list (dropNullsList xs)
  | .map kvs => .map (dropNullsFields kvs)
def dropNullsList : List Val → List Val
  | [] => []
  | x :: xs => if x.isNull then dropNullsList xs else dropNulls x :: dropNullsList xs
def dropNullsFields : Fields → Fields
  | [] => []
  | (k, v) :: rest =>
    if v.isNull then dropNullsFields rest else (k, dropNulls v) :: dropNullsFields rest
end

/-- what the evaluator prints for plain data `r`: nothing for a null document, else `r` with
    its nulls dropped -/
def plainOutputs (r : Val) : List Val := if r.isNull then [] else [dropNulls r]

mutual
def noNulls : Val → Bool
  | .list xs => noNullsList xs
  | .map kvs => noNullsFields kvs
  | _ => true
def noNullsList : List Val → Bool
  | [] => true
  | x :: xs => !x.isNull && noNulls x && noNullsList xs
def noNullsFields : Fields → Bool
  | [] => true
  | (_, v) :: rest => !v.isNull && noNulls v && noNullsFields rest
end

mutual
/-- nesting depth: scalars 0, a container one more than its deepest entry -/
def depth : Val → Nat
  | .list xs => depthList xs + 1
  | .map kvs => depthFields kvs + 1
  | _ => 0
def depthList : List Val → Nat
  | [] => 0
  | x :: xs => max (depth x) (depthList xs)
def depthFields : Fields → Nat
  | [] => 0
  | (_, v) :: rest => max (depth v) (depthFields rest)
end

mutual
def allStr (p : String → Bool) : Val → Bool
  | .str s => p s
  | .list xs => allStrList p xs
  | .map kvs => allStrFields p kvs
  | _ => true
def allStrList (p : String → Bool) : List Val → Bool
  | [] => true
  | x :: xs => allStr p x && allStrList p xs
def allStrFields (p : String → Bool) : Fields → Bool
  | [] => true
  | (k, v) :: rest => p k && allStr p v && allStrFields p rest
end

/-- no key and no string leaf is recognised by the evaluator (`$$` allowed) -/
def plain (v : Val) : Bool := allStr (fun s => !recognisedCore s) v
abbrev e_P : String → Bool := fun s => !recognisedCore s

theorem e_plain_def (v : Val) : plain v = allStr e_P v := rfl

/-- no key and no string leaf is recognised by the evaluator or contains `$$` -/
def inert (v : Val) : Bool := allStr (fun s => !recognised s) v
def noDD (v : Val) : Bool := allStr (fun s => !hasDD s.toList) v

/-! ## membership forms of the recursive predicates -/

theorem allStrList_iff {p : String → Bool} {xs : List Val} :
    allStrList p xs = true ↔ ∀ x ∈ xs, allStr p x = true :=
  all_of_eqns (allStrList.eq_1 p) (allStrList.eq_2 p)

theorem allStrFields_iff {p : String → Bool} {kvs : Fields} :
    allStrFields p kvs = true ↔ ∀ q ∈ kvs, p q.1 = true ∧ allStr p q.2 = true :=
  (all_of_eqns (allStrFields.eq_1 p) fun q l => allStrFields.eq_2 p q.1 q.2 l).trans
    (forall₂_congr fun _ _ => Bool.and_eq_true_iff)

theorem depthList_le {xs : List Val} {n : Nat} :
    depthList xs ≤ n ↔ ∀ x ∈ xs, depth x ≤ n :=
  max_of_eqns depthList.eq_1 depthList.eq_2

theorem depthFields_le {kvs : Fields} {n : Nat} :
    depthFields kvs ≤ n ↔ ∀ q ∈ kvs, depth q.2 ≤ n :=
  max_of_eqns depthFields.eq_1 fun q l => depthFields.eq_2 q.1 q.2 l

theorem e_depthList_mem {xs : List Val} : ∀ x ∈ xs, depth x ≤ depthList xs :=
  depthList_le.1 (Nat.le_refl _)

theorem e_depthFields_mem {kvs : Fields} : ∀ q ∈ kvs, depth q.2 ≤ depthFields kvs :=
  depthFields_le.1 (Nat.le_refl _)

theorem e_wf_map {kvs : Fields} (h : (Val.map kvs).WF) :
    Fields.sortedKeysB kvs = true ∧ Val.wfFieldsB kvs = true := by
  simpa [Val.WF, Val.wfB] using h

theorem e_wf_list {xs : List Val} (h : (Val.list xs).WF) : Val.wfListB xs = true := by
  simpa [Val.WF, Val.wfB] using h

theorem e_plainFields_fget {kvs : Fields}
    (h : allStrFields e_P kvs = true) {d : String}
    (hd : d ∈ directiveNames) : fget kvs d = none := by
  refine fget_none_iff.2 fun p hp => ?_
  have := (allStrFields_iff.1 h p hp).1
  exact e_rc_names (by simpa using this) d hd

theorem e_dropNulls_isNull (v : Val) : (dropNulls v).isNull = v.isNull := by
  cases v <;> simp [dropNulls, Val.isNull]

/-! ## what survives `dropNulls`: the entries that are not null, each with its nulls dropped -/

theorem dropNullsList_filter (xs : List Val) :
    dropNullsList xs = (xs.filter fun x => !x.isNull).map dropNulls :=
  filter_map_of_eqns dropNullsList.eq_1 dropNullsList.eq_2 xs

/-- the same with the nulls dropped from the evaluated entries, as `process2` does -/
theorem dropNullsList_eq (xs : List Val) :
    dropNullsList xs = (xs.map dropNulls).filter (fun v => !v.isNull) := by
  rw [dropNullsList_filter, List.filter_map]
  exact congrArg _ (List.filter_congr fun x _ => by rw [Function.comp, e_dropNulls_isNull])

/-- what `dropNulls` keeps of a map entry -/
def dropNullsVal (v : Val) : Option Val := if v.isNull then none else some (dropNulls v)

/-- a map loses its null entries key by key (`Fields.filterMapVal`, Lemmas/Fields.lean) -/
theorem dropNullsFields_eq (kvs : Fields) :
    dropNullsFields kvs = Fields.filterMapVal (fun _ => dropNullsVal) kvs := by
  induction kvs with
  | nil => rfl
  | cons q t ih =>
    obtain ⟨k, v⟩ := q
    rw [dropNullsFields, filterMapVal_cons, ← ih, dropNullsVal]
    cases v.isNull <;> rfl

theorem mem_dropNullsList {xs : List Val} {y : Val} (h : y ∈ dropNullsList xs) :
    ∃ x ∈ xs, x.isNull = false ∧ y = dropNulls x := by
  rw [dropNullsList_filter] at h
  obtain ⟨x, hx, rfl⟩ := List.mem_map.1 h
  exact ⟨x, (List.mem_filter.1 hx).1, by simpa using (List.mem_filter.1 hx).2, rfl⟩

theorem mem_dropNullsFields {kvs : Fields} {q : String × Val} (h : q ∈ dropNullsFields kvs) :
    ∃ p ∈ kvs, p.2.isNull = false ∧ q = (p.1, dropNulls p.2) := by
  obtain ⟨k, w⟩ := q
  rw [dropNullsFields_eq] at h
  obtain ⟨v, hv, hg⟩ := mem_filterMapVal.1 h
  rw [dropNullsVal] at hg
  cases hn : v.isNull <;> rw [hn] at hg <;> cases hg
  exact ⟨_, hv, hn, rfl⟩

theorem e_allStr_dropNulls (p : String → Bool) (v : Val) :
    allStr p v = true → allStr p (dropNulls v) = true := by
  induction v using Val.induction_mem with
  | list xs ih =>
    intro h
    rw [allStr, allStrList_iff] at h
    rw [dropNulls, allStr, allStrList_iff]
    intro y hy
    obtain ⟨x, hx, -, rfl⟩ := mem_dropNullsList hy
    exact ih x hx (h x hx)
  | map kvs ih =>
    intro h
    rw [allStr, allStrFields_iff] at h
    rw [dropNulls, allStr, allStrFields_iff]
    intro q hq
    obtain ⟨r, hr, -, rfl⟩ := mem_dropNullsFields hq
    exact ⟨(h r hr).1, ih r hr (h r hr).2⟩
  | _ => intro h; rwa [dropNulls]

theorem e_sortedB_iff_keys (l : Fields) :
    Fields.sortedKeysB l = true ↔ (fkeys l).Pairwise (· < ·) := by
  rw [sortedKeysB_iff, sorted_iff_pairwise, fkeys, List.pairwise_map]

theorem e_dropNullsFields_sorted (kvs : Fields) (h : Fields.sortedKeysB kvs = true) :
    Fields.sortedKeysB (dropNullsFields kvs) = true :=
  sortedKeysB_iff.2 (dropNullsFields_eq kvs ▸ sorted_filterMapVal _ (sortedKeysB_iff.1 h))

theorem e_wf_dropNulls (v : Val) : Val.wfB v = true → Val.wfB (dropNulls v) = true := by
  induction v using Val.induction_mem with
  | list xs ih =>
    exact fun hw => wf_list_iff.2 fun y hy => by
      obtain ⟨x, hx, -, rfl⟩ := mem_dropNullsList hy
      exact ih x hx (wf_list_iff.1 hw x hx)
  | map kvs ih =>
    intro hw
    rw [dropNulls, dropNullsFields_eq]
    refine wf_filterMapVal hw fun k v w hv hg => ?_
    rw [dropNullsVal] at hg
    split at hg <;> cases hg
    exact ih _ hv ((wf_map_iff.1 hw).2 _ hv)
  | _ => intro h; rwa [dropNulls]

theorem e_depth_dropNulls (v : Val) : depth (dropNulls v) ≤ depth v := by
  induction v using Val.induction_mem with
  | list xs ih =>
    rw [dropNulls, depth, depth]
    refine Nat.succ_le_succ (depthList_le.2 fun y hy => ?_)
    obtain ⟨x, hx, -, rfl⟩ := mem_dropNullsList hy
    exact Nat.le_trans (ih x hx) (e_depthList_mem x hx)
  | map kvs ih =>
    rw [dropNulls, depth, depth]
    refine Nat.succ_le_succ (depthFields_le.2 fun q hq => ?_)
    obtain ⟨r, hr, -, rfl⟩ := mem_dropNullsFields hq
    exact Nat.le_trans (ih r hr) (e_depthFields_mem r hr)
  | _ => rw [dropNulls]; exact Nat.le_refl _

theorem noNullsList_iff {xs : List Val} :
    noNullsList xs = true ↔ ∀ x ∈ xs, (!x.isNull && noNulls x) = true :=
  all_of_eqns noNullsList.eq_1 noNullsList.eq_2

theorem noNullsFields_iff {kvs : Fields} :
    noNullsFields kvs = true ↔ ∀ q ∈ kvs, (!q.2.isNull && noNulls q.2) = true :=
  all_of_eqns noNullsFields.eq_1 fun q l => noNullsFields.eq_2 q.1 q.2 l

theorem e_noNulls_dropNulls (v : Val) : noNulls (dropNulls v) = true := by
  induction v using Val.induction_mem with
  | list xs ih =>
    rw [dropNulls, noNulls, noNullsList_iff]
    intro y hy
    obtain ⟨x, hx, hn, rfl⟩ := mem_dropNullsList hy
    rw [e_dropNulls_isNull, hn, ih x hx]; rfl
  | map kvs ih =>
    rw [dropNulls, noNulls, noNullsFields_iff]
    intro q hq
    obtain ⟨r, hr, hn, rfl⟩ := mem_dropNullsFields hq
    rw [e_dropNulls_isNull, hn, ih r hr]; rfl
  | _ => rw [dropNulls]; rfl

theorem e_dropNulls_noNulls_all :
    (∀ v, noNulls v = true → dropNulls v = v) ∧
    (∀ xs, noNullsList xs = true → dropNullsList xs = xs) ∧
    (∀ kvs, noNullsFields kvs = true → dropNullsFields kvs = kvs) := by
  apply Val.induction₃
  case null | bool | int | flt | str => intros; simp [dropNulls]
  case list | map => intro xs ih h; simp only [noNulls] at h; simp only [dropNulls, ih h]
  case lnil | fnil => intro _; rfl
  case lcons =>
    intro x xs ih1 ih2 h
    simp only [noNullsList, Bool.and_eq_true, Bool.not_eq_true'] at h
    simp only [dropNullsList, h.1.1, Bool.false_eq_true, if_false, ih1 h.1.2, ih2 h.2]
  case fcons =>
    intro k v rest ih1 ih2 h
    simp only [noNullsFields, Bool.and_eq_true, Bool.not_eq_true'] at h
    simp only [dropNullsFields, h.1.1, Bool.false_eq_true, if_false, ih1 h.1.2, ih2 h.2]

/-- `dropNulls` is idempotent (so a second phase changes nothing more). -/
theorem dropNulls_idem (v : Val) : dropNulls (dropNulls v) = dropNulls v :=
  e_dropNulls_noNulls_all.1 _ (e_noNulls_dropNulls v)


theorem e_double_isNull (v : Val) : (double v).isNull = v.isNull := by
  cases v <;> simp [double, Val.isNull]

theorem doubleList_eq_map (xs : List Val) : doubleList xs = xs.map double :=
  map_of_eqns doubleList.eq_1 doubleList.eq_2 xs

theorem doubleFields_eq_map (kvs : Fields) :
    doubleFields kvs = kvs.map fun p => (doubleStr p.1, double p.2) :=
  map_of_eqns doubleFields.eq_1 (fun p l => doubleFields.eq_2 p.1 p.2 l) kvs

theorem e_plain_double (v : Val) : plain (double v) = true := by
  induction v using Val.induction_mem with
  | str s => simp [double, plain, allStr, e_rc_doubleStr]
  | list xs ih =>
    rw [double, plain, allStr, allStrList_iff, doubleList_eq_map]
    intro y hy
    obtain ⟨x, hx, rfl⟩ := List.mem_map.1 hy
    exact ih x hx
  | map kvs ih =>
    rw [double, plain, allStr, allStrFields_iff, doubleFields_eq_map]
    intro q hq
    obtain ⟨r, hr, rfl⟩ := List.mem_map.1 hq
    exact ⟨by simp [e_rc_doubleStr], ih r hr⟩
  | _ => rfl

theorem e_doubleFields_keys (kvs : Fields) : fkeys (doubleFields kvs) = (fkeys kvs).map doubleStr := by
  rw [doubleFields_eq_map, fkeys, fkeys, List.map_map, List.map_map]; rfl

theorem e_sortedB_double (kvs : Fields) :
    Fields.sortedKeysB (doubleFields kvs) = Fields.sortedKeysB kvs := by
  rw [Bool.eq_iff_iff, e_sortedB_iff_keys, e_sortedB_iff_keys, e_doubleFields_keys,
    List.pairwise_map]
  exact ⟨fun h => h.imp doubleStr_lt_iff.1, fun h => h.imp doubleStr_lt⟩

theorem e_wfB_double_all :
    (∀ v, Val.wfB (double v) = Val.wfB v) ∧
    (∀ xs, Val.wfListB (doubleList xs) = Val.wfListB xs) ∧
    (∀ kvs, Val.wfFieldsB (doubleFields kvs) = Val.wfFieldsB kvs) := by
  apply Val.induction₃
  case null | bool | int | flt | str => intros; simp only [double, Val.wfB]
  case list => intro xs ih; simp only [double, Val.wfB, ih]
  case map => intro kvs ih; simp only [double, Val.wfB, ih, e_sortedB_double]
  case lnil | fnil => simp only [doubleList, doubleFields]
  case lcons => intro x xs ih1 ih2; simp only [doubleList, Val.wfListB, ih1, ih2]
  case fcons => intro k v rest ih1 ih2; simp only [doubleFields, Val.wfFieldsB, ih1, ih2]

theorem e_wf_double {v : Val} (h : v.WF) : (double v).WF := (e_wfB_double_all.1 v).trans h

theorem e_depth_double_all :
    (∀ v, depth (double v) = depth v) ∧
    (∀ xs, depthList (doubleList xs) = depthList xs) ∧
    (∀ kvs, depthFields (doubleFields kvs) = depthFields kvs) := by
  apply Val.induction₃
  case null | bool | int | flt | str => intros; simp [double, depth]
  case list | map => intro xs ih; simp only [double, depth, ih]
  case lnil | fnil => rfl
  case lcons => intro x xs ih1 ih2; simp only [doubleList, depthList, ih1, ih2]
  case fcons => intro k v rest ih1 ih2; simp only [doubleFields, depthFields, ih1, ih2]

theorem e_dropNulls_double_all :
    (∀ v, dropNulls (double v) = double (dropNulls v)) ∧
    (∀ xs, dropNullsList (doubleList xs) = doubleList (dropNullsList xs)) ∧
    (∀ kvs, dropNullsFields (doubleFields kvs) = doubleFields (dropNullsFields kvs)) := by
  apply Val.induction₃
  case null | bool | int | flt | str => intros; simp [double, dropNulls]
  case list | map => intro xs ih; simp only [double, dropNulls, ih]
  case lnil | fnil => rfl
  case lcons =>
    intro x xs ih1 ih2
    simp only [doubleList, dropNullsList, e_double_isNull]
    split
    · exact ih2
    · simp only [doubleList, ih1, ih2]
  case fcons =>
    intro k v rest ih1 ih2
    simp only [doubleFields, dropNullsFields, e_double_isNull]
    split
    · exact ih2
    · simp only [doubleFields, ih1, ih2]

theorem e_finalize_double (v : Val) : v.WF → finalize (double v) = v := by
  induction v using Val.induction_mem with
  | str s => intro _; rw [double, finalize, finalizeString_double]
  | list xs ih =>
    intro hw
    rw [double, finalize, doubleList_eq_map, finalizeList_eq_map, List.map_map, Function.comp_def,
      map_eq_self fun x hx => ih x hx (wf_list_iff.1 hw x hx)]
  | map kvs ih =>
    intro hw
    obtain ⟨hs, hv⟩ := wf_map_iff.1 hw
    have : ∀ p ∈ kvs, (finalizeString (doubleStr p.1), finalize (double p.2)) = p := fun p hp => by
      rw [finalizeString_double, ih p hp (hv p hp)]
    rw [double, finalize, doubleFields_eq_map, finalizeFields_eq_map, List.map_map, Function.comp_def,
      map_eq_self this, fofList_of_sortedKeysB (sortedKeysB_iff.2 hs)]
  | _ => intro _; simp only [double, finalize]

theorem e_allStr_mono {p q : String → Bool} (hpq : ∀ s, p s = true → q s = true) (v : Val) :
    allStr p v = true → allStr q v = true := by
  induction v using Val.induction_mem with
  | str s => exact hpq s
  | list xs ih =>
    rw [allStr, allStr, allStrList_iff, allStrList_iff]
    exact fun h x hx => ih x hx (h x hx)
  | map kvs ih =>
    rw [allStr, allStr, allStrFields_iff, allStrFields_iff]
    exact fun h r hr => ⟨hpq _ (h r hr).1, ih r hr (h r hr).2⟩
  | _ => exact id

theorem e_inert_plain {v : Val} (h : inert v = true) : plain v = true :=
  e_allStr_mono (by intro s hs; simp [recognised] at hs ⊢; exact hs.1) v h

theorem e_inert_noDD {v : Val} (h : inert v = true) : noDD v = true :=
  e_allStr_mono (by intro s hs; simp [recognised] at hs ⊢; exact hs.2) v h

theorem e_finalize_of_noDD (v : Val) : noDD v = true → v.WF → finalize v = v := by
  induction v using Val.induction_mem with
  | str s => intro h _; rw [finalize, e_finalize_noDD s (by simpa [noDD, allStr] using h)]
  | list xs ih =>
    intro h hw
    rw [finalize, finalizeList_eq_map,
      map_eq_self fun x hx => ih x hx (allStrList_iff.1 h x hx) (wf_list_iff.1 hw x hx)]
  | map kvs ih =>
    intro h hw
    obtain ⟨hs, hv⟩ := wf_map_iff.1 hw
    have hk := allStrFields_iff.1 h
    have : ∀ p ∈ kvs, (finalizeString p.1, finalize p.2) = p := fun p hp => by
      rw [e_finalize_noDD p.1 (by simpa using (hk p hp).1), ih p hp (hk p hp).2 (hv p hp)]
    rw [finalize, finalizeFields_eq_map, map_eq_self this, fofList_of_sortedKeysB (sortedKeysB_iff.2 hs)]
  | _ => intros; simp only [finalize]

end Bkl
