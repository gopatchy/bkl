/-
  BklProofs.Lemmas.FilesChain — filename chains `a`, `a.b`, `a.b.c`, … of any depth in a link-free directory, as lists of
  `CLayer`s: top first (`ChainOK`, `clPath`, `chainFiles`) or base first (`ChainFilesOK`, `prefixPath`).  Their files are single
  parents of one another, so they load base first (`lfp_clChain`, `load_chain`) or fail for want of a layer or of fuel, and
  what `MergeFileLayers` merges for one is the run of its documents (`mergeFileLayers_clChain`: every sample chain is
  evaluated through it); `chainFiles` is `linkFiles` (Lemmas/FilesLoad.lean) on the chain's files (`chainFiles_eq`).  Top first is the
  form of the recursion and of a chain written out layer by layer (`ChainOK` is then a tuple of `LayerFile`s: `lfp_clChain`,
  `mergeFileLayers_clChain`); base first is the form of a statement about every chain, whose layers are the prefixes of one list,
  and of the layers above a missing one (`ChainFilesOK`, `load_chain`, `load_chain_nofuel`, `load_chain_missing`);
  `baseFirst_linked` leads from the second to the first.  At the end the sample file system `chainFS` with its chain `exChain`.
-/
import BklProofs.Lemmas.FilesLoad
namespace Bkl

/-- one layer of a filename chain: its own name component, the extension of the file that
    provides it and the documents of that file -/
structure CLayer where
  name : String
  ext : String
  docs : List Val

/-- the name components of the layer on top of `R` (`R` is listed top first, above `pre`) -/
def cnames (pre : List String) (R : List CLayer) : List String := pre ++ R.reverse.map (·.name)

theorem cnames_cons (pre : List String) (x : CLayer) (S : List CLayer) :
    cnames pre (x :: S) = cnames pre S ++ [x.name] := by
  simp [cnames]

theorem cnames_nil (pre : List String) : cnames pre [] = pre := by simp [cnames]

def layerName (ns : List String) : String := ".".intercalate ns

/-- the file that provides the top layer of `R` -/
def clPath (d : Comps) (pre : List String) : List CLayer → Comps
  | [] => d
  | x :: S => d ++ [layerName (cnames pre (x :: S)) ++ "." ++ x.ext]

/-- every layer of `R` is provided by exactly one file, whose documents carry no `$parent` -/
def ChainOK (fs : FS) (d : Comps) (pre : List String) : List CLayer → Prop
  | [] => True
  | x :: S => LayerFile fs d (layerName (cnames pre (x :: S))) x.ext (.ok x.docs) ∧
      (∀ v ∈ x.docs, parentDirective v = .ok .absent) ∧ ChainOK fs d pre S

/-- what loading the top of `R` returns: base first -/
def chainFiles (d : Comps) (pre : List String) : Option String → List CLayer → List LFile
  | _, [] => []
  | c, x :: S =>
    chainFiles d pre (some (fileIdOf c (clPath d pre (x :: S)))) S ++
      [{ id := fileIdOf c (clPath d pre (x :: S)), path := clPath d pre (x :: S),
         docs := plainDocs (fileIdOf c (clPath d pre (x :: S)))
           (match S with
            | [] => []
            | y :: _ => docIdsOf (fileIdOf c (clPath d pre (x :: S)) ++ "|" ++ pathStr (clPath d pre S))
                y.docs.length) x.docs }]

theorem chainFiles_cons (d : Comps) (pre : List String) (c : Option String) (x : CLayer)
    (S : List CLayer) :
    chainFiles d pre c (x :: S) =
      chainFiles d pre (some (fileIdOf c (clPath d pre (x :: S)))) S ++
      [{ id := fileIdOf c (clPath d pre (x :: S)), path := clPath d pre (x :: S),
         docs := plainDocs (fileIdOf c (clPath d pre (x :: S)))
           (match S with
            | [] => []
            | y :: _ => docIdsOf (fileIdOf c (clPath d pre (x :: S)) ++ "|" ++ pathStr (clPath d pre S))
                y.docs.length) x.docs }] := rfl

/-- the chain `R` as a list of files, each the one parent of the file before it -/
def clLinks (d : Comps) (pre : List String) : List CLayer → List (Comps × List Val)
  | [] => []
  | x :: S => (clPath d pre (x :: S), x.docs) :: clLinks d pre S

theorem clLinks_length (d : Comps) (pre : List String) (R : List CLayer) :
    (clLinks d pre R).length = R.length := by
  induction R with
  | nil => rfl
  | cons x S ih => rw [clLinks, List.length_cons, List.length_cons, ih]

/-- `chainFiles` is `linkFiles` on the files of the chain -/
theorem chainFiles_eq (d : Comps) (pre : List String) : ∀ (R : List CLayer) (c : Option String),
    chainFiles d pre c R = linkFiles c (clLinks d pre R)
  | [], _ => rfl
  | [x], _ => rfl
  | x :: y :: S, c => by
    rw [chainFiles_cons, chainFiles_eq d pre (y :: S), clLinks, linkFiles_cons]
    rfl

section chainN

variable {fs : FS} {d cwd : Comps} {pre : List String}

theorem chainOK_tail {x : CLayer} {S : List CLayer} (h : ChainOK fs d pre (x :: S)) :
    ChainOK fs d pre S := h.2.2

theorem fileParents_chain (hd : PlainDir fs d) (x : CLayer) (S : List CLayer)
    (hpl : ∀ n ∈ cnames pre (x :: S), PlainName n) (hok : ChainOK fs d pre (x :: S)) :
    fileParents fs ⟨[], cwd⟩ (clPath d pre (x :: S)) x.docs =
      if cnames pre S = [] then .ok []
      else
        match fs.findRooted [] d (layerName (cnames pre S)) with
        | some f => .ok [f]
        | none => .error .missingFile := by
  have hne : cnames pre (x :: S) ≠ [] := by rw [cnames_cons]; simp
  have hl : 0 < (layerName (cnames pre (x :: S))).length :=
    layer_length_pos _ hne (fun n hn => (hpl n hn).1)
  rw [clPath, fileParents_layer ⟨[], cwd⟩ hd hl hok.1 hok.2.1]
  unfold layerName
  rw [splitOn_layer _ hne (fun n hn => (hpl n hn).2), cnames_cons, List.dropLast_concat]
  by_cases h : cnames pre S = []
  · simp [h]
  · have : ¬ (cnames pre S ++ [x.name]).length = 1 := by
      have := List.length_pos_iff.2 h
      simp only [List.length_append, List.length_cons, List.length_nil]; omega
    rw [if_neg this, if_neg h]
    rfl

theorem plain_tail {x : CLayer} {S : List CLayer} (hpl : ∀ n ∈ cnames pre (x :: S), PlainName n) :
    ∀ n ∈ cnames pre S, PlainName n := by
  intro n hn
  apply hpl
  rw [cnames_cons]
  exact List.mem_append_left _ hn

theorem loadFile_chain (hd : PlainDir fs d) (x : CLayer) (S : List CLayer)
    (hpl : ∀ n ∈ cnames pre (x :: S), PlainName n) (hok : ChainOK fs d pre (x :: S)) (fid : String) :
    loadFile fs ⟨[], cwd⟩ (clPath d pre (x :: S)) fid = .ok x.docs := by
  have hne : cnames pre (x :: S) ≠ [] := by rw [cnames_cons]; simp
  exact loadFile_layerFile hd (layer_length_pos _ hne (fun n hn => (hpl n hn).1)) hok.1 cwd fid

/-- what the filename rule says below the chain: nothing, or the file of the layer `pre` -/
def preParents (fs : FS) (d : Comps) (pre : List String) : R (List Comps) :=
  if pre = [] then .ok []
  else
    match fs.findRooted [] d (layerName pre) with
    | some f => .ok [f]
    | none => .error .missingFile

/-- a filename chain is a chain of single parents -/
theorem linked_clLinks (hd : PlainDir fs d) : ∀ (R : List CLayer),
    (∀ n ∈ cnames pre R, PlainName n) → ChainOK fs d pre R →
    Linked fs ⟨[], cwd⟩ (preParents fs d pre) (clLinks d pre R)
  | [], _, _ => trivial
  | [x], hpl, hok => by
    refine ⟨loadFile_chain hd x [] hpl hok, ?_, trivial⟩
    rw [fileParents_chain hd x [] hpl hok, cnames_nil]
    rfl
  | x :: y :: S, hpl, hok => by
    have hne : cnames pre (y :: S) ≠ [] := by rw [cnames_cons]; simp
    refine ⟨loadFile_chain hd x (y :: S) hpl hok, ?_, linked_clLinks hd (y :: S) (plain_tail hpl) hok.2.2⟩
    rw [fileParents_chain hd x (y :: S) hpl hok, if_neg hne,
      findRooted_layerFile (layer := layerName (cnames pre (y :: S))) hd
        (layer_length_pos _ hne (fun n hn => (plain_tail hpl n hn).1)) hok.2.2.1]
    rfl

/-- the documents of a filename chain carry no `$parent`: nothing is stripped -/
theorem stripDocs_clLinks : ∀ (R : List CLayer), ChainOK fs d pre R →
    stripDocs (clLinks d pre R) = clLinks d pre R
  | [], _ => rfl
  | x :: S, hok => by
    rw [clLinks, stripDocs_cons, map_stripParent_absent _ hok.2.1, stripDocs_clLinks S hok.2.2]

end chainN

/-! ## top first, for any child and any fuel that covers the depth -/

section chain
variable {fs : FS} {d cwd : Comps}

/-- **a filename chain loads base first**: any depth, any child id, any fuel that covers the depth,
    any chain of children that avoids its files.  Chains of literal names (`a`, `a.b`, …) are
    instances: `clPath` and `chainFiles` unfold on them by evaluation. -/
theorem lfp_clChain (hd : PlainDir fs d) (x : CLayer) (S : List CLayer)
    (hpl : ∀ n ∈ cnames [] (x :: S), PlainName n) (hok : ChainOK fs d [] (x :: S))
    (fuel : Nat) (c : Option String) (ids : List String) (chain : List Comps)
    (hch : ∀ p ∈ (clLinks d [] (x :: S)).map (·.1), chain.contains p = false) :
    loadFileAndParents fs ⟨[], cwd⟩ (fuel + S.length + 1) (clPath d [] (x :: S)) c ids chain =
      .ok (chainFiles d [] c (x :: S), docIdsOf (fileIdOf c (clPath d [] (x :: S))) x.docs.length) := by
  rw [← clLinks_length d [] S,
    lfp_linked fuel (clLinks d [] S) _ x.docs c ids chain (linked_clLinks hd (x :: S) hpl hok) hch,
    chainFiles_eq]
  exact congrArg (fun L => Except.ok (linkFiles c L, _)) (stripDocs_clLinks (x :: S) hok)

/-- hence a filename chain within the loader's fuel is merged as the run of its files' documents, base first.  On a chain of
    literal names `clPath` and `chainFiles` unfold by evaluation, so this is also how a sample chain is evaluated. -/
theorem mergeFileLayers_clChain (hd : PlainDir fs d) (x : CLayer) (S : List CLayer)
    (hpl : ∀ n ∈ cnames [] (x :: S), PlainName n) (hok : ChainOK fs d [] (x :: S))
    (hlen : S.length < loadFuel) (st : PState) :
    mergeFileLayers fs ⟨[], cwd⟩ st (clPath d [] (x :: S)) =
      runMerges st ((chainFiles d [] none (x :: S)).flatMap (·.docs)) := by
  refine mergeFileLayers_of_load (ids := docIdsOf (pathStr (clPath d [] (x :: S))) x.docs.length) ?_ st
  rw [show loadFuel = (loadFuel - (S.length + 1)) + S.length + 1 by omega]
  exact lfp_clChain hd x S hpl hok _ none [] [] (fun _ _ => rfl)

end chain

/-! ## base first -/

theorem clLinks_snd (d : Comps) (pre : List String) : ∀ (R : List CLayer),
    (clLinks d pre R).map (·.2) = R.map (·.docs)
  | [] => rfl
  | x :: S => by rw [clLinks, List.map_cons, clLinks_snd d pre S]; rfl

theorem clLinks_fst_reverse (d : Comps) (pre : List String) : ∀ (R : List CLayer),
    ((clLinks d pre R).map (·.1)).reverse =
      (List.range R.length).map (fun k => clPath d pre (R.drop (R.length - (k + 1))))
  | [] => rfl
  | x :: S => by
    rw [clLinks, List.map_cons, List.reverse_cons, clLinks_fst_reverse d pre S, List.length_cons,
      List.range_succ, List.map_append]
    congr 1
    · apply List.map_congr_left
      intro k hk
      have hk' : k < S.length := List.mem_range.1 hk
      have : S.length + 1 - (k + 1) = (S.length - (k + 1)) + 1 := by omega
      rw [this, List.drop_succ_cons]
    · simp

/-- the file that provides the layer named by the names of `pre` and `P` joined with dots
    (its extension is the one recorded in `P`'s last element) -/
def prefixPath (d : Comps) (pre : List String) (P : List CLayer) : Comps := clPath d pre P.reverse

theorem prefixPath_snoc (d : Comps) (pre : List String) (P : List CLayer) (x : CLayer) :
    prefixPath d pre (P ++ [x]) =
      d ++ [layerName (pre ++ (P ++ [x]).map (·.name)) ++ "." ++ x.ext] := by
  simp [prefixPath, clPath, cnames]

/-- base-first: every non-empty prefix `P ++ [x]` of the chain `L` (above the names `pre`) is
    provided by exactly one file, `<pre.names of P.x.name>.<x.ext>`, holding `x.docs`, none of
    which carries `$parent` -/
def ChainFilesOK (fs : FS) (d : Comps) (pre : List String) (L : List CLayer) : Prop :=
  ∀ P x, P ++ [x] <+: L →
    LayerFile fs d (layerName (pre ++ (P ++ [x]).map (·.name))) x.ext (.ok x.docs) ∧
      ∀ v ∈ x.docs, parentDirective v = .ok .absent

theorem chainOK_of_suffixes {fs : FS} {d : Comps} {pre : List String} : ∀ (R : List CLayer),
    (∀ S x, x :: S <:+ R → LayerFile fs d (layerName (cnames pre (x :: S))) x.ext (.ok x.docs) ∧
      ∀ v ∈ x.docs, parentDirective v = .ok .absent) → ChainOK fs d pre R
  | [], _ => trivial
  | x :: S, h =>
    ⟨(h S x (List.suffix_refl _)).1, (h S x (List.suffix_refl _)).2,
      chainOK_of_suffixes S (fun S' y hs => h S' y (List.suffix_cons_iff.2 (Or.inr hs)))⟩

theorem chainOK_reverse {fs : FS} {d : Comps} {pre : List String} {L : List CLayer}
    (h : ChainFilesOK fs d pre L) : ChainOK fs d pre L.reverse := by
  apply chainOK_of_suffixes
  intro S x hs
  have hp : S.reverse ++ [x] <+: L := by
    rw [← List.reverse_suffix]
    simpa using hs
  have := h S.reverse x hp
  have e : cnames pre (x :: S) = pre ++ (S.reverse ++ [x]).map (·.name) := by simp [cnames]
  rw [e]
  exact this

theorem cnames_reverse (pre : List String) (L : List CLayer) :
    cnames pre L.reverse = pre ++ L.map (·.name) := by simp [cnames]

theorem chainFiles_paths_rev (d : Comps) (pre : List String) (L : List CLayer) (c : Option String) :
    (chainFiles d pre c L.reverse).map (·.path) =
      (List.range L.length).map (fun k => prefixPath d pre (L.take (k + 1))) := by
  rw [chainFiles_eq, linkFiles_paths, clLinks_fst_reverse, List.length_reverse]
  apply List.map_congr_left
  intro k hk
  have hk' : k < L.length := List.mem_range.1 hk
  rw [List.drop_reverse]
  have : L.length - (L.length - (k + 1)) = k + 1 := by omega
  rw [this]
  rfl

theorem chainFiles_data_rev (d : Comps) (pre : List String) (L : List CLayer) (c : Option String) :
    (chainFiles d pre c L.reverse).map (fun f => f.docs.map (·.data)) = L.map (·.docs) := by
  rw [chainFiles_eq, linkFiles_data, clLinks_snd, List.map_reverse, List.reverse_reverse]

section baseFirst

variable {fs : FS} {d cwd : Comps} {pre : List String}

theorem plain_of_baseFirst {P : List CLayer} {x : CLayer} (hpre : ∀ n ∈ pre, PlainName n)
    (hpl : ∀ y ∈ P ++ [x], PlainName y.name) :
    ∀ n ∈ cnames pre (x :: P.reverse), PlainName n := by
  intro n hn
  have e : cnames pre (x :: P.reverse) = pre ++ (P ++ [x]).map (·.name) := by simp [cnames]
  rw [e] at hn
  rcases List.mem_append.1 hn with hn | hn
  · exact hpre n hn
  · obtain ⟨y, hy, rfl⟩ := List.mem_map.1 hn
    exact hpl y hy

theorem baseFirst_linked (hd : PlainDir fs d) (P : List CLayer) (x : CLayer)
    (hpre : ∀ n ∈ pre, PlainName n) (hpl : ∀ y ∈ P ++ [x], PlainName y.name)
    (hok : ChainFilesOK fs d pre (P ++ [x])) :
    prefixPath d pre (P ++ [x]) = clPath d pre (x :: P.reverse) ∧
    ChainOK fs d pre (x :: P.reverse) ∧
    Linked fs ⟨[], cwd⟩ (preParents fs d pre)
      ((clPath d pre (x :: P.reverse), x.docs) :: clLinks d pre P.reverse) := by
  have hr : (P ++ [x]).reverse = x :: P.reverse := by simp
  have hok' := chainOK_reverse hok
  rw [hr] at hok'
  have hpl' := plain_of_baseFirst hpre hpl
  exact ⟨by rw [prefixPath, hr], hok', linked_clLinks hd _ hpl' hok'⟩

theorem load_chain (hd : PlainDir fs d) (P : List CLayer) (x : CLayer)
    (hlen : (P ++ [x]).length ≤ loadFuel) (hpl : ∀ y ∈ P ++ [x], PlainName y.name)
    (hok : ChainFilesOK fs d [] (P ++ [x])) :
    loadFileAndParents fs ⟨[], cwd⟩ loadFuel (prefixPath d [] (P ++ [x])) none [] [] =
      .ok (chainFiles d [] none (P ++ [x]).reverse,
        docIdsOf (pathStr (prefixPath d [] (P ++ [x]))) x.docs.length) := by
  obtain ⟨hp, hok', -⟩ := baseFirst_linked (cwd := cwd) (pre := []) hd P x (fun _ h => nomatch h) hpl hok
  have hf : loadFuel = (loadFuel - (P.length + 1)) + P.reverse.length + 1 := by
    rw [List.length_append] at hlen
    rw [List.length_reverse]
    exact (Nat.sub_add_cancel hlen).symm
  rw [hp, hf, List.reverse_append]
  exact lfp_clChain hd x P.reverse (plain_of_baseFirst (fun _ h => nomatch h) hpl) hok' _ none [] []
    (fun _ _ => rfl)

theorem load_chain_nofuel (hd : PlainDir fs d) (P : List CLayer) (x : CLayer)
    (hlen : loadFuel < (P ++ [x]).length) (hpre : ∀ n ∈ pre, PlainName n)
    (hpl : ∀ y ∈ P ++ [x], PlainName y.name)
    (hok : ChainFilesOK fs d pre (P ++ [x])) :
    loadFileAndParents fs ⟨[], cwd⟩ loadFuel (prefixPath d pre (P ++ [x])) none [] [] =
      .error .circularRef := by
  obtain ⟨hp, _, hl⟩ := baseFirst_linked (cwd := cwd) hd P x hpre hpl hok
  rw [hp]
  refine lfp_linked_nofuel loadFuel _ _ _ none [] [] hl ?_
  rw [List.length_append] at hlen
  rw [clLinks_length, List.length_reverse]
  exact Nat.le_of_lt_succ hlen

theorem load_chain_missing (hd : PlainDir fs d) (P : List CLayer) (x : CLayer)
    (hlen : (P ++ [x]).length ≤ loadFuel) (hne : pre ≠ []) (hpre : ∀ n ∈ pre, PlainName n)
    (hpl : ∀ y ∈ P ++ [x], PlainName y.name)
    (hok : ChainFilesOK fs d pre (P ++ [x]))
    (hm : fs.findRooted [] d (layerName pre) = none) :
    loadFileAndParents fs ⟨[], cwd⟩ loadFuel (prefixPath d pre (P ++ [x])) none [] [] =
      .error .missingFile := by
  obtain ⟨hp, _, hl⟩ := baseFirst_linked (cwd := cwd) hd P x hpre hpl hok
  have hf : loadFuel = (loadFuel - (P.length + 1)) + (clLinks d pre P.reverse).length + 1 := by
    rw [List.length_append] at hlen
    rw [clLinks_length, List.length_reverse]
    exact (Nat.sub_add_cancel hlen).symm
  rw [preParents, if_neg hne, hm] at hl
  rw [hp, hf]
  exact lfp_linked_error _ _ _ _ _ none [] [] hl (fun _ _ => rfl)

end baseFirst

theorem chainFilesOK_nil (fs : FS) (d : Comps) (pre : List String) : ChainFilesOK fs d pre [] := by
  intro P x h
  have := List.prefix_nil.1 h
  simp at this

theorem chainFilesOK_snoc {fs : FS} {d : Comps} {pre : List String} {L : List CLayer} {x : CLayer}
    (h : ChainFilesOK fs d pre L)
    (hx : LayerFile fs d (layerName (pre ++ (L ++ [x]).map (·.name))) x.ext (.ok x.docs))
    (hv : ∀ v ∈ x.docs, parentDirective v = .ok .absent) : ChainFilesOK fs d pre (L ++ [x]) := by
  intro P y hp
  rcases List.prefix_concat_iff.1 hp with e | hp'
  · obtain ⟨rfl, e2⟩ := List.append_inj' e rfl
    cases e2
    exact ⟨hx, hv⟩
  · exact h P y hp'

/-! sample file system for the chain examples: /w/a.yaml, /w/a.b.json, /w/a.b.c.toml,
    /w/bad.yaml (undecodable), /w/orphan.x.yaml (its layer `orphan` is missing) -/

def chainFS : FS := ⟨[
  (["w"], .dir),
  (["w", "a.yaml"], .file (.ok [.map [("x", .int 1)]])),
  (["w", "a.b.json"], .file (.ok [.map [("y", .int 2)]])),
  (["w", "a.b.c.toml"], .file (.ok [.map [("z", .int 3)]])),
  (["w", "bad.yaml"], .file (.error .unmarshal)),
  (["w", "orphan.x.yaml"], .file (.ok [.map []]))]⟩

theorem chainFS_plain : PlainDir chainFS ["w"] :=
  plainDir_single (n := .dir) (by decide) (by decide) rfl

theorem chainFS_a : LayerFile chainFS ["w"] "a" "yaml" (.ok [.map [("x", .int 1)]]) := by
  decide +kernel

theorem chainFS_ab : LayerFile chainFS ["w"] "a.b" "json" (.ok [.map [("y", .int 2)]]) := by
  decide +kernel

theorem chainFS_abc : LayerFile chainFS ["w"] "a.b.c" "toml" (.ok [.map [("z", .int 3)]]) := by
  decide +kernel

theorem chainFS_bad : LayerFile chainFS ["w"] "bad" "yaml" (.error .unmarshal) := by
  decide +kernel

def exChain : List CLayer :=
  [⟨"a", "yaml", [.map [("x", .int 1)]]⟩, ⟨"b", "json", [.map [("y", .int 2)]]⟩,
   ⟨"c", "toml", [.map [("z", .int 3)]]⟩]

theorem exChain_ok : ChainFilesOK chainFS ["w"] [] exChain := by
  have h0 := chainFilesOK_nil chainFS ["w"] []
  have h1 := chainFilesOK_snoc (x := ⟨"a", "yaml", [.map [("x", .int 1)]]⟩) h0
    (by rw [show layerName _ = "a" by decide]; exact chainFS_a)
    (List.forall_mem_singleton.2 rfl)
  have h2 := chainFilesOK_snoc (x := ⟨"b", "json", [.map [("y", .int 2)]]⟩) h1
    (by rw [show layerName _ = "a.b" by decide]; exact chainFS_ab)
    (List.forall_mem_singleton.2 rfl)
  exact chainFilesOK_snoc (x := ⟨"c", "toml", [.map [("z", .int 3)]]⟩) h2
    (by rw [show layerName _ = "a.b.c" by decide]; exact chainFS_abc)
    (List.forall_mem_singleton.2 rfl)

theorem exChain_plain : ∀ y ∈ exChain, PlainName y.name := by
  intro y hy
  simp only [exChain, List.mem_cons, List.not_mem_nil, or_false] at hy
  rcases hy with rfl | rfl | rfl <;> exact ⟨by decide, by decide⟩

end Bkl
