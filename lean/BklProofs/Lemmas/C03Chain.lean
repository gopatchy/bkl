/-
  BklProofs.Lemmas.C03Chain — what only C03 needs: the generated file systems `deepFS` (a chain of any depth, for the fuel
  counterexamples), two chains of one-document files with the same contents merge alike up to a renaming of the loader's
  document ids (`chain_merge_equiv`, `linked_layers_equiv`; the ids never end in `|matchnull`: `noMN_docId`,
  Lemmas/FilesLoad.lean), and the sample file systems `selfFS`, `danglingFS`, `symFS`, `dirFS`.
-/
import BklProofs.Lemmas.FilesRename
import BklProofs.Lemmas.FilesChain
namespace Bkl

/-! ## a file system with a chain of any depth (for the fuel counterexamples) -/

def deepLayer : CLayer := ⟨"a", "yaml", [.map []]⟩

def deepName (pre : List String) (k : Nat) : String :=
  layerName (pre ++ List.replicate (k + 1) "a") ++ "." ++ "yaml"

/-- `/w/<pre>.a.yaml`, `/w/<pre>.a.a.yaml`, … (`n` files), each holding the document `{}` -/
def deepFS (pre : List String) (n : Nat) : FS :=
  ⟨(["w"], .dir) :: (List.range n).map fun k => (["w", deepName pre k], .file (.ok [.map []]))⟩

theorem deepFS_lstat (pre : List String) (n : Nat) (s : String) :
    (deepFS pre n).lstat (["w"] ++ [s]) =
      if (List.range n).any (fun k => deepName pre k == s) then some (.file (.ok [.map []]))
      else none := by
  rw [lstat_eq, deepFS]
  have h1 : (["w"] ++ [s] : Comps).isEmpty = false := rfl
  have h2 : ((["w"] : Comps) == ["w"] ++ [s]) = false := by
    rw [beq_eq_false_iff_ne]; intro e; cases e
  simp only [h1, Bool.false_eq_true, if_false, List.find?_cons, h2]
  have := find?_map_const (fun k => ["w", deepName pre k]) (FNode.file (.ok [.map []])) (["w"] ++ [s])
    (List.range n)
  rw [this]
  congr 2
  congr 1
  funext k
  show (["w", deepName pre k] == ["w", s]) = (deepName pre k == s)
  by_cases e : deepName pre k = s
  · subst e; simp
  · rw [beq_eq_false_iff_ne.2 e, beq_eq_false_iff_ne]
    intro e'; apply e; simpa using e'

theorem deepFS_plain (pre : List String) (n : Nat) : PlainDir (deepFS pre n) ["w"] :=
  plainDir_single (n := .dir) (by decide) (by simp [lstat_eq, deepFS]) rfl

theorem deepName_ne_ext (pre : List String) (k : Nat) (l e : String) (he : e ∈ supportedExts)
    (hne : e ≠ "yaml") : (deepName pre k == l ++ "." ++ e) = false := by
  rw [beq_eq_false_iff_ne]
  intro h
  have := congrArg extOf h
  unfold deepName at this
  rw [extOf_snoc _ _ (by decide), extOf_snoc _ _ (supportedExt_noDot e he)] at this
  exact hne this.symm

theorem deepFS_chainOK (pre : List String) (n : Nat) :
    ChainFilesOK (deepFS pre n) ["w"] pre (List.replicate n deepLayer) := by
  intro P x hp
  obtain ⟨hP, hx, hlt⟩ := replicate_prefix hp
  subst hx
  have hn : (P ++ [deepLayer]).map (·.name) = List.replicate (P.length + 1) "a" := by
    rw [hP]
    simp only [List.map_append, List.map_replicate, List.map_cons, List.map_nil, List.length_replicate]
    rw [← List.replicate_succ']
    rfl
  rw [hn]
  refine ⟨⟨by decide, ?_, ?_⟩, ?_⟩
  · rw [deepFS_lstat]
    have : (List.range n).any (fun k => deepName pre k == layerName (pre ++ List.replicate (P.length + 1) "a") ++ "." ++ deepLayer.ext) = true := by
      rw [List.any_eq_true]
      exact ⟨P.length, List.mem_range.2 hlt, by simp [deepName, deepLayer]⟩
    rw [this]; rfl
  · intro e he hne
    rw [deepFS_lstat]
    have : (List.range n).any (fun k => deepName pre k == layerName (pre ++ List.replicate (P.length + 1) "a") ++ "." ++ e) = false := by
      rw [List.any_eq_false]
      intro k _
      rw [deepName_ne_ext pre k _ e he hne]
      simp
    rw [this]; rfl
  · intro v hv
    have : v = Val.map [] := by simpa [deepLayer] using hv
    subst this; rfl

theorem deepFS_missing (pre : List String) (n : Nat) (hne : pre ≠ [])
    (hpre : ∀ s ∈ pre, PlainName s) :
    ∀ e ∈ supportedExts, (deepFS pre n).lstat (["w"] ++ [layerName pre ++ "." ++ e]) = none := by
  intro e he
  rw [deepFS_lstat]
  have : (List.range n).any (fun k => deepName pre k == layerName pre ++ "." ++ e) = false := by
    rw [List.any_eq_false]
    intro k _
    by_cases hy : e = "yaml"
    · subst hy
      simp only [beq_iff_eq]
      intro h
      have h2 := congrArg (fun s => (String.splitOn s ".").length) h
      unfold deepName layerName at h2
      simp only [splitOn_dot_snoc _ _ (show '.' ∉ "yaml".toList by decide)] at h2
      rw [splitOn_layer _ (by simp [hne]) (by
          intro s hs
          rcases List.mem_append.1 hs with hs | hs
          · exact (hpre s hs).2
          · rw [(List.mem_replicate.1 hs).2]; decide),
        splitOn_layer _ hne (fun s hs => (hpre s hs).2)] at h2
      simp at h2
    · rw [deepName_ne_ext pre k _ e he hy]; simp
  rw [this]; rfl

theorem deepLayer_plain : PlainName deepLayer.name := ⟨by decide, by decide⟩

theorem deep_length (n : Nat) : (List.replicate n deepLayer ++ [deepLayer]).length = n + 1 := by
  rw [List.length_append, List.length_replicate]; rfl

theorem deepFS_chain (pre : List String) (n : Nat) :
    (∀ y ∈ List.replicate n deepLayer ++ [deepLayer], PlainName y.name) ∧
    ChainFilesOK (deepFS pre (n + 1)) ["w"] pre (List.replicate n deepLayer ++ [deepLayer]) := by
  rw [← List.replicate_succ']
  exact ⟨fun y hy => (List.mem_replicate.1 hy).2 ▸ deepLayer_plain, deepFS_chainOK pre (n + 1)⟩

/-! ## two chains of one-document files with the same contents merge alike -/

/-- a chain of one-document files, as `linkFiles` takes it -/
def oneLinks (l : List (Comps × Val)) : List (Comps × List Val) := l.map fun x => (x.1, [x.2])

/-- the document ids of two such chains of the same length, paired file by file (top first) -/
def idTable : Option String → Option String → List (Comps × Val) → List (Comps × Val) →
    List (String × String)
  | c₁, c₂, x₁ :: r₁, x₂ :: r₂ =>
    (fileIdOf c₁ x₁.1 ++ "|doc" ++ toString 0, fileIdOf c₂ x₂.1 ++ "|doc" ++ toString 0) ::
      idTable (some (fileIdOf c₁ x₁.1)) (some (fileIdOf c₂ x₂.1)) r₁ r₂
  | _, _, _, _ => []

/-- deeper files lie below: their documents' ids differ from those of the files above -/
theorem idTable_below (l₁ : List (Comps × Val)) : ∀ (a b : String) (l₂ : List (Comps × Val)),
    ∀ p ∈ idTable (some a) (some b) l₁ l₂, ∃ g h, Below a g ∧ Below b h ∧
      p = (g ++ "|doc" ++ toString 0, h ++ "|doc" ++ toString 0) := by
  induction l₁ with
  | nil => intro a b l₂ p h; cases h
  | cons x₁ r₁ ih =>
    intro a b l₂ p h
    cases l₂ with
    | nil => cases h
    | cons x₂ r₂ =>
      rcases List.mem_cons.1 h with rfl | h
      · exact ⟨_, _, below_bar_path a _, below_bar_path b _, rfl⟩
      · obtain ⟨g, k, hg, hk, e⟩ := ih _ _ r₂ p h
        exact ⟨g, k, below_trans (below_bar_path a _) hg, below_trans (below_bar_path b _) hk, e⟩

theorem idTable_ok (l₁ : List (Comps × Val)) : ∀ (c₁ c₂ : Option String) (l₂ : List (Comps × Val)),
    PairsOK (idTable c₁ c₂ l₁ l₂) := by
  induction l₁ with
  | nil => intro c₁ c₂ l₂; exact pairsOK_nil
  | cons x₁ r₁ ih =>
    intro c₁ c₂ l₂
    cases l₂ with
    | nil => exact pairsOK_nil
    | cons x₂ r₂ =>
      refine pairsOK_cons (ih _ _ r₂) (noMN_docId _ 0) (noMN_docId _ 0) (fun p hp => ?_)
      obtain ⟨g, k, hg, hk, rfl⟩ := idTable_below r₁ (fileIdOf c₁ x₁.1) (fileIdOf c₂ x₂.1) r₂ p hp
      exact ⟨(docId_ne_below hg 0 0).symm, (docId_ne_below hk 0 0).symm⟩

/-- Two chains of one-document files with the same contents, whose document ids are paired file by file in a table `T` of
    admissible pairs: what the second loads is what the first loads with every id renamed by `pairsRen T`, and every id the first
    uses lies in `pairsS T`. -/
theorem linkFiles_ren {T : List (String × String)} (hT : PairsOK T) (l₁ : List (Comps × Val)) :
    ∀ (l₂ : List (Comps × Val)) (c₁ c₂ : Option String),
    l₁.map (·.2) = l₂.map (·.2) →
    (∀ p ∈ idTable c₁ c₂ l₁ l₂, p ∈ T) →
    (linkFiles c₂ (oneLinks l₂)).map (·.docs) =
        (linkFiles c₁ (oneLinks l₁)).map (fun f => f.docs.map (renDoc (pairsRen T))) ∧
      ∀ f ∈ linkFiles c₁ (oneLinks l₁), ∀ dd ∈ f.docs, DocIn (pairsS T) dd := by
  induction l₁ with
  | nil =>
    intro l₂ c₁ c₂ hv _
    cases l₂ with
    | nil => exact ⟨rfl, fun _ h => (nomatch h)⟩
    | cons _ _ => cases hv
  | cons x₁ r₁ ih =>
    intro l₂ c₁ c₂ hv hT'
    cases l₂ with
    | nil => cases hv
    | cons x₂ r₂ =>
      have hv' := List.cons.inj hv
      have ih := ih r₂ (some (fileIdOf c₁ x₁.1)) (some (fileIdOf c₂ x₂.1)) hv'.2
        (fun p hp => hT' p (List.mem_cons_of_mem _ hp))
      have hm := hT' _ List.mem_cons_self
      have hρ := pairsRen_base hT _ hm
      -- the one parent link of the top documents: the document of the file below
      have hps : ∃ ps₁ ps₂, (∀ p ∈ ps₁, pairsS T p) ∧ ps₁.map (pairsRen T) = ps₂ ∧
          linkFiles c₁ (oneLinks (x₁ :: r₁)) = linkFiles (some (fileIdOf c₁ x₁.1)) (oneLinks r₁) ++
            [⟨fileIdOf c₁ x₁.1, x₁.1, [oneDoc (fileIdOf c₁ x₁.1) ps₁ x₁.2]⟩] ∧
          linkFiles c₂ (oneLinks (x₂ :: r₂)) = linkFiles (some (fileIdOf c₂ x₂.1)) (oneLinks r₂) ++
            [⟨fileIdOf c₂ x₂.1, x₂.1, [oneDoc (fileIdOf c₂ x₂.1) ps₂ x₂.2]⟩] := by
        cases r₁ with
        | nil =>
          cases r₂ with
          | nil => exact ⟨[], [], fun _ h => (nomatch h), rfl, rfl, rfl⟩
          | cons y₂ r₂ => cases hv'.2
        | cons y₁ r₁ =>
          cases r₂ with
          | nil => cases hv'.2
          | cons y₂ r₂ =>
            have hm' := hT' _ (List.mem_cons_of_mem _ List.mem_cons_self)
            exact ⟨_, _, fun p hp => List.mem_singleton.1 hp ▸ pairsS_base _ hm',
              congrArg (fun s => [s]) (pairsRen_base hT _ hm'), rfl, rfl⟩
      obtain ⟨ps₁, ps₂, hin, hren, e₁, e₂⟩ := hps
      rw [e₁, e₂]
      refine ⟨?_, ?_⟩
      · rw [List.map_append, List.map_append, ih.1]
        simp only [List.map_cons, List.map_nil, renDoc, oneDoc, hρ, hren, hv'.1]
      · intro f hf dd hdd
        rcases List.mem_append.1 hf with hf | hf
        · exact ih.2 f hf dd hdd
        · rw [List.mem_singleton.1 hf] at hdd
          rw [List.mem_singleton.1 hdd]
          exact ⟨pairsS_base _ hm, hin⟩

theorem chain_merge_equiv (l₁ l₂ : List (Comps × Val)) (hv : l₁.map (·.2) = l₂.map (·.2)) :
    ∃ ρ S, RenOK ρ S ∧
      mergeFiles PState.empty (linkFiles none (oneLinks l₂)) =
        rmap (renState ρ) (mergeFiles PState.empty (linkFiles none (oneLinks l₁))) := by
  have hT := idTable_ok l₁ none none l₂
  obtain ⟨h1, h2⟩ := linkFiles_ren hT l₁ l₂ none none hv (fun _ h => h)
  exact ⟨_, _, renOK_pairs hT, mergeFiles_ren (renOK_pairs hT) _ _ h2 h1⟩

theorem linked_parent2 {fs : FS} {d cwd : Comps} {x y f₁ f₂ n : String} {v₁ : Val} {k₂ : Fields}
    (hd : PlainDir fs d) (hx : 0 < x.length) (hxd : '.' ∉ x.toList) (hy : 0 < y.length)
    (g₁ : LayerFile fs d x f₁ (.ok [v₁])) (g₂ : LayerFile fs d y f₂ (.ok [.map k₂]))
    (a₁ : parentDirective v₁ = .ok .absent) (p₂ : fget k₂ "$parent" = some (.str n))
    (gl₂ : globName fs ⟨[], cwd⟩ (d ++ [y ++ "." ++ f₂]) n = [d ++ [x ++ "." ++ f₁]]) :
    Linked fs ⟨[], cwd⟩ (.ok []) [(d ++ [y ++ "." ++ f₂], [.map k₂]), (d ++ [x ++ "." ++ f₁], [v₁])] := by
  refine ⟨fun fid => loadFile_layerFile hd hy g₂ cwd fid, fileParents_str_single fs _ _ _ k₂ n p₂ gl₂,
    fun fid => loadFile_layerFile hd hx g₁ cwd fid, ?_, trivial⟩
  rw [fileParents_layer ⟨[], cwd⟩ hd hx g₁ (List.forall_mem_singleton.2 a₁), splitOn_dot_none x hxd]
  rfl

/-- Two chains of single parents (`Linked`, by whatever rule each file finds its parent, under any two configurations) whose
    files hold one document each, with the same contents once `$parent` is stripped: both load as `linkFiles`, and what
    `mergeFileLayers` makes of the one is what it makes of the other up to a renaming of document ids (`chain_merge_equiv`); so the
    merged documents and every output are the same.  `C03_directive_equiv` is this for a filename chain against a `$parent` chain. -/
theorem linked_layers_equiv {fs : FS} {cfgA cfgB : RootCfg} {xA xB : Comps × Val}
    {lA lB : List (Comps × Val)}
    (hA : Linked fs cfgA (.ok []) (oneLinks (xA :: lA)))
    (hB : Linked fs cfgB (.ok []) (oneLinks (xB :: lB)))
    (hlen : lA.length < loadFuel)
    (hv : (xA :: lA).map (stripParent ·.2) = (xB :: lB).map (stripParent ·.2)) :
    (loadFileAndParents fs cfgA loadFuel xA.1 none [] [] =
        .ok (linkFiles none (stripDocs (oneLinks (xA :: lA))), docIdsOf (pathStr xA.1) 1) ∧
      loadFileAndParents fs cfgB loadFuel xB.1 none [] [] =
        .ok (linkFiles none (stripDocs (oneLinks (xB :: lB))), docIdsOf (pathStr xB.1) 1)) ∧
    (∃ ρ S, RenOK ρ S ∧ mergeFileLayers fs cfgB PState.empty xB.1 =
      rmap (renState ρ) (mergeFileLayers fs cfgA PState.empty xA.1)) ∧
    rmap (fun st => st.docs.map (·.2)) (mergeFileLayers fs cfgB PState.empty xB.1) =
      rmap (fun st => st.docs.map (·.2)) (mergeFileLayers fs cfgA PState.empty xA.1) ∧
    ∀ env, (mergeFileLayers fs cfgB PState.empty xB.1 >>= fun st => outputDocuments (st.docs.map (·.2)) env) =
      (mergeFileLayers fs cfgA PState.empty xA.1 >>= fun st => outputDocuments (st.docs.map (·.2)) env) := by
  have hlenB : lB.length = lA.length := by
    have := congrArg List.length hv
    simpa using this.symm
  have load : ∀ (cfg : RootCfg) (x : Comps × Val) (l : List (Comps × Val)),
      Linked fs cfg (.ok []) (oneLinks (x :: l)) → l.length < loadFuel →
      loadFileAndParents fs cfg loadFuel x.1 none [] [] =
        .ok (linkFiles none (stripDocs (oneLinks (x :: l))), docIdsOf (pathStr x.1) 1) := by
    intro cfg x l h hl
    have hf : loadFuel = (loadFuel - (l.length + 1)) + (oneLinks l).length + 1 := by
      rw [oneLinks, List.length_map]; omega
    rw [hf]
    exact lfp_linked _ (oneLinks l) x.1 [x.2] none [] [] h (fun _ _ => rfl)
  have eA := load cfgA xA lA hA hlen
  have eB := load cfgB xB lB hB (hlenB ▸ hlen)
  have hs : ∀ l : List (Comps × Val),
      stripDocs (oneLinks l) = oneLinks (l.map fun x => (x.1, stripParent x.2)) := fun l => by
    simp only [stripDocs, oneLinks, List.map_map]; rfl
  obtain ⟨ρ, S, hr, hm⟩ := chain_merge_equiv _ _
    (show ((xA :: lA).map fun x => (x.1, stripParent x.2)).map (·.2) =
      ((xB :: lB).map fun x => (x.1, stripParent x.2)).map (·.2) by
        simp only [List.map_map]; exact hv)
  have e : mergeFileLayers fs cfgB PState.empty xB.1 =
      rmap (renState ρ) (mergeFileLayers fs cfgA PState.empty xA.1) := by
    rw [mergeFileLayers_eq, mergeFileLayers_eq, eA, eB, hs, hs]
    exact hm
  refine ⟨⟨eA, eB⟩, ⟨ρ, S, hr, e⟩, ?_, ?_⟩
  · rw [e, rmap_data_ren]
  · intro env
    rw [e, bind_output_ren]

/-! ## sample file systems -/

theorem parts_abc : "a.b.c".splitOn "." = ["a", "b", "c"] := by rw [splitOn_dot]; decide

/-- the self-parent file system: `/a.yaml` containing `$parent: a` -/
def selfFS : FS := ⟨[(["a.yaml"], .file (.ok [.map [("$parent", .str "a")]]))]⟩

theorem selfFS_glob : globNames selfFS [] "a" = ["a.yaml"] := by
  simp only [globNames, extOf_eq]
  decide +kernel

theorem selfFS_a : LayerFile selfFS [] "a" "yaml" (.ok [.map [("$parent", .str "a")]]) := by
  decide +kernel

theorem selfFS_load (fid : String) :
    loadFile selfFS ⟨[], []⟩ ["a.yaml"] fid = .ok [.map [("$parent", .str "a")]] :=
  loadFile_layerFile (plainDir_nil _) (by decide) selfFS_a [] fid

theorem selfFS_parents :
    fileParents selfFS ⟨[], []⟩ ["a.yaml"] [.map [("$parent", .str "a")]] = .ok [["a.yaml"]] :=
  fileParents_str_single _ _ _ _ _ "a" rfl
    (globName_short (plainDir_nil _) rfl rfl (splitPath_lit "a" ["a"] (by decide)) (by decide)
      selfFS_glob (Nat.le_refl 1))

theorem selfFS_cycle :
    loadFileAndParents selfFS ⟨[], []⟩ loadFuel ["a.yaml"] none [] [] = .error .circularRef :=
  lfp_first_error (fuel := 63) rfl (selfFS_load _) selfFS_parents
    (C03_cycle_is_error _ _ 62 _ _ _ _ List.mem_cons_self)

/-- sample: `/w/top.yaml` has `$parent: [a, nope, a]`; `/w/a.yaml` exists, no `/w/nope.*` -/
def danglingFS : FS := ⟨[
  (["w"], .dir),
  (["w", "a.yaml"], .file (.ok [.map [("x", .int 1)]])),
  (["w", "top.yaml"], .file (.ok [.map [("$parent", .list [.str "a", .str "nope", .str "a"]), ("y", .int 2)]]))]⟩

theorem danglingFS_plain : PlainDir danglingFS ["w"] :=
  plainDir_single (n := .dir) (by decide) (by decide) rfl

theorem danglingFS_glob_a :
    globName danglingFS ⟨[], []⟩ ["w", "top.yaml"] "a" = [["w", "a.yaml"]] :=
  globName_short (d := ["w"]) (names := ["a.yaml"]) danglingFS_plain (by decide) (by decide)
    (splitPath_lit "a" ["a"] (by decide)) (by decide +kernel)
    (by simp only [globNames, extOf_eq]; decide +kernel) (Nat.le_refl 1)

theorem danglingFS_glob_nope : globName danglingFS ⟨[], []⟩ ["w", "top.yaml"] "nope" = [] :=
  globName_short (d := ["w"]) (names := []) danglingFS_plain (by decide) (by decide)
    (splitPath_lit "nope" ["nope"] (by decide)) (by decide +kernel)
    (by simp only [globNames, extOf_eq]; decide +kernel) (Nat.zero_le 1)

/-- sample: `/w/p.q.yaml -> a.yaml` (its own name would need the missing layer `p`),
    `/w/x.y.z.yaml -> a.b.json` (its own name would need the missing layer `x.y`) -/
def symFS : FS := ⟨[
  (["w"], .dir),
  (["w", "a.yaml"], .file (.ok [.map [("x", .int 1)]])),
  (["w", "a.b.json"], .file (.ok [.map [("y", .int 2)]])),
  (["w", "p.q.yaml"], .link "a.yaml"),
  (["w", "x.y.z.yaml"], .link "a.b.json")]⟩

theorem symFS_plain : PlainDir symFS ["w"] :=
  plainDir_single (n := .dir) (by decide) (by decide) rfl

theorem symFS_a : LayerFile symFS ["w"] "a" "yaml" (.ok [.map [("x", .int 1)]]) := by
  decide +kernel

/-- sample: the filename chain `/w/a.yaml`, `/w/a.b.json`, `/w/a.b.c.toml` and the same
    documents under `/v/base.yaml`, `/v/mid.yaml` (`$parent: base`), `/v/top.json` (`$parent: mid`) -/
def dirFS : FS := ⟨[
  (["w"], .dir), (["v"], .dir),
  (["w", "a.yaml"], .file (.ok [.map [("x", .int 1)]])),
  (["w", "a.b.json"], .file (.ok [.map [("y", .int 2)]])),
  (["w", "a.b.c.toml"], .file (.ok [.map [("z", .int 3)]])),
  (["v", "base.yaml"], .file (.ok [.map [("x", .int 1)]])),
  (["v", "mid.yaml"], .file (.ok [.map [("$parent", .str "base"), ("y", .int 2)]])),
  (["v", "top.json"], .file (.ok [.map [("$parent", .str "mid"), ("z", .int 3)]]))]⟩

theorem dirFS_w : PlainDir dirFS ["w"] := plainDir_single (n := .dir) (by decide) (by decide) rfl

theorem dirFS_v : PlainDir dirFS ["v"] := plainDir_single (n := .dir) (by decide) (by decide) rfl

theorem dirFS_a : LayerFile dirFS ["w"] "a" "yaml" (.ok [.map [("x", .int 1)]]) := by
  decide +kernel

/-- `dirFS_ab`, `dirFS_abc`: the contents written as `stripParent` of the documents under `/v`, the form `h₂`, `h₃` of
    `C03_directive_equiv` take -/
theorem dirFS_ab : LayerFile dirFS ["w"] "a.b" "json"
    (.ok [stripParent (.map [("$parent", .str "base"), ("y", .int 2)])]) := by
  decide +kernel

theorem dirFS_abc : LayerFile dirFS ["w"] "a.b.c" "toml"
    (.ok [stripParent (.map [("$parent", .str "mid"), ("z", .int 3)])]) := by
  decide +kernel

theorem dirFS_base : LayerFile dirFS ["v"] "base" "yaml" (.ok [.map [("x", .int 1)]]) := by
  decide +kernel

theorem dirFS_mid : LayerFile dirFS ["v"] "mid" "yaml"
    (.ok [.map [("$parent", .str "base"), ("y", .int 2)]]) := by
  decide +kernel

theorem dirFS_top : LayerFile dirFS ["v"] "top" "json"
    (.ok [.map [("$parent", .str "mid"), ("z", .int 3)]]) := by
  decide +kernel

theorem dirFS_glob_base :
    globName dirFS ⟨[], []⟩ (["v"] ++ ["mid" ++ "." ++ "yaml"]) "base" =
      [["v"] ++ ["base" ++ "." ++ "yaml"]] :=
  globName_plain [] dirFS_v (by decide) (by decide) ⟨by decide, by decide⟩ (by decide) dirFS_base
    (by decide)

theorem dirFS_glob_mid :
    globName dirFS ⟨[], []⟩ (["v"] ++ ["top" ++ "." ++ "json"]) "mid" =
      [["v"] ++ ["mid" ++ "." ++ "yaml"]] :=
  globName_plain [] dirFS_v (by decide) (by decide) ⟨by decide, by decide⟩ (by decide) dirFS_mid
    (by decide)

end Bkl
