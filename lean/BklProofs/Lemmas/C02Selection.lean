/-
  BklProofs.Lemmas.C02Selection — the specification of stream layering and what one step of
  `mergeDocument` does.

  The first section is a *specification* of which documents a new document (the "patch") is
  layered onto, written from the documentation and independent of `mergeDocument`'s control
  flow.  The theorems say that `mergeDocument` (Bkl/Parser.lean, mirroring parser.go) selects
  exactly those documents, merges the patch body into each of them separately (the new data of
  a selected document is `merge ownData body`), leaves every other document alone, and fails
  as a whole when one target's merge fails.  The last two sections read `mergeDocument` on the
  empty and on a one-document state off the specification.
-/
import BklProofs.Lemmas.Parser
import BklProofs.Lemmas.Merge
import BklProofs.Lemmas.Match
namespace Bkl

/-! ## Specification of the selection -/

/-- the parser state with the patch's own parents registered -/
def registered (st : PState) (patch : Doc) : PState :=
  { st with known := addParents st.known patch.id patch.parents }

/-- `id` is a (transitive) ancestor of the patch.  Computed with the parser's fuel-bounded
    `allParents`; `C02_ancestor_iff` below shows that this is exactly reachability from the
    patch's direct parents along recorded parent links (`Ancestor`, Lemmas/Parser.lean). -/
def isAncestorOf (st0 : PState) (patch : Doc) (id : String) : Bool :=
  (allParents st0.known (st0.known.length + 1) patch.parents).contains id

/-- the ids of the documents satisfying `p`, in document order -/
def idsWhere (st : PState) (p : String → Val → Bool) : List String :=
  (st.docs.filter fun d => p d.1 d.2).map (·.1)

/-- the `$match` directive of a patch: its pattern and the body (the patch minus `$match`) -/
def matchDirective : Val → Option (Val × Val)
  | .map kvs => (fget kvs "$match").map fun pat => (pat, .map (fdel kvs "$match"))
  | _ => none

inductive Selection where
  /-- a new document `(newId, body)` is added at the end of the stream -/
  | append (newId : String) (body : Val)
  /-- `body` is merged into each of the documents `targets` -/
  | merge (targets : List String) (body : Val)
  /-- a non-null `$match` matched nothing: error -/
  | noMatch
  deriving DecidableEq, Repr

/-- The selection, as documented:
    * `$match: null` → append;
    * `$match: pat` → the ancestors that match; if none, all documents that match; if none, error;
    * otherwise → the ancestors; if none, append. -/
def selectionOf (st : PState) (patch : Doc) : Selection :=
  let st0 := registered st patch
  match matchDirective patch.data with
  | some (pat, body) =>
    if pat = .null then .append (patch.id ++ "|matchnull") body
    else
      let ancestorsMatching := idsWhere st0 fun id d => isAncestorOf st0 patch id && matchV d pat
      let allMatching := idsWhere st0 fun _ d => matchV d pat
      if ancestorsMatching ≠ [] then .merge ancestorsMatching body
      else if allMatching ≠ [] then .merge allMatching body
      else .noMatch
  | none =>
    let ancestors := idsWhere st0 fun id _ => isAncestorOf st0 patch id
    if ancestors ≠ [] then .merge ancestors patch.data
    else .append patch.id patch.data

/-- the parents recorded for the patch by a selection (besides its own direct parents) -/
def Selection.linked (patchId : String) : Selection → List String
  | .append newId _ => if newId = patchId then [] else [newId]
  | .merge targets _ => targets
  | .noMatch => []

/-- the documents a selection merges into -/
def Selection.targets : Selection → List String
  | .merge targets _ => targets
  | _ => []

/-- the ids a selection adds at the end of the stream -/
def Selection.newIds : Selection → List String
  | .append newId _ => [newId]
  | _ => []

/-- the value a selection merges in or appends -/
def Selection.body : Selection → Val
  | .append _ body => body
  | .merge _ body => body
  | .noMatch => .null

/-- the documents a selection adds at the end of the stream -/
def Selection.newDocs : Selection → List (String × Val)
  | .append newId body => [(newId, body)]
  | _ => []

/-- what a selection does to the state in which the patch's own parents are registered -/
def Selection.apply (st0 : PState) (pid : String) : Selection → R PState
  | .noMatch => .error .noMatchFound
  | .append newId body =>
    .ok { docs := st0.docs ++ [(newId, body)],
          known := addParents st0.known pid (if newId = pid then [] else [newId]) }
  | .merge targets body => mergeInto st0 pid targets body

/-- "the patch makes the same selection in both streams, at every step of the run" -/
def SameSelections : PState → PState → List Doc → Prop
  | _, _, [] => True
  | s₁, s₂, p :: ps =>
    selectionOf s₁ p = selectionOf s₂ p ∧
      ∀ s₁' s₂', mergeDocument s₁ p = .ok s₁' → mergeDocument s₂ p = .ok s₂' →
        SameSelections s₁' s₂' ps

/-! ### witnesses used by the non-vacuity examples -/

def C02_st : PState :=
  { docs := [("a", .int 1), ("b", .int 2)], known := [("a", []), ("b", [])] }
/-- a layer on top of `a` -/
def C02_patch : Doc := { id := "c", parents := ["a"], data := .int 5 }
def C02_st' : PState :=
  { docs := [("a", .int 5), ("b", .int 2)], known := [("a", []), ("b", []), ("c", ["a", "a"])] }

def C02_mst : PState :=
  { docs := [("a", .map [("x", .int 1)]), ("b", .map [("x", .int 2)])],
    known := [("a", []), ("b", [])] }
/-- a parentless patch selecting `x: 1` by `$match` -/
def C02_mpatch : Doc :=
  { id := "c", parents := [], data := .map [("$match", .map [("x", .int 1)]), ("y", .int 2)] }
def C02_mst' : PState :=
  { docs := [("a", .map [("x", .int 1), ("y", .int 2)]), ("b", .map [("x", .int 2)])],
    known := [("a", []), ("b", []), ("c", ["a"])] }

theorem C02_sel_example : selectionOf C02_st C02_patch = .merge ["a"] (.int 5) := by
  decide
theorem C02_msel_example :
    selectionOf C02_mst C02_mpatch = .merge ["a"] (.map [("y", .int 2)]) := by decide


/-! ## "ancestor" means: reachable along parent links -/

/-- `isAncestorOf` is reachability from the patch's direct parents along the recorded `Parents`
    links (`Ancestor`), so the fuel `known.length + 1` in `parentsOf` never cuts the closure short. -/
theorem C02_ancestor_iff (st0 : PState) (patch : Doc) (id : String) :
    isAncestorOf st0 patch id = true ↔ Ancestor st0.known patch.parents id := by
  unfold isAncestorOf
  rw [List.contains_iff_mem]
  exact mem_allParents_iff_ancestor _ _ _

theorem mem_idsWhere {st : PState} {q : String → Val → Bool} {id : String} :
    id ∈ idsWhere st q ↔ ∃ v, (id, v) ∈ st.docs ∧ q id v = true := by
  unfold idsWhere
  rw [List.mem_map]
  constructor
  · rintro ⟨⟨i, v⟩, hf, rfl⟩
    exact ⟨v, List.mem_filter.1 hf⟩
  · rintro ⟨v, hm, hq⟩
    exact ⟨(id, v), List.mem_filter.2 ⟨hm, hq⟩, rfl⟩

theorem mem_idsWhere_of_unique {st : PState} {q : String → Val → Bool} {id : String} {v : Val}
    (hu : ∀ w, (id, w) ∈ st.docs → w = v) (hm : (id, v) ∈ st.docs) :
    id ∈ idsWhere st q ↔ q id v = true := by
  rw [mem_idsWhere]
  constructor
  · rintro ⟨w, hw, hq⟩
    rwa [← hu w hw]
  · exact fun hq => ⟨v, hm, hq⟩

theorem mem_idsWhere_of_nodup {st : PState} {q : String → Val → Bool} {id : String} {v : Val}
    (hnd : (st.docs.map (·.1)).Nodup) (hm : (id, v) ∈ st.docs) :
    id ∈ idsWhere st q ↔ q id v = true :=
  mem_idsWhere_of_unique (fun _ hw => distinctKeys_unique hnd hw hm) hm

theorem idsWhere_eq_nil {st : PState} {q : String → Val → Bool}
    (h : ∀ p ∈ st.docs, q p.1 p.2 = false) : idsWhere st q = [] := by
  unfold idsWhere
  rw [List.map_eq_nil_iff, List.filter_eq_nil_iff]
  intro p hp
  rw [h p hp]
  exact Bool.false_ne_true

theorem matchDirective_eq_some {v pat body : Val} :
    matchDirective v = some (pat, body) ↔
      ∃ kvs, v = .map kvs ∧ fget kvs "$match" = some pat ∧ body = .map (fdel kvs "$match") := by
  constructor
  · intro h
    cases v with
    | map kvs =>
      rw [matchDirective] at h
      cases hg : fget kvs "$match" with
      | none => rw [hg] at h; cases h
      | some p => rw [hg] at h; cases h; exact ⟨kvs, rfl, hg, rfl⟩
    | _ => cases h
  · rintro ⟨kvs, rfl, hg, rfl⟩
    rw [matchDirective, hg]
    rfl

theorem selectionOf_noMatch {st : PState} {patch : Doc} (h : matchDirective patch.data = none) :
    selectionOf st patch =
      if parentsOf (registered st patch) patch.parents ≠ [] then
        .merge (parentsOf (registered st patch) patch.parents) patch.data
      else .append patch.id patch.data := by
  unfold selectionOf
  rw [h]
  rfl

theorem selectionOf_match {st : PState} {patch : Doc} {pat body : Val}
    (h : matchDirective patch.data = some (pat, body)) :
    selectionOf st patch =
      if pat = .null then .append (patch.id ++ "|matchnull") body
      else if idsWhere (registered st patch)
            (fun id d => isAncestorOf (registered st patch) patch id && matchV d pat) ≠ [] then
        .merge (idsWhere (registered st patch)
          (fun id d => isAncestorOf (registered st patch) patch id && matchV d pat)) body
      else if idsWhere (registered st patch) (fun _ d => matchV d pat) ≠ [] then
        .merge (idsWhere (registered st patch) (fun _ d => matchV d pat)) body
      else .noMatch := by
  unfold selectionOf
  rw [h]


theorem mem_idsWhere_docs {st : PState} {q : String → Val → Bool} {x : String}
    (h : x ∈ idsWhere st q) : x ∈ st.docs.map (·.1) := by
  obtain ⟨v, hv, _⟩ := mem_idsWhere.1 h
  exact List.mem_map.2 ⟨_, hv, rfl⟩

/-- a non-null `$match`: the ancestors that match; if none, the documents that match; if none, an
    error -/
theorem selectionOf_match_cases {st : PState} {patch : Doc} {pat body : Val}
    (h : matchDirective patch.data = some (pat, body)) (hp : pat ≠ .null) :
    ∃ among anywhere,
      among = idsWhere (registered st patch)
        (fun id d => isAncestorOf (registered st patch) patch id && matchV d pat) ∧
      anywhere = idsWhere (registered st patch) (fun _ d => matchV d pat) ∧
      (among ≠ [] ∧ selectionOf st patch = .merge among body ∨
        among = [] ∧ anywhere ≠ [] ∧ selectionOf st patch = .merge anywhere body ∨
        among = [] ∧ anywhere = [] ∧ selectionOf st patch = .noMatch) := by
  refine ⟨_, _, rfl, rfl, ?_⟩
  rw [selectionOf_match h, if_neg hp]
  split
  · rename_i ha
    exact .inl ⟨ha, rfl⟩
  · rename_i ha
    split
    · rename_i hw
      exact .inr (.inl ⟨Decidable.not_not.1 ha, hw, rfl⟩)
    · rename_i hw
      exact .inr (.inr ⟨Decidable.not_not.1 ha, Decidable.not_not.1 hw, rfl⟩)

/-- the patch minus its `$match` -/
def fl_body (v : Val) : Val :=
  match v with
  | .map kvs => .map (fdel kvs "$match")
  | v => v

theorem fl_body_match {v pat body : Val} (h : matchDirective v = some (pat, body)) :
    fl_body v = body := by
  obtain ⟨kvs, rfl, _, rfl⟩ := matchDirective_eq_some.1 h
  rfl

theorem fl_body_noMatch {v : Val} (h : matchDirective v = none) : fl_body v = v := by
  cases v with
  | map kvs =>
    rw [matchDirective, Option.map_eq_none_iff] at h
    rw [fl_body, fdel_of_not_mem h]
  | _ => rfl

/-- the four outcomes: what is merged in or appended is always `fl_body`, a new id is the
    patch's own or `…|matchnull`, targets are documents of the stream -/
theorem selectionOf_cases (st : PState) (patch : Doc) :
    selectionOf st patch = .noMatch ∨
    selectionOf st patch = .append patch.id (fl_body patch.data) ∨
    selectionOf st patch = .append (patch.id ++ "|matchnull") (fl_body patch.data) ∨
    ∃ T, selectionOf st patch = .merge T (fl_body patch.data) ∧
      ∀ x ∈ T, x ∈ st.docs.map (·.1) := by
  cases hmd : matchDirective patch.data with
  | none =>
    have hb : fl_body patch.data = patch.data := fl_body_noMatch hmd
    have hsub : ∀ x ∈ parentsOf (registered st patch) patch.parents, x ∈ st.docs.map (·.1) :=
      fun x hx => mem_idsWhere_docs (st := registered st patch)
        (q := fun id _ => isAncestorOf (registered st patch) patch id) hx
    rw [selectionOf_noMatch hmd, hb]
    generalize parentsOf (registered st patch) patch.parents = A at hsub
    cases A with
    | nil => exact .inr (.inl rfl)
    | cons t ts => exact .inr (.inr (.inr ⟨_, rfl, hsub⟩))
  | some pb =>
    obtain ⟨pat, body⟩ := pb
    rw [fl_body_match hmd]
    by_cases hp : pat = .null
    · exact .inr (.inr (.inl (by rw [selectionOf_match hmd, if_pos hp])))
    · rcases selectionOf_match_cases (st := st) hmd hp with
        ⟨_, _, rfl, rfl, ⟨_, hs⟩ | ⟨_, _, hs⟩ | ⟨_, _, hs⟩⟩
      · exact .inr (.inr (.inr ⟨_, hs, fun _ => mem_idsWhere_docs⟩))
      · exact .inr (.inr (.inr ⟨_, hs, fun _ => mem_idsWhere_docs⟩))
      · exact .inl hs

/-- a `merge` outcome read backwards: `T` is the non-empty list of the documents that pass one of
    three tests `q` — ancestry (no `$match`), ancestry and the pattern, or, when no ancestor matches,
    the pattern alone -/
theorem selectionOf_eq_merge {st : PState} {patch : Doc} {T : List String} {body : Val}
    (h : selectionOf st patch = .merge T body) :
    T ≠ [] ∧ body = fl_body patch.data ∧ ∃ q, T = idsWhere (registered st patch) q ∧
      (matchDirective patch.data = none ∧
          q = (fun id _ => isAncestorOf (registered st patch) patch id) ∨
        ∃ pat, matchDirective patch.data = some (pat, body) ∧ pat ≠ .null ∧
          (q = (fun id d => isAncestorOf (registered st patch) patch id && matchV d pat) ∨
            q = (fun _ d => matchV d pat) ∧ idsWhere (registered st patch)
              (fun id d => isAncestorOf (registered st patch) patch id && matchV d pat) = [])) := by
  cases hmd : matchDirective patch.data with
  | none =>
    rw [selectionOf_noMatch hmd] at h
    split at h
    · rename_i hne
      cases h
      exact ⟨hne, (fl_body_noMatch hmd).symm, _, rfl, .inl ⟨rfl, rfl⟩⟩
    · cases h
  | some pb =>
    obtain ⟨pat, b⟩ := pb
    by_cases hp : pat = .null
    · rw [selectionOf_match hmd, if_pos hp] at h
      cases h
    · rcases selectionOf_match_cases (st := st) hmd hp with
        ⟨_, _, rfl, rfl, ⟨ha, hs⟩ | ⟨ha, hw, hs⟩ | ⟨_, _, hs⟩⟩ <;> rw [h] at hs <;> cases hs
      · exact ⟨ha, (fl_body_match hmd).symm, _, rfl, .inr ⟨pat, rfl, hp, .inl rfl⟩⟩
      · exact ⟨hw, (fl_body_match hmd).symm, _, rfl, .inr ⟨pat, rfl, hp, .inr ⟨rfl, ha⟩⟩⟩

/-! ## The selection made by `mergeDocument` is the specified one -/

theorem mergeDocument_matchDirective (st : PState) (patch : Doc) :
    mergeDocument st patch =
      match matchDirective patch.data with
      | none =>
        if (parentsOf (registered st patch) patch.parents).isEmpty then
          .ok { docs := st.docs ++ [(patch.id, patch.data)], known := (registered st patch).known }
        else mergeInto (registered st patch) patch.id
          (parentsOf (registered st patch) patch.parents) patch.data
      | some (pat, body) =>
        if pat.isNull then
          .ok { docs := st.docs ++ [(patch.id ++ "|matchnull", body)],
                known := addParents (registered st patch).known patch.id
                  [patch.id ++ "|matchnull"] }
        else if (findMatches (registered st patch) patch.parents pat).isEmpty then
          .error .noMatchFound
        else mergeInto (registered st patch) patch.id
          (findMatches (registered st patch) patch.parents pat) body := by
  obtain ⟨id, ps, data⟩ := patch
  cases data with
  | map kvs =>
    simp only [mergeDocument, matchDirective]
    cases fget kvs "$match" <;> rfl
  | _ => rfl

theorem findMatches_idsWhere (st : PState) (patch : Doc) (pat : Val) :
    findMatches (registered st patch) patch.parents pat =
      if idsWhere (registered st patch)
          (fun id d => isAncestorOf (registered st patch) patch id && matchV d pat) ≠ [] then
        idsWhere (registered st patch)
          (fun id d => isAncestorOf (registered st patch) patch id && matchV d pat)
      else idsWhere (registered st patch) (fun _ d => matchV d pat) :=
  findMatches_eq _ _ _

theorem C02_selection (st : PState) (patch : Doc) :
    mergeDocument st patch = (selectionOf st patch).apply (registered st patch) patch.id := by
  rw [mergeDocument_matchDirective]
  cases hmd : matchDirective patch.data with
  | none =>
    rw [selectionOf_noMatch hmd]
    cases parentsOf (registered st patch) patch.parents with
    | nil =>
      simp only [List.isEmpty_nil, if_true, ne_eq, not_true_eq_false, if_false, Selection.apply]
      rw [addParents_nil_of_any (registered st patch).known patch.id
        (addParents_any_self st.known patch.id patch.parents)]
      rfl
    | cons t ts => rfl
  | some pb =>
    obtain ⟨pat, body⟩ := pb
    rw [selectionOf_match hmd]
    by_cases hp : pat = .null
    · subst hp
      simp only [Val.isNull, if_true, append_matchnull_ne, if_false, Selection.apply]
      rfl
    · simp only [Val.isNull_of_ne hp, if_neg hp, Bool.false_eq_true, if_false]
      rw [findMatches_idsWhere]
      generalize idsWhere (registered st patch)
        (fun id d => isAncestorOf (registered st patch) patch id && matchV d pat) = among
      generalize idsWhere (registered st patch) (fun _ d => matchV d pat) = anywhere
      cases among with
      | cons t ts => rfl
      | nil => cases anywhere <;> rfl

theorem C02_selection_noMatch {st : PState} {patch : Doc} (h : selectionOf st patch = .noMatch) :
    mergeDocument st patch = .error .noMatchFound := by
  rw [C02_selection, h]; rfl

theorem C02_selection_append {st : PState} {patch : Doc} {newId : String} {body : Val}
    (h : selectionOf st patch = .append newId body) :
    mergeDocument st patch =
      .ok { docs := st.docs ++ [(newId, body)],
            known := addParents (registered st patch).known patch.id
              (if newId = patch.id then [] else [newId]) } := by
  rw [C02_selection, h]; rfl

theorem C02_selection_merge {st : PState} {patch : Doc} {targets : List String} {body : Val}
    (h : selectionOf st patch = .merge targets body) :
    mergeDocument st patch = mergeInto (registered st patch) patch.id targets body := by
  rw [C02_selection, h]; rfl

theorem map_stepFun_nil (b : Val) (docs : List (String × Val)) : docs.map (stepFun [] b) = docs := by
  conv => rhs; rw [← List.map_id docs]
  exact List.map_congr_left fun p _ => by rw [stepFun, if_neg List.not_mem_nil]; rfl

/-- **The normal form of a successful step.**  Every document whose id is selected gets
    `merge ownData body` (and all these merges succeed), every other document stays, a new
    document comes at the end; the patch is recorded with its own parents and with what it was
    layered onto. -/
theorem mergeDocument_ok_iff {st st' : PState} {patch : Doc} :
    mergeDocument st patch = .ok st' ↔
      selectionOf st patch ≠ .noMatch ∧
      (∀ p ∈ st.docs, p.1 ∈ (selectionOf st patch).targets →
        ∃ v, merge p.2 (selectionOf st patch).body = .ok v) ∧
      st' = ⟨st.docs.map (stepFun (selectionOf st patch).targets (selectionOf st patch).body) ++
              (selectionOf st patch).newDocs,
            addParents (addParents st.known patch.id patch.parents) patch.id
              ((selectionOf st patch).linked patch.id)⟩ := by
  rw [C02_selection]
  cases selectionOf st patch with
  | noMatch => exact ⟨nofun, fun h => absurd rfl h.1⟩
  | append newId body =>
    simp only [Selection.apply, Selection.targets, Selection.body, Selection.newDocs,
      Selection.linked, map_stepFun_nil, Except.ok.injEq]
    exact ⟨fun h => ⟨nofun, fun _ _ hn => (nomatch hn), h.symm⟩, fun h => h.2.2.symm⟩
  | merge targets body =>
    simp only [Selection.apply, Selection.targets, Selection.body, Selection.newDocs,
      Selection.linked, List.append_nil]
    rw [mergeInto_ok_iff_map]
    exact ⟨fun h => ⟨nofun, h⟩, fun h => h.2⟩

theorem C02_docs {st st' : PState} {patch : Doc} (hm : mergeDocument st patch = .ok st') :
    st'.docs = st.docs.map (stepFun (selectionOf st patch).targets (selectionOf st patch).body) ++
      (selectionOf st patch).newDocs := by
  rw [(mergeDocument_ok_iff.1 hm).2.2]

/-- by position: the document at position `i` stays there, with `stepFun` applied -/
theorem C02_getElem? {st st' : PState} {patch : Doc} (hm : mergeDocument st patch = .ok st')
    {i : Nat} {p : String × Val} (hi : st.docs[i]? = some p) :
    st'.docs[i]? = some (stepFun (selectionOf st patch).targets (selectionOf st patch).body p) := by
  rw [C02_docs hm, List.getElem?_append_left (by
    rw [List.length_map]; exact (List.getElem?_eq_some_iff.1 hi).1), List.getElem?_map, hi]
  rfl

example : selectionOf C02_st C02_patch = .merge ["a"] (.int 5) := C02_sel_example
example : selectionOf C02_st { id := "c", parents := [], data := .int 5 } =
    .append "c" (.int 5) := by decide
example : selectionOf C02_mst
    { id := "c", parents := [], data := .map [("$match", .map [("x", .int 3)])] } = .noMatch := by
  decide

/-! ## One step, document by document: what the selected ones get, what stays, ids and order -/

/-- Merge case, by position: the stream keeps its length; the document at position `i` keeps
    its id; its new data is `merge d body` if its id is selected and `d` otherwise. -/
theorem C02_targets {st st' : PState} {patch : Doc} {targets : List String} {body : Val}
    (hm : mergeDocument st patch = .ok st') (hs : selectionOf st patch = .merge targets body) :
    st'.docs.length = st.docs.length ∧
      ∀ (i : Nat) (id : String) (d : Val), st.docs[i]? = some (id, d) →
        ∃ d', st'.docs[i]? = some (id, d') ∧
          (if id ∈ targets then merge d body = .ok d' else d' = d) := by
  rw [C02_selection_merge hs, mergeInto_ok_iff] at hm
  refine ⟨(Pointwise.length_eq hm.1).symm, ?_⟩
  intro i id d hi
  obtain ⟨⟨id', d'⟩, hb, he, hr⟩ := Pointwise.getElem? hm.1 i hi
  cases he
  exact ⟨d', hb, hr⟩

/-- Merge case of `mergeDocument_ok_iff`: the new stream is the old one with `merge · body` applied
    to the data of the selected documents — and all of these merges succeed. -/
theorem C02_targets_map {st st' : PState} {patch : Doc} {targets : List String} {body : Val}
    (hm : mergeDocument st patch = .ok st') (hs : selectionOf st patch = .merge targets body) :
    (∀ p ∈ st.docs, p.1 ∈ targets → ∃ v, merge p.2 body = .ok v) ∧
      st'.docs = st.docs.map fun p =>
        (p.1, if p.1 ∈ targets then (match merge p.2 body with | .ok v => v | .error _ => p.2)
              else p.2) := by
  have h := mergeDocument_ok_iff.1 hm
  rw [hs] at h
  exact ⟨h.2.1, by rw [h.2.2]; exact List.append_nil _⟩

/-- Merge case: the step succeeds exactly when the merge into every selected document does. -/
theorem C02_targets_ok_iff {st : PState} {patch : Doc} {targets : List String} {body : Val}
    (hs : selectionOf st patch = .merge targets body) :
    (∃ st', mergeDocument st patch = .ok st') ↔
      ∀ p ∈ st.docs, p.1 ∈ targets → ∃ v, merge p.2 body = .ok v := by
  rw [C02_selection_merge hs]
  exact ⟨fun ⟨st', hm⟩ => ((mergeInto_ok_iff_map ..).1 hm).1,
    fun h => ⟨_, (mergeInto_ok_iff_map ..).2 ⟨h, rfl⟩⟩⟩

/-- Append cases: exactly one new document, holding the body, at the end. -/
theorem C02_targets_append {st st' : PState} {patch : Doc} {newId : String} {body : Val}
    (hm : mergeDocument st patch = .ok st') (hs : selectionOf st patch = .append newId body) :
    st'.docs = st.docs ++ [(newId, body)] := by
  rw [C02_docs hm, hs]
  exact congrArg (· ++ _) (map_stepFun_nil _ _)

/-- the example: `c` (parent `a`) is merged into `a` only -/
theorem C02_run_example : mergeDocument C02_st C02_patch = .ok C02_st' := by
  rw [C02_selection_merge C02_sel_example, mergeInto_ok_iff]
  refine ⟨Pointwise.cons ⟨rfl, ?_⟩ (Pointwise.cons ⟨rfl, ?_⟩ Pointwise.nil), by decide⟩
  · rw [if_pos (by decide)]
    show Bkl.merge (.int 1) (.int 5) = .ok (.int 5)
    rw [merge_scalar _ _ rfl]; rfl
  · rw [if_neg (by decide)]

example : mergeDocument C02_st C02_patch = .ok C02_st' ∧
    selectionOf C02_st C02_patch = .merge ["a"] (.int 5) := ⟨C02_run_example, C02_sel_example⟩

/-- the `$match` example: the parentless patch is merged into the one document it matches -/
theorem C02_mrun_example : mergeDocument C02_mst C02_mpatch = .ok C02_mst' := by
  rw [C02_selection_merge C02_msel_example, mergeInto_ok_iff]
  refine ⟨Pointwise.cons ⟨rfl, ?_⟩ (Pointwise.cons ⟨rfl, ?_⟩ Pointwise.nil), by decide⟩
  · rw [if_pos (by decide)]
    exact merge_map_single rfl (by decide) rfl
  · rw [if_neg (by decide)]

example : mergeDocument C02_mst C02_mpatch = .ok C02_mst' ∧
    selectionOf C02_mst C02_mpatch = .merge ["a"] (.map [("y", .int 2)]) :=
  ⟨C02_mrun_example, C02_msel_example⟩

/-- the recorded parents of the patch: its own, plus what it was layered onto -/
theorem C02_known {st st' : PState} {patch : Doc} (hm : mergeDocument st patch = .ok st') :
    st'.known = addParents (addParents st.known patch.id patch.parents) patch.id
      ((selectionOf st patch).linked patch.id) := by
  rw [(mergeDocument_ok_iff.1 hm).2.2]

/-- the ids of the stream: unchanged, or one new id at the end -/
theorem C02_ids {st st' : PState} {patch : Doc} (hm : mergeDocument st patch = .ok st') :
    st'.docs.map (·.1) = st.docs.map (·.1) ++ (selectionOf st patch).newIds := by
  rw [C02_docs hm, List.map_append, List.map_map]
  cases selectionOf st patch <;> rfl

theorem C02_length {st st' : PState} {patch : Doc} (hm : mergeDocument st patch = .ok st') :
    st'.docs.length = st.docs.length + (selectionOf st patch).newIds.length := by
  have h := congrArg List.length (C02_ids hm)
  simpa only [List.length_map, List.length_append] using h

/-- Documents that are not selected are the same before and after, at the same position. -/
theorem C02_frame {st st' : PState} {patch : Doc} (hm : mergeDocument st patch = .ok st')
    {i : Nat} {id : String} {d : Val} (hi : st.docs[i]? = some (id, d))
    (hn : id ∉ (selectionOf st patch).targets) : st'.docs[i]? = some (id, d) := by
  rw [C02_getElem? hm hi, stepFun, if_neg hn]

/-- membership form of the frame property -/
theorem C02_frame_mem {st st' : PState} {patch : Doc} (hm : mergeDocument st patch = .ok st')
    {id : String} {d : Val} (hd : (id, d) ∈ st.docs)
    (hn : id ∉ (selectionOf st patch).targets) : (id, d) ∈ st'.docs := by
  obtain ⟨i, hi⟩ := List.mem_iff_getElem?.1 hd
  exact List.mem_iff_getElem?.2 ⟨i, C02_frame hm hi hn⟩

example : mergeDocument C02_st C02_patch = .ok C02_st' ∧ C02_st.docs[1]? = some ("b", .int 2) ∧
    "b" ∉ (selectionOf C02_st C02_patch).targets :=
  ⟨C02_run_example, rfl, by decide⟩

/-- Ids keep their order; the stream only grows at the end, by at most one document. -/
theorem C02_order {st st' : PState} {patch : Doc} (hm : mergeDocument st patch = .ok st') :
    st.docs.map (·.1) <+: st'.docs.map (·.1) ∧
      st.docs.length ≤ st'.docs.length ∧ st'.docs.length ≤ st.docs.length + 1 := by
  refine ⟨⟨_, (C02_ids hm).symm⟩, ?_⟩
  have hl := C02_length hm
  have : (selectionOf st patch).newIds.length ≤ 1 := by
    cases selectionOf st patch <;> simp [Selection.newIds]
  omega

/-! ## C02_singleton: a selected document receives what it would receive alone -/

/-- The new data of a selected document is the result of the one-document merge
    `merge d body` — no other document's data occurs. -/
theorem C02_singleton {st st' : PState} {patch : Doc} {targets : List String} {body : Val}
    (hm : mergeDocument st patch = .ok st') (hs : selectionOf st patch = .merge targets body)
    {i : Nat} {id : String} {d : Val} (hi : st.docs[i]? = some (id, d)) (ht : id ∈ targets) :
    ∃ d', merge d body = .ok d' ∧ st'.docs[i]? = some (id, d') := by
  obtain ⟨d', h1, h2⟩ := (C02_targets hm hs).2 i id d hi
  rw [if_pos ht] at h2
  exact ⟨d', h2, h1⟩

theorem C02_singleton_mem {st st' : PState} {patch : Doc} {targets : List String} {body : Val}
    (hm : mergeDocument st patch = .ok st') (hs : selectionOf st patch = .merge targets body)
    {id : String} {d : Val} (hd : (id, d) ∈ st.docs) (ht : id ∈ targets) :
    ∃ d', merge d body = .ok d' ∧ (id, d') ∈ st'.docs := by
  obtain ⟨i, hi⟩ := List.mem_iff_getElem?.1 hd
  obtain ⟨d', h1, h2⟩ := C02_singleton hm hs hi ht
  exact ⟨d', h1, List.mem_iff_getElem?.2 ⟨i, h2⟩⟩

example : mergeDocument C02_st C02_patch = .ok C02_st' ∧
    selectionOf C02_st C02_patch = .merge ["a"] (.int 5) ∧
    C02_st.docs[0]? = some ("a", .int 1) ∧ "a" ∈ ["a"] :=
  ⟨C02_run_example, C02_sel_example, rfl, by decide⟩

/-! ## The three special outcomes, from hypotheses on the input only -/

/-- A non-null `$match` that matches no document is an error. -/
theorem C02_error_no_match {st : PState} {patch : Doc} {kvs : Fields} {pat : Val}
    (hd : patch.data = .map kvs) (hg : fget kvs "$match" = some pat) (hp : pat ≠ .null)
    (hno : ∀ p ∈ st.docs, matchV p.2 pat = false) :
    mergeDocument st patch = .error .noMatchFound := by
  apply C02_selection_noMatch
  rw [selectionOf_match (matchDirective_eq_some.2 ⟨kvs, hd, hg, rfl⟩), if_neg hp,
    idsWhere_eq_nil (fun p hp => by rw [hno p hp, Bool.and_false]), idsWhere_eq_nil hno]
  rfl

/-- …and one that matches some document succeeds as soon as the body can be merged into every
    document of the stream. -/
theorem C02_match_step_ok {st : PState} {patch : Doc} {pat body : Val}
    (hmd : matchDirective patch.data = some (pat, body)) (hp : pat ≠ .null)
    (hex : ∃ p ∈ st.docs, matchV p.2 pat = true)
    (hok : ∀ p ∈ st.docs, ∃ v, merge p.2 body = .ok v) : ∃ st', mergeDocument st patch = .ok st' := by
  rcases selectionOf_match_cases (st := st) hmd hp with
    ⟨_, _, rfl, rfl, ⟨_, hs⟩ | ⟨_, _, hs⟩ | ⟨_, hw, _⟩⟩
  · exact (C02_targets_ok_iff hs).2 fun p hp _ => hok p hp
  · exact (C02_targets_ok_iff hs).2 fun p hp _ => hok p hp
  · obtain ⟨p, hpm, hpv⟩ := hex
    exact absurd hw (List.ne_nil_of_mem (mem_idsWhere.2 ⟨p.2, hpm, hpv⟩))

example :
    let patch : Doc := { id := "c", parents := [], data := .map [("$match", .map [("x", .int 3)])] }
    patch.data = .map [("$match", .map [("x", .int 3)])] ∧
    fget [("$match", Val.map [("x", .int 3)])] "$match" = some (.map [("x", .int 3)]) ∧
    Val.map [("x", .int 3)] ≠ .null ∧
    ∀ p ∈ C02_mst.docs, matchV p.2 (.map [("x", .int 3)]) = false := by decide

/-- `$match: null`: exactly one new document `id|matchnull` holding the body (the patch minus
    `$match`) is added at the end; no existing document changes. -/
theorem C02_match_null_appends {st : PState} {patch : Doc} {kvs : Fields}
    (hd : patch.data = .map kvs) (hg : fget kvs "$match" = some .null) :
    mergeDocument st patch =
      .ok { docs := st.docs ++ [(patch.id ++ "|matchnull", .map (fdel kvs "$match"))],
            known := addParents (addParents st.known patch.id patch.parents) patch.id
              [patch.id ++ "|matchnull"] } := by
  have hs : selectionOf st patch =
      .append (patch.id ++ "|matchnull") (.map (fdel kvs "$match")) := by
    rw [selectionOf_match (matchDirective_eq_some.2 ⟨kvs, hd, hg, rfl⟩), if_pos rfl]
  rw [C02_selection_append hs, if_neg (append_matchnull_ne _)]
  rfl

example : (Doc.mk "c" ["a"] (.map [("$match", .null), ("y", .int 2)])).data =
      .map [("$match", .null), ("y", .int 2)] ∧
    fget [("$match", Val.null), ("y", .int 2)] "$match" = some .null := by decide

/-- No `$match` and no ancestor among the documents: the patch itself becomes a new document
    at the end; no existing document changes. -/
theorem C02_default_no_parents_appends {st : PState} {patch : Doc}
    (hnm : matchDirective patch.data = none)
    (hno : ∀ p ∈ st.docs, isAncestorOf (registered st patch) patch p.1 = false) :
    mergeDocument st patch =
      .ok { docs := st.docs ++ [(patch.id, patch.data)],
            known := addParents st.known patch.id patch.parents } := by
  have ha : parentsOf (registered st patch) patch.parents = [] :=
    idsWhere_eq_nil (st := registered st patch)
      (q := fun id _ => isAncestorOf (registered st patch) patch id) hno
  have hs : selectionOf st patch = .append patch.id patch.data := by
    rw [selectionOf_noMatch hnm, ha]
    rfl
  rw [C02_selection_append hs, if_pos rfl,
    addParents_nil_of_any (registered st patch).known patch.id
      (addParents_any_self st.known patch.id patch.parents)]
  rfl

/-- in particular: a document without parents and without `$match` starts a new document -/
theorem C02_default_root_appends {st : PState} {patch : Doc}
    (hnm : matchDirective patch.data = none) (hp : patch.parents = []) :
    mergeDocument st patch =
      .ok { docs := st.docs ++ [(patch.id, patch.data)],
            known := addParents st.known patch.id [] } := by
  rw [C02_default_no_parents_appends hnm, hp]
  intro p _
  rw [isAncestorOf, hp]
  rfl

example : matchDirective (Doc.mk "c" [] (.int 5)).data = none ∧
    (Doc.mk "c" [] (.int 5)).parents = [] := by decide
example : matchDirective (Doc.mk "c" ["zz"] (.int 5)).data = none ∧
    ∀ p ∈ C02_st.docs, isAncestorOf (registered C02_st (Doc.mk "c" ["zz"] (.int 5)))
      (Doc.mk "c" ["zz"] (.int 5)) p.1 = false := by decide

theorem C02_append_id {st : PState} {patch : Doc} {newId : String} {body : Val}
    (h : selectionOf st patch = .append newId body) :
    newId = patch.id ∨ newId = patch.id ++ "|matchnull" := by
  rcases selectionOf_cases st patch with h' | h' | h' | ⟨T, h', _⟩ <;> rw [h] at h' <;> cases h'
  · exact .inl rfl
  · exact .inr rfl

theorem C02_newIds_mem {st : PState} {patch : Doc} {x : String}
    (h : x ∈ (selectionOf st patch).newIds) : x = patch.id ∨ x = patch.id ++ "|matchnull" := by
  cases hs : selectionOf st patch with
  | append newId body =>
    rw [hs] at h
    rw [List.mem_singleton.1 h]
    exact C02_append_id hs
  | noMatch => rw [hs] at h; cases h
  | merge targets body => rw [hs] at h; cases h

theorem C02_targets_mem {st : PState} {patch : Doc} {x : String}
    (h : x ∈ (selectionOf st patch).targets) : x ∈ st.docs.map (·.1) := by
  rcases selectionOf_cases st patch with h' | h' | h' | ⟨T, h', hT⟩ <;> rw [h'] at h
  · cases h
  · cases h
  · cases h
  · exact hT x h

theorem selectionOf_body {st : PState} {patch : Doc} (h : selectionOf st patch ≠ .noMatch) :
    (selectionOf st patch).body = fl_body patch.data := by
  rcases selectionOf_cases st patch with h' | h' | h' | ⟨T, h', _⟩
  · exact absurd h' h
  all_goals rw [h']; rfl

theorem Selection.mem_linked {s : Selection} {pid x : String} (h : x ∈ s.linked pid) :
    x ∈ s.targets ∨ x ∈ s.newIds := by
  cases s with
  | append n b =>
    rw [Selection.linked] at h
    split at h
    · cases h
    · exact .inr h
  | merge T b => exact .inl h
  | noMatch => cases h

theorem Selection.mem_newDocs {s : Selection} {p : String × Val} (h : p ∈ s.newDocs) :
    p.2 = s.body := by
  cases s with
  | append n b => rw [List.mem_singleton.1 h]; rfl
  | merge T b => cases h
  | noMatch => cases h

/-- Distinct ids stay distinct when the patch's id (and `id|matchnull`) is fresh. -/
theorem C02_ids_unique_preserved {st st' : PState} {patch : Doc}
    (hm : mergeDocument st patch = .ok st') (hnd : (st.docs.map (·.1)).Nodup)
    (hf₁ : patch.id ∉ st.docs.map (·.1))
    (hf₂ : patch.id ++ "|matchnull" ∉ st.docs.map (·.1)) : (st'.docs.map (·.1)).Nodup := by
  rw [C02_ids hm]
  cases hs : selectionOf st patch with
  | noMatch => exact (List.append_nil _).symm ▸ hnd
  | merge targets body => exact (List.append_nil _).symm ▸ hnd
  | append newId body =>
    rw [Selection.newIds, List.nodup_append]
    refine ⟨hnd, List.pairwise_singleton _ _, ?_⟩
    intro a ha b hb hab
    rw [List.mem_singleton.1 hb] at hab
    subst hab
    rcases C02_append_id hs with h | h
    · exact hf₁ (h ▸ ha)
    · exact hf₂ (h ▸ ha)

example : mergeDocument C02_st C02_patch = .ok C02_st' ∧ (C02_st.docs.map (·.1)).Nodup ∧
    C02_patch.id ∉ C02_st.docs.map (·.1) ∧
    C02_patch.id ++ "|matchnull" ∉ C02_st.docs.map (·.1) :=
  ⟨C02_run_example, by decide, by decide, by decide⟩

/-! ## `mergeDocument` on the empty and on a one-document state -/

theorem mergeDocument_first (i : String) (v : Val) (hm : matchDirective v = none) :
    mergeDocument PState.empty ⟨i, [], v⟩ = .ok ⟨[(i, v)], [(i, [])]⟩ :=
  C02_default_root_appends hm rfl

theorem mergeInto_one (i₁ pid : String) (v₁ body : Val) (known : List (String × List String)) :
    mergeInto ⟨[(i₁, v₁)], known⟩ pid [i₁] body =
      match merge v₁ body with
      | .ok v => .ok ⟨[(i₁, v)], addParents known pid [i₁]⟩
      | .error e => .error e := by
  rw [mergeInto_eq, mapM_cons, mapM_nil, mergeStep, if_pos (by simp)]
  cases merge v₁ body <;> rfl

theorem idsWhere_single (i : String) (v : Val) (k : List (String × List String))
    (q : String → Val → Bool) : idsWhere ⟨[(i, v)], k⟩ q = if q i v then [i] else [] := by
  cases h : q i v <;> simp [idsWhere, h]

theorem mergeDocument_onto_one (i₁ i₂ : String) (v₁ body : Val)
    (known : List (String × List String)) (hm : matchDirective body = none) :
    mergeDocument ⟨[(i₁, v₁)], known⟩ ⟨i₂, [i₁], body⟩ =
      match merge v₁ body with
      | .ok v => .ok ⟨[(i₁, v)], addParents (addParents known i₂ [i₁]) i₂ [i₁]⟩
      | .error e => .error e := by
  have hs : selectionOf ⟨[(i₁, v₁)], known⟩ ⟨i₂, [i₁], body⟩ = .merge [i₁] body := by
    rw [selectionOf_noMatch hm]
    simp [parentsOf, allParents, registered]
  rw [C02_selection_merge hs]
  exact mergeInto_one ..

theorem mergeDocument_match_one (i₁ i₂ : String) (parents : List String) (v₁ pat : Val)
    (m : Fields) (known : List (String × List String)) (hm : fget m "$match" = some pat)
    (hn : pat ≠ .null) (hmatch : matchV v₁ pat = true) :
    mergeDocument ⟨[(i₁, v₁)], known⟩ ⟨i₂, parents, .map m⟩ =
      match merge v₁ (.map (fdel m "$match")) with
      | .ok v => .ok ⟨[(i₁, v)], addParents (addParents known i₂ parents) i₂ [i₁]⟩
      | .error e => .error e := by
  have hs : selectionOf ⟨[(i₁, v₁)], known⟩ ⟨i₂, parents, .map m⟩ =
      .merge [i₁] (.map (fdel m "$match")) := by
    rw [selectionOf_match (matchDirective_eq_some.2 ⟨m, rfl, hm, rfl⟩), if_neg hn,
      show registered ⟨[(i₁, v₁)], known⟩ ⟨i₂, parents, .map m⟩ =
        ⟨[(i₁, v₁)], addParents known i₂ parents⟩ from rfl]
    simp only [idsWhere_single, hmatch, Bool.and_true]
    cases isAncestorOf _ _ i₁ <;> rfl
  rw [C02_selection_merge hs]
  exact mergeInto_one ..

/-! ## the parser applying a `$match: {}` layer to a one-document state -/

/-- a layer with `$match: {}` selects the one document of the stream, unless that is a placeholder,
    and its body (the layer minus `$match`) is merged into it -/
theorem mergeDocument_single {i₁ i₂ : String} {parents : List String}
    {known : List (String × List String)} (b m : Fields) (r : Val)
    (hm : fget m "$match" = some (.map []))
    (hp : isPlaceholder b = false)
    (hmerge : merge (.map b) (.map (fdel m "$match")) = .ok r) :
    mergeDocument ⟨[(i₁, .map b)], known⟩ ⟨i₂, parents, .map m⟩ =
      .ok ⟨[(i₁, r)], addParents (addParents known i₂ parents) i₂ [i₁]⟩ := by
  rw [mergeDocument_match_one _ _ _ _ _ _ _ hm nofun (by rw [matchV_map_empty, hp]; rfl), hmerge]

end Bkl
