/-
  BklProofs.Lemmas.C03Links — the `os.Root` symbolic-link budget (`rootMaxSymlinks = 8`):
  chains of file links `l k → l (k-1) → … → l 1 → l 0` in one directory, where `l 0` is not a
  link.  A walk that has already followed `links` links gets through such a chain exactly when
  `links + k ≤ rootMaxSymlinks`.
-/
import BklProofs.Lemmas.FilesWalk
namespace Bkl

/-- a plain single-component name: `Clean` keeps it, it is relative and holds no `/` -/
def c03l_Name (t : String) : Prop :=
  plainComp t = true ∧ isAbsPath t = false ∧ splitPath t = [t]

/-- `l k → l (k-1) → … → l 1 → l 0` in the directory `d`: every name is a plain single
    component and `l (i+1)` is a symbolic link whose target is the name `l i` -/
def c03l_LinkChain (fs : FS) (d : Comps) (l : Nat → String) (k : Nat) : Prop :=
  (∀ i, i ≤ k → c03l_Name (l i)) ∧ ∀ i, i < k → fs.lstat (d ++ [l (i + 1)]) = some (.link (l i))

theorem c03l_LinkChain.pred {fs : FS} {d : Comps} {l : Nat → String} {k : Nat}
    (h : c03l_LinkChain fs d l (k + 1)) : c03l_LinkChain fs d l k :=
  ⟨fun i hi => h.1 i (by omega), fun i hi => h.2 i (by omega)⟩

theorem c03l_step {fs : FS} {root d : Comps} {l : Nat → String} {k : Nat}
    (h : c03l_LinkChain fs d l (k + 1)) (fuel links : Nat) (rest : List String)
    (hk : links < rootMaxSymlinks) :
    fs.rootWalk root (fuel + 1) links d (l (k + 1) :: rest) =
      fs.rootWalk root fuel (links + 1) d (l k :: rest) := by
  have hn := h.1 k (by omega)
  rw [rootWalk_step_link (h.1 (k + 1) (Nat.le_refl _)).1 (h.2 k (by omega)) hn.2.1 hn.2.2 hk]
  rfl

theorem c03l_follow {fs : FS} {root d : Comps} {l : Nat → String} (k : Nat) :
    c03l_LinkChain fs d l k → ∀ (fuel links : Nat) (rest : List String),
      links + k ≤ rootMaxSymlinks →
      fs.rootWalk root (fuel + k) links d (l k :: rest) =
        fs.rootWalk root fuel (links + k) d (l 0 :: rest) := by
  induction k with
  | zero => intros; rfl
  | succ k ih =>
    intro h fuel links rest hb
    rw [← Nat.add_assoc, c03l_step h (fuel + k) links rest (by omega),
      ih h.pred fuel (links + 1) rest (by omega)]
    congr 1
    omega

/-- A chain of `k` file links ending at an entry that is not a link is followed to its end as
    long as the budget allows: a walk that has already followed `links` links, with
    `links + k ≤ rootMaxSymlinks`, opens `l k` as `d/l 0` (fuel `k + 2` is enough).  From
    `links = 0` (every operation of the parser) this is any chain of at most 8 links. -/
theorem C03_symlink_limit_ok (fs : FS) (root d : Comps) (l : Nat → String) (k : Nat) (n : FNode)
    (hch : c03l_LinkChain fs d l k) (hl : fs.lstat (d ++ [l 0]) = some n)
    (hn : n.isLink = false) (fuel links : Nat) (hb : links + k ≤ rootMaxSymlinks) :
    fs.rootWalk root (fuel + k + 2) links d [l k] = .ok (d ++ [l 0]) := by
  rw [show fuel + k + 2 = (fuel + 2) + k by omega, c03l_follow k hch (fuel + 2) links [] hb,
    rootWalk_step_plain (hch.1 0 (Nat.zero_le _)).1 hl hn, rootWalk_nil]

/-- Hence a chain of `k + 1` links that does not fit in what is left of the budget
    (`rootMaxSymlinks < links + (k + 1)`) is refused, whatever the fuel and whatever follows:
    from `links = 0`, any chain of 9 or more links. -/
theorem C03_symlink_limit_exceeded_chain (fs : FS) (root d : Comps) (l : Nat → String) (k : Nat)
    (hch : c03l_LinkChain fs d l (k + 1)) (fuel links : Nat) (rest : List String)
    (hb : rootMaxSymlinks < links + (k + 1)) :
    fs.rootWalk root fuel links d (l (k + 1) :: rest) = .error .other := by
  induction k generalizing fuel links with
  | zero =>
    cases fuel with
    | zero => rfl
    | succ fuel =>
      exact rootWalk_step_link_limit (hch.1 1 (Nat.le_refl _)).1 (hch.2 0 (by omega)) (by omega)
  | succ k ih =>
    cases fuel with
    | zero => rfl
    | succ fuel =>
      by_cases hk : links < rootMaxSymlinks
      · rw [c03l_step hch fuel links rest hk]
        exact ih hch.pred fuel (links + 1) (by omega)
      · exact rootWalk_step_link_limit (hch.1 (k + 2) (Nat.le_refl _)).1 (hch.2 (k + 1) (by omega))
          (by omega)

/-! ## a concrete directory with nine links: `/r/l9 → l8 → … → l1 → f.yaml` -/

def c03l_fs : FS := ⟨[
  (["r"], .dir),
  (["r", "f.yaml"], .file (.ok [.map [("x", .int 1)]])),
  (["r", "l1"], .link "f.yaml"), (["r", "l2"], .link "l1"), (["r", "l3"], .link "l2"),
  (["r", "l4"], .link "l3"), (["r", "l5"], .link "l4"), (["r", "l6"], .link "l5"),
  (["r", "l7"], .link "l6"), (["r", "l8"], .link "l7"), (["r", "l9"], .link "l8")]⟩

def c03l_names : Nat → String
  | 0 => "f.yaml" | 1 => "l1" | 2 => "l2" | 3 => "l3" | 4 => "l4"
  | 5 => "l5" | 6 => "l6" | 7 => "l7" | 8 => "l8" | _ => "l9"

theorem c03l_name_lit (t : String) (h : plainComp t = true ∧ ¬ ['/'] <+: t.toList ∧
    ((List.splitOnP (· == '/') t.toList).map String.ofList).filter (· != "") = [t]) :
    c03l_Name t := ⟨h.1, isAbsPath_eq_false h.2.1, splitPath_lit t [t] h.2.2⟩

theorem c03l_names_name (i : Nat) (hi : i ≤ 9) : c03l_Name (c03l_names i) :=
  c03l_name_lit _ ((by decide +kernel : ∀ i, i ≤ 9 →
    plainComp (c03l_names i) = true ∧ ¬ ['/'] <+: (c03l_names i).toList ∧
      ((List.splitOnP (· == '/') (c03l_names i).toList).map String.ofList).filter (· != "") =
        [c03l_names i]) i hi)

theorem c03l_names_link : ∀ i, i < 9 →
    c03l_fs.lstat (["r"] ++ [c03l_names (i + 1)]) = some (.link (c03l_names i)) := by
  decide +kernel

theorem c03l_chain9 : c03l_LinkChain c03l_fs ["r"] c03l_names 9 :=
  ⟨c03l_names_name, c03l_names_link⟩

theorem c03l_chain_le {k : Nat} (hk : k ≤ 9) : c03l_LinkChain c03l_fs ["r"] c03l_names k :=
  ⟨fun i hi => c03l_chain9.1 i (by omega), fun i hi => c03l_chain9.2 i (by omega)⟩

theorem c03l_end : c03l_fs.lstat (["r"] ++ [c03l_names 0]) =
    some (.file (.ok [.map [("x", .int 1)]])) := by decide

end Bkl
