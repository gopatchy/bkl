/-
  BklProofs.Lemmas.Fields — algebra of key-sorted association lists (`Fields`):
  `fget` / `fset` / `fdel` / `fhas`, sortedness, extensionality, commutation, distinct keys,
  `fsetAll` / `fofList` (the last entry wins), the key-wise loop `Fields.filterMapVal`,
  well-formedness; `popListMapValue` (util.go) in closed form (`popListMapValue_spec`).  Every
  operation on `Fields` is described by what `fget` returns on its result; identities between
  key-sorted lists are `sorted_ext` plus these descriptions.
-/
import Bkl.Fields
import BklProofs.Lemmas.Except
import BklProofs.Lemmas.ValInduction
namespace Bkl

theorem str_ne_of_lt {a b : String} (h : a < b) : a ≠ b := by
  intro e; subst e; exact String.lt_irrefl a h

theorem str_ne_of_gt {a b : String} (h : a < b) : b ≠ a := by
  intro e; subst e; exact String.lt_irrefl b h

theorem sorted_cons_iff {k : String} {v : Val} {rest : Fields} :
    Fields.SortedKeys ((k, v) :: rest) ↔ (∀ p ∈ rest, k < p.1) ∧ Fields.SortedKeys rest := by
  induction rest generalizing k v with
  | nil => simp [Fields.SortedKeys]
  | cons hd tl ih =>
    obtain ⟨k2, v2⟩ := hd
    simp only [Fields.SortedKeys, List.mem_cons, forall_eq_or_imp]
    constructor
    · rintro ⟨h1, h2⟩
      refine ⟨⟨h1, ?_⟩, h2⟩
      intro p hp
      exact String.lt_trans h1 ((ih.1 h2).1 p hp)
    · rintro ⟨⟨h1, _⟩, h2⟩
      exact ⟨h1, h2⟩

theorem sorted_tail {p : String × Val} {rest : Fields}
    (h : Fields.SortedKeys (p :: rest)) : Fields.SortedKeys rest := by
  obtain ⟨k, v⟩ := p
  exact (sorted_cons_iff.1 h).2

theorem sorted_head_lt {k : String} {v : Val} {rest : Fields}
    (h : Fields.SortedKeys ((k, v) :: rest)) : ∀ p ∈ rest, k < p.1 :=
  (sorted_cons_iff.1 h).1

theorem sorted_iff_pairwise {m : Fields} :
    Fields.SortedKeys m ↔ m.Pairwise (fun a b => a.1 < b.1) := by
  induction m with
  | nil => simp [Fields.SortedKeys]
  | cons hd tl ih =>
    obtain ⟨k, v⟩ := hd
    rw [sorted_cons_iff, List.pairwise_cons, ih]

theorem sortedKeysB_iff {m : Fields} : Fields.sortedKeysB m = true ↔ Fields.SortedKeys m := by
  induction m with
  | nil => simp [Fields.sortedKeysB, Fields.SortedKeys]
  | cons hd tl ih =>
    obtain ⟨k, v⟩ := hd
    cases tl with
    | nil => simp [Fields.sortedKeysB, Fields.SortedKeys]
    | cons hd2 tl2 =>
      obtain ⟨k2, v2⟩ := hd2
      simp only [Fields.sortedKeysB, Fields.SortedKeys, Bool.and_eq_true, decide_eq_true_eq, ih]

instance (m : Fields) : Decidable (Fields.SortedKeys m) :=
  decidable_of_iff _ sortedKeysB_iff

theorem fget_cons_self (k : String) (v : Val) (m : Fields) : fget ((k, v) :: m) k = some v :=
  if_pos rfl

theorem fget_cons_ne {k k' : String} (h : k ≠ k') (v : Val) (m : Fields) :
    fget ((k, v) :: m) k' = fget m k' :=
  if_neg h

theorem fset_cons_lt {k k' : String} (h : k < k') (v v' : Val) (m : Fields) :
    fset ((k', v') :: m) k v = (k, v) :: (k', v') :: m :=
  if_pos h

theorem fset_cons_self (k : String) (v v' : Val) (m : Fields) :
    fset ((k, v') :: m) k v = (k, v) :: m :=
  (if_neg (String.lt_irrefl k)).trans (if_pos rfl)

theorem fset_cons_gt {k k' : String} (h : k' < k) (v v' : Val) (m : Fields) :
    fset ((k', v') :: m) k v = (k', v') :: fset m k v :=
  (if_neg (String.lt_asymm h)).trans (if_neg (str_ne_of_gt h))

theorem fset_append (acc : Fields) (k : String) (v : Val)
    (h : ∀ p ∈ acc, p.1 < k) : fset acc k v = acc ++ [(k, v)] := by
  induction acc with
  | nil => rfl
  | cons a t ih =>
    obtain ⟨k1, v1⟩ := a
    rw [fset_cons_gt (h (k1, v1) List.mem_cons_self), ih fun p hp => h p (List.mem_cons_of_mem _ hp)]
    rfl

theorem fdel_cons_self (k : String) (v : Val) (m : Fields) : fdel ((k, v) :: m) k = fdel m k :=
  if_pos rfl

theorem fdel_cons_ne {k k' : String} (h : k' ≠ k) (v : Val) (m : Fields) :
    fdel ((k', v) :: m) k = (k', v) :: fdel m k :=
  if_neg h

theorem fget_mem {m : Fields} {k : String} {v : Val} (h : fget m k = some v) : (k, v) ∈ m := by
  induction m with
  | nil => cases h
  | cons hd tl ih =>
    obtain ⟨k', v'⟩ := hd
    by_cases hk : k' = k
    · subst hk
      rw [fget_cons_self] at h
      cases h
      exact List.mem_cons_self
    · rw [fget_cons_ne hk] at h
      exact List.mem_cons_of_mem _ (ih h)

theorem fget_none_iff {m : Fields} {k : String} : fget m k = none ↔ ∀ p ∈ m, p.1 ≠ k := by
  induction m with
  | nil => exact ⟨fun _ _ h => (nomatch h), fun _ => rfl⟩
  | cons hd tl ih =>
    obtain ⟨k', v'⟩ := hd
    rw [List.forall_mem_cons, ← ih]
    by_cases hk : k' = k
    · subst hk
      rw [fget_cons_self]
      exact ⟨nofun, fun h => absurd rfl h.1⟩
    · rw [fget_cons_ne hk]
      exact ⟨fun h => ⟨hk, h⟩, And.right⟩

theorem fget_none_of_lt_all {m : Fields} {k : String} (h : ∀ p ∈ m, k < p.1) :
    fget m k = none :=
  fget_none_iff.2 (fun p hp => str_ne_of_gt (h p hp))

theorem fget_none_of_lt_head {k k' : String} {v' : Val} {rest : Fields}
    (hs : Fields.SortedKeys ((k', v') :: rest)) (h : k < k') :
    fget ((k', v') :: rest) k = none :=
  fget_none_of_lt_all (List.forall_mem_cons.2
    ⟨h, fun p hp => String.lt_trans h (sorted_head_lt hs p hp)⟩)

theorem fget_tail_head_none {k : String} {v : Val} {rest : Fields}
    (hs : Fields.SortedKeys ((k, v) :: rest)) : fget rest k = none :=
  fget_none_of_lt_all (sorted_head_lt hs)

theorem fhas_iff_ne_none {m : Fields} {k : String} : fhas m k = true ↔ fget m k ≠ none := by
  simp [fhas, Option.isSome_iff_ne_none]

theorem fhas_eq_false_iff {m : Fields} {k : String} : fhas m k = false ↔ fget m k = none := by
  simp [fhas]

theorem fhas_iff_exists {m : Fields} {k : String} : fhas m k = true ↔ ∃ v, fget m k = some v := by
  simp [fhas, Option.isSome_iff_exists]

theorem fget_fset_same (m : Fields) (k : String) (v : Val) : fget (fset m k v) k = some v := by
  induction m with
  | nil => exact fget_cons_self k v []
  | cons hd tl ih =>
    obtain ⟨k', v'⟩ := hd
    rcases Std.lt_trichotomy k k' with hlt | rfl | hgt
    · rw [fset_cons_lt hlt, fget_cons_self]
    · rw [fset_cons_self, fget_cons_self]
    · rw [fset_cons_gt hgt, fget_cons_ne (str_ne_of_lt hgt), ih]

theorem fget_fset_ne (m : Fields) (k k' : String) (v : Val) (h : k' ≠ k) :
    fget (fset m k v) k' = fget m k' := by
  induction m with
  | nil => exact fget_cons_ne h.symm v []
  | cons hd tl ih =>
    obtain ⟨k2, v2⟩ := hd
    rcases Std.lt_trichotomy k k2 with hlt | rfl | hgt
    · rw [fset_cons_lt hlt, fget_cons_ne h.symm]
    · rw [fset_cons_self, fget_cons_ne h.symm, fget_cons_ne h.symm]
    · rw [fset_cons_gt hgt]
      by_cases h2 : k2 = k'
      · rw [h2, fget_cons_self, fget_cons_self]
      · rw [fget_cons_ne h2, fget_cons_ne h2, ih]

theorem fget_fset (m : Fields) (k k' : String) (v : Val) :
    fget (fset m k v) k' = if k' = k then some v else fget m k' := by
  split
  · rename_i h; rw [h]; exact fget_fset_same m k v
  · rename_i h; exact fget_fset_ne m k k' v h

theorem fget_fdel_same (m : Fields) (k : String) : fget (fdel m k) k = none := by
  induction m with
  | nil => rfl
  | cons hd tl ih =>
    obtain ⟨k', v'⟩ := hd
    by_cases hk : k' = k
    · subst hk
      rw [fdel_cons_self, ih]
    · rw [fdel_cons_ne hk, fget_cons_ne hk, ih]

theorem fget_fdel_ne (m : Fields) (k k' : String) (h : k' ≠ k) :
    fget (fdel m k) k' = fget m k' := by
  induction m with
  | nil => rfl
  | cons hd tl ih =>
    obtain ⟨k2, v2⟩ := hd
    by_cases h2 : k2 = k
    · subst h2
      rw [fdel_cons_self, fget_cons_ne h.symm, ih]
    · rw [fdel_cons_ne h2]
      by_cases h3 : k2 = k'
      · rw [h3, fget_cons_self, fget_cons_self]
      · rw [fget_cons_ne h3, fget_cons_ne h3, ih]

theorem fget_fdel (m : Fields) (k k' : String) :
    fget (fdel m k) k' = if k' = k then none else fget m k' := by
  split
  · rename_i h; rw [h]; exact fget_fdel_same m k
  · rename_i h; exact fget_fdel_ne m k k' h

theorem mem_fset {m : Fields} {k : String} {v : Val} {p : String × Val}
    (h : p ∈ fset m k v) : p = (k, v) ∨ p ∈ m := by
  induction m with
  | nil => exact Or.inl (List.mem_singleton.1 h)
  | cons hd tl ih =>
    obtain ⟨k', v'⟩ := hd
    rcases Std.lt_trichotomy k k' with hlt | rfl | hgt
    · rw [fset_cons_lt hlt] at h
      exact List.mem_cons.1 h
    · rw [fset_cons_self] at h
      exact (List.mem_cons.1 h).imp_right (List.mem_cons_of_mem _)
    · rw [fset_cons_gt hgt] at h
      rcases List.mem_cons.1 h with rfl | h
      · exact Or.inr List.mem_cons_self
      · exact (ih h).imp_right (List.mem_cons_of_mem _)

theorem mem_fdel {m : Fields} {k : String} {p : String × Val}
    (h : p ∈ fdel m k) : p ∈ m := by
  induction m with
  | nil => cases h
  | cons hd tl ih =>
    obtain ⟨k', v'⟩ := hd
    by_cases hk : k' = k
    · subst hk
      rw [fdel_cons_self] at h
      exact List.mem_cons_of_mem _ (ih h)
    · rw [fdel_cons_ne hk] at h
      rcases List.mem_cons.1 h with rfl | h
      · exact List.mem_cons_self
      · exact List.mem_cons_of_mem _ (ih h)

theorem sorted_fset {m : Fields} {k : String} {v : Val} (hs : Fields.SortedKeys m) :
    Fields.SortedKeys (fset m k v) := by
  induction m with
  | nil => trivial
  | cons hd tl ih =>
    obtain ⟨k', v'⟩ := hd
    rcases Std.lt_trichotomy k k' with hlt | rfl | hgt
    · rw [fset_cons_lt hlt, sorted_cons_iff]
      exact ⟨List.forall_mem_cons.2
        ⟨hlt, fun p hp => String.lt_trans hlt (sorted_head_lt hs p hp)⟩, hs⟩
    · rw [fset_cons_self]
      exact sorted_cons_iff.2 (sorted_cons_iff.1 hs)
    · rw [fset_cons_gt hgt, sorted_cons_iff]
      refine ⟨fun p hp => ?_, ih (sorted_tail hs)⟩
      rcases mem_fset hp with rfl | hp
      · exact hgt
      · exact sorted_head_lt hs p hp

theorem sorted_fdel {m : Fields} {k : String} (hs : Fields.SortedKeys m) :
    Fields.SortedKeys (fdel m k) := by
  induction m with
  | nil => trivial
  | cons hd tl ih =>
    obtain ⟨k', v'⟩ := hd
    by_cases hk : k' = k
    · subst hk
      rw [fdel_cons_self]
      exact ih (sorted_tail hs)
    · rw [fdel_cons_ne hk, sorted_cons_iff]
      exact ⟨fun p hp => sorted_head_lt hs p (mem_fdel hp), ih (sorted_tail hs)⟩

theorem sorted_ext {a b : Fields} (ha : Fields.SortedKeys a) (hb : Fields.SortedKeys b)
    (h : ∀ k, fget a k = fget b k) : a = b := by
  induction a generalizing b with
  | nil =>
    cases b with
    | nil => rfl
    | cons hd tl =>
      obtain ⟨k, v⟩ := hd
      have := h k
      rw [fget_cons_self] at this
      cases this
  | cons hd tl ih =>
    obtain ⟨k, v⟩ := hd
    cases b with
    | nil =>
      have := h k
      rw [fget_cons_self] at this
      cases this
    | cons hd' tl' =>
      obtain ⟨k', v'⟩ := hd'
      have hk : k = k' := by
        rcases Std.lt_trichotomy k k' with hlt | heq | hgt
        · have h1 := h k
          rw [fget_cons_self, fget_none_of_lt_head hb hlt] at h1
          cases h1
        · exact heq
        · have h1 := h k'
          rw [fget_cons_self, fget_none_of_lt_head ha hgt] at h1
          cases h1
      subst hk
      have hv := h k
      rw [fget_cons_self, fget_cons_self] at hv
      cases hv
      congr 1
      apply ih (sorted_tail ha) (sorted_tail hb)
      intro x
      by_cases hx : k = x
      · subst hx
        rw [fget_tail_head_none ha, fget_tail_head_none hb]
      · have h1 := h x
        rwa [fget_cons_ne hx, fget_cons_ne hx] at h1

theorem fset_fset_comm {m : Fields} (hs : Fields.SortedKeys m) {k1 k2 : String} (v1 v2 : Val)
    (hne : k1 ≠ k2) : fset (fset m k1 v1) k2 v2 = fset (fset m k2 v2) k1 v1 := by
  apply sorted_ext (sorted_fset (sorted_fset hs)) (sorted_fset (sorted_fset hs))
  intro x
  simp only [fget_fset]
  by_cases h2 : x = k2
  · subst h2; simp [Ne.symm hne]
  · simp [h2]

theorem fset_fset_same (m : Fields) (k : String) (v1 v2 : Val) :
    fset (fset m k v1) k v2 = fset m k v2 := by
  induction m with
  | nil => exact fset_cons_self k v2 v1 []
  | cons hd tl ih =>
    obtain ⟨k', v'⟩ := hd
    rcases Std.lt_trichotomy k k' with hlt | rfl | hgt
    · rw [fset_cons_lt hlt, fset_cons_self, fset_cons_lt hlt]
    · rw [fset_cons_self, fset_cons_self, fset_cons_self]
    · rw [fset_cons_gt hgt, fset_cons_gt hgt, fset_cons_gt hgt, ih]

theorem fset_fdel_comm {m : Fields} (hs : Fields.SortedKeys m) {k1 k2 : String} (v : Val)
    (hne : k1 ≠ k2) : fset (fdel m k2) k1 v = fdel (fset m k1 v) k2 := by
  apply sorted_ext (sorted_fset (sorted_fdel hs)) (sorted_fdel (sorted_fset hs))
  intro x
  simp only [fget_fset, fget_fdel]
  by_cases h1 : x = k1
  · subst h1; simp [hne]
  · simp [h1]

theorem fdel_fdel_comm (m : Fields) (k1 k2 : String) :
    fdel (fdel m k1) k2 = fdel (fdel m k2) k1 := by
  induction m with
  | nil => rfl
  | cons hd tl ih =>
    obtain ⟨k', v'⟩ := hd
    by_cases h1 : k' = k1
    · subst h1
      by_cases h2 : k' = k2
      · subst h2; rfl
      · rw [fdel_cons_self, fdel_cons_ne h2, fdel_cons_self, ih]
    · by_cases h2 : k' = k2
      · subst h2; rw [fdel_cons_ne h1, fdel_cons_self, fdel_cons_self, ih]
      · rw [fdel_cons_ne h1, fdel_cons_ne h2, fdel_cons_ne h2, fdel_cons_ne h1, ih]

theorem fdel_of_not_mem {m : Fields} {k : String} (h : fget m k = none) : fdel m k = m := by
  induction m with
  | nil => rfl
  | cons hd tl ih =>
    obtain ⟨k', v'⟩ := hd
    by_cases hk : k' = k
    · subst hk
      rw [fget_cons_self] at h
      cases h
    · rw [fget_cons_ne hk] at h
      rw [fdel_cons_ne hk, ih h]

theorem fdel_fdel_same (m : Fields) (k : String) : fdel (fdel m k) k = fdel m k :=
  fdel_of_not_mem (fget_fdel_same m k)

theorem fset_of_get {m : Fields} {k : String} {v : Val} (hs : Fields.SortedKeys m)
    (h : fget m k = some v) : fset m k v = m := by
  apply sorted_ext (sorted_fset hs) hs
  intro x
  rw [fget_fset]
  split
  · rename_i hx; rw [hx]; exact h.symm
  · rfl

theorem fdel_fset_same (m : Fields) (k : String) (v : Val) : fdel (fset m k v) k = fdel m k := by
  induction m with
  | nil => exact fdel_cons_self k v []
  | cons hd tl ih =>
    obtain ⟨k', v'⟩ := hd
    rcases Std.lt_trichotomy k k' with hlt | rfl | hgt
    · rw [fset_cons_lt hlt, fdel_cons_self]
    · rw [fset_cons_self, fdel_cons_self, fdel_cons_self]
    · rw [fset_cons_gt hgt, fdel_cons_ne (str_ne_of_lt hgt), fdel_cons_ne (str_ne_of_lt hgt), ih]

theorem fset_fdel_same {m : Fields} (hs : Fields.SortedKeys m) (k : String) (v : Val) :
    fset (fdel m k) k v = fset m k v := by
  apply sorted_ext (sorted_fset (sorted_fdel hs)) (sorted_fset hs)
  intro x
  simp only [fget_fdel, fget_fset]
  split <;> rfl

/-- the keys of an entry list are pairwise distinct (what a Go map guarantees) -/
abbrev Fields.DistinctKeys (s : Fields) : Prop := (s.map (·.1)).Nodup

theorem distinctKeys_cons {p : String × Val} {s : Fields} :
    Fields.DistinctKeys (p :: s) ↔ (∀ q ∈ s, q.1 ≠ p.1) ∧ Fields.DistinctKeys s := by
  simp only [Fields.DistinctKeys, List.map_cons, List.nodup_cons, List.mem_map, not_exists,
    not_and]

theorem distinctKeys_append {a b : Fields} :
    Fields.DistinctKeys (a ++ b) ↔
      Fields.DistinctKeys a ∧ Fields.DistinctKeys b ∧ ∀ p ∈ a, ∀ q ∈ b, p.1 ≠ q.1 := by
  simp only [Fields.DistinctKeys, List.map_append, List.nodup_append, List.forall_mem_map]

theorem distinctKeys_of_sorted {s : Fields} (h : Fields.SortedKeys s) : Fields.DistinctKeys s := by
  induction s with
  | nil => exact List.nodup_nil
  | cons hd tl ih =>
    obtain ⟨k, v⟩ := hd
    rw [distinctKeys_cons]
    exact ⟨fun q hq => str_ne_of_gt (sorted_head_lt h q hq), ih (sorted_tail h)⟩

theorem distinctKeys_perm {s' s : Fields} (hp : s'.Perm s) (h : Fields.DistinctKeys s) :
    Fields.DistinctKeys s' :=
  ((hp.map (·.1)).nodup_iff).2 h

theorem fhasBool_iff {m : Fields} {k : String} {b : Bool} :
    fhasBool m k b = true ↔ fget m k = some (.bool b) := by
  unfold fhasBool
  split
  · rename_i b' h; simp [h]
  · rename_i h
    constructor
    · intro h'; cases h'
    · intro h'; exact absurd h' (h b)

theorem fget_of_mem_distinct {m : Fields} {k : String} {v : Val} (hn : Fields.DistinctKeys m)
    (h : (k, v) ∈ m) : fget m k = some v := by
  induction m with
  | nil => cases h
  | cons hd tl ih =>
    obtain ⟨k', v'⟩ := hd
    rw [distinctKeys_cons] at hn
    rcases List.mem_cons.1 h with h | h
    · cases h; exact fget_cons_self k v tl
    · rw [fget_cons_ne (Ne.symm (hn.1 _ h))]; exact ih hn.2 h

theorem fget_of_mem_sorted {m : Fields} {k : String} {v : Val}
    (hs : Fields.SortedKeys m) (h : (k, v) ∈ m) : fget m k = some v :=
  fget_of_mem_distinct (distinctKeys_of_sorted hs) h

theorem distinctKeys_unique {s : Fields} (h : Fields.DistinctKeys s) {k : String} {v w : Val}
    (hv : (k, v) ∈ s) (hw : (k, w) ∈ s) : v = w :=
  Option.some.inj ((fget_of_mem_distinct h hv).symm.trans (fget_of_mem_distinct h hw))

theorem exists_mem_iff_fget {s : Fields} (hs : Fields.SortedKeys s) {P : String → Val → Prop} :
    (∃ p ∈ s, P p.1 p.2) ↔ ∃ k v, fget s k = some v ∧ P k v :=
  ⟨fun ⟨p, hp, h⟩ => ⟨p.1, p.2, fget_of_mem_sorted hs hp, h⟩,
   fun ⟨k, v, hk, h⟩ => ⟨(k, v), fget_mem hk, h⟩⟩

theorem length_pos_of_fget {m : Fields} {k : String} {v : Val} (h : fget m k = some v) :
    m.length > 0 := by
  cases m with
  | nil => cases h
  | cons a tl => exact Nat.succ_pos _

theorem distinctKeys_append_of_disjoint {s1 s2 : Fields} (hs1 : Fields.SortedKeys s1)
    (hs2 : Fields.SortedKeys s2) (hdisj : ∀ k, fget s1 k = none ∨ fget s2 k = none) :
    Fields.DistinctKeys (s1 ++ s2) := by
  refine distinctKeys_append.2 ⟨distinctKeys_of_sorted hs1, distinctKeys_of_sorted hs2, ?_⟩
  intro p hp q hq e
  rcases hdisj p.1 with h | h
  · rw [fget_of_mem_sorted hs1 hp] at h; cases h
  · rw [e, fget_of_mem_sorted hs2 hq] at h; cases h

theorem sorted_split_at {kvs : Fields} (hs : Fields.sortedKeysB kvs = true) {x : String × Val}
    (hx : x ∈ kvs) :
    ∃ P C, kvs = P ++ x :: C ∧ (∀ p ∈ P, p.1 < x.1) ∧ (∀ p ∈ C, x.1 < p.1) := by
  obtain ⟨P, C, rfl⟩ := List.append_of_mem hx
  rw [sortedKeysB_iff, sorted_iff_pairwise, List.pairwise_append] at hs
  obtain ⟨_, h2, h3⟩ := hs
  rw [List.pairwise_cons] at h2
  exact ⟨P, C, rfl, fun p hp => h3 p hp x (List.mem_cons_self ..), fun p hp => h2.1 p hp⟩

/-! ## `fget` on lists that are not sorted: first entry wins; with distinct keys, any order -/

theorem fget_append (a b : Fields) (k : String) : fget (a ++ b) k = (fget a k).or (fget b k) := by
  induction a with
  | nil => rfl
  | cons hd tl ih =>
    obtain ⟨k', v⟩ := hd
    by_cases hk : k' = k
    · subst hk; rw [List.cons_append, fget_cons_self, fget_cons_self]; rfl
    · rw [List.cons_append, fget_cons_ne hk, fget_cons_ne hk, ih]

theorem fget_perm {s s' : Fields} (hn : Fields.DistinctKeys s) (hp : s'.Perm s) (k : String) :
    fget s' k = fget s k := by
  cases h : fget s k with
  | none => exact fget_none_iff.2 fun p hm => fget_none_iff.1 h p (hp.mem_iff.1 hm)
  | some v => exact fget_of_mem_distinct (distinctKeys_perm hp hn) (hp.mem_iff.2 (fget_mem h))

/-! ## `fsetAll`, `fofList`: the last entry wins -/

theorem fsetAll_cons (d : Fields) (p : String × Val) (rest : Fields) :
    fsetAll d (p :: rest) = fsetAll (fset d p.1 p.2) rest := rfl

theorem sorted_fsetAll {d : Fields} (s : Fields) (hd : Fields.SortedKeys d) :
    Fields.SortedKeys (fsetAll d s) := by
  induction s generalizing d with
  | nil => exact hd
  | cons hd' tl ih => exact ih (sorted_fset hd)

theorem sorted_fofList (s : Fields) : Fields.SortedKeys (fofList s) := sorted_fsetAll s trivial

theorem fget_fsetAll (d s : Fields) (k : String) :
    fget (fsetAll d s) k = (fget s.reverse k).or (fget d k) := by
  induction s generalizing d with
  | nil => rfl
  | cons p tl ih =>
    rw [fsetAll_cons, ih, List.reverse_cons, fget_append, Option.or_assoc, fget_fset]
    by_cases hk : p.1 = k
    · rw [if_pos hk.symm, ← hk, fget_cons_self]; rfl
    · rw [if_neg (Ne.symm hk), fget_cons_ne hk]; rfl

theorem fget_fsetAll_distinct {d s : Fields} (hn : Fields.DistinctKeys s) (k : String) :
    fget (fsetAll d s) k = (fget s k).or (fget d k) := by
  rw [fget_fsetAll, fget_perm hn (List.reverse_perm s)]

theorem fget_fofList (s : Fields) (k : String) : fget (fofList s) k = fget s.reverse k :=
  (fget_fsetAll [] s k).trans Option.or_none

theorem fsetAll_perm {d s s' : Fields} (hd : Fields.SortedKeys d) (hn : Fields.DistinctKeys s)
    (hp : s'.Perm s) : fsetAll d s' = fsetAll d s :=
  sorted_ext (sorted_fsetAll s' hd) (sorted_fsetAll s hd) fun k => by
    rw [fget_fsetAll_distinct hn, fget_fsetAll_distinct (distinctKeys_perm hp hn), fget_perm hn hp]

theorem fofList_of_sorted {l : Fields} (h : Fields.SortedKeys l) : fofList l = l :=
  sorted_ext (sorted_fofList l) h fun k => by
    rw [fget_fofList, fget_perm (distinctKeys_of_sorted h) (List.reverse_perm l)]

theorem fofList_of_sortedKeysB {l : Fields} (h : Fields.sortedKeysB l = true) : fofList l = l :=
  fofList_of_sorted (sortedKeysB_iff.1 h)

theorem fsetAll_nil (d : Fields) : fsetAll d [] = d := rfl

theorem fsetAll_append (d a b : Fields) : fsetAll d (a ++ b) = fsetAll (fsetAll d a) b := by
  simp [fsetAll, List.foldl_append]

theorem fget_fsetAll_of_not_mem {d s : Fields} {k : String} (h : ∀ p ∈ s, p.1 ≠ k) :
    fget (fsetAll d s) k = fget d k := by
  rw [fget_fsetAll, fget_none_iff.2 fun p hp => h p (List.mem_reverse.1 hp)]
  rfl

theorem fofList_perm {s s' : Fields} (hn : Fields.DistinctKeys s) (hp : s'.Perm s) :
    fofList s' = fofList s :=
  fsetAll_perm trivial hn hp

theorem fofList_snoc (l : Fields) (p : String × Val) :
    fofList (l ++ [p]) = fset (fofList l) p.1 p.2 := by
  rw [fofList, fsetAll_append]
  rfl

theorem mem_fsetAll {acc l : Fields} {p : String × Val} (h : p ∈ fsetAll acc l) :
    p ∈ acc ∨ p ∈ l := by
  induction l generalizing acc with
  | nil => exact Or.inl h
  | cons hd tl ih =>
    rw [fsetAll_cons] at h
    rcases ih h with h | h
    · rcases mem_fset h with rfl | h
      · exact Or.inr List.mem_cons_self
      · exact Or.inl h
    · exact Or.inr (List.mem_cons_of_mem _ h)

theorem fget_fsetAll_last (acc pre post : Fields) (x : String) (v : Val)
    (h : ∀ p ∈ post, p.1 ≠ x) :
    fget (fsetAll acc (pre ++ (x, v) :: post)) x = some v := by
  rw [fsetAll_append]
  show fget (fsetAll (fset (fsetAll acc pre) x v) post) x = some v
  rw [fget_fsetAll_of_not_mem h, fget_fset_same]

theorem fget_fofList_last (X Y : Fields) (k : String) (w : Val) (hY : ∀ q ∈ Y, q.1 ≠ k) :
    fget (fofList (X ++ (k, w) :: Y)) k = some w :=
  fget_fsetAll_last [] X Y k w hY

theorem fget_fofList_none (es : Fields) (k : String) (h : ∀ q ∈ es, q.1 ≠ k) :
    fget (fofList es) k = none :=
  fget_fsetAll_of_not_mem h

theorem fofList_idem (l : Fields) : fofList (fofList l) = fofList l :=
  fofList_of_sorted (sorted_fofList l)

theorem foldl_fsetAll_flatten (pss : List Fields) (acc : Fields) :
    pss.foldl fsetAll acc = fsetAll acc pss.flatten := by
  induction pss generalizing acc with
  | nil => rfl
  | cons ps pss ih => rw [List.foldl_cons, ih, List.flatten_cons, fsetAll_append]

theorem foldl_fsetAll_toList (os : List (Option (String × Val))) (acc : Fields) :
    os.foldl (fun a o => fsetAll a o.toList) acc = fsetAll acc (os.filterMap id) := by
  induction os generalizing acc with
  | nil => rfl
  | cons o os ih => cases o <;> rw [List.foldl_cons, ih] <;> rfl

/-! ## key-wise loops: `for k, v := range m { if w, ok := g(k, v); ok { ret[k] = w } }` -/

/-- keep the entries on which `g` answers, with the value it gives -/
def Fields.filterMapVal (g : String → Val → Option Val) (s : Fields) : Fields :=
  s.filterMap fun p => (g p.1 p.2).map fun w => (p.1, w)

theorem filterMapVal_nil (g : String → Val → Option Val) : Fields.filterMapVal g [] = [] := rfl

theorem filterMapVal_cons (g : String → Val → Option Val) (k : String) (v : Val) (rest : Fields) :
    Fields.filterMapVal g ((k, v) :: rest) =
      match g k v with
      | some w => (k, w) :: Fields.filterMapVal g rest
      | none => Fields.filterMapVal g rest := by
  unfold Fields.filterMapVal
  rw [List.filterMap_cons]
  cases g k v <;> rfl

theorem mem_filterMapVal {g : String → Val → Option Val} {s : Fields} {k : String} {w : Val} :
    (k, w) ∈ Fields.filterMapVal g s ↔ ∃ v, (k, v) ∈ s ∧ g k v = some w := by
  unfold Fields.filterMapVal
  rw [List.mem_filterMap]
  constructor
  · rintro ⟨⟨k', v⟩, hm, h⟩
    cases hg : g k' v with
    | none => rw [hg] at h; cases h
    | some w' => rw [hg] at h; cases h; exact ⟨v, hm, hg⟩
  · rintro ⟨v, hm, hg⟩
    exact ⟨(k, v), hm, by rw [hg]; rfl⟩

theorem keys_filterMapVal_sublist (g : String → Val → Option Val) (s : Fields) :
    ((Fields.filterMapVal g s).map (·.1)).Sublist (s.map (·.1)) := by
  induction s with
  | nil => exact List.Sublist.slnil
  | cons hd tl ih =>
    rw [filterMapVal_cons]
    cases g hd.1 hd.2 with
    | none => exact List.Sublist.cons _ ih
    | some w => exact List.Sublist.cons_cons _ ih

theorem distinctKeys_filterMapVal (g : String → Val → Option Val) {s : Fields}
    (h : Fields.DistinctKeys s) : Fields.DistinctKeys (Fields.filterMapVal g s) :=
  (keys_filterMapVal_sublist g s).nodup h

theorem sorted_filterMapVal (g : String → Val → Option Val) {s : Fields}
    (hs : Fields.SortedKeys s) : Fields.SortedKeys (Fields.filterMapVal g s) :=
  sorted_iff_pairwise.2 (List.pairwise_map.1
    ((List.pairwise_map.2 (sorted_iff_pairwise.1 hs)).sublist (keys_filterMapVal_sublist g s)))

/-- the first entry for `k` is kept: no hypothesis on the keys -/
theorem fget_filterMapVal_of_some {g : String → Val → Option Val} {s : Fields} {k : String}
    {v w : Val} (h : fget s k = some v) (hg : g k v = some w) :
    fget (Fields.filterMapVal g s) k = some w := by
  induction s with
  | nil => cases h
  | cons hd tl ih =>
    obtain ⟨k', v'⟩ := hd
    rw [filterMapVal_cons]
    by_cases hk : k' = k
    · subst hk
      rw [fget_cons_self] at h
      cases h
      rw [hg]
      exact fget_cons_self _ _ _
    · rw [fget_cons_ne hk] at h
      cases g k' v' with
      | none => exact ih h
      | some w' => exact (fget_cons_ne hk _ _).trans (ih h)

theorem fget_filterMapVal_of_none {g : String → Val → Option Val} {s : Fields} {k : String}
    (h : fget s k = none) : fget (Fields.filterMapVal g s) k = none :=
  fget_none_iff.2 fun p hp e => by
    obtain ⟨v, hv, _⟩ := mem_filterMapVal.1 (show (p.1, p.2) ∈ _ from hp)
    exact fget_none_iff.1 h _ hv e

/-- the description by `fget`; distinct keys are needed only where the first entry for `k` is
    dropped and a later one would be kept -/
theorem fget_filterMapVal (g : String → Val → Option Val) {s : Fields}
    (hn : Fields.DistinctKeys s) (k : String) :
    fget (Fields.filterMapVal g s) k = (fget s k).bind (g k) := by
  cases hr : fget (Fields.filterMapVal g s) k with
  | some w =>
    obtain ⟨v, hv, hg⟩ := mem_filterMapVal.1 (fget_mem hr)
    rw [fget_of_mem_distinct hn hv, Option.bind_some, hg]
  | none =>
    cases h : fget s k with
    | none => rfl
    | some v =>
      cases hg : g k v with
      | none => rw [Option.bind_some, hg]
      | some w => rw [fget_filterMapVal_of_some h hg] at hr; cases hr

theorem filterMapVal_perm (g : String → Val → Option Val) {s s' : Fields} (hp : s'.Perm s) :
    (Fields.filterMapVal g s').Perm (Fields.filterMapVal g s) := hp.filterMap _

/-- a Go loop storing into a fresh map visits the entries in any order -/
theorem fofList_filterMapVal_perm (g : String → Val → Option Val) {s s' : Fields}
    (hn : Fields.DistinctKeys s) (hp : s'.Perm s) :
    fofList (Fields.filterMapVal g s') = fofList (Fields.filterMapVal g s) :=
  fofList_perm (distinctKeys_filterMapVal g hn) (filterMapVal_perm g hp)

/-! ## entry-wise maps: the keys through an order embedding `g`, the values through `h` -/

section
variable {g : String → String} {h : Val → Val}

theorem fget_map_entries (hg : ∀ a b, g a = g b ↔ a = b) (m : Fields) (k : String) :
    fget (m.map fun p => (g p.1, h p.2)) (g k) = (fget m k).map h := by
  induction m with
  | nil => rfl
  | cons a t ih =>
    simp only [List.map_cons, fget, hg]
    split
    · rfl
    · exact ih

theorem fset_map_entries (hg : ∀ a b, g a = g b ↔ a = b) (hlt : ∀ a b, g a < g b ↔ a < b) (m : Fields)
    (k : String) (v : Val) :
    fset (m.map fun p => (g p.1, h p.2)) (g k) (h v) = (fset m k v).map fun p => (g p.1, h p.2) := by
  induction m with
  | nil => rfl
  | cons a t ih =>
    simp only [List.map_cons, fset, hg, hlt]
    split
    · rfl
    · split
      · rfl
      · rw [List.map_cons, ih]
end

/-! ## well-formedness -/

theorem wfListB_iff {l : List Val} : Val.wfListB l = true ↔ ∀ x ∈ l, Val.WF x :=
  all_of_eqns Val.wfListB.eq_1 Val.wfListB.eq_2

theorem wfFieldsB_iff {m : Fields} : Val.wfFieldsB m = true ↔ ∀ p ∈ m, Val.WF p.2 :=
  all_of_eqns Val.wfFieldsB.eq_1 fun p l => Val.wfFieldsB.eq_2 p.1 p.2 l

theorem wf_map_iff {m : Fields} :
    Val.WF (.map m) ↔ Fields.SortedKeys m ∧ ∀ p ∈ m, Val.WF p.2 := by
  simp only [Val.WF, Val.wfB, Bool.and_eq_true, sortedKeysB_iff, wfFieldsB_iff]

theorem wf_list_iff {l : List Val} : Val.WF (.list l) ↔ ∀ x ∈ l, Val.WF x := by
  simp only [Val.WF, Val.wfB, wfListB_iff]

theorem wf_map_iff_fget {m : Fields} :
    Val.WF (.map m) ↔ Fields.SortedKeys m ∧ ∀ k v, fget m k = some v → Val.WF v := by
  rw [wf_map_iff]
  constructor
  · rintro ⟨hs, hv⟩
    exact ⟨hs, fun k v h => hv _ (fget_mem h)⟩
  · rintro ⟨hs, hv⟩
    exact ⟨hs, fun p hp => hv p.1 p.2 (fget_of_mem_sorted hs hp)⟩

theorem wf_of_fget {m : Fields} {k : String} {v : Val} (hm : Val.WF (.map m))
    (h : fget m k = some v) : Val.WF v :=
  (wf_map_iff.1 hm).2 _ (fget_mem h)

instance (v : Val) : Decidable (Val.WF v) := by unfold Val.WF; infer_instance

theorem wf_null : Val.WF .null := rfl
theorem wf_bool (b : Bool) : Val.WF (.bool b) := rfl
theorem wf_int (i : Int) : Val.WF (.int i) := rfl
theorem wf_flt (r : String) : Val.WF (.flt r) := rfl
theorem wf_str (s : String) : Val.WF (.str s) := rfl

theorem wf_fset {m : Fields} {k : String} {v : Val} (hm : Val.WF (.map m)) (hv : Val.WF v) :
    Val.WF (.map (fset m k v)) := by
  rw [wf_map_iff] at *
  refine ⟨sorted_fset hm.1, fun p hp => ?_⟩
  rcases mem_fset hp with rfl | hp
  · exact hv
  · exact hm.2 p hp

theorem wf_fdel {m : Fields} {k : String} (hm : Val.WF (.map m)) :
    Val.WF (.map (fdel m k)) := by
  rw [wf_map_iff] at *
  exact ⟨sorted_fdel hm.1, fun p hp => hm.2 p (mem_fdel hp)⟩

theorem wf_filterMapVal {g : String → Val → Option Val} {s : Fields} (hs : Val.WF (.map s))
    (hg : ∀ k v w, (k, v) ∈ s → g k v = some w → Val.WF w) :
    Val.WF (.map (Fields.filterMapVal g s)) :=
  wf_map_iff.2 ⟨sorted_filterMapVal g (wf_map_iff.1 hs).1, fun p hp => by
    obtain ⟨v, hv, h⟩ := mem_filterMapVal.1 (show (p.1, p.2) ∈ _ from hp)
    exact hg _ _ _ hv h⟩

theorem wf_list_append {a b : List Val} :
    Val.WF (.list (a ++ b)) ↔ Val.WF (.list a) ∧ Val.WF (.list b) := by
  simp only [wf_list_iff, List.mem_append]
  constructor
  · intro h; exact ⟨fun x hx => h x (Or.inl hx), fun x hx => h x (Or.inr hx)⟩
  · rintro ⟨h1, h2⟩ x (hx | hx)
    · exact h1 x hx
    · exact h2 x hx

theorem wf_list_cons {x : Val} {l : List Val} :
    Val.WF (.list (x :: l)) ↔ Val.WF x ∧ Val.WF (.list l) := by
  rw [wf_list_iff, wf_list_iff, List.forall_mem_cons]

theorem wf_list_snoc {x : Val} {l : List Val} (hl : Val.WF (.list l)) (hx : Val.WF x) :
    Val.WF (.list (l ++ [x])) :=
  wf_list_append.2 ⟨hl, wf_list_cons.2 ⟨hx, rfl⟩⟩

theorem wf_list_filter {a : List Val} (p : Val → Bool) (h : Val.WF (.list a)) :
    Val.WF (.list (a.filter p)) := by
  rw [wf_list_iff] at *
  intro x hx
  exact h x (List.mem_filter.1 hx).1

theorem length_fset_new (m : Fields) (k : String) (v : Val) (h : fget m k = none) :
    (fset m k v).length = m.length + 1 := by
  induction m with
  | nil => rfl
  | cons hd tl ih =>
    obtain ⟨k', v'⟩ := hd
    rcases Std.lt_trichotomy k k' with hlt | rfl | hgt
    · rw [fset_cons_lt hlt]; rfl
    · rw [fget_cons_self] at h; cases h
    · rw [fget_cons_ne (str_ne_of_lt hgt)] at h
      rw [fset_cons_gt hgt, List.length_cons, ih h]; rfl

theorem length_fsetAll_nodup (l acc : Fields) (hnd : (l.map (·.1)).Nodup)
    (hacc : ∀ p ∈ l, fget acc p.1 = none) : (fsetAll acc l).length = acc.length + l.length := by
  induction l generalizing acc with
  | nil => rfl
  | cons hd tl ih =>
    have hnd := distinctKeys_cons.1 hnd
    rw [fsetAll_cons, ih _ hnd.2, length_fset_new _ _ _ (hacc hd List.mem_cons_self),
      List.length_cons]
    · omega
    · intro p hp
      rw [fget_fset_ne _ _ _ _ (hnd.1 p hp)]
      exact hacc p (List.mem_cons_of_mem _ hp)

/-! ## `popListMapValue`, in closed form

  The entries that are single-key maps `{k: val}` (the hits) are taken out of the list; the
  value is the first hit that is not `null` (`null` if there is none), and a hit after it is
  `extraKeys`. -/

/-- the value of a single-key entry `{k: val}` -/
def popHit (k : String) (x : Val) : Option Val :=
  match x with
  | .map m => if m.length != 1 then none else fget m k
  | _ => none

/-- what the hits yield, starting from the value `ret` found so far -/
def popVal : Val → List Val → R Val
  | ret, [] => .ok ret
  | ret, v :: hs => if !ret.isNull then .error .extraKeys else popVal v hs

/-- the fold step of `popListMapValue`, through `popHit` -/
theorem popListMapValue_eq_fold (l : List Val) (k : String) :
    popListMapValue l k = l.foldlM (fun (p : Val × List Val) x =>
      match popHit k x with
      | none => .ok (p.1, p.2 ++ [x])
      | some val => if !p.1.isNull then .error .extraKeys else .ok (val, p.2)) (.null, []) := by
  unfold popListMapValue
  refine foldlM_congr_mem _ _ l (fun p x _ => ?_) _
  cases x with
  | map m =>
    simp only [popHit]
    by_cases hl : (m.length != 1) = true
    · simp only [hl, if_true]; rfl
    · simp only [hl]; cases fget m k <;> rfl
  | _ => rfl

theorem popListMapValue_spec (l : List Val) (k : String) :
    popListMapValue l k =
      (popVal .null (l.filterMap (popHit k))).map
        fun v => (v, l.filter fun x => (popHit k x).isNone) := by
  have key : ∀ (l : List Val) (ret : Val) (acc : List Val),
      l.foldlM (fun (p : Val × List Val) x =>
        match popHit k x with
        | none => .ok (p.1, p.2 ++ [x])
        | some val => if !p.1.isNull then .error .extraKeys else .ok (val, p.2)) (ret, acc) =
        (popVal ret (l.filterMap (popHit k))).map
          fun v => (v, acc ++ l.filter fun x => (popHit k x).isNone) := by
    intro l
    induction l with
    | nil => intro ret acc; simp [popVal, Except.map, R_pure]
    | cons x tl ih =>
      intro ret acc
      rw [foldlM_cons]
      cases hx : popHit k x with
      | none =>
        simp only [ih, List.filterMap_cons, hx, List.filter_cons, Option.isNone_none, if_true,
          List.append_assoc, List.singleton_append]
      | some val =>
        simp only [List.filterMap_cons, hx, List.filter_cons, Option.isNone_some,
          Bool.false_eq_true, if_false, popVal]
        cases ret.isNull
        · rfl
        · exact ih val acc
  rw [popListMapValue_eq_fold, key]
  simp

theorem popVal_ok {ret rep : Val} : ∀ {hs : List Val}, popVal ret hs = .ok rep →
    rep = ret ∨ rep ∈ hs
  | [], h => by cases h; exact .inl rfl
  | v :: hs, h => by
    simp only [popVal] at h
    split at h
    · cases h
    · exact .inr ((popVal_ok h).elim (fun e => e ▸ List.mem_cons_self)
        (List.mem_cons_of_mem _))

theorem popHit_eq_some {k : String} {x val : Val} (h : popHit k x = some val) :
    ∃ m, x = .map m ∧ m.length = 1 ∧ fget m k = some val := by
  cases x with
  | map m =>
    simp only [popHit] at h
    by_cases hl : m.length = 1
    · exact ⟨m, rfl, hl, by simpa [hl] using h⟩
    · simp [hl] at h
  | _ => cases h

theorem popHit_filter {l : List Val} {k : String} (h : ∀ x ∈ l, popHit k x = none) :
    l.filterMap (popHit k) = [] ∧ (l.filter fun x => (popHit k x).isNone) = l :=
  ⟨List.filterMap_eq_nil_iff.2 h, List.filter_eq_self.2 fun x hx => by rw [h x hx]; rfl⟩

/-- no hit: nothing is taken out -/
theorem popListMapValue_of_no_hit {l : List Val} {k : String} (h : ∀ x ∈ l, popHit k x = none) :
    popListMapValue l k = .ok (.null, l) := by
  rw [popListMapValue_spec, (popHit_filter h).1, (popHit_filter h).2]
  rfl

/-- no list entry is a map with exactly one key `k` -/
def noSingleKey (k : String) (xs : List Val) : Prop :=
  ∀ x ∈ xs, ∀ m, x = .map m → m.length = 1 → fget m k = none

/-- an entry that is no map with exactly one key `k` is no hit -/
theorem popHit_eq_none {k : String} {x : Val} (h : ∀ m, x = .map m → m.length = 1 → fget m k = none) :
    popHit k x = none := by
  cases x with
  | map m =>
    simp only [popHit]
    by_cases hl : m.length = 1
    · simp [hl, h m rfl hl]
    · simp [hl]
  | _ => rfl

theorem popListMapValue_none (k : String) (xs : List Val) (h : noSingleKey k xs) :
    popListMapValue xs k = .ok (.null, xs) :=
  popListMapValue_of_no_hit fun x hx => popHit_eq_none (h x hx)

theorem noSingleKey_of_other_key {k k' : String} (hk : k' ≠ k) {m : Fields} {r : Val}
    (h : fget m k' = some r) : noSingleKey k [.map m] := by
  intro x hx m' e hl
  simp only [List.mem_singleton] at hx
  subst hx
  cases e
  match m, hl, h with
  | [(a, b)], _, h =>
    simp only [fget] at h ⊢
    by_cases ha : a = k'
    · subst ha; simp [hk]
    · simp [ha] at h

/-- one hit `x` (with value `val`) between entries that are not hits -/
theorem popListMapValue_of_one_hit {pre post : List Val} {k : String} {x val : Val}
    (hx : popHit k x = some val) (h : ∀ y ∈ pre ++ post, popHit k y = none) :
    popListMapValue (pre ++ [x] ++ post) k = .ok (val, pre ++ post) := by
  have h1 := popHit_filter fun y hy => h y (List.mem_append_left post hy)
  have h2 := popHit_filter fun y hy => h y (List.mem_append_right pre hy)
  rw [popListMapValue_spec]
  simp only [List.filterMap_append, List.filter_append, h1.1, h1.2, h2.1, h2.2,
    List.filterMap_cons, hx, List.filterMap_nil, List.filter_cons, Option.isNone_some,
    List.filter_nil, List.nil_append, List.append_nil, Bool.false_eq_true, if_false]
  rfl

/-- a value other than `null` comes from a hit; what is left are entries of the list -/
theorem popListMapValue_ok {l : List Val} {k : String} {rep : Val} {rest : List Val}
    (h : popListMapValue l k = .ok (rep, rest)) :
    (rep.isNull = false → ∃ m, Val.map m ∈ l ∧ m.length = 1 ∧ fget m k = some rep) ∧
      rest = l.filter fun x => (popHit k x).isNone := by
  rw [popListMapValue_spec] at h
  cases hv : popVal .null (l.filterMap (popHit k)) with
  | error e => rw [hv] at h; cases h
  | ok v =>
    rw [hv] at h
    cases h
    refine ⟨fun hn => ?_, rfl⟩
    rcases popVal_ok hv with e | hm
    · rw [e] at hn; cases hn
    · obtain ⟨x, hx, hxv⟩ := List.mem_filterMap.1 hm
      obtain ⟨m, rfl, hl, hg⟩ := popHit_eq_some hxv
      exact ⟨m, hx, hl, hg⟩

theorem toStringList_strs (ps : List String) : toStringList (ps.map .str) = .ok ps := by
  unfold toStringList
  induction ps with
  | nil => exact mapM_nil _
  | cons a tl ih => rw [List.map_cons, mapM_cons, ih]; rfl


/-! ## when a map built entry by entry is empty; writing a built map into a map -/

theorem rq_fset_ne_nil (m : Fields) (k : String) (v : Val) : fset m k v ≠ [] := by
  cases m with
  | nil => simp [fset]
  | cons a t =>
    obtain ⟨k1, v1⟩ := a
    simp only [fset]
    split
    · simp
    · split <;> simp

theorem rq_fsetAll_ne_nil (l : Fields) : ∀ (acc : Fields), acc ≠ [] → fsetAll acc l ≠ [] := by
  induction l with
  | nil => intro acc h; exact h
  | cons a t ih => intro acc _; rw [fsetAll_cons]; exact ih _ (rq_fset_ne_nil _ _ _)

theorem rq_fofList_eq_nil_iff (l : Fields) : fofList l = [] ↔ l = [] := by
  cases l with
  | nil => exact iff_of_true rfl rfl
  | cons a t =>
    simp only [fofList, fsetAll_cons, reduceCtorEq, iff_false]
    exact rq_fsetAll_ne_nil _ _ (rq_fset_ne_nil _ _ _)

namespace Gen.Lib

theorem fsetAll_fset_sorted {acc acc0 : Fields} (ha : Fields.SortedKeys acc) (h0 : Fields.SortedKeys acc0)
    (k : String) (v : Val) : fsetAll acc (fset acc0 k v) = fset (fsetAll acc acc0) k v := by
  apply sorted_ext (sorted_fsetAll _ ha) (sorted_fset (sorted_fsetAll _ ha))
  intro k'
  rw [fget_fsetAll_distinct (distinctKeys_of_sorted (sorted_fset h0)), fget_fset, fget_fset,
    fget_fsetAll_distinct (distinctKeys_of_sorted h0)]
  by_cases hk : k' = k <;> simp [hk]

/-- inserting a map built from a list of entries is inserting the entries -/
theorem fsetAll_fsetAll {acc : Fields} (ha : Fields.SortedKeys acc) (ps : Fields) :
    ∀ {m : Fields}, Fields.SortedKeys m → fsetAll acc (fsetAll m ps) = fsetAll (fsetAll acc m) ps := by
  induction ps with
  | nil => intro m _; rfl
  | cons p ps ih =>
    intro m hm
    rw [fsetAll_cons, ih (sorted_fset hm), fsetAll_fset_sorted ha hm]
    rfl

theorem fsetAll_fofList {acc : Fields} (ha : Fields.SortedKeys acc) (ps : Fields) :
    fsetAll acc (fofList ps) = fsetAll acc ps :=
  fsetAll_fsetAll ha ps (by simp [Fields.SortedKeys])

end Gen.Lib

/-! ## splitting a sorted map at a key -/

theorem sorted_split {kvs : Fields} {h : String} {v : Val} (hs : Fields.SortedKeys kvs)
    (hh : fget kvs h = some v) :
    ∃ pre post, kvs = pre ++ (h, v) :: post ∧ (∀ x, fset kvs h x = pre ++ (h, x) :: post) ∧
      fdel kvs h = pre ++ post := by
  obtain ⟨pre, post, rfl⟩ := List.append_of_mem (fget_mem hh)
  have hp := sorted_iff_pairwise.1 hs
  -- all the lists are key-sorted, so each equation is checked key by key
  have hk : ∀ x, Fields.SortedKeys (pre ++ (h, x) :: post) := fun x => by
    have := List.pairwise_map (f := fun p : String × Val => p.1) (R := (· < ·)).2 hp
    rw [List.map_append, List.map_cons] at this
    exact sorted_iff_pairwise.2 (List.pairwise_map (f := fun p : String × Val => p.1)
      (R := (· < ·)).1 (by rw [List.map_append, List.map_cons]; exact this))
  have hd : Fields.SortedKeys (pre ++ post) :=
    sorted_iff_pairwise.2 (hp.sublist (List.Sublist.append_left (List.sublist_cons_self _ _) _))
  have hpre : fget pre h = none := fget_none_iff.2 fun p hm =>
    str_ne_of_lt (a := p.1) (b := h)
      ((List.pairwise_append.1 hp).2.2 p hm (h, v) List.mem_cons_self)
  have hpost : fget post h = none :=
    fget_none_of_lt_all (List.pairwise_cons.1 (List.pairwise_append.1 hp).2.1).1
  refine ⟨pre, post, rfl, fun x => sorted_ext (sorted_fset hs) (hk x) fun k => ?_,
    sorted_ext (sorted_fdel hs) hd fun k => ?_⟩
  · rw [fget_fset, fget_append, fget_append]
    by_cases e : k = h
    · rw [if_pos e, e, hpre, fget_cons_self]; rfl
    · rw [if_neg e, fget_cons_ne (Ne.symm e), fget_cons_ne (Ne.symm e)]
  · rw [fget_fdel, fget_append, fget_append]
    by_cases e : k = h
    · rw [if_pos e, e, hpre, hpost]; rfl
    · rw [if_neg e, fget_cons_ne (Ne.symm e)]

theorem cy_fget_append_of_not_mem {pre l : Fields} {k : String} (h : ∀ p ∈ pre, p.1 ≠ k) :
    fget (pre ++ l) k = fget l k := by
  rw [fget_append, fget_none_iff.2 h]; rfl

theorem popListMapValue_rep_mem {l : List Val} {k : String} {rep : Val} {rest : List Val}
    (h : popListMapValue l k = .ok (rep, rest)) (hn : rep.isNull = false) :
    ∃ m, Val.map m ∈ l ∧ fget m k = some rep :=
  let ⟨m, hm, _, hg⟩ := (popListMapValue_ok h).1 hn
  ⟨m, hm, hg⟩

end Bkl
