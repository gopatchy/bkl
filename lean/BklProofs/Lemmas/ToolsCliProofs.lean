/-
  BklProofs.Lemmas.ToolsCliProofs — three parts.  The tool mains (`Bkl/ToolsCli.lean`) as do-blocks:
  `checkFormat`, `toolFormat`, `getOnlyDocument`, `processOnly`; `bkldRun`, `bkliRun`, `bklrRun` by
  their number of inputs (success is then read off with `R_bind_eq_ok`).  The invariant that load and
  merge never leave a top-level `$parent` or `$match` key, through loader and parser (`tc_noKey`,
  `tc_clean`, `tc_cleanState`; `tc_getOnlyDocument_clean`): what bklr emits can be read back as a
  single-document file without parents.  The sample file systems of the non-vacuity examples
  (`tc_toolFS`, `tc_outFS`) and the bridge between Batteries' `List.Forall₂`, in which the statements
  about bkli are written, and the `Pointwise` of Lemmas/Except.
-/
import Batteries.Data.List.Basic
import Bkl.ToolsCli
import BklProofs.Lemmas.MergeList
import BklProofs.Lemmas.FilesChain
import BklProofs.Lemmas.C02Selection
import BklProofs.Lemmas.Required
namespace Bkl

/-- Batteries' `List.Forall₂` (the statements about bkli use it) is the `Pointwise` of Lemmas/Except -/
theorem forall₂_iff_pointwise {α β : Type} {r : α → β → Prop} {l : List α} {l' : List β} :
    List.Forall₂ r l l' ↔ Pointwise r l l' := by
  constructor <;> intro h <;> induction h with
  | nil => exact .nil
  | cons h1 _ ih => exact .cons h1 ih

theorem tc_mapM_ok_iff {α β : Type} (f : α → R β) (l : List α) (ys : List β) :
    l.mapM f = .ok ys ↔ List.Forall₂ (fun a b => f a = .ok b) l ys :=
  (mapM_ok_iff f l ys).trans forall₂_iff_pointwise.symm

theorem tc_forall2_mem_right {α β : Type} {R : α → β → Prop} : ∀ {l : List α} {l' : List β},
    List.Forall₂ R l l' → ∀ b ∈ l', ∃ a ∈ l, R a b :=
  fun h _ hb => (forall₂_iff_pointwise.1 h).mem_right hb

theorem tc_checkFormat_eq (f : String) :
    checkFormat f = if supportedExts.contains f then .ok f else .error .unknownFormat := by
  unfold checkFormat
  cases supportedExts.contains f <;> rfl

theorem tc_checkFormat_ok_iff {f g : String} :
    checkFormat f = .ok g ↔ g = f ∧ f ∈ supportedExts := by
  rw [tc_checkFormat_eq, ← List.contains_iff_mem]
  cases supportedExts.contains f
  · exact ⟨nofun, fun h => nomatch h.2⟩
  · exact ⟨fun h => by cases h; exact ⟨rfl, rfl⟩, fun h => by rw [h.1]; rfl⟩

theorem tc_checkFormat_of_mem {f : String} (h : f ∈ supportedExts) : checkFormat f = .ok f :=
  tc_checkFormat_ok_iff.2 ⟨rfl, h⟩

theorem tc_checkFormat_of_not_mem {f : String} (h : f ∉ supportedExts) :
    checkFormat f = .error .unknownFormat := by
  rw [tc_checkFormat_eq, ← List.contains_iff_mem, Bool.not_eq_true] at *
  rw [h]; rfl

theorem tc_empty_not_supported : "" ∉ supportedExts := by decide

theorem tc_toolFormat_eq (opts : ToolOpts) (fb : String) :
    toolFormat opts fb =
      if (if (opts.format.getD "" == "") = true then (opts.outPath.map extOfPath).getD ""
          else opts.format.getD "") == "" then fb
      else (if (opts.format.getD "" == "") = true then (opts.outPath.map extOfPath).getD ""
          else opts.format.getD "") := rfl

/-- `-f x` with `x ≠ ""` wins -/
theorem tc_toolFormat_f (opts : ToolOpts) (fb f : String) (hf : opts.format = some f)
    (hne : f ≠ "") : toolFormat opts fb = f := by
  rw [tc_toolFormat_eq, hf]
  simp [hne]

/-- no (or an empty) `-f`, `-o` with an extension -/
theorem tc_toolFormat_o (opts : ToolOpts) (fb o : String)
    (hf : opts.format = none ∨ opts.format = some "") (ho : opts.outPath = some o)
    (hne : extOfPath o ≠ "") : toolFormat opts fb = extOfPath o := by
  rw [tc_toolFormat_eq, ho]
  rcases hf with hf | hf <;> rw [hf] <;> simp [hne]

/-- no (or an empty) `-f`, and no `-o` or one without an extension: the fallback -/
theorem tc_toolFormat_fb (opts : ToolOpts) (fb : String)
    (hf : opts.format = none ∨ opts.format = some "")
    (ho : opts.outPath = none ∨ ∃ o, opts.outPath = some o ∧ extOfPath o = "") :
    toolFormat opts fb = fb := by
  rw [tc_toolFormat_eq]
  rcases ho with ho | ⟨o, ho, he⟩
  · rw [ho]; rcases hf with hf | hf <;> rw [hf] <;> simp
  · rw [ho]; rcases hf with hf | hf <;> rw [hf] <;> simp [he]

/-- `extOfPath` on characters (kernel-computable, together with `extOf_eq`) -/
theorem tc_extOfPath_eq (o : String) :
    extOfPath o = extOf ((((List.splitOnP (· == '/') o.toList).map String.ofList).filter
      (· != "")).getLastD "") := by
  rw [extOfPath, splitPath_eq]

theorem tc_ext_out_toml : extOfPath "out.toml" = "toml" := by
  rw [tc_extOfPath_eq, extOf_eq]; decide +kernel
theorem tc_ext_out : extOfPath "out" = "" := by rw [tc_extOfPath_eq, extOf_eq]; decide
theorem tc_ext_out_json : extOfPath "out.json" = "json" := by
  rw [tc_extOfPath_eq, extOf_eq]; decide +kernel
theorem tc_ext_dir_out_yaml : extOfPath "d.x/out.yaml" = "yaml" := by
  rw [tc_extOfPath_eq, extOf_eq]; decide +kernel
theorem tc_ext_dir_out : extOfPath "d.x/out" = "" := by
  rw [tc_extOfPath_eq, extOf_eq]; decide

theorem tc_getOnlyDocument_of {fs : FS} {cwd : Comps} {path : String} {real : Comps} {f : String}
    {st : PState} (hm : fileMatch fs cwd path = .ok (real, f))
    (hl : mergeFileLayers fs { root := [], cwd := cwd } PState.empty real = .ok st) :
    getOnlyDocument fs cwd path =
      match st.docs with
      | [d] => .ok (d.2, f)
      | _ => .error .other := by
  unfold getOnlyDocument
  rw [hm, ok_bind]
  simp only
  rw [hl, ok_bind]
  rcases st with ⟨_ | ⟨d, _ | ⟨d2, tl⟩⟩, known⟩ <;> rfl

theorem tc_getOnlyDocument_ok_iff (fs : FS) (cwd : Comps) (path : String) (d : Val) (f : String) :
    getOnlyDocument fs cwd path = .ok (d, f) ↔
      ∃ real st id, fileMatch fs cwd path = .ok (real, f) ∧
        mergeFileLayers fs { root := [], cwd := cwd } PState.empty real = .ok st ∧
        st.docs = [(id, d)] := by
  constructor
  · intro h
    unfold getOnlyDocument at h
    simp only [R_bind_eq_ok, Prod.exists] at h
    obtain ⟨real, f', hm, st, hl, h⟩ := h
    split at h
    · rename_i x hd
      obtain ⟨id, v⟩ := x
      cases h
      exact ⟨real, st, id, hm, hl, hd⟩
    · cases h
  · rintro ⟨real, st, id, hm, hl, hd⟩
    rw [tc_getOnlyDocument_of hm hl, hd]

theorem tc_getOnlyDocument_not_one {fs : FS} {cwd : Comps} {path : String} {real : Comps}
    {f : String} {st : PState} (hm : fileMatch fs cwd path = .ok (real, f))
    (hl : mergeFileLayers fs { root := [], cwd := cwd } PState.empty real = .ok st)
    (hn : st.docs.length ≠ 1) : getOnlyDocument fs cwd path = .error .other := by
  rw [tc_getOnlyDocument_of hm hl]
  split
  · rename_i x hd
    rw [hd] at hn
    exact absurd rfl hn
  · rfl

theorem tc_forall2_getOnly_unique {fs : FS} {cwd : Comps} {ps : List String}
    {ds ds' : List (Val × String)}
    (h : List.Forall₂ (fun p (d : Val × String) => getOnlyDocument fs cwd p = .ok d) ps ds)
    (h' : List.Forall₂ (fun p (d : Val × String) => getOnlyDocument fs cwd p = .ok d) ps ds') :
    ds = ds' := by
  have h1 := (tc_mapM_ok_iff (getOnlyDocument fs cwd) ps ds).2 h
  rw [(tc_mapM_ok_iff (getOnlyDocument fs cwd) ps ds').2 h'] at h1
  cases h1; rfl

theorem tc_processOnly_ok_iff (env : Vars) (data d : Val) :
    processOnly env data = .ok d ↔ processDoc [data] env data = .ok [d] := by
  unfold processOnly
  rw [R_bind_eq_ok]
  constructor
  · rintro ⟨l, hl, h⟩
    split at h <;> cases h
    exact hl
  · intro h; exact ⟨[d], h, rfl⟩

/-! ## the three mains, by their number of inputs -/

theorem tc_bkldRun_two (fs : FS) (cwd : Comps) (env : Vars) (opts : ToolOpts) (b t : String)
    (hi : opts.inputs = [b, t]) :
    bkldRun fs cwd env opts = (do
      let (base, f) ← getOnlyDocument fs cwd b
      let base' ← processOnly env base
      let (target, _) ← getOnlyDocument fs cwd t
      let target' ← processOnly env target
      let fmt ← checkFormat (toolFormat opts f)
      pure { format := fmt, doc := diffDoc target' base' }) := by
  unfold bkldRun; rw [hi]

theorem tc_bkldRun_not_two (fs : FS) (cwd : Comps) (env : Vars) (opts : ToolOpts)
    (hi : ∀ b t, opts.inputs ≠ [b, t]) : bkldRun fs cwd env opts = .error .other := by
  unfold bkldRun
  split
  · rename_i b t h; exact absurd h (hi b t)
  · rfl

theorem tc_bkliRun_lt_two (fs : FS) (cwd : Comps) (opts : ToolOpts)
    (h : opts.inputs.length < 2) : bkliRun fs cwd opts = .error .other := by
  unfold bkliRun
  rcases hi : opts.inputs with _ | ⟨p, _ | ⟨q, rest⟩⟩
  · rfl
  · rfl
  · rw [hi] at h; simp only [List.length_cons] at h; omega

theorem tc_bkliRun_many (fs : FS) (cwd : Comps) (opts : ToolOpts) (first second : String)
    (rest : List String) (hi : opts.inputs = first :: second :: rest) :
    bkliRun fs cwd opts = (do
      let docs ← (first :: second :: rest).mapM (getOnlyDocument fs cwd)
      let (_, f) ← getOnlyDocument fs cwd first
      let fmt ← checkFormat (toolFormat opts f)
      pure { format := fmt,
             doc := if (intersectAll (docs.map (·.1))).isNull then none
                    else some (intersectAll (docs.map (·.1))) }) := by
  unfold bkliRun; rw [hi]

theorem tc_bklrRun_one (fs : FS) (cwd : Comps) (opts : ToolOpts) (path : String)
    (hi : opts.inputs = [path]) :
    bklrRun fs cwd opts = (do
      let (data, f) ← getOnlyDocument fs cwd path
      let fmt ← checkFormat
        (match opts.format with
          | some x => x
          | none => match opts.outPath with | some o => extOfPath o | none => f)
      pure { format := fmt, doc := required data }) := by
  unfold bklrRun; rw [hi]; rfl

theorem tc_bklrRun_not_one (fs : FS) (cwd : Comps) (opts : ToolOpts)
    (hi : ∀ p, opts.inputs ≠ [p]) : bklrRun fs cwd opts = .error .other := by
  unfold bklrRun
  split
  · rename_i p h; exact absurd h (hi p)
  · rfl

theorem tc_run_error_of_mem {fs : FS} {cwd : Comps} {path : String} {e : Err}
    (hg : getOnlyDocument fs cwd path = .error e) (opts : ToolOpts) (hp : path ∈ opts.inputs) :
    (∀ env, ∃ e', bkldRun fs cwd env opts = .error e') ∧
    (∃ e', bkliRun fs cwd opts = .error e') ∧ (∃ e', bklrRun fs cwd opts = .error e') := by
  refine ⟨fun env => ?_, ?_, ?_⟩
  · unfold bkldRun
    split
    · rename_i b t hi
      rw [hi] at hp
      rcases List.mem_cons.1 hp with rfl | hp
      · rw [hg]; exact ⟨e, rfl⟩
      · obtain rfl := List.mem_singleton.1 hp
        cases getOnlyDocument fs cwd b with
        | error e1 => exact ⟨e1, rfl⟩
        | ok bf =>
          obtain ⟨base, f⟩ := bf
          simp only [ok_bind]
          cases processOnly env base with
          | error e1 => exact ⟨e1, rfl⟩
          | ok base' => rw [hg]; exact ⟨e, rfl⟩
    · exact ⟨_, rfl⟩
  · unfold bkliRun
    split
    · exact ⟨_, rfl⟩
    · exact ⟨_, rfl⟩
    · obtain ⟨e', he⟩ := mapM_error_of_mem (fun p => getOnlyDocument fs cwd p) _ hp hg
      rw [he]; exact ⟨e', rfl⟩
  · unfold bklrRun
    split
    · rename_i p hi
      rw [hi] at hp
      obtain rfl := List.mem_singleton.1 hp
      rw [hg]; exact ⟨e, rfl⟩
    · exact ⟨_, rfl⟩

/-! ## input files without parents -/

def tc_noKey (k : String) : Val → Bool
  | .map kvs => (fget kvs k).isNone
  | _ => true

theorem tc_noKey_map {k : String} {kvs : Fields} :
    tc_noKey k (.map kvs) = true ↔ fget kvs k = none := Option.isNone_iff_eq_none

theorem tc_noKey_parent {v : Val} : tc_noKey "$parent" v = true ↔ parentDirective v = .ok .absent := by
  cases v with
  | map kvs =>
    rw [tc_noKey_map, parentDirective_map]
    cases fget kvs "$parent" with
    | none => exact iff_of_true rfl rfl
    | some x =>
      refine iff_of_false nofun fun h => ?_
      cases x with
      | list l => dsimp only at h; split at h <;> cases h
      | bool b => cases b <;> cases h
      | _ => cases h
  | _ => exact iff_of_true rfl rfl

theorem tc_noKey_match {v : Val} : tc_noKey "$match" v = true ↔ matchDirective v = none := by
  cases v with
  | map kvs => rw [tc_noKey_map, matchDirective, Option.map_eq_none_iff]
  | _ => exact ⟨fun _ => rfl, fun _ => rfl⟩

/-- a file whose name has one part has no parents: its documents are merged as they are
    (the filename chain of one layer) -/
theorem tc_layers_multi {fs : FS} {d cwd : Comps} {l e₀ : String} {raw : List Val}
    (hd : PlainDir fs d) (hl : PlainName l) (h : LayerFile fs d l e₀ (.ok raw))
    (ha : ∀ x ∈ raw, tc_noKey "$parent" x = true) (st : PState) :
    mergeFileLayers fs ⟨[], cwd⟩ st (d ++ [l ++ "." ++ e₀]) =
      runMerges st (plainDocs (pathStr (d ++ [l ++ "." ++ e₀])) [] raw) :=
  (mergeFileLayers_clChain hd ⟨l, e₀, raw⟩ [] (List.forall_mem_singleton.2 hl)
    ⟨h, fun x hx => tc_noKey_parent.1 (ha x hx), trivial⟩
    (by decide) st).trans (congrArg (runMerges st) (List.append_nil _))

theorem tc_getOnly_single {fs : FS} {d cwd : Comps} {arg l e e₀ : String} {v : Val}
    (habs : absPath cwd arg = d ++ [l ++ "." ++ e]) (he : e ∈ supportedExts)
    (hd : PlainDir fs d) (hl : PlainName l) (h : LayerFile fs d l e₀ (.ok [v]))
    (hp : tc_noKey "$parent" v = true) (hm : tc_noKey "$match" v = true) :
    getOnlyDocument fs cwd arg = .ok (v, e) := by
  have hlay := tc_layers_multi (cwd := cwd) hd hl h (List.forall_mem_singleton.2 hp) PState.empty
  rw [plainDocs_one, runMerges_one, oneDoc, mergeDocument_first _ _ (tc_noKey_match.1 hm)] at hlay
  rw [tc_getOnlyDocument_of (fileMatch_layer habs he hd
    (Nat.pos_of_ne_zero (mt String.length_eq_zero_iff.1 hl.1)) h) hlay]

/-! ## sample file system for the non-vacuity examples

    /w/a.yaml, /w/t.yaml, /w/c.json (one document each), /w/two.yaml (two documents),
    /w/none.yaml (no document), /w/r.yaml (a document with `$required` markers) -/

def tc_base : Val := .map [("a", .int 1), ("b", .str "x")]
def tc_target : Val := .map [("a", .int 2), ("c", .bool true)]
def tc_third : Val := .map [("a", .int 1), ("b", .str "y")]
def tc_req : Val :=
  .map [("a", .str "$required"), ("b", .int 1), ("c", .list [.str "$required", .int 2])]

/-- neither sample document has anything to evaluate -/
theorem tc_processOnly_base : processOnly [] tc_base = .ok tc_base := by decide +kernel
theorem tc_processOnly_target : processOnly [] tc_target = .ok tc_target := by decide +kernel

def tc_toolFS : FS := ⟨[
  (["w"], .dir),
  (["w", "a.yaml"], .file (.ok [tc_base])),
  (["w", "t.yaml"], .file (.ok [tc_target])),
  (["w", "c.json"], .file (.ok [tc_third])),
  (["w", "two.yaml"], .file (.ok [tc_base, tc_target])),
  (["w", "none.yaml"], .file (.ok [])),
  (["w", "r.yaml"], .file (.ok [tc_req]))]⟩

theorem tc_toolFS_plain : PlainDir tc_toolFS ["w"] :=
  plainDir_single (n := .dir) (by decide) (by decide) rfl

theorem tc_toolFS_a : LayerFile tc_toolFS ["w"] "a" "yaml" (.ok [tc_base]) := by
  decide +kernel

theorem tc_toolFS_t : LayerFile tc_toolFS ["w"] "t" "yaml" (.ok [tc_target]) := by
  decide +kernel

theorem tc_toolFS_c : LayerFile tc_toolFS ["w"] "c" "json" (.ok [tc_third]) := by
  decide +kernel

theorem tc_toolFS_two : LayerFile tc_toolFS ["w"] "two" "yaml" (.ok [tc_base, tc_target]) := by
  decide +kernel

theorem tc_toolFS_none : LayerFile tc_toolFS ["w"] "none" "yaml" (.ok []) := by
  decide +kernel

theorem tc_toolFS_r : LayerFile tc_toolFS ["w"] "r" "yaml" (.ok [tc_req]) := by
  decide +kernel

theorem tc_abs_w (arg : String) (h2 : '/' ∉ arg.toList) (h3 : plainComp arg = true) :
    absPath ["w"] arg = ["w"] ++ [arg] :=
  absPath_name (by decide) h2 h3

theorem tc_toolFS_get_a : getOnlyDocument tc_toolFS ["w"] "a.yaml" = .ok (tc_base, "yaml") :=
  tc_getOnly_single (d := ["w"]) (l := "a") (e := "yaml")
    (tc_abs_w "a.yaml" (by decide +kernel) (by decide +kernel))
    (by decide +kernel) tc_toolFS_plain (by decide +kernel) tc_toolFS_a
    (by decide +kernel) (by decide +kernel)

theorem tc_toolFS_get_t : getOnlyDocument tc_toolFS ["w"] "t.yaml" = .ok (tc_target, "yaml") :=
  tc_getOnly_single (d := ["w"]) (l := "t") (e := "yaml")
    (tc_abs_w "t.yaml" (by decide +kernel) (by decide +kernel))
    (by decide +kernel) tc_toolFS_plain (by decide +kernel) tc_toolFS_t
    (by decide +kernel) (by decide +kernel)

theorem tc_toolFS_get_c : getOnlyDocument tc_toolFS ["w"] "c.json" = .ok (tc_third, "json") :=
  tc_getOnly_single (d := ["w"]) (l := "c") (e := "json")
    (tc_abs_w "c.json" (by decide) (by decide))
    (by decide) tc_toolFS_plain (by decide) tc_toolFS_c
    (by decide) (by decide)

/-- the argument names `a.toml`; FileMatch finds `a.yaml` and reports the format `toml` -/
theorem tc_toolFS_get_a_toml :
    getOnlyDocument tc_toolFS ["w"] "a.toml" = .ok (tc_base, "toml") :=
  tc_getOnly_single (d := ["w"]) (l := "a") (e := "toml")
    (tc_abs_w "a.toml" (by decide +kernel) (by decide +kernel))
    (by decide +kernel) tc_toolFS_plain (by decide +kernel) tc_toolFS_a
    (by decide +kernel) (by decide +kernel)

theorem tc_toolFS_get_r : getOnlyDocument tc_toolFS ["w"] "r.yaml" = .ok (tc_req, "yaml") :=
  tc_getOnly_single (d := ["w"]) (l := "r") (e := "yaml")
    (tc_abs_w "r.yaml" (by decide +kernel) (by decide +kernel))
    (by decide +kernel) tc_toolFS_plain (by decide +kernel) tc_toolFS_r
    (by decide +kernel) (by decide +kernel)

theorem tc_toolFS_match_two :
    fileMatch tc_toolFS ["w"] "two.yaml" = .ok (["w", "two.yaml"], "yaml") :=
  fileMatch_layer (d := ["w"]) (l := "two") (e := "yaml")
    (tc_abs_w "two.yaml" (by decide +kernel) (by decide +kernel))
    (by decide +kernel) tc_toolFS_plain (by decide +kernel)
    tc_toolFS_two

theorem tc_toolFS_match_none :
    fileMatch tc_toolFS ["w"] "none.yaml" = .ok (["w", "none.yaml"], "yaml") :=
  fileMatch_layer (d := ["w"]) (l := "none") (e := "yaml")
    (tc_abs_w "none.yaml" (by decide +kernel) (by decide +kernel))
    (by decide +kernel) tc_toolFS_plain (by decide +kernel)
    tc_toolFS_none

theorem tc_toolFS_layers_two :
    mergeFileLayers tc_toolFS ⟨[], ["w"]⟩ PState.empty ["w", "two.yaml"] =
      .ok { docs := [("/w/two.yaml|doc0", tc_base), ("/w/two.yaml|doc1", tc_target)],
            known := [("/w/two.yaml|doc0", []), ("/w/two.yaml|doc1", [])] } := by
  have := tc_layers_multi (cwd := ["w"]) tc_toolFS_plain (by decide) tc_toolFS_two
    (by
      intro x hx
      simp only [List.mem_cons, List.not_mem_nil, or_false] at hx
      rcases hx with rfl | rfl <;> rfl) PState.empty
  rw [show (["w", "two.yaml"] : Comps) = ["w"] ++ ["two" ++ "." ++ "yaml"] by decide, this]
  rfl

theorem tc_toolFS_layers_none :
    mergeFileLayers tc_toolFS ⟨[], ["w"]⟩ PState.empty ["w", "none.yaml"] = .ok PState.empty := by
  have := tc_layers_multi (cwd := ["w"]) tc_toolFS_plain (by decide) tc_toolFS_none
    (by intro x hx; cases hx) PState.empty
  rw [show (["w", "none.yaml"] : Comps) = ["w"] ++ ["none" ++ "." ++ "yaml"] by decide,
    this]
  rfl

/-! ## merged documents never carry a top-level `$parent` / `$match` key

    `$parent` is stripped from every document when its file is loaded, `$match` when the
    document is merged, and `merge` never invents a top-level key. -/

theorem tc_mergeListList_list {d s : List Val} {r : Val} (h : mergeListList d s = .ok r) :
    ∃ l, r = .list l := by
  rw [mergeListList_eq_L] at h
  cases hl : mergeListListL d s with
  | error e => rw [hl] at h; cases h
  | ok l => rw [hl] at h; cases h; exact ⟨l, rfl⟩

theorem tc_merge_noKey {k : String} {d s r : Val} (hd : tc_noKey k d = true)
    (hs : tc_noKey k s = true) (h : merge d s = .ok r) : tc_noKey k r = true := by
  rcases merge_ok_cases h with rfl | rfl | ⟨dm, sm, rfl, rfl⟩ | ⟨dl, sl, rfl, rfl⟩
  · exact hs
  · exact hd
  · rw [tc_noKey_map] at hd hs
    rw [merge_map_map] at h
    cases hr : fhasBool sm "$replace" true with
    | true =>
      rw [mergeMapMap_replace hr] at h
      cases h
      rw [tc_noKey_map, fget_fdel]
      split
      · rfl
      · exact hs
    | false =>
      rw [mergeMapMap_noreplace hr] at h
      cases hf : mergeFields dm sm with
      | error e => rw [hf] at h; cases h
      | ok rm =>
        rw [hf] at h
        cases h
        rw [tc_noKey_map, mergeFields_frame hs hf]
        exact hd
  · rw [merge_list_list] at h
    obtain ⟨l, rfl⟩ := tc_mergeListList_list h
    rfl

def tc_clean (v : Val) : Bool := tc_noKey "$parent" v && tc_noKey "$match" v

theorem tc_clean_iff {v : Val} :
    tc_clean v = true ↔ tc_noKey "$parent" v = true ∧ tc_noKey "$match" v = true :=
  Bool.and_eq_true_iff

theorem tc_merge_clean {d s r : Val} (hd : tc_clean d = true) (hs : tc_clean s = true)
    (h : merge d s = .ok r) : tc_clean r = true := by
  rw [tc_clean_iff] at *
  exact ⟨tc_merge_noKey hd.1 hs.1 h, tc_merge_noKey hd.2 hs.2 h⟩

def tc_cleanState (st : PState) : Prop := ∀ p ∈ st.docs, tc_clean p.2 = true

theorem tc_cleanState_empty : tc_cleanState PState.empty := fun _ hp => nomatch hp

theorem tc_fl_body_clean {v : Val} (hp : tc_noKey "$parent" v = true) :
    tc_clean (fl_body v) = true := by
  cases hmd : matchDirective v with
  | none =>
    rw [fl_body_noMatch hmd]
    exact tc_clean_iff.2 ⟨hp, tc_noKey_match.2 hmd⟩
  | some pb =>
    obtain ⟨kvs, rfl, _, hb⟩ := (matchDirective_eq_some (pat := pb.1) (body := pb.2)).1 hmd
    rw [fl_body_match (pat := pb.1) hmd, hb]
    exact tc_clean_iff.2 ⟨tc_noKey_map.2 (by
      rw [fget_fdel_ne _ _ _ (by decide)]; exact tc_noKey_map.1 hp),
      tc_noKey_map.2 (fget_fdel_same _ _)⟩

/-- one `MergeDocument` step keeps the state clean, provided the patch has no `$parent` key:
    what is merged in or appended is the patch without its `$match` -/
theorem tc_mergeDocument_clean {st st' : PState} {patch : Doc} (hst : tc_cleanState st)
    (hp : tc_noKey "$parent" patch.data = true) (h : mergeDocument st patch = .ok st') :
    tc_cleanState st' := by
  obtain ⟨hne, hok, rfl⟩ := mergeDocument_ok_iff.1 h
  have hb : tc_clean (selectionOf st patch).body = true := by
    rw [selectionOf_body hne]; exact tc_fl_body_clean hp
  intro p hpm
  rcases List.mem_append.1 hpm with hpm | hpm
  · obtain ⟨q, hq, rfl⟩ := List.mem_map.1 hpm
    rw [stepFun]
    split
    · rename_i ht
      obtain ⟨v, hv⟩ := hok q hq ht
      rw [hv]
      exact tc_merge_clean (hst q hq) hb hv
    · exact hst q hq
  · rw [Selection.mem_newDocs hpm]; exact hb

theorem tc_runMerges_clean {ps : List Doc} {st st' : PState} (hst : tc_cleanState st)
    (hps : ∀ p ∈ ps, tc_noKey "$parent" p.data = true) (h : runMerges st ps = .ok st') :
    tc_cleanState st' :=
  runMerges_induct tc_cleanState ps (fun c hc _ _ hs hm => tc_mergeDocument_clean hs (hps c hc) hm)
    hst h

def tc_filesStripped (files : List LFile) : Prop :=
  ∀ f ∈ files, ∀ p ∈ f.docs, tc_noKey "$parent" p.data = true

theorem tc_mergeFiles_clean {files : List LFile} {st st' : PState} (hst : tc_cleanState st)
    (hf : tc_filesStripped files) (h : mergeFiles st files = .ok st') : tc_cleanState st' := by
  rw [mergeFiles_eq] at h
  refine tc_runMerges_clean hst (fun p hp => ?_) h
  obtain ⟨f, hf', hp'⟩ := List.mem_flatMap.1 hp
  exact hf f hf' p hp'

theorem tc_noKey_stripParent (v : Val) : tc_noKey "$parent" (stripParent v) = true :=
  tc_noKey_parent.2 (parentDirective_stripParent v)

theorem tc_mineOf_stripped (fid : String) (path : Comps) (raw : List Val) (parents : List Comps)
    (files : List LFile) : ∀ p ∈ (mineOf fid path raw parents files).docs,
      tc_noKey "$parent" p.data = true := by
  intro p hp
  rw [mineOf_eq] at hp
  have hd : p.data ∈ raw.map stripParent :=
    plainDocs_data fid _ (raw.map stripParent) ▸ List.mem_map_of_mem hp
  obtain ⟨w, _, hw⟩ := List.mem_map.1 hd
  rw [← hw]; exact tc_noKey_stripParent w

theorem tc_load_stripped {fs : FS} {cfg : RootCfg} {fuel : Nat} {path : Comps}
    {childId : Option String} {c : List String} {chain : List Comps} {files : List LFile}
    {ids : List String} (h : loadFileAndParents fs cfg fuel path childId c chain = .ok (files, ids)) :
    tc_filesStripped files :=
  tc_load_forall tc_mineOf_stripped fs cfg fuel path childId c chain files ids h

theorem tc_mergeFileLayers_clean {fs : FS} {cfg : RootCfg} {st st' : PState} {path : Comps}
    (hst : tc_cleanState st) (h : mergeFileLayers fs cfg st path = .ok st') :
    tc_cleanState st' := by
  rw [mergeFileLayers_eq] at h
  cases hl : loadFileAndParents fs cfg loadFuel path none [] [] with
  | error e => rw [hl] at h; cases h
  | ok r =>
    obtain ⟨files, ids⟩ := r
    rw [hl] at h
    exact tc_mergeFiles_clean hst (tc_load_stripped hl) h

theorem tc_getOnlyDocument_clean {fs : FS} {cwd : Comps} {path : String} {d : Val} {f : String}
    (h : getOnlyDocument fs cwd path = .ok (d, f)) : tc_clean d = true := by
  obtain ⟨real, st, id, _, hl, hd⟩ := (tc_getOnlyDocument_ok_iff fs cwd path d f).1 h
  exact tc_mergeFileLayers_clean tc_cleanState_empty hl (id, d) (hd ▸ List.mem_cons_self)

/-! ## `required` keeps top-level keys among the original ones -/

theorem tc_required_noKey {k : String} {v r : Val} (hv : tc_noKey k v = true)
    (h : required v = some r) : tc_noKey k r = true := by
  rcases required_eq_some h with ⟨kvs, rfl, rfl⟩ | ⟨xs, rfl, rfl⟩ | ⟨s, rfl, rfl⟩
  · exact tc_noKey_map.2 (fget_requiredFields_none (tc_noKey_map.1 hv))
  · rfl
  · rfl

theorem tc_required_clean {v r : Val} (hv : tc_clean v = true) (h : required v = some r) :
    tc_clean r = true := by
  rw [tc_clean_iff] at *
  exact ⟨tc_required_noKey hv.1 h, tc_required_noKey hv.2 h⟩

/-! ## the file system holding one tool output: `/w/out.<fmt>` -/

def tc_outFS (fmt : String) (out : Val) : FS :=
  ⟨[(["w"], .dir), (["w", "out" ++ "." ++ fmt], .file (.ok [out]))]⟩

theorem tc_outFS_plain (fmt : String) (out : Val) : PlainDir (tc_outFS fmt out) ["w"] :=
  plainDir_single (n := .dir) (by decide) rfl rfl

theorem tc_outFS_layer (fmt : String) (hf : fmt ∈ supportedExts) (out : Val) :
    LayerFile (tc_outFS fmt out) ["w"] "out" fmt (.ok [out]) := by
  refine ⟨hf, ?_, fun e _ hne => ?_⟩
  · simp [FS.lstat, tc_outFS]
  · simp [FS.lstat, tc_outFS, Ne.symm hne]

theorem tc_outFS_abs (fmt : String) (hf : fmt ∈ supportedExts) :
    absPath ["w"] ("out" ++ "." ++ fmt) = ["w"] ++ ["out" ++ "." ++ fmt] := by
  have hs : ∀ e ∈ supportedExts, '/' ∉ e.toList := by decide +kernel
  exact tc_abs_w _ (by simpa [String.toList_append] using hs fmt hf)
    (plainComp_layer _ _ (by decide) (supportedExt_length_pos fmt hf))

theorem tc_outFS_get (fmt : String) (hf : fmt ∈ supportedExts) (out : Val)
    (hc : tc_clean out = true) :
    getOnlyDocument (tc_outFS fmt out) ["w"] ("out" ++ "." ++ fmt) = .ok (out, fmt) :=
  tc_getOnly_single (d := ["w"]) (l := "out") (e := fmt) (tc_outFS_abs fmt hf) hf
    (tc_outFS_plain fmt out) (by decide) (tc_outFS_layer fmt hf out)
    (tc_clean_iff.1 hc).1 (tc_clean_iff.1 hc).2

/-! ## inheritance applies to tool inputs: /w/a.b.json of `chainFS` is layered over /w/a.yaml -/

theorem tc_chainFS_get_ab :
    getOnlyDocument chainFS ["w"] "a.b.json" =
      .ok (.map [("x", .int 1), ("y", .int 2)], "json") := by
  have hm : fileMatch chainFS ["w"] "a.b.json" = .ok (["w"] ++ ["a.b" ++ "." ++ "json"], "json") :=
    fileMatch_layer (d := ["w"]) (l := "a.b") (e := "json")
      (by rw [tc_abs_w "a.b.json" (by decide) (by decide)]
          decide)
      (by decide) chainFS_plain (by decide) chainFS_ab
  have hmg : merge (.map [("x", .int 1)]) (.map [("y", .int 2)]) =
      .ok (.map [("x", .int 1), ("y", .int 2)]) := by
    simp [merge, mergeMapMap, mergeFields, fhasBool, fget, fset, Val.toStr, ok_bind, R_pure]
  -- the two loaded files: the document of /w/a.yaml, then that of /w/a.b.json as its child
  have hl := mergeFileLayers_clChain (cwd := ["w"]) chainFS_plain ⟨"b", "json", [.map [("y", .int 2)]]⟩
    [⟨"a", "yaml", [.map [("x", .int 1)]]⟩] (by decide)
    ⟨chainFS_ab, List.forall_mem_singleton.2 rfl, chainFS_a, List.forall_mem_singleton.2 rfl, trivial⟩
    (by decide) PState.empty
  rw [tc_getOnlyDocument_of hm (st := ⟨[(_, .map [("x", .int 1), ("y", .int 2)])], _⟩)]
  refine hl.trans ?_
  show runMerges PState.empty [⟨_, [], _⟩, _] = _
  rw [runMerges_cons, mergeDocument_first _ _ rfl]
  refine (runMerges_one _ _).trans ((mergeDocument_onto_one _ _ _ _ _ ?_).trans ?_)
  · rfl
  · rw [hmg]

end Bkl
