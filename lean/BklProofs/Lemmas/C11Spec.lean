/-
  BklProofs.Lemmas.C11Spec — for the specification part of C11: the equations and inversion lemmas of
  `findOutputs`, the list case of `filterOutput` with `popListMapBool` evaluated (`popListMapBool_closed` of
  Lemmas/Markers), the specification of hiding (`hidden`, `prune`, `filterFails`) with `filterOutput` in
  closed form (`C11_filterOutput_eq`) and what follows for a successful call, `outputDocuments` one
  processed document at a time (`emit` itself: Lemmas/Output.lean), and that nothing `emit` returns is null.
  Of the specification functions of C11 those of hiding stand here, and `hasOutTrue` / `hasOutFalse` /
  `noNull` / `hasKey` with what the output stage does on a value without markers (it is what C06 needs of
  plain data); those of selection are in the property file.
-/
import Bkl.Process2
import BklProofs.Lemmas.Output
import BklProofs.Lemmas.OutputSel
import BklProofs.Lemmas.Markers
namespace Bkl

/-! ## `findOutputs` as equations -/

theorem os_findOutputs_map_eq (kvs : Fields) :
    findOutputs (.map kvs) =
      match findOutputsFields kvs (fhasBool kvs "$output" true) with
      | .error e => .error e
      | .ok (ret, o) =>
        .ok (.map ret, if fhasBool kvs "$output" true then .map ret :: o else o) := by
  simp only [findOutputs]
  cases findOutputsFields kvs (fhasBool kvs "$output" true) <;> rfl

theorem os_findOutputs_list_eq (xs : List Val) :
    findOutputs (.list xs) =
      match findOutputsList xs (hasListMapBool xs "$output" true) with
      | .error e => .error e
      | .ok (ret, o) =>
        .ok (.list ret, if hasListMapBool xs "$output" true then o ++ [.list ret] else o) := by
  simp only [findOutputs]
  cases findOutputsList xs (hasListMapBool xs "$output" true) <;> rfl

theorem os_findOutputsFields_skip_eq (k : String) (v : Val) (rest : Fields) (skip : Bool)
    (h : skip = true ∧ k = "$output") :
    findOutputsFields ((k, v) :: rest) skip = findOutputsFields rest skip := by
  simp only [findOutputsFields, h.1, h.2, Bool.true_and, beq_self_eq_true, if_true]

theorem os_findOutputsFields_step_eq (k : String) (v : Val) (rest : Fields) (skip : Bool)
    (h : ¬(skip = true ∧ k = "$output")) :
    findOutputsFields ((k, v) :: rest) skip =
      match findOutputs v with
      | .error e => .error e
      | .ok (v', o1) =>
        match findOutputsFields rest skip with
        | .error e => .error e
        | .ok (rest', o2) => .ok ((k, v') :: rest', o1 ++ o2) := by
  have hc : (skip && k == "$output") = false := by
    cases skip with
    | false => rfl
    | true => exact beq_eq_false_iff_ne.2 fun hk => h ⟨rfl, hk⟩
  simp only [findOutputsFields, hc, Bool.false_eq_true, if_false]
  cases findOutputs v with
  | error e => rfl
  | ok p => cases findOutputsFields rest skip <;> rfl

theorem findOutputsList_cons_eq (x : Val) (xs : List Val) (skip : Bool) :
    findOutputsList (x :: xs) skip =
      if skip && isMarker "$output" true x then
        (match x with
         | .map m => if (fdel m "$output").length > 0 then throw Err.extraKeys
                     else findOutputsList xs skip
         | _ => findOutputsList xs skip)
      else (do
        let (x', o1) ← findOutputs x
        let (xs', o2) ← findOutputsList xs skip
        pure (x' :: xs', o1 ++ o2)) := by
  cases x <;> simp only [findOutputsList, isMarker, Bool.and_false] <;> rfl

theorem os_findOutputsList_marker_eq (m : Fields) (xs : List Val)
    (h : fhasBool m "$output" true = true) :
    findOutputsList (.map m :: xs) true =
      if (fdel m "$output").length > 0 then .error .extraKeys else findOutputsList xs true := by
  simp only [findOutputsList, h, Bool.and_self, if_true]
  rfl

theorem os_findOutputsList_step_eq (x : Val) (xs : List Val) (skip : Bool)
    (h : ¬(skip = true ∧ isMarker "$output" true x = true)) :
    findOutputsList (x :: xs) skip =
      match findOutputs x with
      | .error e => .error e
      | .ok (x', o1) =>
        match findOutputsList xs skip with
        | .error e => .error e
        | .ok (xs', o2) => .ok (x' :: xs', o1 ++ o2) := by
  have hc : (skip && isMarker "$output" true x) = false := by
    cases skip with
    | false => rfl
    | true => exact Bool.eq_false_iff.2 fun hm => h ⟨rfl, hm⟩
  rw [findOutputsList_cons_eq]
  simp only [hc, Bool.false_eq_true, if_false]
  cases findOutputs x with
  | error e => rfl
  | ok p => cases findOutputsList xs skip <;> rfl

theorem os_findOutputsList_insert_marker (m : Fields) (hm : fhasBool m "$output" true = true)
    (hl : (fdel m "$output").length = 0) : ∀ (a b : List Val),
    findOutputsList (a ++ .map m :: b) true = findOutputsList (a ++ b) true
  | [], b => by
    rw [List.nil_append, List.nil_append, os_findOutputsList_marker_eq m b hm]
    simp [hl]
  | x :: a, b => by
    rw [List.cons_append, List.cons_append, findOutputsList_cons_eq, findOutputsList_cons_eq,
      os_findOutputsList_insert_marker m hm hl a b]

/-! ## inversion of `findOutputs` -/

theorem findOutputs_map_ok {kvs : Fields} {v' : Val} {outs : List Val}
    (h : findOutputs (.map kvs) = .ok (v', outs)) :
    ∃ ret o, findOutputsFields kvs (fhasBool kvs "$output" true) = .ok (ret, o) ∧
      v' = .map ret ∧ outs = if fhasBool kvs "$output" true then .map ret :: o else o := by
  rw [os_findOutputs_map_eq] at h
  split at h
  · cases h
  · next ret o hf => cases h; exact ⟨ret, o, hf, rfl, rfl⟩

theorem findOutputs_list_ok {xs : List Val} {v' : Val} {outs : List Val}
    (h : findOutputs (.list xs) = .ok (v', outs)) :
    ∃ ret o, findOutputsList xs (hasListMapBool xs "$output" true) = .ok (ret, o) ∧
      v' = .list ret ∧ outs = if hasListMapBool xs "$output" true then o ++ [.list ret] else o := by
  rw [os_findOutputs_list_eq] at h
  split at h
  · cases h
  · next ret o hf => cases h; exact ⟨ret, o, hf, rfl, rfl⟩

theorem findOutputs_scalar_ok {v v' : Val} {outs : List Val}
    (hm : v.isMap = false) (hl : v.isList = false)
    (h : findOutputs v = .ok (v', outs)) : v' = v ∧ outs = [] := by
  cases v with
  | map _ => cases hm
  | list _ => cases hl
  | _ => cases h; exact ⟨rfl, rfl⟩

theorem findOutputsFields_nil_ok {skip : Bool} {r : Fields} {outs : List Val}
    (h : findOutputsFields [] skip = .ok (r, outs)) : r = [] ∧ outs = [] := by
  cases h; exact ⟨rfl, rfl⟩

theorem findOutputsFields_cons_ok {k : String} {v : Val} {rest : Fields} {skip : Bool}
    {r : Fields} {outs : List Val}
    (h : findOutputsFields ((k, v) :: rest) skip = .ok (r, outs)) :
    (skip = true ∧ k = "$output" ∧ findOutputsFields rest skip = .ok (r, outs)) ∨
    (¬(skip = true ∧ k = "$output") ∧ ∃ v' o1 rest' o2,
      findOutputs v = .ok (v', o1) ∧ findOutputsFields rest skip = .ok (rest', o2) ∧
      r = (k, v') :: rest' ∧ outs = o1 ++ o2) := by
  by_cases hc : skip = true ∧ k = "$output"
  · rw [os_findOutputsFields_skip_eq k v rest skip hc] at h
    exact Or.inl ⟨hc.1, hc.2, h⟩
  · rw [os_findOutputsFields_step_eq k v rest skip hc] at h
    refine Or.inr ⟨hc, ?_⟩
    split at h
    · cases h
    · next v' o1 h1 =>
      split at h
      · cases h
      · next rest' o2 h2 => cases h; exact ⟨v', o1, rest', o2, h1, h2, rfl, rfl⟩

theorem findOutputsList_nil_ok {skip : Bool} {r outs : List Val}
    (h : findOutputsList [] skip = .ok (r, outs)) : r = [] ∧ outs = [] := by
  cases h; exact ⟨rfl, rfl⟩

theorem findOutputsList_cons_ok {x : Val} {xs : List Val} {skip : Bool} {r outs : List Val}
    (h : findOutputsList (x :: xs) skip = .ok (r, outs)) :
    (skip = true ∧ (∃ m, x = .map m ∧ fhasBool m "$output" true = true ∧
        (fdel m "$output").length = 0) ∧ findOutputsList xs skip = .ok (r, outs)) ∨
    (¬(skip = true ∧ isMarker "$output" true x = true) ∧ ∃ x' o1 xs' o2,
      findOutputs x = .ok (x', o1) ∧ findOutputsList xs skip = .ok (xs', o2) ∧
      r = x' :: xs' ∧ outs = o1 ++ o2) := by
  by_cases hc : skip = true ∧ isMarker "$output" true x = true
  · obtain ⟨rfl, hm⟩ := hc
    cases x with
    | map m =>
      rw [os_findOutputsList_marker_eq m xs hm] at h
      split at h
      · cases h
      · next hl => exact Or.inl ⟨rfl, ⟨m, rfl, hm, Nat.eq_zero_of_not_pos hl⟩, h⟩
    | _ => cases hm
  · rw [os_findOutputsList_step_eq x xs skip hc] at h
    refine Or.inr ⟨hc, ?_⟩
    split at h
    · cases h
    · next x' o1 h1 =>
      split at h
      · cases h
      · next xs' o2 h2 => cases h; exact ⟨x', o1, xs', o2, h1, h2, rfl, rfl⟩

theorem o_findOutputs_eq_bool {v : Val} {b : Bool} {outs : List Val}
    (h : findOutputs v = .ok (.bool b, outs)) : v = .bool b := by
  cases v with
  | map kvs => obtain ⟨_, _, _, hv, _⟩ := findOutputs_map_ok h; cases hv
  | list xs => obtain ⟨_, _, _, hv, _⟩ := findOutputs_list_ok h; cases hv
  | _ => cases h <;> rfl

theorem o_findOutputsFields_fget : ∀ (kvs r : Fields) (skip : Bool) (outs : List Val),
    findOutputsFields kvs skip = .ok (r, outs) → fget r "$output" = some (.bool true) →
    skip = false ∧ fget kvs "$output" = some (.bool true)
  | [], r, skip, outs, h, hg => by
    obtain ⟨rfl, _⟩ := findOutputsFields_nil_ok h; cases hg
  | (k, v) :: rest, r, skip, outs, h, hg => by
    rcases findOutputsFields_cons_ok h with ⟨hs, _, h'⟩ | ⟨hc, v', o1, rest', o2, h1, h2, rfl, _⟩
    · rw [hs] at h'
      cases (o_findOutputsFields_fget rest r true outs h' hg).1
    · by_cases hk : k = "$output"
      · simp only [fget, if_pos hk] at hg ⊢
        cases hg
        exact ⟨Bool.eq_false_iff.2 fun hs => hc ⟨hs, hk⟩, by rw [o_findOutputs_eq_bool h1]⟩
      · simp only [fget, if_neg hk] at hg ⊢
        exact o_findOutputsFields_fget rest rest' skip o2 h2 hg

theorem o_findOutputsFields_fhasBool {kvs r : Fields} {outs : List Val}
    (h : findOutputsFields kvs (fhasBool kvs "$output" true) = .ok (r, outs)) :
    fhasBool r "$output" true = false := by
  apply Bool.eq_false_iff.2
  intro hr
  obtain ⟨hs, hg⟩ := o_findOutputsFields_fget kvs r _ outs h (fhasBool_iff.1 hr)
  rw [fhasBool_iff.2 hg] at hs
  cases hs

theorem o_findOutputsList_marker_clean : ∀ (xs r outs : List Val),
    findOutputsList xs true = .ok (r, outs) → ∀ m, .map m ∈ xs →
    fhasBool m "$output" true = true → (fdel m "$output").length = 0
  | [], _, _, _, m, hm, _ => by cases hm
  | x :: xs, r, outs, h, m, hm, hb => by
    rcases findOutputsList_cons_ok h with ⟨_, ⟨m', hx, _, hl⟩, h'⟩ | ⟨hc, x', o1, xs', o2, _, h2, _, _⟩
    · rcases List.mem_cons.1 hm with heq | hm'
      · rw [hx] at heq; cases heq; exact hl
      · exact o_findOutputsList_marker_clean xs r outs h' m hm' hb
    · rcases List.mem_cons.1 hm with heq | hm'
      · subst heq; exact absurd ⟨rfl, hb⟩ hc
      · exact o_findOutputsList_marker_clean xs xs' o2 h2 m hm' hb

/-! ## the two loops of `findOutputs` where nothing is selected -/

theorem findOutputsList_id : ∀ {xs : List Val}, (∀ x ∈ xs, findOutputs x = .ok (x, [])) →
    findOutputsList xs false = .ok (xs, [])
  | [], _ => rfl
  | x :: xs, h => by
    rw [os_findOutputsList_step_eq x xs false (fun hc => nomatch hc.1), h x List.mem_cons_self,
      findOutputsList_id fun y hy => h y (List.mem_cons_of_mem _ hy)]
    rfl

theorem findOutputsFields_id : ∀ {kvs : Fields}, (∀ p ∈ kvs, findOutputs p.2 = .ok (p.2, [])) →
    findOutputsFields kvs false = .ok (kvs, [])
  | [], _ => rfl
  | (k, v) :: rest, h => by
    rw [os_findOutputsFields_step_eq k v rest false (fun hc => nomatch hc.1), h (k, v) List.mem_cons_self,
      findOutputsFields_id fun y hy => h y (List.mem_cons_of_mem _ hy)]
    rfl

/-! ## the list case of `filterOutput`, with `popListMapBool` evaluated -/

theorem os_filterOutput_list_eq (xs : List Val) :
    filterOutput (.list xs) =
      if hasListMapBool xs "$output" false then
        (if xs.any (os_isExtra "$output" false) then .error .extraKeys else .ok none)
      else match filterOutputList xs with
        | .error e => .error e
        | .ok rs => .ok (some (.list rs)) := by
  rw [filterOutput_list_eq, popListMapBool_closed]
  split
  · next hc =>
    simp only [hc, Bool.true_eq_false, if_false]
    cases xs.any (os_isExtra "$output" false) <;> rfl
  · rfl

/-! ## hiding, specified: `filterOutput` in closed form

  `hidden`, `prune` and `filterFails` say what `filterOutput` does without following its control flow:
  they are the specification of hiding of property C11.  They stand below the property file because
  `C11_filterOutput_eq` is the one place where `filterOutput` is unfolded along a value: whatever else
  is said of a successful call, here, in C11 and for the translated `filterOutput'`, is said of `prune`. -/

/-- a value that `filterOutput` drops -/
def hidden : Val → Bool
  | .map kvs => fhasBool kvs "$output" false
  | .list xs => hasListMapBool xs "$output" false
  | .null => true
  | _ => false

/-- a list entry with `$output: b` AND other keys -/
def isBadMarker (b : Bool) : Val → Bool
  | .map m => fhasBool m "$output" b && decide ((fdel m "$output").length > 0)
  | _ => false

mutual
/-- the value with every hidden child (a map with `$output: false`, a list with a
    `{$output: false}` entry, a `null`; see `hidden`) removed from its parent, recursively.
    The root itself is not examined. -/
def prune : Val → Val
  | .map kvs => .map (pruneFields kvs)
  | .list xs => .list (pruneList xs)
  | v => v
def pruneList : List Val → List Val
  | [] => []
  | x :: xs => if hidden x then pruneList xs else prune x :: pruneList xs
def pruneFields : Fields → Fields
  | [] => []
  | (k, v) :: rest => if hidden v then pruneFields rest else (k, prune v) :: pruneFields rest
end

mutual
/-- the only failure of `filterOutput`: a hidden list that is reached (not below another hidden
    node) has a `{$output: false}` entry with extra keys -/
def filterFails : Val → Bool
  | .map kvs => !fhasBool kvs "$output" false && filterFailsFields kvs
  | .list xs =>
    if hasListMapBool xs "$output" false then xs.any (isBadMarker false) else filterFailsList xs
  | _ => false
def filterFailsList : List Val → Bool
  | [] => false
  | x :: xs => filterFails x || filterFailsList xs
def filterFailsFields : Fields → Bool
  | [] => false
  | (_, v) :: rest => filterFails v || filterFailsFields rest
end

theorem C11_aux_isBadMarker_eq (b : Bool) : isBadMarker b = os_isExtra "$output" b := by
  funext x; cases x <;> rfl

mutual
/-- **Hiding, specified** (no well-formedness needed): `filterOutput` fails exactly on
    `filterFails`; otherwise a hidden root yields nothing and any other root yields `prune`. -/
theorem C11_filterOutput_eq : ∀ (v : Val),
    filterOutput v =
      if filterFails v then .error .extraKeys
      else .ok (if hidden v then none else some (prune v))
  | .map kvs => by
    rw [os_filterOutput_map_eq, C11_filterOutput_eq_fields kvs, filterFails, hidden, prune]
    cases fhasBool kvs "$output" false <;> cases filterFailsFields kvs <;> rfl
  | .list xs => by
    rw [os_filterOutput_list_eq, C11_filterOutput_eq_list xs, filterFails, hidden, prune,
      C11_aux_isBadMarker_eq]
    cases hasListMapBool xs "$output" false <;> cases filterFailsList xs <;> rfl
  | .null | .bool _ | .int _ | .flt _ | .str _ => rfl
termination_by structural x => x
theorem C11_filterOutput_eq_list : ∀ (xs : List Val),
    filterOutputList xs =
      if filterFailsList xs then .error .extraKeys else .ok (pruneList xs)
  | [] => rfl
  | x :: xs => by
    rw [os_filterOutputList_cons_eq, C11_filterOutput_eq x, C11_filterOutput_eq_list xs,
      filterFailsList, pruneList]
    cases filterFails x <;> cases filterFailsList xs <;> cases hidden x <;> rfl
termination_by structural x => x
theorem C11_filterOutput_eq_fields : ∀ (kvs : Fields),
    filterOutputFields kvs =
      if filterFailsFields kvs then .error .extraKeys else .ok (pruneFields kvs)
  | [] => rfl
  | (k, v) :: rest => by
    rw [os_filterOutputFields_cons_eq, C11_filterOutput_eq v, C11_filterOutput_eq_fields rest,
      filterFailsFields, pruneFields]
    cases filterFails v <;> cases filterFailsFields rest <;> cases hidden v <;> rfl
termination_by structural x => x
end

/-! ### what a successful call returns -/

theorem filterOutput_ok_iff {v : Val} {r : Option Val} :
    filterOutput v = .ok r ↔ filterFails v = false ∧ r = if hidden v then none else some (prune v) := by
  rw [C11_filterOutput_eq]
  cases filterFails v
  · exact ⟨fun h => ⟨rfl, (Except.ok.inj h).symm⟩, fun h => h.2 ▸ rfl⟩
  · exact ⟨nofun, fun h => nomatch h.1⟩

theorem filterOutput_some {v r : Val} (h : filterOutput v = .ok (some r)) :
    filterFails v = false ∧ hidden v = false ∧ r = prune v := by
  obtain ⟨hf, h⟩ := filterOutput_ok_iff.1 h
  cases hh : hidden v <;> rw [hh] at h <;> cases h
  exact ⟨hf, rfl, rfl⟩

theorem filterOutputList_ok_iff {xs rs : List Val} :
    filterOutputList xs = .ok rs ↔ filterFailsList xs = false ∧ rs = pruneList xs := by
  rw [C11_filterOutput_eq_list]
  cases filterFailsList xs
  · exact ⟨fun h => ⟨rfl, (Except.ok.inj h).symm⟩, fun h => h.2 ▸ rfl⟩
  · exact ⟨nofun, fun h => nomatch h.1⟩

theorem filterOutputFields_ok_iff {kvs fs : Fields} :
    filterOutputFields kvs = .ok fs ↔ filterFailsFields kvs = false ∧ fs = pruneFields kvs := by
  rw [C11_filterOutput_eq_fields]
  cases filterFailsFields kvs
  · exact ⟨fun h => ⟨rfl, (Except.ok.inj h).symm⟩, fun h => h.2 ▸ rfl⟩
  · exact ⟨nofun, fun h => nomatch h.1⟩

theorem filterFailsList_false {xs : List Val} :
    filterFailsList xs = false ↔ ∀ x ∈ xs, filterFails x = false :=
  any_of_eqns filterFailsList.eq_1 filterFailsList.eq_2
theorem filterFailsFields_false {kvs : Fields} :
    filterFailsFields kvs = false ↔ ∀ p ∈ kvs, filterFails p.2 = false :=
  any_of_eqns filterFailsFields.eq_1 fun p l => filterFailsFields.eq_2 p.1 p.2 l

/-! ### the entries of a pruned list or map: the entries that are not hidden, pruned -/

theorem pruneList_eq (xs : List Val) : pruneList xs = (xs.filter fun x => !hidden x).map prune :=
  filter_map_of_eqns pruneList.eq_1 pruneList.eq_2 xs

theorem pruneFields_eq (kvs : Fields) :
    pruneFields kvs = Fields.filterMapVal (fun _ v => if hidden v then none else some (prune v)) kvs := by
  induction kvs with
  | nil => rfl
  | cons kv rest ih =>
    obtain ⟨k, v⟩ := kv
    rw [pruneFields, filterMapVal_cons, ← ih]
    cases hidden v <;> rfl

theorem mem_pruneList {xs : List Val} {r : Val} :
    r ∈ pruneList xs ↔ ∃ x ∈ xs, hidden x = false ∧ prune x = r := by
  simp only [pruneList_eq, List.mem_map, List.mem_filter, Bool.not_eq_true', and_assoc]

theorem mem_pruneFields {kvs : Fields} {q : String × Val} :
    q ∈ pruneFields kvs ↔ ∃ p ∈ kvs, hidden p.2 = false ∧ (p.1, prune p.2) = q := by
  rw [pruneFields_eq]
  constructor
  · obtain ⟨k, w⟩ := q
    intro h
    obtain ⟨v, hv, hg⟩ := mem_filterMapVal.1 h
    cases hh : hidden v <;> rw [hh] at hg <;> cases hg
    exact ⟨_, hv, hh, rfl⟩
  · rintro ⟨p, hp, hh, rfl⟩
    exact mem_filterMapVal.2 ⟨p.2, hp, by rw [hh]; rfl⟩

/-- what holds of the pruning of every visible entry holds of every entry of the pruned list -/
theorem pruneList_forall {P : Val → Prop} {xs : List Val} (h : ∀ x ∈ xs, hidden x = false → P (prune x)) :
    ∀ r ∈ pruneList xs, P r := fun r hr => by
  obtain ⟨x, hx, hh, rfl⟩ := mem_pruneList.1 hr; exact h x hx hh

theorem pruneFields_forall {P : Val → Prop} {kvs : Fields}
    (h : ∀ p ∈ kvs, hidden p.2 = false → P (prune p.2)) : ∀ q ∈ pruneFields kvs, P q.2 := fun q hq => by
  obtain ⟨p, hp, hh, rfl⟩ := mem_pruneFields.1 hq; exact h p hp hh

theorem prune_ne_null {v : Val} (h : hidden v = false) : prune v ≠ .null := by
  cases v with
  | null => cases h
  | _ => exact nofun

theorem wf_prune (v : Val) : v.WF → (prune v).WF := by
  induction v using Val.induction_mem with
  | map kvs ih =>
    intro hw
    rw [prune, pruneFields_eq]
    refine wf_filterMapVal hw fun k v w hv hg => ?_
    cases hh : hidden v <;> rw [hh] at hg <;> cases hg
    exact ih _ hv ((wf_map_iff.1 hw).2 _ hv)
  | list xs ih =>
    exact fun hw => wf_list_iff.2 (pruneList_forall fun x hx _ => ih x hx (wf_list_iff.1 hw x hx))
  | _ => exact id

/-! ## values without markers

  `hasOutTrue` / `hasOutFalse` (some container carries the marker), `noNull`, `hasKey` are specification
  functions of C11.  They stand here with the two theorems that say what the output stage does where they
  answer no — nothing is selected (`C11_no_marker_root_fallback`), nothing is dropped
  (`filterOutput_unmarked`) — because plain data (Lemmas/EscapeEval.lean) is such a value. -/

mutual
/-- some map in `v` carries `$output: true`, or some list has a `{$output: true}` entry -/
def hasOutTrue : Val → Bool
  | .map kvs => fhasBool kvs "$output" true || hasOutTrueFields kvs
  | .list xs => hasListMapBool xs "$output" true || hasOutTrueList xs
  | _ => false
def hasOutTrueList : List Val → Bool
  | [] => false
  | x :: xs => hasOutTrue x || hasOutTrueList xs
def hasOutTrueFields : Fields → Bool
  | [] => false
  | (_, v) :: rest => hasOutTrue v || hasOutTrueFields rest
end

mutual
/-- the same for `$output: false` -/
def hasOutFalse : Val → Bool
  | .map kvs => fhasBool kvs "$output" false || hasOutFalseFields kvs
  | .list xs => hasListMapBool xs "$output" false || hasOutFalseList xs
  | _ => false
def hasOutFalseList : List Val → Bool
  | [] => false
  | x :: xs => hasOutFalse x || hasOutFalseList xs
def hasOutFalseFields : Fields → Bool
  | [] => false
  | (_, v) :: rest => hasOutFalse v || hasOutFalseFields rest
end

mutual
/-- no `null` anywhere (root, map values, list entries) -/
def noNull : Val → Bool
  | .null => false
  | .map kvs => noNullFields kvs
  | .list xs => noNullList xs
  | _ => true
def noNullList : List Val → Bool
  | [] => true
  | x :: xs => noNull x && noNullList xs
def noNullFields : Fields → Bool
  | [] => true
  | (_, v) :: rest => noNull v && noNullFields rest
end

mutual
/-- some map in `v` has the key `k` -/
def hasKey (k : String) : Val → Bool
  | .map kvs => hasKeyFields k kvs
  | .list xs => hasKeyList k xs
  | _ => false
def hasKeyList (k : String) : List Val → Bool
  | [] => false
  | x :: xs => hasKey k x || hasKeyList k xs
def hasKeyFields (k : String) : Fields → Bool
  | [] => false
  | (k', v) :: rest => k' == k || hasKey k v || hasKeyFields k rest
end

theorem hasOutTrueList_false {xs : List Val} :
    hasOutTrueList xs = false ↔ ∀ x ∈ xs, hasOutTrue x = false :=
  any_of_eqns hasOutTrueList.eq_1 hasOutTrueList.eq_2
theorem hasOutTrueFields_false {kvs : Fields} :
    hasOutTrueFields kvs = false ↔ ∀ p ∈ kvs, hasOutTrue p.2 = false :=
  any_of_eqns hasOutTrueFields.eq_1 fun p l => hasOutTrueFields.eq_2 p.1 p.2 l
theorem hasOutFalseList_false {xs : List Val} :
    hasOutFalseList xs = false ↔ ∀ x ∈ xs, hasOutFalse x = false :=
  any_of_eqns hasOutFalseList.eq_1 hasOutFalseList.eq_2
theorem hasOutFalseFields_false {kvs : Fields} :
    hasOutFalseFields kvs = false ↔ ∀ p ∈ kvs, hasOutFalse p.2 = false :=
  any_of_eqns hasOutFalseFields.eq_1 fun p l => hasOutFalseFields.eq_2 p.1 p.2 l
theorem hasKeyList_false {k : String} {xs : List Val} :
    hasKeyList k xs = false ↔ ∀ x ∈ xs, hasKey k x = false :=
  any_of_eqns (hasKeyList.eq_1 k) (hasKeyList.eq_2 k)
theorem hasKeyFields_false {k : String} {kvs : Fields} :
    hasKeyFields k kvs = false ↔ ∀ p ∈ kvs, (p.1 == k || hasKey k p.2) = false :=
  any_of_eqns (hasKeyFields.eq_1 k) fun p l => hasKeyFields.eq_2 k p.1 p.2 l
theorem noNullList_iff {xs : List Val} : noNullList xs = true ↔ ∀ x ∈ xs, noNull x = true :=
  all_of_eqns noNullList.eq_1 noNullList.eq_2
theorem noNullFields_iff {kvs : Fields} : noNullFields kvs = true ↔ ∀ p ∈ kvs, noNull p.2 = true :=
  all_of_eqns noNullFields.eq_1 fun p l => noNullFields.eq_2 p.1 p.2 l

theorem C11_aux_hasOutTrueList (xs : List Val) (h : hasOutTrueList xs = false) :
    hasListMapBool xs "$output" true = false :=
  hasListMapBool_eq_false_iff.2 fun m hm =>
    (Bool.or_eq_false_iff.1 ((hasOutTrue.eq_1 m).symm.trans (hasOutTrueList_false.1 h _ hm))).1

theorem C11_aux_hasOutFalseList (xs : List Val) (h : hasOutFalseList xs = false) :
    hasListMapBool xs "$output" false = false :=
  hasListMapBool_eq_false_iff.2 fun m hm =>
    (Bool.or_eq_false_iff.1 ((hasOutFalse.eq_1 m).symm.trans (hasOutFalseList_false.1 h _ hm))).1

theorem C11_no_marker_root_fallback (v : Val) : hasOutTrue v = false →
    findOutputs v = .ok (v, []) := by
  induction v using Val.induction_mem with
  | map kvs ih =>
    intro h
    simp only [hasOutTrue, Bool.or_eq_false_iff] at h
    rw [os_findOutputs_map_eq, h.1,
      findOutputsFields_id fun p hp => ih p hp (hasOutTrueFields_false.1 h.2 p hp)]
    rfl
  | list xs ih =>
    intro h
    simp only [hasOutTrue, Bool.or_eq_false_iff] at h
    rw [os_findOutputs_list_eq, h.1,
      findOutputsList_id fun x hx => ih x hx (hasOutTrueList_false.1 h.2 x hx)]
    rfl
  | _ => intro _; rfl

/-- a value without `$output: false` markers and without nulls — what `C11_hidden_absent_partial` says
    `filterOutput` returns — is returned as it is -/
theorem filterOutput_unmarked (v : Val) : hasOutFalse v = false → noNull v = true →
    filterOutput v = .ok (some v) := by
  induction v using Val.induction_mem with
  | null => intro _ hn; cases hn
  | list xs ih =>
    intro hm hn
    simp only [hasOutFalse, Bool.or_eq_false_iff] at hm
    rw [noNull] at hn
    rw [os_filterOutput_list_eq, hm.1, filterOutputList_id fun x hx =>
      ih x hx (hasOutFalseList_false.1 hm.2 x hx) (noNullList_iff.1 hn x hx)]
    rfl
  | map kvs ih =>
    intro hm hn
    simp only [hasOutFalse, Bool.or_eq_false_iff] at hm
    rw [noNull] at hn
    rw [os_filterOutput_map_eq, hm.1, filterOutputFields_id fun p hp =>
      ih p hp (hasOutFalseFields_false.1 hm.2 p hp) (noNullFields_iff.1 hn p hp)]
    rfl
  | _ => intros; rfl

theorem C11_aux_hasKeyFields_of_fget (kvs : Fields) (k : String) (x : Val)
    (h : fget kvs k = some x) : hasKeyFields k kvs = true :=
  Decidable.by_contra fun hc => by
    have := hasKeyFields_false.1 (Bool.eq_false_iff.2 hc) _ (fget_mem h)
    simp at this

theorem C11_aux_fhasBool_of_no_key (kvs : Fields) (k : String) (b : Bool)
    (h : hasKeyFields k kvs = false) : fhasBool kvs k b = false :=
  Bool.eq_false_iff.2 fun hb => by
    rw [C11_aux_hasKeyFields_of_fget kvs k _ (fhasBool_iff.1 hb)] at h; cases h

/-- a tree without any `$output` key has no `$output` marker of either polarity -/
theorem C11_no_key_no_marker (v : Val) : hasKey "$output" v = false →
    hasOutTrue v = false ∧ hasOutFalse v = false := by
  induction v using Val.induction_mem with
  | map kvs ih =>
    intro h
    rw [hasKey] at h
    have hc := fun p hp => ih p hp (Bool.or_eq_false_iff.1 (hasKeyFields_false.1 h p hp)).2
    simp only [hasOutTrue, hasOutFalse, C11_aux_fhasBool_of_no_key kvs _ _ h, Bool.false_or]
    exact ⟨hasOutTrueFields_false.2 fun p hp => (hc p hp).1,
      hasOutFalseFields_false.2 fun p hp => (hc p hp).2⟩
  | list xs ih =>
    intro h
    rw [hasKey] at h
    have hc := fun x hx => ih x hx (hasKeyList_false.1 h x hx)
    have h1 := hasOutTrueList_false.2 fun x hx => (hc x hx).1
    have h2 := hasOutFalseList_false.2 fun x hx => (hc x hx).2
    simp only [hasOutTrue, hasOutFalse, h1, h2, C11_aux_hasOutTrueList xs h1,
      C11_aux_hasOutFalseList xs h2, Bool.or_false, and_self]
  | _ => intro _; exact ⟨rfl, rfl⟩

/-! ## `outputDocuments`, one processed document at a time -/

theorem os_mapM_ok_map {α β : Type} (f : α → R β) (g : α → β) (l : List α) (r : List β)
    (hg : ∀ a ∈ l, ∀ b, f a = .ok b → b = g a) (h : l.mapM f = .ok r) : r = l.map g :=
  ((mapM_ok_iff f l r).1 h).eq_map hg

theorem os_mapM_ok_mem {α β : Type} (f : α → R β) (l : List α) (r : List β)
    (h : l.mapM f = .ok r) : ∀ a ∈ l, ∃ b ∈ r, f a = .ok b :=
  fun _ ha => ((mapM_ok_iff f l r).1 h).mem_left ha

theorem os_emit_stream (pss : List (List Val)) (oss0 : List (List Val))
    (h : pss.mapM emit = .ok oss0) :
    ∃ oss, pss.flatten.mapM (fun p => emit [p]) = .ok oss ∧ oss0.flatten = oss.flatten := by
  induction pss generalizing oss0 with
  | nil => rw [mapM_nil] at h; cases h; exact ⟨[], mapM_nil _, rfl⟩
  | cons ps pss ih =>
    obtain ⟨o, os, h1, h2, rfl⟩ := mapM_cons_ok.1 h
    obtain ⟨oss, h3, h4⟩ := ih os h2
    obtain ⟨oss1, h5, rfl⟩ := (os_emit_ok_iff ps o).1 h1
    refine ⟨oss1 ++ oss, ?_, ?_⟩
    · rw [List.flatten_cons]; rw [mapM_append, h5, h3]
    · rw [List.flatten_cons, h4, List.flatten_append]

theorem os_outputDocument_ok (docs : List Val) (env : Vars) (d : Val) (o : List Val) :
    outputDocument docs env d = .ok o ↔
      ∃ ps, processDoc docs env d = .ok ps ∧ emit ps = .ok o := by
  unfold outputDocument
  cases processDoc docs env d with
  | error e => simp [bind, Except.bind]
  | ok ps => simp [bind, Except.bind]

theorem os_outputDocuments_ok (docs : List Val) (env : Vars) (outs : List Val) :
    outputDocuments docs env = .ok outs ↔
      ∃ oss, docs.mapM (outputDocument docs env) = .ok oss ∧ outs = oss.flatten := by
  unfold outputDocuments
  cases h : docs.mapM (outputDocument docs env) with
  | error e => simp [bind, Except.bind]
  | ok oss =>
    simp only [bind, Except.bind, pure, Except.pure, Except.ok.injEq, exists_eq_left']
    exact eq_comm

theorem os_outputDocuments_stream (docs : List Val) (env : Vars) (outs : List Val)
    (h : outputDocuments docs env = .ok outs) :
    ∃ pss, docs.mapM (processDoc docs env) = .ok pss ∧
      ∃ oss, pss.flatten.mapM (fun p => emit [p]) = .ok oss ∧ outs = oss.flatten := by
  obtain ⟨oss0, h1, rfl⟩ := (os_outputDocuments_ok docs env outs).1 h
  have h1' : docs.mapM (fun d => processDoc docs env d >>= emit) = .ok oss0 := h1
  obtain ⟨pss, h2, h3⟩ := (mapM_bind_ok_iff _ _ _ _).1 h1'
  obtain ⟨oss, h4, h5⟩ := os_emit_stream pss oss0 h3
  exact ⟨pss, h2, oss, h4, h5⟩

/-! ## nothing `emit` returns is null -/

theorem filterOutput_some_ne_null {v r : Val} (h : filterOutput v = .ok (some r)) : r ≠ .null := by
  obtain ⟨_, hh, rfl⟩ := filterOutput_some h
  exact prune_ne_null hh

theorem finalize_ne_null {v : Val} (h : v ≠ .null) : finalize v ≠ .null := by
  cases v <;> simp [finalize] at h ⊢

theorem emit_nonnull (ds outs : List Val) (h : emit ds = .ok outs) : ∀ o ∈ outs, o ≠ .null := by
  intro o ho
  obtain ⟨vs, _, h⟩ := emit_ok h
  obtain ⟨v, _, v2, hf, _, rfl⟩ := emitFinish_mem vs outs h o ho
  exact finalize_ne_null (filterOutput_some_ne_null hf)

theorem outputDocuments_nonnull (docs : List Val) (env : Vars) (outs : List Val)
    (h : outputDocuments docs env = .ok outs) : ∀ o ∈ outs, o ≠ .null := by
  intro o ho
  obtain ⟨oss, hm, rfl⟩ := (os_outputDocuments_ok docs env outs).1 h
  obtain ⟨os, hos, ho'⟩ := List.mem_flatten.1 ho
  obtain ⟨d, _, hd⟩ := ((mapM_ok_iff _ _ _).1 hm).mem_right hos
  obtain ⟨ps, _, hd⟩ := (os_outputDocument_ok docs env d os).1 hd
  exact emit_nonnull ps os hd o ho'

end Bkl
