/-
  Lemmas for the translation equivalence of cmd/bklr/required.go (BklProofs/Facts/TransBklr.lean): what the
  translation needs of the model's `required` beyond its equations (Lemmas/Required): it keeps well-formedness and
  does not deepen (`required_wf`, `depth_required_le`).  Before them stand Go's `len(l) == 0` and the entries of a
  map loop spelt as a `List.filterMap` (`rq_entry`); the proofs about required.go do not go through these: they read
  the loops as `Fields.filterMapVal` (`forRange_filterMapVal`, `requiredFields_eq`).
-/
import BklProofs.Lemmas.GoLib
import BklProofs.Lemmas.Required
namespace Bkl

/-- Go's `len(l) == 0` is the model's `isEmpty` -/
theorem isEmpty_eq_length_beq (l : List α) : (Int.ofNat l.length == (0 : Int)) = l.isEmpty := by
  cases l with
  | nil => rfl
  | cons x xs =>
    simp only [List.length_cons, List.isEmpty_cons]
    exact beq_eq_false_iff_ne.2 (by simp; omega)

@[simp] theorem rq_fsetAll_nil (acc : Fields) : fsetAll acc [] = acc := fsetAll_nil acc

/-! ## the entries a map loop keeps when it looks at the values only -/

/-- the entry that a map loop deciding by `g` on the value keeps for an input entry: `Fields.filterMapVal (fun _ => g)`
    as a `List.filterMap` -/
def rq_entry (g : Val → Option Val) (p : String × Val) : Option (String × Val) :=
  (g p.2).map (fun v' => (p.1, v'))

theorem rq_mem_filterMap_entry {g : Val → Option Val} {kvs : Fields} {p : String × Val}
    (h : p ∈ kvs.filterMap (rq_entry g)) : ∃ q ∈ kvs, q.1 = p.1 ∧ g q.2 = some p.2 := by
  obtain ⟨q, hq, he⟩ := List.mem_filterMap.1 h
  refine ⟨q, hq, ?_⟩
  unfold rq_entry at he
  cases hg : g q.2 with
  | none => rw [hg] at he; cases he
  | some w => rw [hg] at he; cases he; exact ⟨rfl, rfl⟩

/-! ## the model's `required` -/

theorem required_wf {v r : Val} (hv : Val.WF v) (h : required v = some r) : Val.WF r := by
  induction v using Go.depth_induction generalizing r with | _ v ih =>
  rcases required_eq_some h with ⟨kvs, rfl, rfl⟩ | ⟨xs, rfl, rfl⟩ | ⟨s, rfl, rfl⟩
  · have hw := wf_map_iff.1 hv
    refine wf_map_iff.2 ⟨sorted_requiredFields hw.1, fun p hp => ?_⟩
    rw [requiredFields_eq] at hp
    obtain ⟨v, hv, hr⟩ := mem_filterMapVal.1 (show (p.1, p.2) ∈ _ from hp)
    exact ih _ (Nat.lt_succ_of_le (Go.depth_le_of_mem_fields hv)) (hw.2 _ hv) hr
  · refine wf_list_iff.2 fun x hx => ?_
    rw [requiredList_eq] at hx
    obtain ⟨y, hy, hr⟩ := List.mem_filterMap.1 hx
    exact ih _ (Nat.lt_succ_of_le (Go.depth_le_of_mem_list hy)) (wf_list_iff.1 hv y hy) hr
  · exact hv

theorem depth_required_le (v r : Val) (h : required v = some r) : Go.depth r ≤ Go.depth v := by
  induction v using Go.depth_induction generalizing r with | _ v ih =>
  rcases required_eq_some h with ⟨kvs, rfl, rfl⟩ | ⟨xs, rfl, rfl⟩ | ⟨s, rfl, rfl⟩
  · refine Nat.succ_le_succ (Go.depthFields_le_of_forall fun p hp => ?_)
    rw [requiredFields_eq] at hp
    obtain ⟨v, hv, hr⟩ := mem_filterMapVal.1 (show (p.1, p.2) ∈ _ from hp)
    have hd := Go.depth_le_of_mem_fields hv
    exact Nat.le_trans (ih _ (Nat.lt_succ_of_le hd) p.2 hr) hd
  · refine Nat.succ_le_succ (Go.depthList_le_of_forall fun x hx => ?_)
    rw [requiredList_eq] at hx
    obtain ⟨y, hy, hr⟩ := List.mem_filterMap.1 hx
    have hd := Go.depth_le_of_mem_list hy
    exact Nat.le_trans (ih _ (Nat.lt_succ_of_le hd) x hr) hd
  · exact Nat.le_refl _

end Bkl
