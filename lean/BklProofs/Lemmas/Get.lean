/-
  The reference lookup of Bkl/Get.lean in normal form: `get root docs m` is a path lookup in the referencing document or
  in a document of the stream, or an error (`get_cases`, `PathOrErr`); what holds of every value reachable by key in the
  documents holds of what `get` returns (`get_closed`); and the error is `unmodelled` exactly when a reference string that
  is reached lies outside the sub-language the model reads (`RefsModelled`, `getPathFromString_unmodelled_iff`,
  `getWithVar_unmodelled_iff`).  The translation equivalences of get.go and process2.go (BklProofs/Facts/TransGet.lean,
  TransProcess2String.lean) rest on these; the declarations are in `Bkl.Gen.Lib`, the namespace of those files.  (The
  equations of `get`, one level at a time, which the evaluator's proofs use, stand in Lemmas/Process1.lean; `get_map_eq`
  here is the map case once more, with `match` in place of bind, the form the induction of `get_cases` rewrites with.)
-/
import Bkl.Process2
import BklProofs.Lemmas.GoLibUtil
namespace Bkl.Gen.Lib
open Bkl

theorem parseRef_shape {s : String} {r : Val} (h : parseRef s = some r) :
    r = .str s ∨ ∃ items : List String, r = .list (items.map .str) := by
  unfold parseRef at h
  split at h
  · left; simpa using h.symm
  · split at h
    · right; exact ⟨_, by simpa using h.symm⟩
    · cases h

theorem get_map_eq (root : Val) (docs : List Val) (conf : Fields) :
    get root docs (.map conf) =
      (match fget conf "$match" with
       | none => .error Err.missingMatch
       | some pat =>
         match getCrossDoc docs pat with
         | .error e => .error e
         | .ok d =>
           match fget conf "$path" with
           | some path => get d docs path
           | none => .ok d) := by
  rw [get.eq_3]
  cases fget conf "$match" with
  | none => rfl
  | some pat =>
    simp only [bind, Except.bind]
    cases getCrossDoc docs pat with
    | error e => rfl
    | ok d =>
      simp only []
      split <;> simp_all [pure, Except.pure]

/-! ## the normal form of `get`: a path lookup in the referencing document or in a document of the stream, or an error
  of reading the reference -/

mutual
/-- every reference string that `get` can reach in `m` (the string itself, or down the `$path` chain of a
    cross-document reference) is in the sub-language the model reads -/
def refsModelledB : Val → Bool
  | .str s => (parseRef s).isSome
  | .map kvs => refsModelledFieldsB kvs
  | _ => true
def refsModelledFieldsB : Fields → Bool
  | [] => true
  | (k, v) :: rest => (k != "$path" || refsModelledB v) && refsModelledFieldsB rest
end

def RefsModelled (m : Val) : Prop := refsModelledB m = true

theorem refsModelledFields_path {conf : Fields} {p : Val} (hc : refsModelledFieldsB conf = true)
    (h : fget conf "$path" = some p) : refsModelledB p = true := by
  induction conf with
  | nil => simp [fget] at h
  | cons kv rest ih =>
    obtain ⟨k, v⟩ := kv
    simp only [refsModelledFieldsB, Bool.and_eq_true, Bool.or_eq_true] at hc
    by_cases hk : k = "$path"
    · subst hk; simp [fget] at h; subst h; simpa using hc.1
    · exact ih hc.2 (by simpa [fget, hk] using h)

theorem getPath_ne_unmodelled : ∀ (parts : List String) (obj : Val), getPath obj parts ≠ .error Err.unmodelled := by
  intro parts
  induction parts with
  | nil => intro obj h; simp [getPath, pure, Except.pure] at h
  | cons p ps ih =>
    intro obj h
    cases obj with
    | map kvs =>
      cases hg : fget kvs p with
      | none => simp [getPath, hg, throw, throwThe, MonadExceptOf.throw] at h
      | some w => simp only [getPath, hg] at h; exact ih w h
    | _ => simp [getPath, throw, throwThe, MonadExceptOf.throw] at h

/-- `r` is a path lookup in `root` or in one of `docs`, or an error other than `unmodelled` -/
def PathOrErr (root : Val) (docs : List Val) (r : R Val) : Prop :=
  (∃ d parts, (d = root ∨ d ∈ docs) ∧ r = getPath d parts) ∨ ∃ e, r = .error e ∧ e ≠ .unmodelled

theorem toStringList_ne_unmodelled (l : List Val) : toStringList l ≠ .error Err.unmodelled := by
  induction l with
  | nil => simp [toStringList_nil]
  | cons x xs ih =>
    by_cases hx : ∃ s, x = .str s
    · obtain ⟨s, rfl⟩ := hx
      rw [toStringList_cons_str]
      cases hr : toStringList xs with
      | error e => intro h; simp at h; exact ih (by rw [hr, h])
      | ok ts => simp
    · rw [toStringList_cons_other x xs (fun s e => hx ⟨s, e⟩)]; simp

theorem getCrossDoc_mem {docs : List Val} {pat d : Val} (h : getCrossDoc docs pat = .ok d) : d ∈ docs := by
  unfold getCrossDoc at h
  split at h
  · cases h
  · rename_i d' hf
    simp only [pure, Except.pure, Except.ok.injEq] at h
    subst h
    have : d' ∈ docs.filter (fun d => matchV d pat) := by rw [hf]; exact List.mem_cons_self
    exact (List.mem_filter.1 this).1
  · cases h

theorem getCrossDoc_ne_unmodelled (docs : List Val) (pat : Val) : getCrossDoc docs pat ≠ .error Err.unmodelled := by
  unfold getCrossDoc
  split <;> simp [throw, throwThe, MonadExceptOf.throw, pure, Except.pure]

theorem strPath_cases (root : Val) (docs : List Val) (obj : Val) (ho : obj = root ∨ obj ∈ docs) (path : List Val) :
    PathOrErr root docs (toStringList path >>= getPath obj) := by
  cases hts : toStringList path with
  | error e => exact .inr ⟨e, rfl, fun h => toStringList_ne_unmodelled path (by rw [hts, h])⟩
  | ok ss => exact .inl ⟨obj, ss, ho, rfl⟩

theorem cross_strPath_cases (root : Val) (docs : List Val) (pat : Val) (path : List Val) :
    PathOrErr root docs (getCrossDoc docs pat >>= fun d => toStringList path >>= getPath d) := by
  cases hc : getCrossDoc docs pat with
  | error e => exact .inr ⟨e, rfl, fun h => getCrossDoc_ne_unmodelled docs pat (by rw [hc, h])⟩
  | ok d => exact strPath_cases root docs d (.inr (getCrossDoc_mem hc)) path

theorem getPathFromList_cases (root : Val) (docs : List Val) (path : List Val) :
    PathOrErr root docs (getPathFromList root docs path) := by
  unfold getPathFromList
  split
  · exact cross_strPath_cases root docs _ _
  · exact cross_strPath_cases root docs _ _
  · exact strPath_cases root docs root (.inl rfl) path

theorem getPathFromString_unmodelled_iff (obj : Val) (docs : List Val) (s : String) :
    getPathFromString obj docs s = .error Err.unmodelled ↔ parseRef s = none := by
  constructor
  · intro h
    cases hp : parseRef s with
    | none => rfl
    | some r =>
      exfalso
      unfold getPathFromString at h
      rcases parseRef_shape hp with rfl | ⟨items, rfl⟩
      · simp only [hp] at h; exact getPath_ne_unmodelled _ _ h
      · simp only [hp] at h
        rcases getPathFromList_cases obj docs (items.map .str) with ⟨d, parts, _, he⟩ | ⟨e, he, hne⟩
        · rw [he] at h; exact getPath_ne_unmodelled _ _ h
        · rw [he] at h; cases h; exact hne rfl
  · intro hp; simp [getPathFromString, hp, throw, throwThe, MonadExceptOf.throw]

/-- `get` is a path lookup in the referencing document or in a document of the stream, or an error; the error is
    `unmodelled` only if a reference string that is reached is outside the sub-language the model reads -/
theorem get_cases (docs : List Val) (root m : Val) :
    PathOrErr root docs (get root docs m) ∨ (get root docs m = .error Err.unmodelled ∧ ¬ RefsModelled m) := by
  unfold RefsModelled
  induction root, m using get.induct with
  | case1 root s =>
    rw [get]
    cases hp : parseRef s with
    | none => exact .inr ⟨(getPathFromString_unmodelled_iff root docs s).2 hp, by simp [refsModelledB, hp]⟩
    | some r =>
      left
      unfold getPathFromString
      rcases parseRef_shape hp with rfl | ⟨items, rfl⟩
      · simp only [hp]; exact .inl ⟨root, _, .inl rfl, rfl⟩
      · simp only [hp]; exact getPathFromList_cases root docs _
  | case2 root l => rw [get]; exact .inl (getPathFromList_cases root docs l)
  | case3 root conf hm => rw [get_map_eq, hm]; exact .inl (.inr ⟨_, rfl, nofun⟩)
  | case4 root conf pat hm ih =>
    rw [get_map_eq]
    simp only [hm]
    cases hc : getCrossDoc docs pat with
    | error e => exact .inl (.inr ⟨e, rfl, fun h => getCrossDoc_ne_unmodelled docs pat (by rw [hc, h])⟩)
    | ok d =>
      have hd := getCrossDoc_mem hc
      cases hp : fget conf "$path" with
      | none => exact .inl (.inl ⟨d, [], .inr hd, rfl⟩)
      | some path =>
        rcases ih d path hp with (⟨d', parts, hd', he⟩ | ⟨e, he, hne⟩) | ⟨he, hnm⟩
        · exact .inl (.inl ⟨d', parts, .inr (hd'.elim (fun h => h ▸ hd) id), he⟩)
        · exact .inl (.inr ⟨e, he, hne⟩)
        · exact .inr ⟨he, fun hm' => hnm (refsModelledFields_path (by simpa [refsModelledB] using hm') hp)⟩
  | case5 root m h1 h2 h3 =>
    cases m with
    | str s => exact absurd rfl (h1 s)
    | list l => exact absurd rfl (h2 l)
    | map c => exact absurd rfl (h3 c)
    | _ => exact .inl (.inr ⟨Err.invalidType, by simp [get, throw, throwThe, MonadExceptOf.throw], nofun⟩)

theorem getPath_closed (P : Val → Prop) (hP : ∀ kvs k v, P (.map kvs) → fget kvs k = some v → P v) :
    ∀ (parts : List String) (obj v : Val), P obj → getPath obj parts = .ok v → P v := by
  intro parts
  induction parts with
  | nil => intro obj v ho h; simp [getPath, pure, Except.pure] at h; exact h ▸ ho
  | cons p ps ih =>
    intro obj v ho h
    cases obj with
    | map kvs =>
      cases hg : fget kvs p with
      | none => simp [getPath, hg, throw, throwThe, MonadExceptOf.throw] at h
      | some w =>
        simp only [getPath, hg] at h
        exact ih w v (hP kvs p w ho hg) h
    | _ => simp [getPath, throw, throwThe, MonadExceptOf.throw] at h

/-- what `get` returns is a part of the referencing document or of a document of the stream -/
theorem get_closed (P : Val → Prop) (hP : ∀ kvs k v, P (.map kvs) → fget kvs k = some v → P v)
    (docs : List Val) (hd : ∀ d ∈ docs, P d) (root m : Val) :
    ∀ v, P root → get root docs m = .ok v → P v := by
  intro v ho h
  rcases get_cases docs root m with (⟨d, parts, hd', he⟩ | ⟨e, he, _⟩) | ⟨he, _⟩
  · rw [he] at h
    exact getPath_closed P hP parts d v (hd'.elim (fun e => e ▸ ho) (hd d)) h
  · rw [he] at h; cases h
  · rw [he] at h; cases h

theorem get_ne_unmodelled (docs : List Val) (root m : Val) :
    RefsModelled m → get root docs m ≠ .error Err.unmodelled := by
  intro hm h
  rcases get_cases docs root m with (⟨d, parts, _, he⟩ | ⟨e, he, hne⟩) | ⟨_, hnm⟩
  · rw [he] at h; exact getPath_ne_unmodelled _ _ h
  · rw [he] at h; cases h; exact hne rfl
  · exact hnm hm

theorem get_wf (root : Val) (docs : List Val) (m v : Val) (hroot : Val.WF root) (hdocs : ∀ d ∈ docs, Val.WF d)
    (h : get root docs m = .ok v) : Val.WF v :=
  get_closed Val.WF (fun _ _ _ hm hg => wf_of_fget hm hg) docs hdocs root m v hroot h

theorem get_str_ne_unmodelled (root : Val) (docs : List Val) (s : String) (hs : parseRef s ≠ none) :
    get root docs (.str s) ≠ .error Err.unmodelled := by
  rw [get]
  exact fun h => hs ((getPathFromString_unmodelled_iff root docs s).1 h)

theorem getVar_ne_unmodelled (ec : Vars) (m : String) : getVar ec m ≠ .error Err.unmodelled := by
  unfold getVar
  cases fget ec m <;> exact nofun

theorem getWithVar_unmodelled_iff (root : Val) (docs : List Val) (ec : Vars) (m : String) :
    getWithVar root docs ec m = .error Err.unmodelled ↔ parseRef m = none := by
  unfold getWithVar
  rw [← getPathFromString_unmodelled_iff root docs m, ← get.eq_1]
  split
  · rename_i v hg
    rw [hg]; exact ⟨nofun, nofun⟩
  · rename_i hg
    rw [hg]; exact ⟨fun _ => rfl, fun _ => rfl⟩
  · rename_i e hne hg
    rw [hg]
    exact ⟨fun h => absurd h (getVar_ne_unmodelled ec m), fun h => absurd (by cases h; rfl) hne⟩

end Bkl.Gen.Lib
