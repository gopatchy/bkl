/-
  BklProofs.Lemmas.ToolsIntersect — C16 (bkli): `intersect` case by case, and the relation
  `Sub r v`: `r` is a (marker-tolerant) sub-document of `v`, that is
      `r = "$required"`, or both maps and every key of `r` is in `v` with `Sub` of the values,
      or both lists and (`r = ["$required"]` or every entry of `r` occurs in `v`), or `r = v`.
-/
import BklProofs.Lemmas.Tools
import BklProofs.Lemmas.Order
namespace Bkl

/-! ## the sub-document relation -/

mutual
def subB : Val → Val → Bool
  | .str s, v => s == "$required" || v == .str s
  | .map rm, v => match v with
    | .map vm => subFieldsB rm vm
    | _ => false
  | .list rl, v => match v with
    | .list vl => rl == [Val.str "$required"] || rl.all (fun x => vl.contains x)
    | _ => false
  | .null, v => v == .null
  | .bool b, v => v == .bool b
  | .int i, v => v == .int i
  | .flt f, v => v == .flt f
def subFieldsB : Fields → Fields → Bool
  | [], _ => true
  | (k, x) :: rest, vm =>
    (match fget vm k with
     | some y => subB x y
     | none => false) && subFieldsB rest vm
end

/-- `r` is a marker-tolerant sub-document of `v` -/
def Sub (r v : Val) : Prop := subB r v = true

instance (r v : Val) : Decidable (Sub r v) := by unfold Sub; infer_instance

theorem subFieldsB_iff {rm vm : Fields} :
    subFieldsB rm vm = true ↔ ∀ p ∈ rm, ∃ y, fget vm p.1 = some y ∧ Sub p.2 y := by
  induction rm with
  | nil => simp [subFieldsB]
  | cons hd tl ih =>
    obtain ⟨k, x⟩ := hd
    simp only [subFieldsB, Bool.and_eq_true, ih, List.mem_cons, forall_eq_or_imp, Sub]
    refine and_congr_left fun _ => ?_
    cases fget vm k with
    | none => exact ⟨nofun, fun ⟨_, h, _⟩ => nomatch h⟩
    | some y => exact ⟨fun h => ⟨y, rfl, h⟩, fun ⟨_, h, h'⟩ => by cases h; exact h'⟩

theorem Sub_str_iff {s : String} {v : Val} :
    Sub (.str s) v ↔ s = "$required" ∨ v = .str s := by
  simp [Sub, subB]

theorem Sub_required (v : Val) : Sub (.str "$required") v := Sub_str_iff.2 (Or.inl rfl)

theorem Sub_map_iff {rm : Fields} {v : Val} :
    Sub (.map rm) v ↔ ∃ vm, v = .map vm ∧ ∀ p ∈ rm, ∃ y, fget vm p.1 = some y ∧ Sub p.2 y := by
  cases v with
  | map vm =>
    simp only [Sub, subB, Val.map.injEq, exists_eq_left']
    exact subFieldsB_iff
  | _ => simp only [Sub, subB, Bool.false_eq_true, reduceCtorEq, false_and, exists_false]

theorem Sub_list_iff {rl : List Val} {v : Val} :
    Sub (.list rl) v ↔
      ∃ vl, v = .list vl ∧ (rl = [Val.str "$required"] ∨ ∀ x ∈ rl, x ∈ vl) := by
  cases v with
  | list vl =>
    simp only [Sub, subB, Bool.or_eq_true, beq_iff_eq, List.all_eq_true, List.contains_iff_mem,
      Val.list.injEq, exists_eq_left']
  | _ => simp only [Sub, subB, Bool.false_eq_true, reduceCtorEq, false_and, exists_false]

theorem Sub_scalar_refl (v : Val) (h1 : v.isMap = false) (h2 : v.isList = false) : Sub v v := by
  cases v with
  | map m => cases h1
  | list l => cases h2
  | _ => simp [Sub, subB]

/-- reflexivity (on well-formed values: a key must be found by `fget`) -/
theorem Sub_refl (v : Val) (hv : Val.WF v) : Sub v v := by
  induction v using Val.induction_mem_atom with
  | scalar v h1 h2 => exact Sub_scalar_refl v h1 h2
  | list l => exact Sub_list_iff.2 ⟨l, rfl, Or.inr (fun x hx => hx)⟩
  | map m ih =>
    exact Sub_map_iff.2 ⟨m, rfl, fun p hp =>
      ⟨p.2, fget_of_mem_sorted (wf_map_iff.1 hv).1 hp, ih p hp ((wf_map_iff.1 hv).2 p hp)⟩⟩

/-! ## unfolding `intersect` -/

theorem intersect_null_right (a : Val) : intersect a .null = .null := by
  rw [intersect]

theorem intersect_null_left (b : Val) : intersect .null b = .null := by
  cases b <;> simp [intersect]

theorem intersect_map_map (am bm : Fields) :
    intersect (.map am) (.map bm) = .map (intersectFields am bm) := by
  rw [intersect]

theorem intersect_map_other (am : Fields) (b : Val) (h1 : b ≠ .null) (h2 : b.isMap = false) :
    intersect (.map am) b = .str "$required" := by
  rw [intersect]
  · exact h1
  · rintro bm rfl; cases h2

def listCommon (al bl : List Val) : List Val := al.filter (fun v1 => bl.any (fun v2 => v1 == v2))

theorem intersect_list_list (al bl : List Val) :
    intersect (.list al) (.list bl) =
      if ((listCommon al bl).isEmpty && decide (al.length + bl.length > 0)) = true
      then .list [.str "$required"] else .list (listCommon al bl) := by
  rw [intersect]; rfl

theorem intersect_list_other (al : List Val) (b : Val) (h1 : b ≠ .null) (h2 : b.isList = false) :
    intersect (.list al) b = .str "$required" := by
  rw [intersect]
  · exact h1
  · rintro bl rfl; cases h2

theorem intersect_scalar (a b : Val) (ha : a.isScalar = true) (hb : b ≠ .null) :
    intersect a b = if (a == b) = true then a else .str "$required" := by
  rw [intersect]
  · exact hb
  · rintro am rfl; cases ha
  · rintro al rfl; cases ha
  · rintro rfl; cases ha

theorem intersect_required {a b : Val} (ha : a ≠ .null) (hb : b ≠ .null)
    (h1 : (a.isMap && b.isMap) = false) (h2 : (a.isList && b.isList) = false) (hne : a ≠ b) :
    intersect a b = .str "$required" := by
  cases a with
  | null => exact absurd rfl ha
  | map am => exact intersect_map_other am b hb h1
  | list al => exact intersect_list_other al b hb h2
  | _ => rw [intersect_scalar _ _ rfl hb, beq_eq_false_iff_ne.2 hne]; rfl

theorem intersect_same {a : Val} (h1 : a.isMap = false) (h2 : a.isList = false) :
    intersect a a = a := by
  cases a with
  | map am => cases h1
  | list al => cases h2
  | _ => simp [intersect]

theorem mem_listCommon {al bl : List Val} {x : Val} :
    x ∈ listCommon al bl ↔ x ∈ al ∧ x ∈ bl := by
  simp [listCommon, List.mem_filter]

theorem listCommon_self (l : List Val) : listCommon l l = l :=
  List.filter_eq_self.2 fun x hx => List.any_eq_true.2 ⟨x, hx, beq_self_eq_true x⟩

/-! ## `intersectFields`, key by key -/

theorem intersectAt_eq_some {x r : Val} {o : Option Val} (h : intersectAt x o = some r) :
    ∃ y, o = some y ∧ r = intersect x y := by
  cases o with
  | none => cases h
  | some y =>
    refine ⟨y, rfl, ?_⟩
    simp only [intersectAt] at h
    split at h
    · rename_i hnn
      cases h
      rw [(isNull_iff.1 (Bool.and_eq_true_iff.1 hnn).2), intersect_null_right]
    · split at h <;> cases h
      rfl

theorem intersectAt_of_not_null {x y : Val} (hr : (intersect x y).isNull = false) :
    intersectAt x (some y) = some (intersect x y) := by
  have hnn : (x.isNull && y.isNull) = false := by
    cases hn : y.isNull with
    | false => exact Bool.and_false _
    | true => rw [isNull_iff.1 hn, intersect_null_right] at hr; cases hr
  simp only [intersectAt, hnn, hr, Bool.false_eq_true, if_false]

theorem mem_intersectFields {am bm : Fields} {k : String} {r : Val}
    (h : (k, r) ∈ intersectFields am bm) :
    ∃ x y, (k, x) ∈ am ∧ fget bm k = some y ∧ r = intersect x y := by
  rw [intersectFields_eq, mem_filterMapVal] at h
  obtain ⟨x, hm, he⟩ := h
  obtain ⟨y, hy, hr⟩ := intersectAt_eq_some he
  exact ⟨x, y, hm, hy, hr⟩

theorem fget_intersectFields {am bm : Fields} {k : String} {x y : Val}
    (hx : fget am k = some x) (hy : fget bm k = some y)
    (hr : (intersect x y).isNull = false) :
    fget (intersectFields am bm) k = some (intersect x y) := by
  rw [intersectFields_eq]
  exact fget_filterMapVal_of_some hx (by rw [hy, intersectAt_of_not_null hr])

theorem sorted_intersectFields {am : Fields} (bm : Fields) (hs : Fields.SortedKeys am) :
    Fields.SortedKeys (intersectFields am bm) := by
  rw [intersectFields_eq]
  exact sorted_filterMapVal _ hs

/-- the keys of the intersection are keys of the first input -/
theorem fget_intersectFields_none {am bm : Fields} {k : String} (h : fget am k = none) :
    fget (intersectFields am bm) k = none := by
  rw [intersectFields_eq]
  exact fget_filterMapVal_of_none h

/-! ## `intersect`, case by case -/

/-- A property of `a`, `b` and `intersect a b` holds for all `a`, `b` if it holds in each of
    the situations that intersect.go distinguishes; for two maps it may be assumed of the values
    under every common key. -/
theorem intersect_induction {P : Val → Val → Val → Prop}
    (null : ∀ a b, a = .null ∨ b = .null → P a b .null)
    (map : ∀ am bm,
      (∀ k x y, (k, x) ∈ am → fget bm k = some y → P x y (intersect x y)) →
      P (.map am) (.map bm) (.map (intersectFields am bm)))
    (list_none : ∀ al bl, listCommon al bl = [] → 0 < al.length + bl.length →
      P (.list al) (.list bl) (.list [.str "$required"]))
    (list_some : ∀ al bl, P (.list al) (.list bl) (.list (listCommon al bl)))
    (same : ∀ a, a.isMap = false → a.isList = false → P a a a)
    (required : ∀ a b, a ≠ .null → b ≠ .null → a ≠ b → P a b (.str "$required"))
    (a b : Val) : P a b (intersect a b) := by
  have other : ∀ {a b : Val}, (a.isMap && b.isMap) = false → (a.isList && b.isList) = false →
      P a b (intersect a b) := by
    intro a b h1 h2
    by_cases hb : b = .null
    · rw [hb, intersect_null_right]; exact null _ _ (.inr rfl)
    by_cases ha : a = .null
    · rw [ha, intersect_null_left]; exact null _ _ (.inl rfl)
    by_cases hab : a = b
    · subst hab
      rw [Bool.and_self] at h1 h2
      rw [intersect_same h1 h2]; exact same a h1 h2
    · rw [intersect_required ha hb h1 h2 hab]; exact required a b ha hb hab
  induction a using Val.induction_mem_atom generalizing b with
  | scalar a h1 h2 => exact other (by rw [h1]; rfl) (by rw [h2]; rfl)
  | list al =>
    cases b with
    | list bl =>
      rw [intersect_list_list]
      split
      · rename_i h
        rw [Bool.and_eq_true, List.isEmpty_iff, decide_eq_true_eq] at h
        exact list_none al bl h.1 h.2
      · exact list_some al bl
    | _ => exact other rfl rfl
  | map am ih =>
    cases b with
    | map bm => rw [intersect_map_map]; exact map am bm fun k x y hx _ => ih (k, x) hx y
    | _ => exact other rfl rfl

theorem intersect_isNull {a b : Val} (ha : a ≠ .null) (hb : b ≠ .null) :
    (intersect a b).isNull = false :=
  intersect_induction (P := fun a b r => a ≠ .null → b ≠ .null → r.isNull = false)
    (null := fun _ _ h ha hb => h.elim (absurd · ha) (absurd · hb))
    (map := fun _ _ _ _ _ => rfl)
    (list_none := fun _ _ _ _ _ _ => rfl)
    (list_some := fun _ _ _ _ => rfl)
    (same := fun _ _ _ ha _ => Bool.eq_false_iff.2 (mt isNull_iff.1 ha))
    (required := fun _ _ _ _ _ _ _ => rfl)
    a b ha hb

/-! ## `intersect` preserves the input domain -/

/-- the result is made of parts of the first argument and markers -/
theorem intersect_wf (a b : Val) (ha : Val.WF a) : Val.WF (intersect a b) :=
  intersect_induction (P := fun a _ r => Val.WF a → Val.WF r)
    (null := fun _ _ _ _ => rfl)
    (map := fun am bm ih ha =>
      wf_map_iff.2 ⟨sorted_intersectFields bm (wf_map_iff.1 ha).1, fun ⟨k, r⟩ hp => by
        obtain ⟨x, y, hx, hy, rfl⟩ := mem_intersectFields hp
        exact ih k x y hx hy ((wf_map_iff.1 ha).2 _ hx)⟩)
    (list_none := fun _ _ _ _ _ => rfl)
    (list_some := fun _ _ ha => wf_list_filter _ ha)
    (same := fun _ _ _ ha => ha)
    (required := fun _ _ _ _ _ _ => rfl)
    a b ha

theorem intersect_nullFree (a b : Val) (ha : a.nullFree = true) (hb : b.nullFree = true) :
    (intersect a b).nullFree = true :=
  intersect_induction (P := fun a b r => a.nullFree = true → b.nullFree = true → r.nullFree = true)
    (null := fun _ _ h ha hb =>
      h.elim (absurd · (nullFree_ne_null ha)) (absurd · (nullFree_ne_null hb)))
    (map := fun am bm ih ha hb => nullFree_map_iff.2 fun ⟨k, r⟩ hp => by
      obtain ⟨x, y, hx, hy, rfl⟩ := mem_intersectFields hp
      exact ih k x y hx hy (nullFree_map_iff.1 ha _ hx) (nullFree_map_iff.1 hb _ (fget_mem hy)))
    (list_none := fun _ _ _ _ _ _ => rfl)
    (list_some := fun _ _ ha _ =>
      nullFree_list_iff.2 fun x hx => nullFree_list_iff.1 ha x (mem_listCommon.1 hx).1)
    (same := fun _ _ _ ha _ => ha)
    (required := fun _ _ _ _ _ _ _ => rfl)
    a b ha hb

/-! ## idempotence -/

theorem intersect_self (v : Val) (hv : Val.WF v) (hn : v.nullFree = true) :
    intersect v v = v :=
  intersect_induction
    (P := fun a b r => a = b → Val.WF a → a.nullFree = true → r = a)
    (null := fun _ _ h e _ hn =>
      absurd (h.elim id (e.trans ·)) (nullFree_ne_null hn))
    (map := fun am bm ih e hv hn => by
      cases e
      have hs := (wf_map_iff.1 hv).1
      refine congrArg Val.map (sorted_ext (sorted_intersectFields am hs) hs fun k => ?_)
      cases hg : fget am k with
      | none => exact fget_intersectFields_none hg
      | some x =>
        have hx := nullFree_map_iff.1 hn _ (fget_mem hg)
        have hi := ih k x x (fget_mem hg) hg rfl (wf_of_fget hv hg) hx
        rw [← hi] at hx
        rw [fget_intersectFields hg hg (nullFree_isNull hx), hi])
    (list_none := fun al bl hc hl e _ _ => by
      cases e
      rw [listCommon_self] at hc
      rw [hc] at hl
      cases hl)
    (list_some := fun al bl e _ _ => by cases e; rw [listCommon_self])
    (same := fun _ _ _ _ _ _ => rfl)
    (required := fun _ _ _ _ hne e => absurd e hne)
    v v rfl hv hn

/-! ## the result is a sub-document of both inputs -/

theorem Sub_intersect_left (a b : Val) (ha : Val.WF a) (han : a.nullFree = true)
    (hbn : b.nullFree = true) : Sub (intersect a b) a :=
  intersect_induction
    (P := fun a b r => Val.WF a → a.nullFree = true → b.nullFree = true → Sub r a)
    (null := fun _ _ h _ ha hb =>
      h.elim (absurd · (nullFree_ne_null ha)) (absurd · (nullFree_ne_null hb)))
    (map := fun am bm ih ha han hbn => Sub_map_iff.2 ⟨am, rfl, fun ⟨k, r⟩ hp => by
      obtain ⟨x, y, hx, hy, rfl⟩ := mem_intersectFields hp
      exact ⟨x, fget_of_mem_sorted (wf_map_iff.1 ha).1 hx,
        ih k x y hx hy ((wf_map_iff.1 ha).2 _ hx) (nullFree_map_iff.1 han _ hx)
          (nullFree_map_iff.1 hbn _ (fget_mem hy))⟩⟩)
    (list_none := fun al _ _ _ _ _ _ => Sub_list_iff.2 ⟨al, rfl, .inl rfl⟩)
    (list_some := fun al _ _ _ _ =>
      Sub_list_iff.2 ⟨al, rfl, .inr fun x hx => (mem_listCommon.1 hx).1⟩)
    (same := fun a h1 h2 _ _ _ => Sub_scalar_refl a h1 h2)
    (required := fun a _ _ _ _ _ _ _ => Sub_required a)
    a b ha han hbn

theorem Sub_intersect_right (a b : Val) (han : a.nullFree = true) (hbn : b.nullFree = true) :
    Sub (intersect a b) b :=
  intersect_induction
    (P := fun a b r => a.nullFree = true → b.nullFree = true → Sub r b)
    (null := fun _ _ h ha hb =>
      h.elim (absurd · (nullFree_ne_null ha)) (absurd · (nullFree_ne_null hb)))
    (map := fun am bm ih han hbn => Sub_map_iff.2 ⟨bm, rfl, fun ⟨k, r⟩ hp => by
      obtain ⟨x, y, hx, hy, rfl⟩ := mem_intersectFields hp
      exact ⟨y, hy, ih k x y hx hy (nullFree_map_iff.1 han _ hx)
        (nullFree_map_iff.1 hbn _ (fget_mem hy))⟩⟩)
    (list_none := fun _ bl _ _ _ _ => Sub_list_iff.2 ⟨bl, rfl, .inl rfl⟩)
    (list_some := fun _ bl _ _ =>
      Sub_list_iff.2 ⟨bl, rfl, .inr fun x hx => (mem_listCommon.1 hx).2⟩)
    (same := fun a h1 h2 _ _ => Sub_scalar_refl a h1 h2)
    (required := fun _ b _ _ _ _ _ => Sub_required b)
    a b han hbn

theorem Sub_intersect_mono (a b v : Val) (ha : plainVal a = true) (h : Sub b v) :
    Sub (intersect a b) v :=
  intersect_induction
    (P := fun a b r => plainVal a = true → ∀ v, Sub b v → Sub r v)
    (null := fun _ _ hn ha v h => by
      rcases hn with rfl | rfl
      · cases ha
      · exact h)
    (map := fun am bm ih ha v h => by
      obtain ⟨vm, rfl, hsub⟩ := Sub_map_iff.1 h
      refine Sub_map_iff.2 ⟨vm, rfl, ?_⟩
      rintro ⟨k, r⟩ hp
      obtain ⟨x, y, hx, hy, rfl⟩ := mem_intersectFields hp
      obtain ⟨z, hz, hyz⟩ := hsub (k, y) (fget_mem hy)
      exact ⟨z, hz, ih k x y hx hy ((plainVal_map_iff.1 ha).2 _ hx).2 z hyz⟩)
    (list_none := fun _ _ _ _ _ v h => by
      obtain ⟨vl, rfl, _⟩ := Sub_list_iff.1 h
      exact Sub_list_iff.2 ⟨vl, rfl, .inl rfl⟩)
    (list_some := fun al bl ha v h => by
      obtain ⟨vl, rfl, hsub⟩ := Sub_list_iff.1 h
      refine Sub_list_iff.2 ⟨vl, rfl, .inr fun x hx => ?_⟩
      obtain ⟨hxa, hxb⟩ := mem_listCommon.1 hx
      rcases hsub with hreq | hsub
      · -- the accumulated list is the marker list: a plain input has no such entry
        rw [hreq, List.mem_singleton] at hxb
        exact absurd hxb
          (plainVal_ne_str_dollar (plainVal_list_iff.1 ha x hxa) (by decide))
      · exact hsub x hxb)
    (same := fun _ _ _ _ _ h => h)
    (required := fun _ _ _ _ _ _ v _ => Sub_required v)
    a b ha v h

/-! ## the bkli main loop -/

/-- invariant of `doc = intersect(next, doc)`: the accumulated result stays well-formed and
    null-free and is a sub-document of every input seen so far -/
theorem foldl_intersect_sub (rest : List Val) (acc : Val) (seen : List Val)
    (hwf : Val.WF acc) (hnf : acc.nullFree = true) (hseen : ∀ x ∈ seen, Sub acc x)
    (hrest : ∀ x ∈ rest, plainVal x = true) :
    Val.WF (rest.foldl (fun acc next => intersect next acc) acc) ∧
    (rest.foldl (fun acc next => intersect next acc) acc).nullFree = true ∧
    ∀ x, x ∈ seen ∨ x ∈ rest → Sub (rest.foldl (fun acc next => intersect next acc) acc) x := by
  induction rest generalizing acc seen with
  | nil =>
    refine ⟨hwf, hnf, ?_⟩
    rintro x (hx | hx)
    · exact hseen x hx
    · cases hx
  | cons next tl ih =>
    have hnext := hrest next List.mem_cons_self
    have hnwf := plainVal_wf hnext
    have hnnf := plainVal_nullFree hnext
    rw [List.foldl_cons]
    obtain ⟨h1, h2, h3⟩ := ih (intersect next acc) (next :: seen) (intersect_wf _ _ hnwf)
      (intersect_nullFree _ _ hnnf hnf)
      (by
        intro x hx
        rcases List.mem_cons.1 hx with rfl | hx
        · exact Sub_intersect_left _ _ hnwf hnnf hnf
        · exact Sub_intersect_mono _ _ _ hnext (hseen x hx))
      (fun x hx => hrest x (List.mem_cons_of_mem _ hx))
    refine ⟨h1, h2, ?_⟩
    rintro x (hx | hx)
    · exact h3 x (Or.inl (List.mem_cons_of_mem _ hx))
    · rcases List.mem_cons.1 hx with rfl | hx
      · exact h3 _ (Or.inl List.mem_cons_self)
      · exact h3 x (Or.inr hx)

theorem intersectAll_sub (vs : List Val) (h : ∀ x ∈ vs, plainVal x = true) :
    (vs ≠ [] → Val.WF (intersectAll vs) ∧ (intersectAll vs).nullFree = true) ∧
    ∀ x ∈ vs, Sub (intersectAll vs) x := by
  cases vs with
  | nil => exact ⟨fun h => absurd rfl h, fun x hx => by cases hx⟩
  | cons first rest =>
    have hf := h first List.mem_cons_self
    obtain ⟨h1, h2, h3⟩ := foldl_intersect_sub rest first [first] (plainVal_wf hf)
      (plainVal_nullFree hf)
      (by intro x hx; rw [List.mem_singleton.1 hx]; exact Sub_refl _ (plainVal_wf hf))
      (fun x hx => h x (List.mem_cons_of_mem _ hx))
    refine ⟨fun _ => ⟨h1, h2⟩, fun x hx => ?_⟩
    rcases List.mem_cons.1 hx with rfl | hx
    · exact h3 _ (Or.inl List.mem_cons_self)
    · exact h3 x (Or.inr hx)

/-- the same input any number of times -/
theorem intersectAll_replicate (v : Val) (hv : Val.WF v) (hn : v.nullFree = true) (n : Nat) :
    intersectAll (List.replicate (n + 1) v) = v := by
  show (List.replicate n v).foldl (fun acc next => intersect next acc) v = v
  induction n with
  | zero => rfl
  | succ n ih => rw [List.replicate_succ, List.foldl_cons, intersect_self v hv hn, ih]

theorem foldl_intersect_isMap (rest : List Val) (acc : Val) (hacc : acc.isMap = true)
    (hrest : ∀ x ∈ rest, x.isMap = true) :
    (rest.foldl (fun acc next => intersect next acc) acc).isMap = true := by
  induction rest generalizing acc with
  | nil => exact hacc
  | cons next tl ih =>
    rw [List.foldl_cons]
    apply ih _ _ (fun x hx => hrest x (List.mem_cons_of_mem _ hx))
    have hn := hrest next List.mem_cons_self
    cases next with
    | map am =>
      cases acc with
      | map bm => rw [intersect_map_map]; rfl
      | _ => cases hacc
    | _ => cases hn

theorem intersectAll_isMap (vs : List Val) (hne : vs ≠ []) (h : ∀ x ∈ vs, x.isMap = true) :
    ∃ bm, intersectAll vs = .map bm := by
  cases vs with
  | nil => exact absurd rfl hne
  | cons first rest =>
    have := foldl_intersect_isMap rest first (h first List.mem_cons_self)
      (fun x hx => h x (List.mem_cons_of_mem _ hx))
    show ∃ bm, rest.foldl (fun acc next => intersect next acc) first = .map bm
    cases hr : rest.foldl (fun acc next => intersect next acc) first with
    | map bm => exact ⟨bm, rfl⟩
    | _ => rw [hr] at this; cases this

/-! ### shared non-vacuity witnesses -/

def C16_a : Val :=
  .map [("img", .str "nginx"), ("name", .str "a"), ("ports", .list [.int 80, .int 443]),
        ("res", .map [("cpu", .int 1), ("mem", .str "1G")]), ("tags", .list [.str "x"])]
def C16_b : Val :=
  .map [("img", .str "nginx"), ("name", .str "b"), ("ports", .list [.int 80]),
        ("res", .map [("cpu", .int 1), ("mem", .str "2G")]), ("tags", .list [.str "y"])]
def C16_c : Val :=
  .map [("img", .str "nginx"), ("name", .str "c"), ("ports", .list [.int 80, .int 8080]),
        ("res", .list [.int 1]), ("tags", .list [.str "y"])]

theorem C16_witness_plain :
    plainVal C16_a = true ∧ plainVal C16_b = true ∧ plainVal C16_c = true := by
  decide +kernel

theorem C16_witness_all : ∀ x ∈ [C16_a, C16_b, C16_c], plainVal x = true :=
  List.forall_mem_cons.2 ⟨C16_witness_plain.1, List.forall_mem_cons.2 ⟨C16_witness_plain.2.1,
    List.forall_mem_cons.2 ⟨C16_witness_plain.2.2, fun _ h => nomatch h⟩⟩⟩

end Bkl
