/-
  BklProofs.Lemmas.FilesWalk — `rootProbe` is the one walk over path components: `rootWalk` is the probe with `missing` and `refused`
  read alike (`rootWalk_eq_probe`), `filepath.EvalSymlinks` takes the probe's steps wherever the probe is not refused
  (`resolve_eq_probe`).  So confinement, congruence (`agreeInside`) and what every operation answers in a directory reached
  without symlinks (`PlainDir`) are facts about the probe.
-/
import BklProofs.Lemmas.FilesPath
import BklProofs.Lemmas.List
namespace Bkl

/-! ## the `os.Root` walk and the probe -/

theorem rootWalk_zero (fs : FS) (root cur : Comps) (todo : List String) {links : Nat} :
    fs.rootWalk root 0 links cur todo = .error .other := rfl

theorem rootWalk_nil (fs : FS) (root cur : Comps) (fuel : Nat) {links : Nat} :
    fs.rootWalk root (fuel + 1) links cur [] = .ok cur := rfl

theorem rootWalk_cons (fs : FS) (root cur : Comps) (fuel : Nat) (c : String) (rest : List String)
    {links : Nat} :
    fs.rootWalk root (fuel + 1) links cur (c :: rest) =
      if c == "." || c == "" then fs.rootWalk root fuel links cur rest
      else if c == ".." then
        if cur.length ≤ root.length then .error .other
        else fs.rootWalk root fuel links cur.dropLast rest
      else
        match fs.lstat (cur ++ [c]) with
        | none => .error .other
        | some (.link t) =>
          if isAbsPath t then .error .other
          else if links ≥ rootMaxSymlinks then .error .other
          else fs.rootWalk root fuel (links + 1) cur (splitPath t ++ rest)
        | some _ => fs.rootWalk root fuel links (cur ++ [c]) rest := by
  rw [FS.rootWalk]
  rfl

theorem rootProbe_zero (fs : FS) (root cur : Comps) (todo : List String) {links : Nat} :
    fs.rootProbe root 0 links cur todo = .refused := rfl

theorem rootProbe_nil (fs : FS) (root cur : Comps) (fuel : Nat) {links : Nat} :
    fs.rootProbe root (fuel + 1) links cur [] = .found cur := rfl

theorem rootProbe_cons (fs : FS) (root cur : Comps) (fuel : Nat) (c : String) (rest : List String)
    {links : Nat} :
    fs.rootProbe root (fuel + 1) links cur (c :: rest) =
      if c == "." || c == "" then fs.rootProbe root fuel links cur rest
      else if c == ".." then
        if cur.length ≤ root.length then .refused
        else fs.rootProbe root fuel links cur.dropLast rest
      else
        match fs.lstat (cur ++ [c]) with
        | none => .missing
        | some (.link t) =>
          if isAbsPath t then .refused
          else if links ≥ rootMaxSymlinks then .refused
          else fs.rootProbe root fuel (links + 1) cur (splitPath t ++ rest)
        | some _ => fs.rootProbe root fuel links (cur ++ [c]) rest := by
  rw [FS.rootProbe]
  rfl

theorem rootWalk_eq_probe (fs : FS) (root : Comps) (fuel links : Nat) (cur : Comps)
    (todo : List String) :
    fs.rootWalk root fuel links cur todo =
      match fs.rootProbe root fuel links cur todo with
      | .found real => .ok real
      | _ => .error .other := by
  fun_induction FS.rootWalk fs root fuel links cur todo
  case case1 => rfl
  case case2 => rfl
  case case3 h1 ih => rw [rootProbe_cons, if_pos h1]; exact ih
  case case4 h1 h2 hl => rw [rootProbe_cons, if_neg h1, if_pos h2, if_pos hl]; rfl
  case case5 h1 h2 hl ih => rw [rootProbe_cons, if_neg h1, if_pos h2, if_neg hl]; exact ih
  case case6 h1 h2 _ hx => rw [rootProbe_cons, if_neg h1, if_neg h2, hx]; rfl
  case case7 h1 h2 _ t hx ha =>
    rw [rootProbe_cons, if_neg h1, if_neg h2, hx]; simp only [if_pos ha]; rfl
  case case8 h1 h2 _ t hx ha hk =>
    rw [rootProbe_cons, if_neg h1, if_neg h2, hx]; simp only [if_neg ha, if_pos hk]; rfl
  case case9 h1 h2 _ t hx ha hk ih =>
    rw [rootProbe_cons, if_neg h1, if_neg h2, hx]; simp only [if_neg ha, if_neg hk]; exact ih
  case case10 h1 h2 _ n hn hx ih =>
    rw [rootProbe_cons, if_neg h1, if_neg h2, hx]
    cases n with
    | link t => exact absurd rfl (hn t)
    | _ => exact ih

/-- two file systems that answer `lstat` alike at and below `root` -/
def agreeInside (root : Comps) (fs₁ fs₂ : FS) : Prop := ∀ p, root <+: p → fs₁.lstat p = fs₂.lstat p

theorem rootProbe_congr (fs₁ fs₂ : FS) (root : Comps) (hag : agreeInside root fs₁ fs₂) :
    ∀ (fuel : Nat) {links : Nat} (cur : Comps) (todo : List String), root <+: cur →
      fs₁.rootProbe root fuel links cur todo = fs₂.rootProbe root fuel links cur todo := by
  intro fuel
  induction fuel with
  | zero => intro links cur todo _; rfl
  | succ n ih =>
    intro links cur todo hp
    cases todo with
    | nil => rfl
    | cons c rest =>
      -- the recursive calls at `cur` and `cur ++ [c]` are inside the root as they stand;
      -- the one at `cur.dropLast` is only reached when `cur` is longer than the root
      rw [rootProbe_cons, rootProbe_cons, hag (cur ++ [c]) (List.prefix_append_of_prefix hp)]
      simp only [ih cur _ hp, ih (cur ++ [c]) _ (List.prefix_append_of_prefix hp)]
      by_cases hl : cur.length ≤ root.length
      · rw [if_pos hl, if_pos hl]
      · rw [ih cur.dropLast rest (prefix_dropLast_of_length_lt hp (by omega))]

theorem rootWalk_congr (fs₁ fs₂ : FS) (root : Comps) (hag : agreeInside root fs₁ fs₂) :
    ∀ (fuel : Nat) {links : Nat} (cur : Comps) (todo : List String), root <+: cur →
      fs₁.rootWalk root fuel links cur todo = fs₂.rootWalk root fuel links cur todo :=
  fun fuel _ cur todo hp => by
    rw [rootWalk_eq_probe, rootWalk_eq_probe, rootProbe_congr fs₁ fs₂ root hag fuel cur todo hp]

/-! ## `EvalSymlinks` takes the steps of the probe -/

theorem resolve_succ_cons (fs : FS) (fuel : Nat) (done : Comps) (c : String) (rest : List String) :
    fs.resolve (fuel + 1) done (c :: rest) =
      if c == "." || c == "" then fs.resolve fuel done rest
      else if c == ".." then fs.resolve fuel done.dropLast rest
      else
        match fs.lstat (done ++ [c]) with
        | none => none
        | some (.link t) =>
          if isAbsPath t then fs.resolve fuel [] (splitPath t ++ rest)
          else fs.resolve fuel done (splitPath t ++ rest)
        | some _ => fs.resolve fuel (done ++ [c]) rest := by
  rw [FS.resolve]
  rfl

theorem c18e_resolve_zero (fs : FS) (done : Comps) (todo : List String) :
    fs.resolve 0 done todo = none := rfl

theorem c18e_resolve_nil (fs : FS) (fuel : Nat) (done : Comps) :
    fs.resolve (fuel + 1) done [] = some done := rfl

def Probe.real? : Probe → Option Comps
  | .found r => some r
  | _ => none

theorem ne_refused_of_found {p : Probe} {r : Comps} (h : p = .found r) : p ≠ .refused :=
  fun e => nomatch h.symm.trans e

theorem rootProbe_of_rootWalk {fs : FS} {root cur real : Comps} {fuel links : Nat}
    {todo : List String} (h : fs.rootWalk root fuel links cur todo = .ok real) :
    fs.rootProbe root fuel links cur todo = .found real := by
  rw [rootWalk_eq_probe] at h
  cases hp : fs.rootProbe root fuel links cur todo <;> rw [hp] at h <;> cases h
  rfl

/-- `filepath.EvalSymlinks` takes the steps of the `os.Root` walk as long as that walk is not
    refused (the two recursions differ only in the refusals), whatever fuel either has. -/
theorem resolve_eq_probe (fs : FS) (root : Comps) (fuel links : Nat) (cur : Comps)
    (todo : List String) (h : fs.rootProbe root fuel links cur todo ≠ .refused) (fuel' : Nat) :
    fs.resolve fuel' cur todo = (fs.rootProbe root fuel' links cur todo).real? := by
  fun_induction FS.rootProbe fs root fuel links cur todo generalizing fuel'
  case case1 => exact absurd rfl h
  case case2 => cases fuel' <;> rfl
  all_goals cases fuel' with
    | zero => rfl
    | succ m => ?_
  all_goals rw [resolve_succ_cons, rootProbe_cons]
  case case3 h1 ih => rw [if_pos h1, if_pos h1]; exact ih h m
  case case4 => exact absurd rfl h
  case case5 h1 h2 hl ih =>
    rw [if_neg h1, if_neg h1, if_pos h2, if_pos h2, if_neg hl]; exact ih h m
  case case6 h1 h2 _ hx => rw [if_neg h1, if_neg h1, if_neg h2, if_neg h2, hx]; rfl
  case case7 => exact absurd rfl h
  case case8 => exact absurd rfl h
  case case9 h1 h2 _ t hx ha hk ih =>
    rw [if_neg h1, if_neg h1, if_neg h2, if_neg h2, hx]
    simp only [if_neg ha, if_neg hk]
    exact ih h m
  case case10 h1 h2 _ n hn hx ih =>
    rw [if_neg h1, if_neg h1, if_neg h2, if_neg h2, hx]
    cases n with
    | link t => exact absurd rfl (hn t)
    | _ => exact ih h m

/-- an answer other than `refused` does not depend on the fuel left over -/
theorem rootProbe_mono (fs : FS) (root : Comps) (fuel links : Nat) (cur : Comps)
    (todo : List String) (h : fs.rootProbe root fuel links cur todo ≠ .refused) (k : Nat) :
    fs.rootProbe root (fuel + k) links cur todo = fs.rootProbe root fuel links cur todo := by
  fun_induction FS.rootProbe fs root fuel links cur todo
  case case1 => exact absurd rfl h
  case case2 => rw [Nat.succ_add]; rfl
  all_goals rw [Nat.succ_add, rootProbe_cons]
  case case3 h1 ih => rw [if_pos h1]; exact ih h
  case case5 h1 h2 hl ih => rw [if_neg h1, if_pos h2, if_neg hl]; exact ih h
  case case6 h1 h2 _ hx => rw [if_neg h1, if_neg h2, hx]
  case case9 h1 h2 _ t hx ha hk ih =>
    rw [if_neg h1, if_neg h2, hx]; simp only [if_neg ha, if_neg hk]; exact ih h
  case case10 h1 h2 _ n hn hx ih =>
    rw [if_neg h1, if_neg h2, hx]
    cases n with
    | link t => exact absurd rfl (hn t)
    | _ => exact ih h
  all_goals exact absurd rfl h

theorem rootProbe_inside (fs : FS) (root : Comps) (fuel links : Nat) (cur : Comps)
    (todo : List String) (real : Comps) (h : fs.rootProbe root fuel links cur todo = .found real)
    (hp : root <+: cur) : root <+: real := by
  fun_induction FS.rootProbe fs root fuel links cur todo
  case case2 => cases h; exact hp
  case case3 ih => exact ih h hp
  case case5 hl ih => exact ih h (prefix_dropLast_of_length_lt hp (by omega))
  case case9 ih => exact ih h hp
  case case10 ih => exact ih h (List.prefix_append_of_prefix hp)
  all_goals cases h

theorem rootWalk_inside (fs : FS) (root : Comps) (fuel : Nat) {links : Nat} (cur : Comps)
    (todo : List String) (real : Comps)
    (h : fs.rootWalk root fuel links cur todo = .ok real) (hp : root <+: cur) : root <+: real :=
  rootProbe_inside fs root fuel links cur todo real (rootProbe_of_rootWalk h) hp

theorem rootOpen_eq (fs : FS) (root : Comps) (rel : List String) :
    fs.rootOpen root rel =
      match fs.rootWalk root linkFuel 0 root rel with
      | .error e => .error e
      | .ok real =>
        match fs.lstat real with
        | some (.file docs) => docs
        | _ => .error .other := by
  unfold FS.rootOpen
  cases fs.rootWalk root linkFuel 0 root rel <;> rfl

theorem rootOpenDir_eq (fs : FS) (root : Comps) (rel : List String) :
    fs.rootOpenDir root rel =
      match fs.rootWalk root linkFuel 0 root rel with
      | .error e => .error e
      | .ok real =>
        match fs.lstat real with
        | some .dir => .ok real
        | _ => .error .other := by
  unfold FS.rootOpenDir
  cases fs.rootWalk root linkFuel 0 root rel <;> rfl

theorem setRoot_eq (fs : FS) (cfg : RootCfg) (path : String) :
    setRoot fs cfg path =
      match fs.rootOpenDir cfg.root (relTo cfg.root (absPath cfg.cwd path)) with
      | .error e => .error e
      | .ok _ => .ok { cfg with
          root := cleanComps (cfg.root ++ relTo cfg.root (absPath cfg.cwd path)) } := by
  unfold setRoot
  simp only []
  cases fs.rootOpenDir cfg.root (relTo cfg.root (absPath cfg.cwd path)) <;> rfl

theorem rootWalk_dotdot_at_root (fs : FS) (root : Comps) (fuel : Nat) (rest : List String)
    {links : Nat} :
    fs.rootWalk root (fuel + 1) links root (".." :: rest) = .error .other := by
  rw [rootWalk_cons]
  simp

theorem rootWalk_error (fs : FS) (root : Comps) (fuel links : Nat) (cur : Comps)
    (todo : List String) (e : Err) (h : fs.rootWalk root fuel links cur todo = .error e) :
    e = .other := by
  rw [rootWalk_eq_probe] at h
  cases hp : fs.rootProbe root fuel links cur todo <;> rw [hp] at h <;> cases h <;> rfl

/-- from the root, the relative form of a path outside the root starts with `..`, which the
    walk refuses -/
theorem rootWalk_relTo_outside (fs : FS) {root p : Comps} (h : ¬ root <+: p) (hr : root ≠ [])
    (fuel : Nat) {links : Nat} :
    fs.rootWalk root fuel links root (relTo root p) = .error .other := by
  cases fuel with
  | zero => rfl
  | succ n =>
    have hh : (relTo root p).head? = some ".." := relTo_strip_outside root p h hr
    cases hrel : relTo root p with
    | nil => rw [hrel] at hh; cases hh
    | cons a rest =>
      rw [hrel] at hh
      cases hh
      exact rootWalk_dotdot_at_root fs root n rest

theorem prefix_of_rootWalk_relTo {fs : FS} {root p real : Comps} {fuel links : Nat}
    (hw : fs.rootWalk root fuel links root (relTo root p) = .ok real) : root <+: p := by
  by_cases hr : root = []
  · rw [hr]; exact List.nil_prefix
  · by_contra hp
    rw [rootWalk_relTo_outside fs hp hr] at hw
    cases hw

/-! ## decidable equality on nodes (for `decide` on concrete file systems; on results: `instDecEqExcept`, Lemmas/Except.lean) -/

deriving instance DecidableEq for FNode

def FNode.isLink : FNode → Bool
  | .link _ => true
  | _ => false

/-! ## single steps of the walk (to evaluate it on concrete file systems, link by link) -/

theorem rootProbe_step_plain {fs : FS} {root cur : Comps} {fuel links : Nat} {c : String}
    {rest : List String} {n : FNode} (hc : plainComp c = true)
    (hl : fs.lstat (cur ++ [c]) = some n) (hn : n.isLink = false) :
    fs.rootProbe root (fuel + 1) links cur (c :: rest) =
      fs.rootProbe root fuel links (cur ++ [c]) rest := by
  rw [rootProbe_cons, (plainComp_tests hc).1, (plainComp_tests hc).2, hl]
  cases n with
  | link t => cases hn
  | _ => rfl

theorem rootProbe_step_missing {fs : FS} {root cur : Comps} {fuel links : Nat} {c : String}
    {rest : List String} (hc : plainComp c = true) (hl : fs.lstat (cur ++ [c]) = none) :
    fs.rootProbe root (fuel + 1) links cur (c :: rest) = .missing := by
  rw [rootProbe_cons, (plainComp_tests hc).1, (plainComp_tests hc).2, hl]
  rfl

theorem rootWalk_step_plain {fs : FS} {root cur : Comps} {fuel links : Nat} {c : String}
    {rest : List String} {n : FNode} (hc : plainComp c = true)
    (hl : fs.lstat (cur ++ [c]) = some n) (hn : n.isLink = false) :
    fs.rootWalk root (fuel + 1) links cur (c :: rest) =
      fs.rootWalk root fuel links (cur ++ [c]) rest := by
  rw [rootWalk_eq_probe, rootWalk_eq_probe, rootProbe_step_plain hc hl hn]

theorem rootProbe_step_link {fs : FS} {root cur : Comps} {fuel links : Nat} {c t : String}
    {rest ts : List String} (hc : plainComp c = true)
    (hl : fs.lstat (cur ++ [c]) = some (.link t)) (ha : isAbsPath t = false)
    (hs : splitPath t = ts) (hk : links < rootMaxSymlinks := by decide) :
    fs.rootProbe root (fuel + 1) links cur (c :: rest) =
      fs.rootProbe root fuel (links + 1) cur (ts ++ rest) := by
  rw [rootProbe_cons, (plainComp_tests hc).1, (plainComp_tests hc).2, hl]
  simp only [ha, hs, Bool.false_eq_true, if_false, ge_iff_le, Nat.not_le.2 hk]

theorem rootWalk_step_link {fs : FS} {root cur : Comps} {fuel links : Nat} {c t : String}
    {rest ts : List String} (hc : plainComp c = true)
    (hl : fs.lstat (cur ++ [c]) = some (.link t)) (ha : isAbsPath t = false)
    (hs : splitPath t = ts) (hk : links < rootMaxSymlinks := by decide) :
    fs.rootWalk root (fuel + 1) links cur (c :: rest) =
      fs.rootWalk root fuel (links + 1) cur (ts ++ rest) := by
  rw [rootWalk_eq_probe, rootWalk_eq_probe, rootProbe_step_link hc hl ha hs hk]

/-- the ninth link of one operation is refused (`ELOOP`) -/
theorem rootWalk_step_link_limit {fs : FS} {root cur : Comps} {fuel links : Nat} {c t : String}
    {rest : List String} (hc : plainComp c = true)
    (hl : fs.lstat (cur ++ [c]) = some (.link t)) (hk : rootMaxSymlinks ≤ links) :
    fs.rootWalk root (fuel + 1) links cur (c :: rest) = .error .other := by
  rw [rootWalk_cons, (plainComp_tests hc).1, (plainComp_tests hc).2, hl]
  simp only [ge_iff_le, hk, if_true, ite_self, Bool.false_eq_true, if_false]

theorem rootWalk_step_dotdot {fs : FS} {root cur : Comps} {fuel links : Nat} {rest : List String}
    (hl : root.length < cur.length) :
    fs.rootWalk root (fuel + 1) links cur (".." :: rest) =
      fs.rootWalk root fuel links cur.dropLast rest := by
  rw [rootWalk_cons, if_neg (by decide), if_pos (by decide), if_neg (Nat.not_le.2 hl)]

/-! ## walking through link-free directories -/

/-- every non-empty prefix of `t`, put after `done`, is an existing entry that is not a link -/
def NoLinksAlong (fs : FS) (done : Comps) (t : List String) : Prop :=
  (∀ c ∈ t, plainComp c = true) ∧
    ∀ t', t' ≠ [] → t' <+: t → ∃ n, fs.lstat (done ++ t') = some n ∧ n.isLink = false

theorem NoLinksAlong.tail {fs : FS} {done : Comps} {c : String} {t : List String}
    (h : NoLinksAlong fs done (c :: t)) : NoLinksAlong fs (done ++ [c]) t := by
  refine ⟨fun x hx => h.1 x (List.mem_cons_of_mem _ hx), ?_⟩
  intro t' hne hp
  have := h.2 (c :: t') (by simp) ((List.cons_prefix_cons).2 ⟨rfl, hp⟩)
  simpa using this

theorem NoLinksAlong.head {fs : FS} {done : Comps} {c : String} {t : List String}
    (h : NoLinksAlong fs done (c :: t)) :
    plainComp c = true ∧ ∃ n, fs.lstat (done ++ [c]) = some n ∧ n.isLink = false :=
  ⟨h.1 c List.mem_cons_self, h.2 [c] (by simp) ((List.cons_prefix_cons).2 ⟨rfl, List.nil_prefix⟩)⟩

theorem resolve_step_plain {fs : FS} {fuel : Nat} {done : Comps} {c : String} {rest : List String}
    {n : FNode} (hc : plainComp c = true) (hl : fs.lstat (done ++ [c]) = some n)
    (hn : n.isLink = false) :
    fs.resolve (fuel + 1) done (c :: rest) = fs.resolve fuel (done ++ [c]) rest := by
  rw [resolve_succ_cons, (plainComp_tests hc).1, (plainComp_tests hc).2, hl]
  cases n with
  | link t => cases hn
  | _ => rfl

theorem resolve_step_link {fs : FS} {fuel : Nat} {done : Comps} {c t : String}
    {rest ts : List String} (hc : plainComp c = true)
    (hl : fs.lstat (done ++ [c]) = some (.link t)) (ha : isAbsPath t = false)
    (hs : splitPath t = ts) :
    fs.resolve (fuel + 1) done (c :: rest) = fs.resolve fuel done (ts ++ rest) := by
  rw [resolve_succ_cons, (plainComp_tests hc).1, (plainComp_tests hc).2, hl]
  simp only [ha, hs, Bool.false_eq_true, if_false]

/-- walking down a link-free stretch `t` costs `t.length` steps, whatever the fuel -/
theorem rootProbe_down (fs : FS) (root : Comps) (t : List String) : ∀ (cur : Comps) (fuel : Nat)
    (rest : List String) {links : Nat}, NoLinksAlong fs cur t →
      fs.rootProbe root fuel links cur (t ++ rest) =
        fs.rootProbe root (fuel - t.length) links (cur ++ t) rest := by
  induction t with
  | nil => intro cur fuel rest links _; rw [List.append_nil]; rfl
  | cons c t ih =>
    intro cur fuel rest links h
    obtain ⟨hc, n, hl, hn⟩ := h.head
    cases fuel with
    | zero => rw [Nat.zero_sub]; rfl
    | succ m =>
      rw [List.cons_append, rootProbe_step_plain hc hl hn, ih _ m rest h.tail, List.length_cons,
        Nat.add_sub_add_right, List.append_assoc]
      rfl

theorem resolve_down (fs : FS) (t : List String) : ∀ (done : Comps) (fuel : Nat)
    (rest : List String), NoLinksAlong fs done t →
      fs.resolve fuel done (t ++ rest) = fs.resolve (fuel - t.length) (done ++ t) rest := by
  induction t with
  | nil => intro done fuel rest _; rw [List.append_nil]; rfl
  | cons c t ih =>
    intro done fuel rest h
    obtain ⟨hc, n, hl, hn⟩ := h.head
    cases fuel with
    | zero => rw [Nat.zero_sub]; rfl
    | succ m =>
      rw [List.cons_append, resolve_step_plain hc hl hn, ih _ m rest h.tail, List.length_cons,
        Nat.add_sub_add_right, List.append_assoc]
      rfl

/-- `d` is an existing directory reached without symlinks (and of a sane depth) -/
def PlainDir (fs : FS) (d : Comps) : Prop :=
  NoLinksAlong fs [] d ∧ d.length + 2 ≤ linkFuel

/-! ## what the operations answer, read off the probe: in general and in a link-free directory -/

theorem evalSymlinks_of_probe {fs : FS} {p : Comps} {res : Probe}
    (hp : fs.rootProbe [] linkFuel 0 [] p = res) (hr : res ≠ .refused) :
    fs.evalSymlinks p = res.real? := by
  rw [FS.evalSymlinks, resolve_eq_probe fs [] linkFuel 0 [] p (hp ▸ hr), hp]

theorem rootOpen_of_found {fs : FS} {root real : Comps} {rel : List String}
    (hp : fs.rootProbe root linkFuel 0 root rel = .found real) :
    fs.rootOpen root rel =
      match fs.lstat real with
      | some (.file docs) => docs
      | _ => .error .other := by
  rw [rootOpen_eq, rootWalk_eq_probe, hp]

theorem rootExists_eq (fs : FS) (root : Comps) (rel : List String) :
    fs.rootExists root rel =
      match fs.rootProbe root linkFuel 0 root rel with
      | .missing => false
      | _ => true := rfl

/-- the probe walks down a link-free directory `d` and goes on from there with the fuel left -/
theorem probe_plainDir {fs : FS} {d : Comps} (h : NoLinksAlong fs [] d) {links m : Nat}
    (hm : d.length + m ≤ linkFuel) (rest : List String) :
    ∃ k, fs.rootProbe [] linkFuel links [] (d ++ rest) = fs.rootProbe [] (k + m) links d rest :=
  ⟨linkFuel - d.length - m, by
    rw [rootProbe_down fs [] d [] linkFuel rest h,
      show linkFuel - d.length - m + m = linkFuel - d.length by omega]
    rfl⟩

section plainDir
variable {fs : FS} {d : Comps} {c : String} {links : Nat}

theorem probe_dir (hd : PlainDir fs d) : fs.rootProbe [] linkFuel links [] d = .found d := by
  obtain ⟨k, hk⟩ := probe_plainDir (links := links) hd.1 (m := 1) (by have := hd.2; omega) []
  rw [List.append_nil] at hk
  rw [hk]
  rfl

theorem probe_entry {n : FNode} (hd : PlainDir fs d) (hc : plainComp c = true)
    (hl : fs.lstat (d ++ [c]) = some n) (hn : n.isLink = false) :
    fs.rootProbe [] linkFuel links [] (d ++ [c]) = .found (d ++ [c]) := by
  obtain ⟨k, hk⟩ := probe_plainDir (links := links) hd.1 hd.2 [c]
  rw [hk, rootProbe_step_plain hc hl hn, rootProbe_nil]

theorem probe_noEntry (hd : PlainDir fs d) (hc : plainComp c = true)
    (hl : fs.lstat (d ++ [c]) = none) :
    fs.rootProbe [] linkFuel links [] (d ++ [c]) = .missing := by
  obtain ⟨k, hk⟩ := probe_plainDir (links := links) hd.1 hd.2 [c]
  rw [hk, rootProbe_step_missing hc hl]

/-- one hop: `d/c` is a relative link to the entry `d/t'` -/
theorem probe_link {t t' : String} {n : FNode} (hd : PlainDir fs d)
    (hlen : d.length + 3 ≤ linkFuel) (hc : plainComp c = true)
    (hl : fs.lstat (d ++ [c]) = some (.link t)) (ha : isAbsPath t = false)
    (hs : splitPath t = [t']) (ht : plainComp t' = true)
    (hl' : fs.lstat (d ++ [t']) = some n) (hn : n.isLink = false) :
    fs.rootProbe [] linkFuel 0 [] (d ++ [c]) = .found (d ++ [t']) := by
  obtain ⟨k, hk⟩ := probe_plainDir (links := 0) hd.1 hlen [c]
  rw [hk, rootProbe_step_link hc hl ha hs, List.singleton_append, rootProbe_step_plain ht hl' hn,
    rootProbe_nil]
end plainDir

theorem evalSymlinks_file {fs : FS} {d : Comps} {c : String} {n : FNode} (hd : PlainDir fs d)
    (hc : plainComp c = true) (hl : fs.lstat (d ++ [c]) = some n) (hn : n.isLink = false) :
    fs.evalSymlinks (d ++ [c]) = some (d ++ [c]) :=
  evalSymlinks_of_probe (probe_entry hd hc hl hn) nofun

theorem evalSymlinks_missing {fs : FS} {d : Comps} {c : String} (hd : PlainDir fs d)
    (hc : plainComp c = true) (hl : fs.lstat (d ++ [c]) = none) :
    fs.evalSymlinks (d ++ [c]) = none :=
  evalSymlinks_of_probe (probe_noEntry hd hc hl) nofun

theorem evalSymlinks_dir {fs : FS} {d : Comps} (hd : PlainDir fs d) :
    fs.evalSymlinks d = some d :=
  evalSymlinks_of_probe (probe_dir hd) nofun

theorem rootOpen_plain {fs : FS} {d : Comps} {c : String} {docs : R (List Val)} (hd : PlainDir fs d)
    (hc : plainComp c = true) (hl : fs.lstat (d ++ [c]) = some (.file docs)) :
    fs.rootOpen [] (d ++ [c]) = docs := by
  rw [rootOpen_of_found (probe_entry hd hc hl rfl), hl]

theorem rootWalk_plainDir {fs : FS} {d : Comps} (hd : PlainDir fs d) {links : Nat} :
    fs.rootWalk [] linkFuel links [] d = .ok d := by
  rw [rootWalk_eq_probe, probe_dir hd]

theorem rootExists_file {fs : FS} {d : Comps} {c : String} {n : FNode} (hd : PlainDir fs d)
    (hc : plainComp c = true) (hl : fs.lstat (d ++ [c]) = some n) (hn : n.isLink = false) :
    fs.rootExists [] (d ++ [c]) = true := by
  rw [rootExists_eq, probe_entry hd hc hl hn]

theorem rootExists_missing {fs : FS} {d : Comps} {c : String} (hd : PlainDir fs d)
    (hc : plainComp c = true) (hl : fs.lstat (d ++ [c]) = none) :
    fs.rootExists [] (d ++ [c]) = false := by
  rw [rootExists_eq, probe_noEntry hd hc hl]

theorem evalSymlinks_link {fs : FS} {d : Comps} {c t t' : String} {n : FNode} (hd : PlainDir fs d)
    (hlen : d.length + 3 ≤ linkFuel) (hc : plainComp c = true)
    (hl : fs.lstat (d ++ [c]) = some (.link t)) (ha : isAbsPath t = false)
    (hs : splitPath t = [t']) (ht : plainComp t' = true)
    (hl' : fs.lstat (d ++ [t']) = some n) (hn : n.isLink = false) :
    fs.evalSymlinks (d ++ [c]) = some (d ++ [t']) :=
  evalSymlinks_of_probe (probe_link hd hlen hc hl ha hs ht hl' hn) nofun

theorem rootOpen_link {fs : FS} {d : Comps} {c t t' : String} {docs : R (List Val)}
    (hd : PlainDir fs d) (hlen : d.length + 3 ≤ linkFuel) (hc : plainComp c = true)
    (hl : fs.lstat (d ++ [c]) = some (.link t)) (ha : isAbsPath t = false)
    (hs : splitPath t = [t']) (ht : plainComp t' = true)
    (hl' : fs.lstat (d ++ [t']) = some (.file docs)) :
    fs.rootOpen [] (d ++ [c]) = docs := by
  rw [rootOpen_of_found (probe_link hd hlen hc hl ha hs ht hl' rfl), hl']

theorem plainDir_nil (fs : FS) : PlainDir fs [] :=
  ⟨⟨fun _ h => (nomatch h), fun _ hne hp => absurd (List.prefix_nil.1 hp) hne⟩, by decide⟩

theorem plainDir_single {fs : FS} {c : String} {n : FNode} (hc : plainComp c = true)
    (hl : fs.lstat [c] = some n) (hn : n.isLink = false) : PlainDir fs [c] := by
  refine ⟨⟨?_, ?_⟩, by simp [linkFuel]⟩
  · intro x hx
    have : x = c := by simpa using hx
    subst this; exact hc
  · intro t' hne hp
    cases t' with
    | nil => exact absurd rfl hne
    | cons x rest =>
      obtain ⟨rfl, hr⟩ := List.cons_prefix_cons.1 hp
      have : rest = [] := List.prefix_nil.1 hr
      subst this
      exact ⟨n, hl, hn⟩

/-! ## `lstat` on the list of entries -/

theorem lstat_eq (fs : FS) (p : Comps) :
    fs.lstat p = if p.isEmpty then some .dir else (fs.entries.find? (·.1 == p)).map (·.2) := rfl

theorem lstat_of_mem {fs : FS} {en : Comps × FNode} (h : en ∈ fs.entries) (hne : en.1 ≠ []) :
    fs.lstat en.1 ≠ none := by
  rw [lstat_eq]
  have : en.1.isEmpty = false := by simpa using hne
  rw [this]
  simp only [Bool.false_eq_true, if_false]
  intro e
  rw [Option.map_eq_none_iff, List.find?_eq_none] at e
  exact e en h (by simp)

theorem mem_of_lstat {fs : FS} {q : Comps} {n : FNode} (h : fs.lstat q = some n) (hne : q ≠ []) :
    ∃ en ∈ fs.entries, en.1 = q := by
  rw [lstat_eq] at h
  have : q.isEmpty = false := by simpa using hne
  rw [this] at h
  simp only [Bool.false_eq_true, if_false] at h
  cases hf : fs.entries.find? (·.1 == q) with
  | none => rw [hf] at h; cases h
  | some en =>
    exact ⟨en, List.mem_of_find?_eq_some hf, by simpa using List.find?_some hf⟩

theorem lstat_append_of_some (fs : FS) (extra : List (Comps × FNode)) (p : Comps) (n : FNode)
    (h : fs.lstat p = some n) : FS.lstat { entries := fs.entries ++ extra } p = some n := by
  rw [lstat_eq] at h ⊢
  by_cases hp : p.isEmpty = true
  · rw [if_pos hp] at h ⊢; exact h
  · rw [if_neg hp] at h ⊢
    rw [List.find?_append]
    cases hf : fs.entries.find? (·.1 == p) with
    | none => rw [hf] at h; cases h
    | some e => rw [hf] at h; simpa using h

theorem lstat_prepend_of_ne (fs : FS) (extra : List (Comps × FNode)) (p : Comps)
    (h : ∀ e ∈ extra, e.1 ≠ p) : FS.lstat { entries := extra ++ fs.entries } p = fs.lstat p := by
  rw [lstat_eq, lstat_eq]
  by_cases hp : p.isEmpty = true
  · rw [if_pos hp, if_pos hp]
  · rw [if_neg hp, if_neg hp, List.find?_append]
    have : extra.find? (·.1 == p) = none := by
      rw [List.find?_eq_none]
      intro e he
      simpa using h e he
    rw [this]; rfl

end Bkl
