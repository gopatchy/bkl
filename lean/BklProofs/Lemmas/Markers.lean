/-
  BklProofs.Lemmas.Markers — the marker helpers of util.go (Bkl/Fields.lean) on lists: `hasListMapBool` as `List.any`
  of `isMarker`, `popListMapBool` in closed form (`popListMapBool_closed`: a marker entry `{k: b}` that carries other
  keys, `os_isExtra`, is `extraKeys`; otherwise the markers are filtered out), `popListString` as its two components.
-/
import BklProofs.Lemmas.Fields
import BklProofs.Lemmas.List
namespace Bkl

def isMarker (k : String) (b : Bool) (x : Val) : Bool :=
  match x with
  | .map m => fhasBool m k b
  | _ => false

/-- the fold step of `popListMapBool` -/
def popStep (k : String) (b : Bool) (acc : List Val) (x : Val) : R (List Val) :=
  match x with
  | .map m =>
    if fhasBool m k b then
      if (fdel m k).length > 0 then throw Err.extraKeys else pure acc
    else pure (acc ++ [x])
  | _ => pure (acc ++ [x])

theorem hasListMapBool_eq (l : List Val) (k : String) (b : Bool) :
    hasListMapBool l k b = l.any (isMarker k b) := rfl

theorem o_hasListMapBool_nil (k : String) (b : Bool) : hasListMapBool [] k b = false := rfl

theorem o_hasListMapBool_cons (x : Val) (xs : List Val) (k : String) (b : Bool) :
    hasListMapBool (x :: xs) k b = (isMarker k b x || hasListMapBool xs k b) := rfl

theorem os_hasListMapBool_append (a b : List Val) (k : String) (v : Bool) :
    hasListMapBool (a ++ b) k v = (hasListMapBool a k v || hasListMapBool b k v) :=
  List.any_append

theorem popListMapBool_eq (l : List Val) (k : String) (b : Bool) :
    popListMapBool l k b =
      if hasListMapBool l k b = false then .ok (false, l)
      else (match l.foldlM (popStep k b) [] with
            | .error e => .error e
            | .ok rest => .ok (true, rest)) := by
  unfold popListMapBool
  cases hh : hasListMapBool l k b with
  | false => rfl
  | true =>
    simp only [Bool.not_true, Bool.false_eq_true, if_false]
    show (List.foldlM (popStep k b) [] l >>= fun rest => pure (true, rest)) = _
    cases List.foldlM (popStep k b) [] l <;> rfl

/-- a `{k: b}` marker entry that carries other keys -/
def os_isExtra (k : String) (b : Bool) : Val → Bool
  | .map m => fhasBool m k b && decide ((fdel m k).length > 0)
  | _ => false

theorem os_isExtra_iff {k : String} {b : Bool} {x : Val} :
    os_isExtra k b x = true ↔
      ∃ m, x = .map m ∧ fhasBool m k b = true ∧ (fdel m k).length > 0 := by
  cases x with
  | map m =>
    rw [os_isExtra, Bool.and_eq_true, decide_eq_true_iff]
    constructor
    · intro h; exact ⟨m, rfl, h⟩
    · rintro ⟨_, h, h'⟩; cases h; exact h'
  | _ =>
    constructor
    · intro h; cases h
    · rintro ⟨_, h, _⟩; cases h

theorem isMarker_of_isExtra {k : String} {b : Bool} {x : Val}
    (h : os_isExtra k b x = true) : isMarker k b x = true := by
  obtain ⟨m, rfl, h, _⟩ := os_isExtra_iff.1 h
  exact h

theorem popStep_eq (k : String) (b : Bool) (acc : List Val) (x : Val) :
    popStep k b acc x =
      if os_isExtra k b x then .error .extraKeys
      else if isMarker k b x then .ok acc else .ok (acc ++ [x]) := by
  cases x with
  | map m =>
    rw [popStep, os_isExtra, isMarker]
    cases fhasBool m k b with
    | false => rfl
    | true =>
      rw [if_pos rfl, Bool.true_and]
      by_cases h : (fdel m k).length > 0
      · rw [if_pos h, if_pos (decide_eq_true h)]; rfl
      · rw [if_neg h, decide_eq_false h]; rfl
  | _ => rfl

theorem foldlM_popStep (k : String) (b : Bool) (l acc : List Val) :
    List.foldlM (popStep k b) acc l =
      if l.any (os_isExtra k b) then .error .extraKeys
      else .ok (acc ++ l.filter (fun x => !isMarker k b x)) := by
  induction l generalizing acc with
  | nil => rw [foldlM_nil, List.any_nil, List.filter_nil, List.append_nil]; rfl
  | cons x l ih =>
    rw [foldlM_cons, popStep_eq, List.any_cons, List.filter_cons]
    cases os_isExtra k b x with
    | true => rfl
    | false =>
      cases isMarker k b x with
      | true => exact ih acc
      | false => exact (ih _).trans (by rw [List.append_assoc]; rfl)

theorem popListMapBool_closed (l : List Val) (k : String) (b : Bool) :
    popListMapBool l k b =
      if hasListMapBool l k b = false then .ok (false, l)
      else if l.any (os_isExtra k b) then .error .extraKeys
      else .ok (true, l.filter (fun x => !isMarker k b x)) := by
  rw [popListMapBool_eq, foldlM_popStep]
  cases hasListMapBool l k b with
  | false => rfl
  | true => cases l.any (os_isExtra k b) <;> rfl

theorem any_replace_eq_false_iff {s : List Val} :
    s.any (fun x => x == Val.str "$replace") = false ↔ Val.str "$replace" ∉ s :=
  any_beq_eq_false_iff

theorem hasListMapBool_eq_false_iff {s : List Val} {k : String} {b : Bool} :
    hasListMapBool s k b = false ↔ ∀ m, Val.map m ∈ s → fhasBool m k b = false := by
  rw [hasListMapBool_eq, any_eq_false_iff_forall]
  constructor
  · intro h m hm
    exact h _ hm
  · intro h x hx
    cases x with
    | map m => exact h m hx
    | _ => rfl

theorem any_isExtra_of_no_marker {l : List Val} {k : String} {b : Bool}
    (h : hasListMapBool l k b = false) : l.any (os_isExtra k b) = false := by
  rw [hasListMapBool_eq, any_eq_false_iff_forall] at h
  rw [any_eq_false_iff_forall]
  intro x hx
  cases hm : os_isExtra k b x with
  | false => rfl
  | true => exact (isMarker_of_isExtra hm).symm.trans (h x hx)

theorem any_os_isExtra_iff {s : List Val} {k : String} {b : Bool} :
    s.any (os_isExtra k b) = true ↔
      ∃ m, Val.map m ∈ s ∧ fhasBool m k b = true ∧ fdel m k ≠ [] := by
  rw [List.any_eq_true]
  constructor
  · rintro ⟨x, hx, h⟩
    obtain ⟨m, rfl, h1, h2⟩ := os_isExtra_iff.1 h
    exact ⟨m, hx, h1, List.length_pos_iff.1 h2⟩
  · rintro ⟨m, hm, h1, h2⟩
    exact ⟨_, hm, os_isExtra_iff.2 ⟨m, rfl, h1, List.length_pos_iff.2 h2⟩⟩

theorem popListString_eq (l : List Val) (s : String) :
    popListString l s = (l.any fun x => x == .str s, l.filter fun x => !(x == .str s)) := rfl

end Bkl
