/-
  BklProofs.Lemmas.FilesPath — the lexical side of `Bkl/Files.lean`: which components `Clean` keeps (`plainComp`),
  `cleanComps`, `relTo`, `absPath`; how `splitPath`, `extOf`, `stemOf` split a name `layer.ext` (the forms of `splitPath` and `extOf` on
  `List Char`, through which literals evaluate, are in Lemmas/SplitOn.lean); `PlainName`, a layer's own name component, and names
  joined with dots.
-/
import Bkl.Files
import BklProofs.Lemmas.Except
import BklProofs.Lemmas.SplitOn
namespace Bkl

/-- a component that `Clean` keeps: not empty, not `.` and not `..` -/
def plainComp (c : String) : Bool := !(c == "." || c == "") && !(c == "..")

theorem plainComp_iff (c : String) : plainComp c = true ↔ c ≠ "." ∧ c ≠ "" ∧ c ≠ ".." := by
  simp [plainComp, and_assoc]

theorem plainComp_tests {c : String} (h : plainComp c = true) :
    (c == "." || c == "") = false ∧ (c == "..") = false := by
  unfold plainComp at h
  cases h1 : (c == "." || c == "") <;> cases h2 : (c == "..") <;> simp [h1, h2] at h ⊢

theorem isAbsPath_eq_false {p : String} (h : ¬ ['/'] <+: p.toList) : isAbsPath p = false :=
  String.startsWith_string_eq_false_iff.2 h

theorem relTo_strip_outside : ∀ (root p : Comps), ¬ root <+: p → root ≠ [] →
    (relTo.strip root p).head? = some ".."
  | [], p, h, _ => absurd (List.nil_prefix) h
  | r :: rs, [], _, _ => by simp [relTo.strip, List.replicate_succ]
  | r :: rs, a :: as, h, _ => by
    rw [relTo.strip]
    split
    · rename_i hra
      have hra : r = a := by simpa using hra
      subst hra
      have h' : ¬ rs <+: as := fun hp => h ((List.cons_prefix_cons).2 ⟨rfl, hp⟩)
      have hne : rs ≠ [] := by
        intro e; subst e; exact h' List.nil_prefix
      exact relTo_strip_outside rs as h' hne
    · simp [List.replicate_succ]

theorem relTo_append : ∀ (root s : Comps), relTo root (root ++ s) = s
  | [], s => by cases s <;> rfl
  | r :: rs, s => by
    show relTo.strip (r :: rs) (r :: (rs ++ s)) = s
    rw [relTo.strip, if_pos (beq_self_eq_true r)]
    exact relTo_append rs s

theorem relTo_nil (p : Comps) : relTo [] p = p := relTo_append [] p

theorem relTo_no_dotdot : ∀ (root p : Comps), (relTo root p).any (· == "..") = false →
    root ++ relTo root p = p
  | [], p, _ => by cases p <;> rfl
  | r :: rs, [], h => by simp [relTo, relTo.strip, List.replicate_succ] at h
  | r :: rs, a :: as, h => by
    change (relTo.strip (r :: rs) (a :: as)).any (· == "..") = false at h
    show r :: rs ++ relTo.strip (r :: rs) (a :: as) = a :: as
    rw [relTo.strip] at h ⊢
    by_cases hra : (r == a) = true
    · rw [if_pos hra] at h ⊢
      rw [List.cons_append, eq_of_beq hra]
      exact congrArg (a :: ·) (relTo_no_dotdot rs as h)
    · rw [if_neg hra] at h
      simp [List.replicate_succ] at h

theorem prefix_of_relTo_no_dotdot (root p : Comps) (h : (relTo root p).any (· == "..") = false) :
    root <+: p := ⟨_, relTo_no_dotdot root p h⟩

def cleanStep (acc : Comps) (c : String) : Comps :=
  if c == "." || c == "" then acc
  else if c == ".." then acc.dropLast
  else acc ++ [c]

theorem cleanComps_eq (cs : List String) : cleanComps cs = cs.foldl cleanStep [] := rfl

theorem cleanStep_plain (acc : Comps) {c : String} (h : plainComp c = true) :
    cleanStep acc c = acc ++ [c] := by
  rw [cleanStep, (plainComp_tests h).1, (plainComp_tests h).2]
  rfl

theorem foldl_cleanStep_plain : ∀ (cs : List String) (acc : Comps),
    (∀ c ∈ cs, plainComp c = true) → cs.foldl cleanStep acc = acc ++ cs
  | [], acc, _ => (List.append_nil acc).symm
  | c :: cs, acc, h => by
    rw [List.foldl_cons, cleanStep_plain acc (h c List.mem_cons_self),
      foldl_cleanStep_plain cs _ (fun x hx => h x (List.mem_cons_of_mem _ hx)), List.append_assoc]
    rfl

theorem foldl_cleanStep_allPlain : ∀ (cs : List String) (acc : Comps),
    (∀ c ∈ acc, plainComp c = true) → ∀ c ∈ cs.foldl cleanStep acc, plainComp c = true
  | [], acc, h => h
  | c :: cs, acc, h => by
    apply foldl_cleanStep_allPlain cs
    unfold cleanStep
    cases h1 : (c == "." || c == "")
    · cases h2 : (c == "..")
      · intro x hx
        rcases List.mem_append.1 hx with hx | hx
        · exact h x hx
        · rw [List.mem_singleton.1 hx, plainComp, h1, h2]; rfl
      · exact fun x hx => h x (List.dropLast_subset _ hx)
    · exact h

theorem cleanComps_allPlain (cs : List String) : ∀ c ∈ cleanComps cs, plainComp c = true :=
  foldl_cleanStep_allPlain cs [] (fun _ h => nomatch h)

theorem cleanComps_of_plain (cs : List String) (h : ∀ c ∈ cs, plainComp c = true) :
    cleanComps cs = cs := by
  rw [cleanComps_eq, foldl_cleanStep_plain cs [] h]; rfl

theorem absPath_allPlain (cwd : Comps) (p : String) : ∀ c ∈ absPath cwd p, plainComp c = true := by
  unfold absPath
  split <;> exact cleanComps_allPlain _

theorem splitPath_lit (p : String) (ts : List String)
    (h : ((List.splitOnP (· == '/') p.toList).map String.ofList).filter (· != "") = ts) :
    splitPath p = ts := by rw [splitPath_eq, h]

theorem splitPath_plain (n : String) (hne : n ≠ "") (h : '/' ∉ n.toList) : splitPath n = [n] := by
  rw [splitPath_eq]
  have h2 : List.splitOnP (· == '/') n.toList = [n.toList] :=
    List.splitOnP_eq_singleton (fun x hx => by
      have : x ≠ '/' := fun e => h (e ▸ hx)
      simpa using this)
  rw [h2]
  simp [hne]

theorem splitOn_dot_snoc (l e : String) (he : '.' ∉ e.toList) :
    (l ++ "." ++ e).splitOn "." = l.splitOn "." ++ [e] := by
  rw [splitOn_dot, splitOn_dot]
  have h1 : (l ++ "." ++ e).toList = l.toList ++ '.' :: e.toList := by
    simp [String.toList_append]
  have h2 : List.splitOnP (· == '.') e.toList = [e.toList] :=
    List.splitOnP_eq_singleton (fun x hx => by
      have : x ≠ '.' := fun h => he (h ▸ hx)
      simpa using this)
  rw [h1, List.splitOnP_append_cons _ _ (by simp), h2]
  simp

theorem splitOn_dot_ne_nil (s : String) : s.splitOn "." ≠ [] := by
  rw [splitOn_dot]
  intro h
  exact List.splitOnP_ne_nil _ _ (List.map_eq_nil_iff.1 h)

theorem extOf_snoc (l e : String) (he : '.' ∉ e.toList) : extOf (l ++ "." ++ e) = e := by
  unfold extOf
  rw [splitOn_dot_snoc l e he, List.reverse_append]
  cases h : (l.splitOn ".").reverse with
  | nil =>
    have := splitOn_dot_ne_nil l
    simp only [List.reverse_eq_nil_iff] at h
    exact absurd h this
  | cons r rest => rfl

theorem supportedExt_spec :
    ∀ e ∈ supportedExts, '.' ∉ e.toList ∧ '/' ∉ e.toList ∧ 0 < e.length := by decide +kernel

theorem supportedExt_noDot (e : String) (he : e ∈ supportedExts) : '.' ∉ e.toList :=
  (supportedExt_spec e he).1

theorem supportedExt_length_pos (e : String) (he : e ∈ supportedExts) : 0 < e.length :=
  (supportedExt_spec e he).2.2

theorem supportedExts_contains {e : String} (he : e ∈ supportedExts) :
    supportedExts.contains e = true := List.contains_iff_mem.2 he

theorem plainComp_of_length {s : String} (h : 2 < s.length) : plainComp s = true := by
  rw [plainComp_iff]
  refine ⟨?_, ?_, ?_⟩ <;> intro e <;> subst e <;> revert h <;> decide

theorem plainComp_layer (l e : String) (hl : 0 < l.length) (he : 0 < e.length) :
    plainComp (l ++ "." ++ e) = true := by
  apply plainComp_of_length
  rw [String.length_append, String.length_append]
  have : ".".length = 1 := by decide
  omega

theorem baseOf_snoc (d : Comps) (c : String) : baseOf (d ++ [c]) = c := by
  simp [baseOf, List.getLastD_eq_getLast?]

theorem dirOf_snoc (d : Comps) (c : String) : dirOf (d ++ [c]) = d := by
  simp [dirOf]

theorem parts_ab : "a.b".splitOn "." = ["a", "b"] := by rw [splitOn_dot]; decide

theorem extOf_empty_unsupported : supportedExts.contains (extOf "") = false := by
  unfold extOf
  rw [splitOn_dot]
  decide

theorem absPath_rel {cwd : Comps} {p : String} {ts : List String} (h1 : isAbsPath p = false)
    (h2 : splitPath p = ts) : absPath cwd p = cleanComps (cwd ++ ts) := by
  simp [absPath, h1, h2]

theorem cleanComps_snoc (ys : List String) (c : String) (hc : plainComp c = true) :
    cleanComps (ys ++ [c]) = cleanComps ys ++ [c] := by
  rw [cleanComps_eq, cleanComps_eq, List.foldl_append, List.foldl_cons, List.foldl_nil,
    cleanStep_plain _ hc]

theorem absPath_name {cwd : Comps} (hcwd : ∀ c ∈ cwd, plainComp c = true) {s : String}
    (hs : '/' ∉ s.toList) (hp : plainComp s = true) : absPath cwd s = cwd ++ [s] := by
  rw [absPath_rel (by simpa [isAbsPath] using fun h => hs (h.subset List.mem_cons_self))
      (splitPath_plain s ((plainComp_iff s).1 hp).2.1 hs),
    cleanComps_snoc _ _ hp, cleanComps_of_plain cwd hcwd]

def PlainName (c : String) : Prop := c ≠ "" ∧ '.' ∉ c.toList

instance (c : String) : Decidable (PlainName c) :=
  inferInstanceAs (Decidable (c ≠ "" ∧ '.' ∉ c.toList))

theorem splitOn_layer (ns : List String) (hne : ns ≠ []) (h : ∀ n ∈ ns, '.' ∉ n.toList) :
    (".".intercalate ns).splitOn "." = ns := by
  have h2 : ".".toList = ['.'] := by decide
  have := List.splitOn_intercalate '.' (ls := ns.map String.toList)
    (by simpa using h) (by simpa using hne)
  rw [splitOn_dot, String.toList_intercalate, h2, ← List.splitOn_eq_splitOnP, this, List.map_map]
  simp

theorem layer_length_pos (ns : List String) (hne : ns ≠ []) (h : ∀ n ∈ ns, n ≠ "") :
    0 < (".".intercalate ns).length := by
  cases ns with
  | nil => exact absurd rfl hne
  | cons a t =>
    have ha : 0 < a.length := by
      have := h a List.mem_cons_self
      rcases Nat.eq_zero_or_pos a.length with h0 | h0
      · exact absurd (String.length_eq_zero_iff.1 h0) this
      · exact h0
    cases t with
    | nil => rw [String.intercalate_singleton]; exact ha
    | cons b t =>
      rw [String.intercalate_cons_cons, String.length_append, String.length_append]
      omega

theorem intercalate_splitOn_dot (s : String) : ".".intercalate (s.splitOn ".") = s := by
  apply String.toList_inj.1
  rw [String.toList_intercalate, splitOn_dot, List.map_map]
  have h1 : (String.toList ∘ String.ofList) = id := by funext l; simp
  have h2 : ".".toList = ['.'] := by decide
  rw [h1, List.map_id, h2]
  exact List.intercalate_splitOn (xs := s.toList) '.'

theorem stemOf_snoc (l e : String) (he : '.' ∉ e.toList) : stemOf (l ++ "." ++ e) = l := by
  unfold stemOf
  rw [splitOn_dot_snoc l e he, List.reverse_append]
  cases h : (l.splitOn ".").reverse with
  | nil => exact absurd (List.reverse_eq_nil_iff.1 h) (splitOn_dot_ne_nil l)
  | cons r rest =>
    show ".".intercalate (r :: rest).reverse = l
    rw [← h, List.reverse_reverse, intercalate_splitOn_dot]

theorem parent_layer_snoc (l₀ b : String) (hb : '.' ∉ b.toList) :
    ((l₀ ++ "." ++ b).splitOn ".").length ≠ 1 ∧
      ".".intercalate ((l₀ ++ "." ++ b).splitOn ".").dropLast = l₀ := by
  rw [splitOn_dot_snoc l₀ b hb, List.dropLast_concat, intercalate_splitOn_dot]
  refine ⟨?_, rfl⟩
  have := List.length_pos_iff.2 (splitOn_dot_ne_nil l₀)
  simp only [List.length_append, List.length_cons, List.length_nil]
  omega

theorem plainComp_of_plainName {n : String} (hn : PlainName n) : plainComp n = true := by
  rw [plainComp_iff]
  refine ⟨?_, hn.1, ?_⟩
  · intro e; subst e; exact hn.2 (by decide)
  · intro e; subst e; exact hn.2 (by decide)

end Bkl
