/-
  BklProofs.Lemmas.C02Runs — runs of the parser (`runMerges`, Lemmas/Parser.lean) over the documents of layers, read off the
  specification of one step (Lemmas/C02Selection.lean), with no file system in sight: layering a list of patches onto every
  document of a list, what one layer document does to one document of the file below, the parent table and the distinctness
  of document ids along a run, layers whose documents are appended, and a layer on top of a file whose documents have no
  parents themselves.  Lemmas/C02Files.lean puts the loader's files in.
-/
import BklProofs.Lemmas.C02Selection
namespace Bkl

theorem fl_mapM_append {α β : Type} (f : α → R β) : ∀ (l₁ l₂ : List α),
    (l₁ ++ l₂).mapM f =
      match l₁.mapM f with
      | .error e => .error e
      | .ok b₁ =>
        match l₂.mapM f with
        | .error e => .error e
        | .ok b₂ => .ok (b₁ ++ b₂) :=
  mapM_append f

theorem fl_foldlM_nil {α β : Type} (f : β → α → R β) (b : β) : ([] : List α).foldlM f b = .ok b :=
  foldlM_nil f b

theorem fl_runMerges_take {ds : List Doc} {st st' : PState} (k : Nat)
    (h : runMerges st ds = .ok st') :
    ∃ s, runMerges st (ds.take k) = .ok s ∧ runMerges s (ds.drop k) = .ok st' := by
  rw [← List.take_append_drop k ds, runMerges_append] at h
  cases hs : runMerges st (ds.take k) with
  | error e => rw [hs] at h; cases h
  | ok s =>
    rw [hs] at h
    exact ⟨s, rfl, h⟩

/-! ## layering a list of patches onto every document of a list

  `fl_layerAll ds cs` is what happens row by row (every patch is merged into every document
  before the next patch is looked at); `ds.mapM (fun p => cs.foldlM merge p)` is the same
  column by column (document `i` = `merge (… (merge (merge pᵢ c₁) c₂) …) cₖ`). -/

def fl_layerAll (ds cs : List Val) : R (List Val) :=
  cs.foldlM (fun ds c => ds.mapM fun p => merge p c) ds

theorem fl_layerAll_nil (ds : List Val) : fl_layerAll ds [] = .ok ds := rfl

theorem fl_layerAll_cons (ds : List Val) (c : Val) (cs : List Val) :
    fl_layerAll ds (c :: cs) =
      match ds.mapM (fun p => merge p c) with
      | .error e => .error e
      | .ok ds' => fl_layerAll ds' cs := by
  unfold fl_layerAll
  rw [foldlM_cons]
  cases ds.mapM (fun p => merge p c) <;> rfl

/-- rows = columns, as far as success and the result are concerned (the *error* reported may
    differ: the row-wise run meets the failing merges in another order) -/
theorem fl_layerAll_ok_iff (cs : List Val) : ∀ (ds vs : List Val),
    fl_layerAll ds cs = .ok vs ↔ ds.mapM (fun p => cs.foldlM merge p) = .ok vs := by
  induction cs with
  | nil =>
    intro ds vs
    rw [fl_layerAll_nil]
    rw [show ds.mapM (fun p => ([] : List Val).foldlM merge p) = .ok ds from
      (mapM_ok_of_forall _ id ds fun _ _ => rfl).trans (by rw [List.map_id])]
  | cons c cs ih =>
    intro ds vs
    have : (fun p => (c :: cs).foldlM merge p) = fun p => merge p c >>= cs.foldlM merge :=
      funext fun p => List.foldlM_cons
    rw [fl_layerAll_cons, this, mapM_bind_ok_iff]
    cases ds.mapM (fun p => merge p c) with
    | error e => exact ⟨nofun, fun ⟨_, h, _⟩ => nomatch h⟩
    | ok ds' =>
      exact ⟨fun h => ⟨ds', rfl, (ih ds' vs).1 h⟩,
        fun ⟨_, h1, h2⟩ => by cases h1; exact (ih _ vs).2 h2⟩

/-- a result that follows the rows is, where it succeeds, given by the columns -/
theorem fl_layerAll_result {X : R PState} {ds cs : List Val} {final : List Val → PState}
    (herr : ∀ e, fl_layerAll ds cs = .error e → X = .error e)
    (hok : ∀ vs, fl_layerAll ds cs = .ok vs → X = .ok (final vs)) (st : PState) :
    X = .ok st ↔ ∃ vs, ds.mapM (fun p => cs.foldlM merge p) = .ok vs ∧ st = final vs := by
  cases hla : fl_layerAll ds cs with
  | error e =>
    rw [herr e hla]
    exact ⟨nofun, fun ⟨vs, hvs, _⟩ => by rw [(fl_layerAll_ok_iff cs ds vs).2 hvs] at hla; cases hla⟩
  | ok vs =>
    rw [hok vs hla]
    constructor
    · intro h
      cases h
      exact ⟨vs, (fl_layerAll_ok_iff cs ds vs).1 hla, rfl⟩
    · rintro ⟨vs', hvs', rfl⟩
      rw [(fl_layerAll_ok_iff cs ds vs').2 hvs'] at hla
      cases hla
      rfl

/-! ## what one layer document does to one document of the file below -/

/-- `$match: null` and a non-matching `$match` leave it alone; otherwise the body is merged in -/
def fl_layerStep (v : Val) (c : Val) : R Val :=
  match c with
  | .map kvs =>
    match fget kvs "$match" with
    | some pat =>
      if pat.isNull then .ok v
      else if matchV v pat then merge v (.map (fdel kvs "$match")) else .ok v
    | none => merge v c
  | _ => merge v c

theorem fl_layerStep_noMatch {v c : Val} (h : matchDirective c = none) :
    fl_layerStep v c = merge v c := by
  cases c with
  | map kvs =>
    rw [matchDirective, Option.map_eq_none_iff] at h
    simp only [fl_layerStep, h]
  | _ => rfl

theorem fl_layerStep_match {v c pat body : Val} (h : matchDirective c = some (pat, body)) :
    fl_layerStep v c =
      if pat = .null then .ok v else if matchV v pat then merge v body else .ok v := by
  obtain ⟨kvs, rfl, hg, rfl⟩ := matchDirective_eq_some.1 h
  by_cases hp : pat = .null
  · simp only [fl_layerStep, hg, hp, Val.isNull, if_true]
  · simp only [fl_layerStep, hg, Val.isNull_of_ne hp, if_neg hp, Bool.false_eq_true, if_false]

theorem fl_foldlM_layerStep_noMatch (cs : List Val) (v : Val)
    (h : ∀ c ∈ cs, matchDirective c = none) : cs.foldlM fl_layerStep v = cs.foldlM merge v := by
  induction cs generalizing v with
  | nil => rfl
  | cons c cs ih =>
    rw [foldlM_cons, foldlM_cons, fl_layerStep_noMatch (h c List.mem_cons_self)]
    cases merge v c with
    | error e => rfl
    | ok v' => exact ih v' (fun c' hc' => h c' (List.mem_cons_of_mem _ hc'))

/-- **What a patch does to one of its ancestors** (any state; the ancestor's id occurs once in the
    stream): `fl_layerStep` of the ancestor's own data and the patch, nothing else. -/
theorem C02_ancestor_step {st st' : PState} {c : Doc} (h : mergeDocument st c = .ok st')
    {i : Nat} {id : String} {v : Val} (hv : st.docs[i]? = some (id, v))
    (hu : ∀ w, (id, w) ∈ st.docs → w = v)
    (ha : isAncestorOf (registered st c) c id = true) :
    ∃ v', fl_layerStep v c.data = .ok v' ∧ st'.docs[i]? = some (id, v') := by
  have hmem : ∀ q : String → Val → Bool, id ∈ idsWhere (registered st c) q ↔ q id v = true :=
    fun q => mem_idsWhere_of_unique (st := registered st c) hu (List.mem_of_getElem? hv)
  cases hmd : matchDirective c.data with
  | none =>
    have hin := (hmem fun id _ => isAncestorOf (registered st c) c id).2 ha
    rw [fl_layerStep_noMatch hmd]
    exact C02_singleton h ((selectionOf_noMatch hmd).trans (if_pos (List.ne_nil_of_mem hin))) hv hin
  | some pb =>
    obtain ⟨pat, body⟩ := pb
    rw [fl_layerStep_match hmd]
    by_cases hpn : pat = .null
    · rw [if_pos hpn]
      exact ⟨v, rfl, C02_frame h hv (by
        rw [selectionOf_match hmd, if_pos hpn]; exact List.not_mem_nil)⟩
    · -- whichever list is selected, `id` is in it exactly when its own data matches
      have key : ∀ T, selectionOf st c = .merge T body → (id ∈ T ↔ matchV v pat = true) →
          ∃ v', (if matchV v pat = true then merge v body else .ok v) = .ok v' ∧
            st'.docs[i]? = some (id, v') := fun T hs hT => by
        by_cases hmv : matchV v pat = true
        · rw [if_pos hmv]; exact C02_singleton h hs hv (hT.2 hmv)
        · rw [if_neg hmv]
          exact ⟨v, rfl, C02_frame h hv (by rw [hs]; exact fun hh => hmv (hT.1 hh))⟩
      rw [if_neg hpn]
      rcases selectionOf_match_cases (st := st) hmd hpn with
        ⟨_, _, rfl, rfl, ⟨_, hs⟩ | ⟨_, _, hs⟩ | ⟨_, _, hs⟩⟩
      · exact key _ hs ((hmem _).trans (by rw [ha, Bool.true_and]))
      · exact key _ hs (hmem _)
      · rw [C02_selection_noMatch hs] at h
        cases h

/-! ## the parent table along a run -/

theorem fl_lookup_append_self (known : List (String × List String)) (id : String)
    (ps : List String) (h : known.any (·.1 == id) = false) :
    lookupParents (known ++ [(id, ps)]) id = ps := by
  rw [lookupParents_append, h, lookupParents_cons, if_pos rfl]
  rfl

theorem fl_step_lookup_mono {st st' : PState} {c : Doc} (h : mergeDocument st c = .ok st')
    (q x : String) (hx : x ∈ lookupParents st.known q) : x ∈ lookupParents st'.known q := by
  rw [C02_known h]
  exact mem_lookupParents_addParents _ _ _ _ _ (mem_lookupParents_addParents _ _ _ _ _ hx)

/-! ## document ids stay pairwise distinct along a run of loader-made patches -/

/-- the stream's ids are distinct and each is one of the ids `seen` so far or such an id
    followed by `|matchnull` -/
def fl_IdsFrom (seen : List String) (st : PState) : Prop :=
  (st.docs.map (·.1)).Nodup ∧
    ∀ x ∈ st.docs.map (·.1), x ∈ seen ∨ ∃ s ∈ seen, x = s ++ "|matchnull"

theorem fl_idsFrom_empty (seen : List String) : fl_IdsFrom seen PState.empty :=
  ⟨List.nodup_nil, fun _ h => nomatch h⟩

theorem fl_idsFrom_fresh {seen : List String} {st : PState} {id : String}
    (hI : fl_IdsFrom seen st) (hs : ∀ s ∈ seen, NoMN s) (hid : id ∉ seen) (hn : NoMN id) :
    id ∉ st.docs.map (·.1) ∧ id ++ "|matchnull" ∉ st.docs.map (·.1) := by
  constructor
  · intro hm
    rcases hI.2 _ hm with h | ⟨s, _, h⟩
    · exact hid h
    · exact hn s h
  · intro hm
    rcases hI.2 _ hm with h | ⟨s, hs', h⟩
    · exact hs _ h id rfl
    · exact hid ((String.append_left_inj _).1 h ▸ hs')

theorem fl_idsFrom_step {seen : List String} {st st' : PState} {c : Doc}
    (hI : fl_IdsFrom seen st) (hs : ∀ s ∈ seen, NoMN s) (hid : c.id ∉ seen) (hn : NoMN c.id)
    (h : mergeDocument st c = .ok st') : fl_IdsFrom (seen ++ [c.id]) st' := by
  obtain ⟨hf₁, hf₂⟩ := fl_idsFrom_fresh hI hs hid hn
  refine ⟨C02_ids_unique_preserved h hI.1 hf₁ hf₂, ?_⟩
  rw [C02_ids h]
  intro x hx
  rcases List.mem_append.1 hx with hx | hx
  · rcases hI.2 x hx with h | ⟨s, hs', h⟩
    · exact .inl (List.mem_append_left _ h)
    · exact .inr ⟨s, List.mem_append_left _ hs', h⟩
  · rcases C02_newIds_mem hx with rfl | rfl
    · exact .inl (List.mem_append_right _ List.mem_cons_self)
    · exact .inr ⟨c.id, List.mem_append_right _ List.mem_cons_self, rfl⟩

theorem fl_idsFrom_run (ds : List Doc) : ∀ (seen : List String) (st st' : PState),
    fl_IdsFrom seen st → (seen ++ ds.map (·.id)).Nodup → (∀ s ∈ seen ++ ds.map (·.id), NoMN s) →
    runMerges st ds = .ok st' → fl_IdsFrom (seen ++ ds.map (·.id)) st' := by
  induction ds with
  | nil =>
    intro seen st st' hI _ _ h
    cases h
    rwa [List.map_nil, List.append_nil]
  | cons c ds ih =>
    intro seen st st' hI hnd hmn h
    rw [runMerges_cons] at h
    cases hm : mergeDocument st c with
    | error e => rw [hm] at h; cases h
    | ok s =>
      rw [hm] at h
      rw [List.map_cons, List.append_cons] at hnd hmn ⊢
      have hid : c.id ∉ seen := fun hmem =>
        (List.nodup_append.1 (List.nodup_append.1 hnd).1).2.2 _ hmem c.id List.mem_cons_self rfl
      exact ih _ s st'
        (fl_idsFrom_step hI (fun s hs => hmn s (List.mem_append_left _ (List.mem_append_left _ hs)))
          hid (hmn c.id (List.mem_append_left _ (List.mem_append_right _ List.mem_cons_self))) hm)
        hnd hmn h

theorem fl_unique_run (ds : List Doc) (hnd : (ds.map (·.id)).Nodup)
    (hmn : ∀ x ∈ ds.map (·.id), NoMN x) (k : Nat) {st : PState}
    (h : runMerges PState.empty (ds.take k) = .ok st) :
    (st.docs.map (·.1)).Nodup ∧
      ∀ p, ds[k]? = some p →
        p.id ∉ st.docs.map (·.1) ∧ p.id ++ "|matchnull" ∉ st.docs.map (·.1) := by
  have hsub : ∀ j, ((ds.take j).map (·.id)).Nodup := fun j => by
    rw [List.map_take]; exact (List.take_sublist _ _).nodup hnd
  have hmn' : ∀ x ∈ (ds.take k).map (·.id), NoMN x := by
    intro x hx
    rw [List.map_take] at hx
    exact hmn x (List.mem_of_mem_take hx)
  have hI := fl_idsFrom_run (ds.take k) [] PState.empty st (fl_idsFrom_empty [])
    (by rw [List.nil_append]; exact hsub k) (by rw [List.nil_append]; exact hmn') h
  rw [List.nil_append] at hI
  refine ⟨hI.1, fun p hp => fl_idsFrom_fresh hI hmn' ?_ ?_⟩
  · intro hm
    have h2 := hsub (k + 1)
    rw [List.take_add_one, hp, Option.toList_some, List.map_append] at h2
    exact (List.nodup_append.1 h2).2.2 _ hm p.id List.mem_cons_self rfl
  · exact hmn _ (List.mem_map_of_mem (List.mem_of_getElem? hp))

/-! ## layers whose documents are appended: no parents, or `$match: null` -/

theorem fl_run_appends (f : Doc → String × Val) (g : Doc → List String) (cds : List Doc) :
    ∀ (st : PState),
    (∀ c ∈ cds, ∀ s : PState, s.known.any (·.1 == c.id) = false →
      mergeDocument s c = .ok ⟨s.docs ++ [f c], s.known ++ [(c.id, g c)]⟩) →
    (∀ c ∈ cds, st.known.any (·.1 == c.id) = false) → (cds.map (·.id)).Nodup →
    runMerges st cds =
      .ok ⟨st.docs ++ cds.map f, st.known ++ cds.map fun c => (c.id, g c)⟩ := by
  induction cds with
  | nil =>
    intro st _ _ _
    rw [runMerges_nil, List.map_nil, List.map_nil, List.append_nil, List.append_nil]
  | cons c cds ih =>
    intro st hstep hfresh hnd
    have hnd' := List.nodup_cons.1 (List.map_cons ▸ hnd)
    rw [runMerges_cons, hstep c List.mem_cons_self st (hfresh c List.mem_cons_self)]
    simp only
    rw [ih _ (fun c' hc' => hstep c' (List.mem_cons_of_mem _ hc'))
      (fun c' hc' => any_key_append_fresh _ _ _ (hfresh c' (List.mem_cons_of_mem _ hc'))
        (fun e => hnd'.1 (by rw [show c.id = c'.id from e]; exact List.mem_map_of_mem hc')))
      hnd'.2]
    simp only [List.map_cons, List.append_assoc, List.cons_append, List.nil_append]

theorem fl_root_step {st : PState} {c : Doc} (hnm : matchDirective c.data = none)
    (hp : c.parents = []) (hf : st.known.any (·.1 == c.id) = false) :
    mergeDocument st c = .ok ⟨st.docs ++ [(c.id, c.data)], st.known ++ [(c.id, [])]⟩ := by
  rw [C02_default_root_appends hnm hp, addParents_fresh _ _ _ hf]

theorem fl_run_roots (pds : List Doc) (st : PState)
    (hc : ∀ c ∈ pds, matchDirective c.data = none ∧ c.parents = [])
    (hfresh : ∀ c ∈ pds, st.known.any (·.1 == c.id) = false) (hnd : (pds.map (·.id)).Nodup) :
    runMerges st pds = .ok ⟨st.docs ++ pds.map (fun c => (c.id, c.data)),
      st.known ++ pds.map (fun c => (c.id, []))⟩ :=
  fl_run_appends _ _ pds st (fun c hcm _ hs => fl_root_step (hc c hcm).1 (hc c hcm).2 hs) hfresh hnd

theorem fl_matchNull_step {st : PState} {c : Doc}
    (hmn : ∃ body, matchDirective c.data = some (.null, body))
    (hf : st.known.any (·.1 == c.id) = false) :
    mergeDocument st c = .ok ⟨st.docs ++ [(c.id ++ "|matchnull", fl_body c.data)],
      st.known ++ [(c.id, c.parents ++ [c.id ++ "|matchnull"])]⟩ := by
  obtain ⟨body, hmd⟩ := hmn
  have hs : selectionOf st c = .append (c.id ++ "|matchnull") body := by
    rw [selectionOf_match hmd, if_pos rfl]
  rw [C02_selection_append hs, if_neg (append_matchnull_ne _), fl_body_match hmd,
    ← addParents_fresh2 _ _ _ _ hf]
  rfl

theorem fl_run_matchNull (mds : List Doc) (st : PState)
    (hc : ∀ c ∈ mds, ∃ body, matchDirective c.data = some (.null, body))
    (hfresh : ∀ c ∈ mds, st.known.any (·.1 == c.id) = false) (hnd : (mds.map (·.id)).Nodup) :
    runMerges st mds = .ok ⟨st.docs ++ mds.map (fun c => (c.id ++ "|matchnull", fl_body c.data)),
      st.known ++ mds.map (fun c => (c.id, c.parents ++ [c.id ++ "|matchnull"]))⟩ :=
  fl_run_appends _ _ mds st (fun c hcm _ hs => fl_matchNull_step (hc c hcm) hs) hfresh hnd

/-! ## a layer on top of a file whose documents `pids` have no parents themselves -/

theorem fl_anc_exact {known : List (String × List String)} {pids : List String}
    (hroots : ∀ p ∈ pids, lookupParents known p = []) (id : String) :
    (allParents known (known.length + 1) pids).contains id = pids.contains id := by
  rw [Bool.eq_iff_iff, List.contains_iff_mem, List.contains_iff_mem, mem_allParents_iff_ancestor]
  constructor
  · intro h
    refine Reach.closed (· ∈ pids) (fun _ h => h) ?_ h
    intro p hp x hx
    rw [hroots p hp] at hx
    cases hx
  · exact fun h => .direct h

/-- the stream begins with the documents `pids`, which occur nowhere else in it and are roots
    of the parent table -/
structure fl_ChildInv (pids : List String) (st : PState) : Prop where
  pre : ∃ extra, st.docs.map (·.1) = pids ++ extra ∧ ∀ x ∈ extra, x ∉ pids
  roots : ∀ p ∈ pids, lookupParents st.known p = []

theorem fl_childInv_step {pids : List String} {st st' : PState} {c : Doc}
    (hI : fl_ChildInv pids st) (hmn : ∀ p ∈ pids, NoMN p) (hid : c.id ∉ pids)
    (h : mergeDocument st c = .ok st') : fl_ChildInv pids st' := by
  constructor
  · obtain ⟨extra, he, hx⟩ := hI.pre
    refine ⟨extra ++ (selectionOf st c).newIds, by rw [C02_ids h, he, List.append_assoc], ?_⟩
    intro x hxm
    rcases List.mem_append.1 hxm with hxm | hxm
    · exact hx x hxm
    · rcases C02_newIds_mem hxm with rfl | rfl
      · exact hid
      · exact fun hp => hmn _ hp c.id rfl
  · intro p hp
    have : p ≠ c.id := fun e => hid (e ▸ hp)
    rw [C02_known h, lookupParents_addParents_ne _ _ _ _ this, lookupParents_addParents_ne _ _ _ _ this]
    exact hI.roots p hp

theorem fl_childInv_run {pids : List String} {cds : List Doc} {st st' : PState}
    (hI : fl_ChildInv pids st) (hmn : ∀ p ∈ pids, NoMN p) (hid : ∀ c ∈ cds, c.id ∉ pids)
    (h : runMerges st cds = .ok st') : fl_ChildInv pids st' :=
  runMerges_induct (fl_ChildInv pids) cds
    (fun c hc _ _ hs hm => fl_childInv_step hs hmn (hid c hc) hm) hI h

theorem fl_childInv_anc {pids : List String} {st : PState} {c : Doc}
    (hI : fl_ChildInv pids st) (hcp : c.parents = pids) (hid : c.id ∉ pids) :
    isAncestorOf (registered st c) c = fun id => pids.contains id := by
  funext id
  unfold isAncestorOf
  rw [hcp]
  refine fl_anc_exact (fun p hp => ?_) id
  have hne : p ≠ c.id := fun e => hid (e ▸ hp)
  rw [show (registered st c).known = addParents st.known c.id c.parents from rfl,
    lookupParents_addParents_ne _ _ _ _ hne]
  exact hI.roots p hp

theorem fl_childInv_sel_noMatch {pids : List String} {st : PState} {c : Doc}
    (hI : fl_ChildInv pids st) (hcp : c.parents = pids) (hid : c.id ∉ pids)
    (hmd : matchDirective c.data = none) :
    selectionOf st c = if pids = [] then .append c.id c.data else .merge pids c.data := by
  obtain ⟨extra, he, hx⟩ := hI.pre
  have hpo : parentsOf (registered st c) c.parents = pids := by
    show idsWhere (registered st c) (fun id _ => isAncestorOf (registered st c) c id) = pids
    rw [fl_childInv_anc hI hcp hid]
    exact List.filter_map.symm.trans (he ▸ fl_filter_prefix pids extra hx)
  rw [selectionOf_noMatch hmd, hpo]
  by_cases hp : pids = []
  · rw [if_pos hp, if_neg (fun hne => hne hp)]
  · rw [if_neg hp, if_pos hp]

theorem fl_childInv_sel_match {pids : List String} {st : PState} {c : Doc} {pat body : Val}
    (hI : fl_ChildInv pids st) (hcp : c.parents = pids) (hid : c.id ∉ pids)
    (hmd : matchDirective c.data = some (pat, body)) :
    selectionOf st c =
      if pat = .null then .append (c.id ++ "|matchnull") body
      else if idsWhere st (fun id v => pids.contains id && matchV v pat) ≠ [] then
        .merge (idsWhere st fun id v => pids.contains id && matchV v pat) body
      else if idsWhere st (fun _ v => matchV v pat) ≠ [] then
        .merge (idsWhere st fun _ v => matchV v pat) body
      else .noMatch := by
  rw [selectionOf_match hmd, fl_childInv_anc hI hcp hid]
  rfl

theorem fl_childInv_unique {pids : List String} {st : PState} (hI : fl_ChildInv pids st)
    (hnd : pids.Nodup) {i : Nat} {pid : String} {v w : Val} (hp : pids[i]? = some pid)
    (hv : st.docs[i]? = some (pid, v)) (hw : (pid, w) ∈ st.docs) : w = v := by
  obtain ⟨extra, he, hx⟩ := hI.pre
  obtain ⟨j, hj⟩ := List.mem_iff_getElem?.1 hw
  have hjp : (pids ++ extra)[j]? = some pid := by rw [← he, List.getElem?_map, hj]; rfl
  have hji : j = i := by
    by_cases hlt : j < pids.length
    · rw [List.getElem?_append_left hlt, ← hp] at hjp
      exact (List.getElem?_inj hlt hnd).1 hjp
    · rw [List.getElem?_append_right (Nat.le_of_not_lt hlt)] at hjp
      exact absurd (List.mem_of_getElem? hp) (hx _ (List.mem_of_getElem? hjp))
  rw [hji, hv] at hj
  exact (Prod.mk.inj (Option.some.inj hj)).2.symm

theorem fl_child_run_doc {pids : List String} (hnd : pids.Nodup) (hmn : ∀ p ∈ pids, NoMN p)
    {i : Nat} {pid : String} (hp : pids[i]? = some pid) (cds : List Doc) :
    ∀ (st st' : PState) (v : Val), fl_ChildInv pids st →
    (∀ c ∈ cds, c.parents = pids ∧ c.id ∉ pids) → runMerges st cds = .ok st' →
    st.docs[i]? = some (pid, v) →
    ∃ v', (cds.map (·.data)).foldlM fl_layerStep v = .ok v' ∧ st'.docs[i]? = some (pid, v') := by
  induction cds with
  | nil =>
    intro st st' v _ _ h hv
    cases h
    exact ⟨v, rfl, hv⟩
  | cons c cds ih =>
    intro st st' v hI hc h hv
    rw [runMerges_cons] at h
    cases hm : mergeDocument st c with
    | error e => rw [hm] at h; cases h
    | ok s =>
      rw [hm] at h
      obtain ⟨hcp, hid⟩ := hc c List.mem_cons_self
      obtain ⟨v1, hv1, hs1⟩ := C02_ancestor_step hm hv (fun w => fl_childInv_unique hI hnd hp hv)
        ((C02_ancestor_iff _ _ _).2 (.direct (hcp ▸ List.mem_of_getElem? hp)))
      obtain ⟨v', hv', hs'⟩ := ih s st' v1 (fl_childInv_step hI hmn hid hm)
        (fun c' hc' => hc c' (List.mem_cons_of_mem _ hc')) h hs1
      exact ⟨v', by rw [List.map_cons, foldlM_cons, hv1]; exact hv', hs'⟩

theorem fl_single_run_ok {pid : String} (hmn : NoMN pid) (cds : List Doc) :
    ∀ (st : PState) (v : Val), fl_ChildInv [pid] st →
    (∀ c ∈ cds, (c.parents = [pid] ∧ c.id ∉ [pid]) ∧
      (matchDirective c.data = none ∨ ∃ body, matchDirective c.data = some (.null, body))) →
    st.docs[0]? = some (pid, v) →
    (∃ v', (cds.map (·.data)).foldlM fl_layerStep v = .ok v') →
    ∃ st', runMerges st cds = .ok st' := by
  -- under `fl_ChildInv [pid]` a `$match`-free child has `pid` as its only target, so its step
  -- succeeds because the fold's merge does; a `$match: null` child is appended; `C02_ancestor_step`
  -- then advances the fold
  induction cds with
  | nil => exact fun st _ _ _ _ _ => ⟨st, rfl⟩
  | cons c cds ih =>
    intro st v hI hc hv hfold
    obtain ⟨v', hfold⟩ := hfold
    obtain ⟨⟨hcp, hid⟩, hkind⟩ := hc c List.mem_cons_self
    have hstep : ∃ s, mergeDocument st c = .ok s := by
      rcases hkind with hnm | ⟨body, hmd⟩
      · have hsel := fl_childInv_sel_noMatch hI hcp hid hnm
        rw [if_neg (List.cons_ne_nil _ _)] at hsel
        rw [List.map_cons, foldlM_cons, fl_layerStep_noMatch hnm] at hfold
        refine (C02_targets_ok_iff hsel).2 fun p hp ht => ?_
        obtain ⟨i, w⟩ := p
        cases List.mem_singleton.1 ht
        rw [fl_childInv_unique hI (List.pairwise_singleton _ _) rfl hv hp]
        cases hm : merge v c.data with
        | error e => rw [hm] at hfold; cases hfold
        | ok v1 => exact ⟨v1, rfl⟩
      · have hsel := fl_childInv_sel_match hI hcp hid hmd
        rw [if_pos rfl] at hsel
        exact ⟨_, C02_selection_append hsel⟩
    obtain ⟨s, hs⟩ := hstep
    obtain ⟨v1, hv1, hs1⟩ := C02_ancestor_step hs hv
      (fun w => fl_childInv_unique hI (List.pairwise_singleton _ _) rfl hv)
      ((C02_ancestor_iff _ _ _).2 (.direct (hcp ▸ List.mem_singleton.2 rfl)))
    rw [List.map_cons, foldlM_cons, hv1] at hfold
    obtain ⟨st', hst'⟩ := ih s v1
      (fl_childInv_step hI (fun p hp => List.mem_singleton.1 hp ▸ hmn) hid hs)
      (fun c' hc' => hc c' (List.mem_cons_of_mem _ hc')) hs1 ⟨v', hfold⟩
    exact ⟨st', by rw [runMerges_cons, hs]; exact hst'⟩

end Bkl
