/-
  BklProofs.Lemmas.C04Yaml — helper lemmas for the YAML part of C04 (format independence):
  entry lists as Go maps (`rput`, `rlookup`), `yamlMergeInto`, the scalars `yamlScalar` accepts,
  merge keys expanded recursively (`ym_expand`), and exactly when `yamlTranslate` succeeds
  (`ym_wt`).  In lemma names `T`, `TL`, `TM`, `TP` stand for `yamlTranslate`, `yamlTranslateList`,
  `yamlTranslateMerges`, `yamlTranslatePairs`.
-/
import BklProofs.Lemmas.Stream
namespace Bkl

abbrev ym_YPairs := List (String × YNode)

/-! ## entry lists read as Go maps -/

/-- Go `dst[k] = v` on an unordered entry list: drop the old entry, append the new one -/
def rput (d : RFields) (kv : String × Raw) : RFields := d.filter (·.1 != kv.1) ++ [kv]

/-- lookup: the LAST entry with the key (the result lists below have distinct keys anyway) -/
def rlookup : RFields → String → Option Raw
  | [], _ => none
  | (k', v) :: rest, k =>
    match rlookup rest k with
    | some r => some r
    | none => if k' = k then some v else none

theorem rlookup_cons (k' : String) (v : Raw) (rest : RFields) (k : String) :
    rlookup ((k', v) :: rest) k = (rlookup rest k).or (if k' = k then some v else none) := by
  rw [rlookup]
  cases rlookup rest k <;> rfl

theorem rlookup_append (a b : RFields) (k : String) :
    rlookup (a ++ b) k = (rlookup b k).or (rlookup a k) := by
  induction a with
  | nil => exact Option.or_none.symm
  | cons p a ih =>
    obtain ⟨k', v⟩ := p
    rw [List.cons_append, rlookup_cons, rlookup_cons, ih, Option.or_assoc]

theorem rlookup_eq_none_iff {a : RFields} {k : String} :
    rlookup a k = none ↔ ∀ p ∈ a, p.1 ≠ k := by
  induction a with
  | nil => exact ⟨fun _ _ h => (nomatch h), fun _ => rfl⟩
  | cons p a ih =>
    obtain ⟨k', v⟩ := p
    rw [rlookup_cons, Option.or_eq_none_iff, ih, List.forall_mem_cons, and_comm, ite_eq_right_iff]
    exact and_congr_left' ⟨fun h e => (nomatch h e), fun h e => absurd e h⟩

theorem rlookup_filter (P : String × Raw → Bool) (a : RFields) (k : String)
    (h : ∀ p ∈ a, p.1 = k → P p = true) : rlookup (a.filter P) k = rlookup a k := by
  induction a with
  | nil => rfl
  | cons q a ih =>
    obtain ⟨k', v⟩ := q
    have ih' := ih (fun p hp => h p (List.mem_cons_of_mem _ hp))
    rw [List.filter_cons]
    by_cases hk : k' = k
    · rw [h (k', v) List.mem_cons_self hk, if_pos rfl, rlookup_cons, rlookup_cons, ih']
    · rw [rlookup_cons (rest := a), if_neg hk, Option.or_none]
      split
      · rw [rlookup_cons, if_neg hk, Option.or_none, ih']
      · exact ih'

theorem rlookup_filter_same (d : RFields) (k : String) :
    rlookup (d.filter (·.1 != k)) k = none :=
  rlookup_eq_none_iff.2 fun _ hp => bne_iff_ne.1 (List.mem_filter.1 hp).2

theorem rlookup_rput (d : RFields) (kv : String × Raw) (k : String) :
    rlookup (rput d kv) k = if kv.1 = k then some kv.2 else rlookup d k := by
  obtain ⟨k', v⟩ := kv
  unfold rput
  rw [rlookup_append, rlookup_cons]
  by_cases h : k' = k
  · rw [if_pos h, if_pos h]; rfl
  · rw [if_neg h, if_neg h, rlookup_filter _ d k fun p _ hp => bne_iff_ne.2 (hp ▸ Ne.symm h)]
    rfl

/-- `for k, v := range src { dst[k] = v }`: the source wins -/
theorem rlookup_foldl_rput (kvs : RFields) : ∀ (d : RFields) (k : String),
    rlookup (kvs.foldl rput d) k = (rlookup kvs k).or (rlookup d k) := by
  induction kvs with
  | nil => intro d k; rfl
  | cons p kvs ih =>
    intro d k
    obtain ⟨k', v⟩ := p
    rw [List.foldl_cons, ih, rlookup_rput, rlookup_cons, Option.or_assoc]
    congr 1
    split <;> rfl

theorem rput_keys_nodup (d : RFields) (kv : String × Raw) (h : (d.map (·.1)).Nodup) :
    ((rput d kv).map (·.1)).Nodup := by
  unfold rput
  rw [List.map_append, List.nodup_append]
  refine ⟨(List.filter_sublist.map _).nodup h, by simp, ?_⟩
  intro a ha b hb
  simp only [List.map_cons, List.map_nil, List.mem_singleton] at hb
  subst hb
  simp only [List.mem_map, List.mem_filter] at ha
  obtain ⟨p, ⟨_, hp⟩, rfl⟩ := ha
  simpa using hp

theorem foldl_rput_keys_nodup (kvs : RFields) : ∀ (d : RFields), (d.map (·.1)).Nodup →
    ((kvs.foldl rput d).map (·.1)).Nodup := by
  induction kvs with
  | nil => intro d h; exact h
  | cons p kvs ih => intro d h; exact ih _ (rput_keys_nodup d p h)

/-- lookup in a list of mappings: the FIRST mapping that has the key -/
def rlookupMaps : List RFields → String → Option Raw
  | [], _ => none
  | m :: ms, k => match rlookup m k with | some r => some r | none => rlookupMaps ms k

/-- merging a list of mappings, last first -/
def rmergeAll (ms : List RFields) (d : RFields) : RFields :=
  ms.reverse.foldl (fun d m => m.foldl rput d) d

theorem rmergeAll_cons (m : RFields) (ms : List RFields) (d : RFields) :
    rmergeAll (m :: ms) d = m.foldl rput (rmergeAll ms d) := by
  simp only [rmergeAll, List.reverse_cons, List.foldl_append, List.foldl_cons, List.foldl_nil]

theorem rlookup_rmergeAll (ms : List RFields) (d : RFields) (k : String) :
    rlookup (rmergeAll ms d) k = (rlookupMaps ms k).or (rlookup d k) := by
  induction ms with
  | nil => rfl
  | cons m ms ih =>
    rw [rmergeAll_cons, rlookup_foldl_rput, ih, rlookupMaps]
    cases rlookup m k <;> rfl

theorem rmergeAll_keys_nodup (ms : List RFields) (d : RFields) (h : (d.map (·.1)).Nodup) :
    ((rmergeAll ms d).map (·.1)).Nodup := by
  induction ms with
  | nil => exact h
  | cons m ms ih => rw [rmergeAll_cons]; exact foldl_rput_keys_nodup m _ ih

/-! ## normalised lookup: what `normalize` keeps of an entry list is its last-wins lookup -/

/-- the normalised value stored under `k` (last entry wins) -/
def ym_nl (a : RFields) (k : String) : Option Val := (rlookup a k).map ym_norm

theorem ym_nl_nil (k : String) : ym_nl [] k = none := rfl

theorem ym_nl_append (a b : RFields) (k : String) :
    ym_nl (a ++ b) k = (ym_nl b k).or (ym_nl a k) := by
  unfold ym_nl
  rw [rlookup_append, Option.map_or]

theorem ym_nl_foldl_rput (kvs d : RFields) (k : String) :
    ym_nl (kvs.foldl rput d) k = (ym_nl kvs k).or (ym_nl d k) := by
  unfold ym_nl
  rw [rlookup_foldl_rput, Option.map_or]

/-- `fofList` keeps the last entry under a key (`fget_fofList`), as `rlookup` does -/
theorem ym_fget_fofList_norm (a : RFields) (k : String) :
    fget (fofList (ym_normFields a)) k = ym_nl a k := by
  rw [fget_fofList]
  induction a with
  | nil => rfl
  | cons p a ih =>
    obtain ⟨k', v⟩ := p
    rw [ym_normFields_cons, List.reverse_cons, fget_append, ih, ym_nl, ym_nl, rlookup_cons,
      Option.map_or]
    congr 1
    by_cases h : k' = k
    · rw [if_pos h, h, fget_cons_self]; rfl
    · rw [if_neg h, fget_cons_ne h]; rfl

theorem ym_norm_map_eq_iff (a b : RFields) :
    ym_norm (.map a) = ym_norm (.map b) ↔ ∀ k, ym_nl a k = ym_nl b k := by
  rw [ym_norm_map, ym_norm_map]
  constructor
  · intro h k
    injection h with h
    rw [← ym_fget_fofList_norm, ← ym_fget_fofList_norm, h]
  · intro h
    congr 1
    apply sorted_ext (sorted_fofList _) (sorted_fofList _)
    intro k
    rw [ym_fget_fofList_norm, ym_fget_fofList_norm, h]

theorem ym_nl_of_normFields_eq {a b : RFields} (h : ym_normFields a = ym_normFields b) (k : String) :
    ym_nl a k = ym_nl b k := by
  rw [← ym_fget_fofList_norm, ← ym_fget_fofList_norm, h]

/-! ## `rput` keeps an entry list free of `json.Number` and `map[any]any` -/

theorem ym_clean_rput (d : RFields) (kv : String × Raw) (hd : hasMapAnyFields d = false)
    (hv : hasMapAny kv.2 = false) : hasMapAnyFields (rput d kv) = false := by
  rw [hasMapAnyFields_eq_false_iff] at hd ⊢
  intro p hp
  rcases List.mem_append.1 hp with h | h
  · exact hd p (List.mem_filter.1 h).1
  · rw [List.mem_singleton.1 h]; exact hv

theorem ym_clean_foldl_rput (kvs : RFields) : ∀ (d : RFields), hasMapAnyFields d = false →
    hasMapAnyFields kvs = false → hasMapAnyFields (kvs.foldl rput d) = false := by
  induction kvs with
  | nil => intro d hd _; exact hd
  | cons p kvs ih =>
    intro d hd h
    obtain ⟨k, v⟩ := p
    rw [hasMapAnyFields, Bool.or_eq_false_iff] at h
    exact ih _ (ym_clean_rput d (k, v) hd h.1) h.2

/-! ## `yamlMergeInto` -/

theorem yamlMergeInto_map (dst kvs : RFields) :
    yamlMergeInto dst (.map kvs) = .ok (kvs.foldl rput dst) := rfl

/-- one step of the list form of `yamlMerge` -/
def ym_step (d : RFields) (x : Raw) : R RFields :=
  match x with
  | .map kvs => pure (kvs.foldl rput d)
  | _ => throw Err.invalidType

theorem ym_step_map (d kvs : RFields) : ym_step d (.map kvs) = .ok (kvs.foldl rput d) := rfl

theorem ym_mergeInto_list_nil (acc : RFields) : yamlMergeInto acc (.list []) = .ok acc := rfl

theorem ym_mergeInto_list_cons (acc : RFields) (r : Raw) (rs : List Raw) :
    yamlMergeInto acc (.list (r :: rs)) = (yamlMergeInto acc (.list rs) >>= fun d => ym_step d r) := by
  unfold yamlMergeInto
  simp only [List.reverse_cons, List.foldlM_append, List.foldlM_cons, List.foldlM_nil]
  generalize List.foldlM (m := Except Err) _ acc rs.reverse = X
  cases X with
  | error e => rfl
  | ok d => cases r <;> rfl

theorem yamlMergeInto_list_maps (dst : RFields) (ms : List RFields) :
    yamlMergeInto dst (.list (ms.map Raw.map)) = .ok (rmergeAll ms dst) := by
  induction ms with
  | nil => rfl
  | cons m ms ih => rw [List.map_cons, ym_mergeInto_list_cons, ih, ok_bind, ym_step_map, rmergeAll_cons]

theorem yamlMergeInto_scalar (dst : RFields) (s : String) :
    yamlMergeInto dst (.str s) = .error .invalidType := rfl

def ym_isMapR : Raw → Bool | .map _ => true | _ => false
def ym_isListR : Raw → Bool | .list _ => true | _ => false
def ym_isMapping : YNode → Bool | .mapping _ => true | _ => false

theorem ym_mergeInto_other (acc : RFields) (r : Raw) (h1 : ym_isMapR r = false)
    (h2 : ym_isListR r = false) : yamlMergeInto acc r = .error .invalidType := by
  cases r with
  | map kvs => cases h1
  | list xs => cases h2
  | _ => rfl

theorem ym_step_error (d : RFields) (x : Raw) (e : Err) (h : ym_step d x = .error e) :
    e = .invalidType := by
  cases x <;> cases h <;> rfl

theorem ym_mergeInto_list_error (rs : List Raw) (acc : RFields) (e : Err)
    (h : yamlMergeInto acc (.list rs) = .error e) : e = .invalidType := by
  induction rs with
  | nil => cases h
  | cons r rs ih =>
    rw [ym_mergeInto_list_cons] at h
    cases hm : yamlMergeInto acc (.list rs) with
    | error e' => rw [hm] at h; cases h; exact ih hm
    | ok d => rw [hm] at h; exact ym_step_error d r e h

/-! ## scalars -/

theorem yamlScalar_bool (v f : String) :
    yamlScalar "!!bool" v f =
      if ["1", "t", "T", "TRUE", "true", "True"].contains v then .ok (.bool true)
      else if ["0", "f", "F", "FALSE", "false", "False"].contains v then .ok (.bool false)
      else .error .other := by
  unfold yamlScalar
  rfl

theorem yamlScalar_float (value fr : String) :
    yamlScalar "!!float" value fr = if fr.isEmpty then .error .other else .ok (.goFloat fr) := by
  unfold yamlScalar
  rfl

/-- a `!!int` scalar must be decimal int64 text; it is read as Go `int` when the value fits
    32 bits, as `int64` otherwise -/
theorem yamlScalar_int (v f : String) :
    yamlScalar "!!int" v f = match parseInt64 v with
      | none => .error .other
      | some i =>
        if -(2147483648 : Int) ≤ i ∧ i < 2147483648 then .ok (.goInt i) else .ok (.goInt64 i) := by
  have e : yamlScalar "!!int" v f =
      match parseGoInt v 32 with
      | some i => .ok (.goInt i)
      | none =>
        match parseGoInt v 64 with
        | some i => .ok (.goInt64 i)
        | none => .error .other := by
    unfold yamlScalar
    rfl
  rw [e]
  unfold parseGoInt parseInt64 int64Min int64Max
  cases goDecInt v with
  | none => rfl
  | some i =>
    have e32 : ((2 : Int) ^ (32 - 1)) = 2147483648 := rfl
    have e64 : ((2 : Int) ^ (64 - 1)) = 9223372036854775808 := rfl
    rw [e32, e64]
    dsimp only
    by_cases h32 : -(2147483648 : Int) ≤ i ∧ i < 2147483648
    · have h64 : -(9223372036854775808 : Int) ≤ i ∧ i ≤ 9223372036854775807 := by omega
      rw [if_pos h32, if_pos h64]
      exact (if_pos h32).symm
    · rw [if_neg h32]
      by_cases h64 : -(9223372036854775808 : Int) ≤ i ∧ i ≤ 9223372036854775807
      · have h64' : -(9223372036854775808 : Int) ≤ i ∧ i < 9223372036854775808 := by omega
        rw [if_pos h64', if_pos h64]
        exact (if_neg h32).symm
      · have h64' : ¬ (-(9223372036854775808 : Int) ≤ i ∧ i < 9223372036854775808) := by omega
        rw [if_neg h64', if_neg h64]

theorem yamlScalar_int_toString (n : Int) (fr : String) (h1 : int64Min ≤ n) (h2 : n ≤ int64Max) :
    yamlScalar "!!int" (toString n) fr =
      if -(2147483648 : Int) ≤ n ∧ n < 2147483648 then .ok (.goInt n) else .ok (.goInt64 n) := by
  rw [yamlScalar_int, parseInt64_toString n h1 h2]

theorem ym_scalar_unknown_tag (t v f : String) (h1 : t ≠ "!!bool") (h2 : t ≠ "!!int")
    (h3 : t ≠ "!!float") (h4 : t ≠ "!!null") (h5 : t ≠ "!!str") (h6 : t ≠ "!!timestamp") :
    yamlScalar t v f = .error .invalidType := by
  simp only [yamlScalar]
  rfl

/-- the YAML boolean literals `strconv.ParseBool` accepts -/
def ym_boolLit (v : String) : Bool :=
  ["1", "t", "T", "TRUE", "true", "True"].contains v ||
  ["0", "f", "F", "FALSE", "false", "False"].contains v

/-- the scalars `yamlTranslate` accepts -/
def ym_scalarOK (t v f : String) : Bool :=
  match t with
  | "!!bool" => ym_boolLit v
  | "!!int" => (parseInt64 v).isSome
  | "!!float" => !f.isEmpty
  | "!!null" => true
  | "!!str" => true
  | "!!timestamp" => true
  | _ => false

theorem ym_scalar_spec (t v f : String) :
    ym_Out (ym_scalarOK t v f)
      (fun r => hasMapAny r = false ∧ ym_isMapR r = false ∧ ym_isListR r = false)
      (yamlScalar t v f) := by
  unfold ym_scalarOK
  split
  · rw [yamlScalar_bool, ym_boolLit]
    cases ["1", "t", "T", "TRUE", "true", "True"].contains v
    · cases ["0", "f", "F", "FALSE", "false", "False"].contains v
      · exact ⟨rfl, Or.inr rfl⟩
      · exact .ok ⟨rfl, rfl, rfl⟩
    · exact .ok ⟨rfl, rfl, rfl⟩
  · rw [yamlScalar_int]
    cases parseInt64 v with
    | none => exact ⟨rfl, Or.inr rfl⟩
    | some i => dsimp only; split <;> exact .ok ⟨rfl, rfl, rfl⟩
  · rw [yamlScalar_float]
    cases f.isEmpty
    · exact .ok ⟨rfl, rfl, rfl⟩
    · exact ⟨rfl, Or.inr rfl⟩
  · exact .ok ⟨rfl, rfl, rfl⟩
  · exact .ok ⟨rfl, rfl, rfl⟩
  · exact .ok ⟨rfl, rfl, rfl⟩
  · rename_i h1 h2 h3 h4 h5 h6
    rw [ym_scalar_unknown_tag t v f h1 h2 h3 h4 h5 h6]
    exact ⟨rfl, Or.inl rfl⟩

theorem ym_scalar_bad_int (v f : String) (h : parseInt64 v = none) :
    yamlScalar "!!int" v f = .error .other := by
  rw [yamlScalar_int, h]

theorem ym_scalar_bad_float (v : String) : yamlScalar "!!float" v "" = .error .other := by
  rw [yamlScalar_float]; rfl

theorem ym_scalar_bad_bool (v f : String) (h : ym_boolLit v = false) :
    yamlScalar "!!bool" v f = .error .other := by
  rw [ym_boolLit, Bool.or_eq_false_iff] at h
  rw [yamlScalar_bool, h.1, h.2]
  rfl

/-! ## the equations of `yamlTranslate` -/

theorem ym_T_scalar (t v f : String) : yamlTranslate (.scalar t v f) = yamlScalar t v f := by
  rw [yamlTranslate]
theorem ym_T_seq (items : List YNode) :
    yamlTranslate (.seq items) = (yamlTranslateList items >>= fun xs => pure (.list xs)) := by
  rw [yamlTranslate]
theorem ym_T_empty : yamlTranslate .empty = .ok .null := by rw [yamlTranslate]; rfl
theorem yamlTranslate_mapping (pairs : List (String × YNode)) :
    yamlTranslate (.mapping pairs) =
      (do let merged ← yamlTranslateMerges pairs []
          let locals ← yamlTranslatePairs pairs
          pure (.map (locals.foldl rput merged))) := by
  rw [yamlTranslate]; rfl
theorem ym_TL_nil : yamlTranslateList [] = .ok [] := by rw [yamlTranslateList]; rfl
theorem ym_TL_cons (x : YNode) (xs : List YNode) :
    yamlTranslateList (x :: xs) =
      (yamlTranslate x >>= fun r => yamlTranslateList xs >>= fun rs => pure (r :: rs)) := by
  rw [yamlTranslateList]
theorem ym_TM_nil (acc : RFields) : yamlTranslateMerges [] acc = .ok acc := by
  rw [yamlTranslateMerges]; rfl
theorem ym_TM_cons_merge (v : YNode) (rest : ym_YPairs) (acc : RFields) :
    yamlTranslateMerges (("<<", v) :: rest) acc =
      ((yamlTranslate v >>= yamlMergeInto acc) >>= yamlTranslateMerges rest) := by
  rw [yamlTranslateMerges]
  simp only [beq_self_eq_true, if_true]
  cases yamlTranslate v with
  | error e => rfl
  | ok src => rfl
theorem ym_TM_cons_other (k : String) (v : YNode) (rest : ym_YPairs) (acc : RFields) (h : k ≠ "<<") :
    yamlTranslateMerges ((k, v) :: rest) acc = yamlTranslateMerges rest acc := by
  have hk : (k == "<<") = false := by simpa using h
  rw [yamlTranslateMerges]
  simp only [hk, Bool.false_eq_true, if_false]
theorem ym_TP_nil : yamlTranslatePairs [] = .ok [] := by rw [yamlTranslatePairs]; rfl
theorem ym_TP_cons_merge (v : YNode) (rest : ym_YPairs) :
    yamlTranslatePairs (("<<", v) :: rest) = yamlTranslatePairs rest := by
  rw [yamlTranslatePairs]
  simp only [beq_self_eq_true, if_true]
theorem ym_TP_cons_other (k : String) (v : YNode) (rest : ym_YPairs) (h : k ≠ "<<") :
    yamlTranslatePairs ((k, v) :: rest) =
      (yamlTranslate v >>= fun r => yamlTranslatePairs rest >>= fun rs => pure ((k, r) :: rs)) := by
  have hk : (k == "<<") = false := by simpa using h
  rw [yamlTranslatePairs]
  simp only [hk, Bool.false_eq_true, if_false]

def ym_noMerge (q : ym_YPairs) : Prop := ∀ p ∈ q, p.1 ≠ "<<"

theorem ym_noMerge_nil : ym_noMerge [] := fun _ h => nomatch h
theorem ym_noMerge_cons {k : String} {v : YNode} {q : ym_YPairs} (hk : k ≠ "<<") (hq : ym_noMerge q) :
    ym_noMerge ((k, v) :: q) := by
  intro p hp
  rcases List.mem_cons.1 hp with rfl | h
  · exact hk
  · exact hq p h

theorem ym_TP_append : ∀ (a b : ym_YPairs), yamlTranslatePairs (a ++ b) =
    (yamlTranslatePairs a >>= fun x => yamlTranslatePairs b >>= fun y => pure (x ++ y))
  | [], b => by
    rw [List.nil_append, ym_TP_nil, ok_bind]
    exact (bind_pure _).symm
  | (k, v) :: a, b => by
    by_cases hk : k = "<<"
    · subst hk
      rw [List.cons_append, ym_TP_cons_merge, ym_TP_cons_merge, ym_TP_append a b]
    · rw [List.cons_append, ym_TP_cons_other _ _ _ hk, ym_TP_cons_other _ _ _ hk, ym_TP_append a b]
      simp only [bind_assoc, pure_bind, List.cons_append]

theorem ym_TM_append (a b : ym_YPairs) (acc : RFields) :
    yamlTranslateMerges (a ++ b) acc = (yamlTranslateMerges a acc >>= yamlTranslateMerges b) := by
  induction a generalizing acc with
  | nil => rw [List.nil_append, ym_TM_nil, ok_bind]
  | cons p a ih =>
    obtain ⟨k, v⟩ := p
    by_cases hk : k = "<<"
    · subst hk
      rw [List.cons_append, ym_TM_cons_merge, ym_TM_cons_merge]
      cases yamlTranslate v >>= yamlMergeInto acc with
      | error e => rfl
      | ok acc' => rw [ok_bind, ok_bind, ih]
    · rw [List.cons_append, ym_TM_cons_other _ _ _ _ hk, ym_TM_cons_other _ _ _ _ hk, ih]

theorem yamlTranslateMerges_no_merge : ∀ (pairs : ym_YPairs) (acc : RFields),
    ym_noMerge pairs → yamlTranslateMerges pairs acc = .ok acc
  | [], acc, _ => ym_TM_nil acc
  | (k, v) :: rest, acc, h => by
    rw [ym_TM_cons_other k v rest acc (h (k, v) List.mem_cons_self)]
    exact yamlTranslateMerges_no_merge rest acc (fun p hp => h p (List.mem_cons_of_mem _ hp))

theorem ym_T_mapping_noMerge (q : ym_YPairs) (h : ym_noMerge q) :
    yamlTranslate (.mapping q) =
      (yamlTranslatePairs q >>= fun l => pure (.map (l.foldl rput []))) := by
  rw [yamlTranslate_mapping, yamlTranslateMerges_no_merge q [] h, ok_bind]

theorem yamlTranslate_one_merge (pre post : ym_YPairs) (x : YNode) (src : Raw)
    (merged ls : RFields) (hpre : ym_noMerge pre) (hpost : ym_noMerge post)
    (hx : yamlTranslate x = .ok src) (hm : yamlMergeInto [] src = .ok merged)
    (hl : yamlTranslatePairs (pre ++ post) = .ok ls) :
    yamlTranslate (.mapping (pre ++ ("<<", x) :: post)) = .ok (.map (ls.foldl rput merged)) := by
  rw [ym_TP_append] at hl
  rw [yamlTranslate_mapping, ym_TM_append, yamlTranslateMerges_no_merge pre [] hpre, ok_bind,
    ym_TM_cons_merge, hx, ok_bind, hm, ok_bind, yamlTranslateMerges_no_merge post merged hpost,
    ok_bind, ym_TP_append, ym_TP_cons_merge, hl]
  rfl

/-! ## merge keys expanded

`ym_expand` writes a tree without `<<`: the entries a `<<` value contributes (`ym_inline`: those of
a mapping, or of the mappings of a sequence with the later ones first, so that earlier ones win)
are put in front of the explicit keys, recursively.  It is `none` when some `<<` value is neither
a mapping nor a sequence of mappings. -/

mutual
def ym_expand : YNode → Option YNode
  | .scalar t v f => some (.scalar t v f)
  | .seq items =>
    match ym_expandList items with
    | some xs => some (.seq xs)
    | none => none
  | .mapping pairs =>
    match ym_expandMerges pairs with
    | none => none
    | some m =>
      match ym_expandLocals pairs with
      | none => none
      | some l => some (.mapping (m ++ l))
  | .empty => some .empty
def ym_expandList : List YNode → Option (List YNode)
  | [] => some []
  | x :: xs =>
    match ym_expand x with
    | none => none
    | some x' =>
      match ym_expandList xs with
      | none => none
      | some xs' => some (x' :: xs')
def ym_expandMerges : ym_YPairs → Option ym_YPairs
  | [] => some []
  | (k, v) :: rest =>
    if k == "<<" then
      match ym_inline v with
      | none => none
      | some a =>
        match ym_expandMerges rest with
        | none => none
        | some b => some (a ++ b)
    else ym_expandMerges rest
def ym_expandLocals : ym_YPairs → Option ym_YPairs
  | [] => some []
  | (k, v) :: rest =>
    if k == "<<" then ym_expandLocals rest
    else
      match ym_expand v with
      | none => none
      | some v' =>
        match ym_expandLocals rest with
        | none => none
        | some r => some ((k, v') :: r)
def ym_inline : YNode → Option ym_YPairs
  | .mapping pairs =>
    match ym_expandMerges pairs with
    | none => none
    | some m =>
      match ym_expandLocals pairs with
      | none => none
      | some l => some (m ++ l)
  | .seq items => ym_inlineSeq items
  | .scalar _ _ _ => none
  | .empty => none
def ym_inlineSeq : List YNode → Option ym_YPairs
  | [] => some []
  | x :: xs =>
    match x with
    | .mapping _ =>
      match ym_inline x with
      | none => none
      | some p =>
        match ym_inlineSeq xs with
        | none => none
        | some r => some (r ++ p)
    | _ => none
end

/-! ## the equations of the expansion, as a program in the `Option` monad -/

theorem ym_expandMerges_cons_other (k : String) (v : YNode) (rest : ym_YPairs) (h : k ≠ "<<") :
    ym_expandMerges ((k, v) :: rest) = ym_expandMerges rest := by
  rw [ym_expandMerges, if_neg (by simpa using h)]
theorem ym_expandLocals_cons_merge (v : YNode) (rest : ym_YPairs) :
    ym_expandLocals (("<<", v) :: rest) = ym_expandLocals rest := by
  rw [ym_expandLocals]
  simp only [beq_self_eq_true, if_true]
theorem ym_expand_seq (items : List YNode) :
    ym_expand (.seq items) = (ym_expandList items).bind fun xs => some (.seq xs) := by
  rw [ym_expand]; cases ym_expandList items <;> rfl
theorem ym_expand_mapping (ps : ym_YPairs) :
    ym_expand (.mapping ps) = (ym_expandMerges ps).bind fun m =>
      (ym_expandLocals ps).bind fun l => some (.mapping (m ++ l)) := by
  rw [ym_expand]; cases ym_expandMerges ps <;> cases ym_expandLocals ps <;> rfl
theorem ym_expandList_cons (x : YNode) (xs : List YNode) :
    ym_expandList (x :: xs) = (ym_expand x).bind fun x' =>
      (ym_expandList xs).bind fun r => some (x' :: r) := by
  rw [ym_expandList]; cases ym_expand x <;> cases ym_expandList xs <;> rfl
theorem ym_expandMerges_cons_merge (v : YNode) (rest : ym_YPairs) :
    ym_expandMerges (("<<", v) :: rest) = (ym_inline v).bind fun a =>
      (ym_expandMerges rest).bind fun b => some (a ++ b) := by
  rw [ym_expandMerges]
  simp only [beq_self_eq_true, if_true]
  cases ym_inline v <;> cases ym_expandMerges rest <;> rfl
theorem ym_expandLocals_cons_other (k : String) (v : YNode) (rest : ym_YPairs) (h : k ≠ "<<") :
    ym_expandLocals ((k, v) :: rest) = (ym_expand v).bind fun v' =>
      (ym_expandLocals rest).bind fun r => some ((k, v') :: r) := by
  rw [ym_expandLocals, if_neg (by simpa using h)]
  cases ym_expand v <;> cases ym_expandLocals rest <;> rfl
theorem ym_inline_mapping (ps : ym_YPairs) :
    ym_inline (.mapping ps) = (ym_expandMerges ps).bind fun m =>
      (ym_expandLocals ps).bind fun l => some (m ++ l) := by
  rw [ym_inline]; cases ym_expandMerges ps <;> cases ym_expandLocals ps <;> rfl
theorem ym_inlineSeq_cons_mapping (ps : ym_YPairs) (xs : List YNode) :
    ym_inlineSeq (.mapping ps :: xs) = (ym_inline (.mapping ps)).bind fun p =>
      (ym_inlineSeq xs).bind fun r => some (r ++ p) := by
  rw [ym_inlineSeq]; cases ym_inline (.mapping ps) <;> cases ym_inlineSeq xs <;> rfl

/-! ## outcome relations: both fail, or both succeed with related results -/

def ym_Fail {α : Type} (a : R α) : Prop := ∃ e, a = .error e

theorem ym_Fail_error {α : Type} (e : Err) : ym_Fail (.error e : R α) := ⟨e, rfl⟩

def ym_RelOn {α β : Type} (P : α → β → Prop) (a : R α) (b : R β) : Prop :=
  (ym_Fail a ∧ ym_Fail b) ∨ ∃ r r', a = .ok r ∧ b = .ok r' ∧ P r r'

theorem ym_RelOn_ok {α β : Type} {P : α → β → Prop} {r : α} {r' : β} (h : P r r') :
    ym_RelOn P (.ok r) (.ok r') := Or.inr ⟨r, r', rfl, rfl, h⟩

theorem ym_RelOn_bind {α β γ δ : Type} {P : α → β → Prop} {Q : γ → δ → Prop} {a : R α} {b : R β}
    {f : α → R γ} {g : β → R δ} (h : ym_RelOn P a b)
    (hf : ∀ r r', P r r' → ym_RelOn Q (f r) (g r')) : ym_RelOn Q (a >>= f) (b >>= g) := by
  rcases h with ⟨⟨e, rfl⟩, ⟨e', rfl⟩⟩ | ⟨r, r', rfl, rfl, hr⟩
  · exact Or.inl ⟨⟨e, rfl⟩, ⟨e', rfl⟩⟩
  · exact hf r r' hr

theorem ym_RelOn_congr_left {α β : Type} {P : α → β → Prop} {a a' : R α} {b : R β}
    (hs : (ym_Fail a ∧ ym_Fail a') ∨ a = a') (h : ym_RelOn P a b) : ym_RelOn P a' b := by
  rcases hs with ⟨h1, h2⟩ | rfl
  · rcases h with ⟨_, hb⟩ | ⟨m, l, rfl, _, _⟩
    · exact Or.inl ⟨h2, hb⟩
    · obtain ⟨e, he⟩ := h1; cases he
  · exact h

def ym_Rel (a b : R Raw) : Prop := ym_RelOn (fun r r' => ym_norm r = ym_norm r') a b

theorem ym_Rel_refl (a : R Raw) : ym_Rel a a := by
  cases a with
  | error e => exact Or.inl ⟨⟨e, rfl⟩, ⟨e, rfl⟩⟩
  | ok r => exact ym_RelOn_ok rfl

-- the next three are `ym_RelOn` written out (results related through `ym_normList`, through
-- `ym_normFields`, by the lookups of a merge): its rules apply to them by unfolding
def ym_RelL (a b : R (List Raw)) : Prop :=
  (ym_Fail a ∧ ym_Fail b) ∨ ∃ r r', a = .ok r ∧ b = .ok r' ∧ ym_normList r = ym_normList r'
def ym_RelF (a b : R RFields) : Prop :=
  (ym_Fail a ∧ ym_Fail b) ∨ ∃ r r', a = .ok r ∧ b = .ok r' ∧ ym_normFields r = ym_normFields r'
/-- `a` merges into `acc` what the plain pairs `b` hold -/
def ym_RelM (a b : R RFields) (acc : RFields) : Prop :=
  (ym_Fail a ∧ ym_Fail b) ∨
    ∃ m l, a = .ok m ∧ b = .ok l ∧ ∀ k, ym_nl m k = (ym_nl l k).or (ym_nl acc k)

theorem ym_RelM_seq {A PA PB : R RFields} {B : RFields → R RFields} {acc : RFields}
    (h1 : ym_RelM A PA acc) (h2 : ∀ d, ym_RelM (B d) PB d) :
    ym_RelM (A >>= B) (PA >>= fun x => PB >>= fun y => pure (x ++ y)) acc := by
  refine ym_RelOn_bind h1 fun d la hd => ?_
  rcases h2 d with ⟨he, ⟨e', rfl⟩⟩ | ⟨m, lb, hm, rfl, hk⟩
  · exact Or.inl ⟨he, ⟨e', rfl⟩⟩
  · exact Or.inr ⟨m, la ++ lb, hm, rfl, fun k => by rw [hk, hd, ym_nl_append, Option.or_assoc]⟩

/-! ## shapes of translated nodes -/

theorem ym_All_ok {α : Type} {P : α → Prop} {v : α} (h : P v) : ym_All P (.ok v : R α) := by
  intro r hr; cases hr; exact h
theorem ym_All_bind {α β : Type} {P : α → Prop} {Q : β → Prop} {a : R α} {f : α → R β}
    (h1 : ym_All P a) (h2 : ∀ x, P x → ym_All Q (f x)) : ym_All Q (a >>= f) := by
  cases a with
  | error e => intro r hr; cases hr
  | ok x => exact h2 x (h1 x rfl)
theorem ym_All_true {α : Type} (a : R α) : ym_All (fun _ => True) a := fun _ _ => trivial

theorem ym_T_mapping_shape (ps : ym_YPairs) :
    ym_All (fun r => ∃ m, r = .map m) (yamlTranslate (.mapping ps)) := by
  rw [yamlTranslate_mapping]
  exact ym_All_bind (ym_All_true _) fun _ _ => ym_All_bind (ym_All_true _) fun _ _ =>
    ym_All_ok ⟨_, rfl⟩

theorem ym_T_seq_shape (items : List YNode) :
    ym_All (fun r => ∃ xs, yamlTranslateList items = .ok xs ∧ r = .list xs)
      (yamlTranslate (.seq items)) := by
  rw [ym_T_seq]
  cases yamlTranslateList items with
  | error e => intro r hr; cases hr
  | ok xs => exact ym_All_ok ⟨xs, rfl, rfl⟩

theorem ym_T_isMap (x : YNode) : ym_All (fun r => ym_isMapR r = ym_isMapping x) (yamlTranslate x) := by
  intro r h
  cases x with
  | scalar t v f => rw [ym_T_scalar] at h; exact ((ym_scalar_spec t v f).all r h).2.1
  | seq items => obtain ⟨xs, _, rfl⟩ := ym_T_seq_shape items r h; rfl
  | mapping ps => obtain ⟨m, rfl⟩ := ym_T_mapping_shape ps r h; rfl
  | empty => rw [ym_T_empty] at h; cases h; rfl

theorem ym_TL_allMap : ∀ (items : List YNode),
    ym_All (fun xs => xs.all ym_isMapR = items.all ym_isMapping) (yamlTranslateList items)
  | [] => by rw [ym_TL_nil]; exact ym_All_ok rfl
  | x :: items => by
    rw [ym_TL_cons]
    exact ym_All_bind (ym_T_isMap x) fun r hr => ym_All_bind (ym_TL_allMap items) fun rs hrs =>
      ym_All_ok (by rw [List.all_cons, List.all_cons, hr, hrs])

/-- which nodes may stand under a `<<` key -/
def ym_mergeable : YNode → Bool
  | .mapping _ => true
  | .seq items => items.all ym_isMapping
  | _ => false

theorem yamlMergeInto_error (acc : RFields) (r : Raw) (e : Err)
    (h : yamlMergeInto acc r = .error e) : e = .invalidType := by
  cases r with
  | map kvs => cases h
  | list xs => exact ym_mergeInto_list_error xs acc e h
  | _ => cases h; rfl

theorem ym_mergeInto_list_spec (acc : RFields) : ∀ (xs : List Raw),
    ym_Out (xs.all ym_isMapR)
      (fun d => hasMapAnyFields acc = false → hasMapAnyList xs = false → hasMapAnyFields d = false)
      (yamlMergeInto acc (.list xs))
  | [] => .ok fun h _ => h
  | x :: xs => by
    rw [ym_mergeInto_list_cons, List.all_cons, Bool.and_comm]
    refine (ym_mergeInto_list_spec acc xs).bind fun d _ hd => ?_
    cases x with
    | map kvs =>
      refine .ok fun ha hx => ?_
      rw [hasMapAnyList, Bool.or_eq_false_iff] at hx
      exact ym_clean_foldl_rput kvs d (hd ha hx.2) hx.1
    | _ => exact ⟨rfl, Or.inl rfl⟩

/-- merging the translation of `v` into `acc`: possible exactly when `v` is mergeable -/
theorem ym_mergeInto_spec (v : YNode) (r : Raw) (acc : RFields) (h : yamlTranslate v = .ok r) :
    ym_Out (ym_mergeable v)
      (fun d => hasMapAnyFields acc = false → hasMapAny r = false → hasMapAnyFields d = false)
      (yamlMergeInto acc r) := by
  cases v with
  | scalar t v f =>
    rw [ym_T_scalar] at h
    obtain ⟨_, h1, h2⟩ := (ym_scalar_spec t v f).all r h
    rw [ym_mergeInto_other acc r h1 h2]
    exact ⟨rfl, Or.inl rfl⟩
  | seq items =>
    obtain ⟨xs, hx, rfl⟩ := ym_T_seq_shape items r h
    rw [ym_mergeable, ← ym_TL_allMap items xs hx]
    exact ym_mergeInto_list_spec acc xs
  | mapping ps =>
    obtain ⟨m, rfl⟩ := ym_T_mapping_shape ps r h
    exact .ok fun ha hm => ym_clean_foldl_rput m acc ha hm
  | empty =>
    rw [ym_T_empty] at h; cases h
    exact ⟨rfl, Or.inl rfl⟩

/-! ## a mapping against its inlined pairs -/

theorem ym_nl_mapping {mg lm ls ll : RFields}
    (hk : ∀ k, ym_nl mg k = (ym_nl lm k).or (ym_nl [] k))
    (hn : ym_normFields ls = ym_normFields ll) (k : String) :
    ym_nl (ls.foldl rput mg) k = ym_nl (lm ++ ll) k := by
  rw [ym_nl_foldl_rput, ym_nl_append, hk, ym_nl_of_normFields_eq hn k, ym_nl_nil, Option.or_none]

theorem ym_mapping_inline (ps m l : ym_YPairs)
    (hm : ∀ acc, ym_RelM (yamlTranslateMerges ps acc) (yamlTranslatePairs m) acc)
    (hl : ym_RelF (yamlTranslatePairs ps) (yamlTranslatePairs l)) (acc : RFields) :
    ym_RelM (yamlTranslate (.mapping ps) >>= yamlMergeInto acc) (yamlTranslatePairs (m ++ l)) acc := by
  rw [yamlTranslate_mapping, ym_TP_append, bind_assoc]
  refine ym_RelOn_bind (hm []) fun mg lm hk => ?_
  rw [bind_assoc]
  refine ym_RelOn_bind hl fun ls ll hn => ?_
  rw [pure_bind, yamlMergeInto_map]
  exact ym_RelOn_ok fun k => by rw [ym_nl_foldl_rput, ym_nl_mapping hk hn]

theorem ym_mapping_rel (ps m l : ym_YPairs) (hnm : ym_noMerge (m ++ l))
    (hm : ∀ acc, ym_RelM (yamlTranslateMerges ps acc) (yamlTranslatePairs m) acc)
    (hl : ym_RelF (yamlTranslatePairs ps) (yamlTranslatePairs l)) :
    ym_Rel (yamlTranslate (.mapping ps)) (yamlTranslate (.mapping (m ++ l))) := by
  rw [ym_T_mapping_noMerge _ hnm, yamlTranslate_mapping, ym_TP_append, bind_assoc]
  refine ym_RelOn_bind (hm []) fun mg lm hk => ?_
  rw [bind_assoc]
  refine ym_RelOn_bind hl fun ls ll hn => ?_
  rw [pure_bind]
  refine ym_RelOn_ok ((ym_norm_map_eq_iff _ _).2 fun k => ?_)
  rw [ym_nl_mapping hk hn, ym_nl_foldl_rput, ym_nl_nil, Option.or_none]

/-- `yamlMergeInto` of a list merges its LAST element first, while the list is translated first to
    last.  So merging the translated tail and then the head is merging the whole translated list —
    except that, when something fails, the two sides may fail differently: hence "both fail, or
    equal", the form `ym_RelOn_congr_left` takes. -/
theorem ym_seq_swap (x : YNode) (rest : List YNode) (acc : RFields)
    (hx : ym_isMapping x = true) :
    (ym_Fail ((yamlTranslateList rest >>= fun xs => yamlMergeInto acc (.list xs)) >>=
        fun d => yamlTranslate x >>= yamlMergeInto d) ∧
      ym_Fail (yamlTranslateList (x :: rest) >>= fun xs => yamlMergeInto acc (.list xs))) ∨
    ((yamlTranslateList rest >>= fun xs => yamlMergeInto acc (.list xs)) >>=
        fun d => yamlTranslate x >>= yamlMergeInto d) =
      (yamlTranslateList (x :: rest) >>= fun xs => yamlMergeInto acc (.list xs)) := by
  rw [ym_TL_cons]
  cases hT : yamlTranslate x with
  | error e =>
    left
    refine ⟨?_, ⟨e, rfl⟩⟩
    cases yamlTranslateList rest >>= fun xs => yamlMergeInto acc (.list xs) with
    | error e' => exact ⟨e', rfl⟩
    | ok d => exact ⟨e, rfl⟩
  | ok r =>
    right
    have hr : ym_isMapR r = true := by rw [ym_T_isMap x r hT, hx]
    cases r with
    | map kvs =>
      cases yamlTranslateList rest with
      | error e => rfl
      | ok rs =>
        simp only [ok_bind, R_pure, ym_mergeInto_list_cons]
        cases yamlMergeInto acc (.list rs) <;> rfl
    | _ => cases hr

/-! ## `yamlTranslate` succeeds exactly on the well-typed trees, and then without `json.Number` or `map[any]any` -/

mutual
/-- well-typed node trees: every scalar is acceptable (`ym_scalarOK`) and every `<<` value is a
    mapping or a sequence of mappings -/
def ym_wt : YNode → Bool
  | .scalar t v f => ym_scalarOK t v f
  | .seq items => ym_wtList items
  | .mapping ps => ym_wtMerges ps && ym_wtLocals ps
  | .empty => true
def ym_wtList : List YNode → Bool
  | [] => true
  | x :: xs => ym_wt x && ym_wtList xs
def ym_wtMerges : ym_YPairs → Bool
  | [] => true
  | (k, v) :: rest =>
    if k == "<<" then ym_wt v && ym_mergeable v && ym_wtMerges rest else ym_wtMerges rest
def ym_wtLocals : ym_YPairs → Bool
  | [] => true
  | (k, v) :: rest => if k == "<<" then ym_wtLocals rest else ym_wt v && ym_wtLocals rest
end

theorem ym_wtMerges_cons_merge (v : YNode) (rest : ym_YPairs) :
    ym_wtMerges (("<<", v) :: rest) = (ym_wt v && ym_mergeable v && ym_wtMerges rest) := by
  rw [ym_wtMerges]
  simp only [beq_self_eq_true, if_true]
theorem ym_wtMerges_cons_other (k : String) (v : YNode) (rest : ym_YPairs) (h : k ≠ "<<") :
    ym_wtMerges ((k, v) :: rest) = ym_wtMerges rest := by
  rw [ym_wtMerges, if_neg (by simpa using h)]
theorem ym_wtLocals_cons_merge (v : YNode) (rest : ym_YPairs) :
    ym_wtLocals (("<<", v) :: rest) = ym_wtLocals rest := by
  rw [ym_wtLocals]
  simp only [beq_self_eq_true, if_true]
theorem ym_wtLocals_cons_other (k : String) (v : YNode) (rest : ym_YPairs) (h : k ≠ "<<") :
    ym_wtLocals ((k, v) :: rest) = (ym_wt v && ym_wtLocals rest) := by
  rw [ym_wtLocals, if_neg (by simpa using h)]

mutual
theorem ym_T_spec : ∀ (n : YNode),
    ym_Out (ym_wt n) (fun r => hasMapAny r = false) (yamlTranslate n)
  | .scalar t v f => by
    rw [ym_T_scalar, ym_wt]; exact (ym_scalar_spec t v f).mono fun _ h => h.1
  | .empty => by rw [ym_T_empty, ym_wt]; exact .ok rfl
  | .seq items => by rw [ym_T_seq, ym_wt]; exact (ym_TL_spec items).map _ fun _ h => h
  | .mapping ps => by
    rw [yamlTranslate_mapping, ym_wt]
    exact (ym_TM_spec ps []).bind2 _ (ym_TP_spec ps) fun mg ls hmg hls =>
      ym_clean_foldl_rput ls mg (hmg rfl) hls
theorem ym_TL_spec : ∀ (xs : List YNode),
    ym_Out (ym_wtList xs) (fun rs => hasMapAnyList rs = false) (yamlTranslateList xs)
  | [] => by rw [ym_TL_nil, ym_wtList]; exact .ok rfl
  | x :: xs => by
    rw [ym_TL_cons, ym_wtList]
    exact (ym_T_spec x).bind2 _ (ym_TL_spec xs) fun r rs hr hrs => by
      rw [hasMapAnyList, hr, hrs]; rfl
theorem ym_TM_spec : ∀ (ps : ym_YPairs) (acc : RFields),
    ym_Out (ym_wtMerges ps) (fun d => hasMapAnyFields acc = false → hasMapAnyFields d = false)
      (yamlTranslateMerges ps acc)
  | [], acc => by rw [ym_TM_nil, ym_wtMerges]; exact .ok id
  | (k, v) :: rest, acc => by
    by_cases hk : k = "<<"
    · subst hk
      rw [ym_TM_cons_merge, ym_wtMerges_cons_merge]
      exact ((ym_T_spec v).bind fun r hr hc =>
          (ym_mergeInto_spec v r acc hr).mono fun d h ha => h ha hc).bind
        fun acc' _ h' => (ym_TM_spec rest acc').mono fun d h ha => h (h' ha)
    · rw [ym_TM_cons_other _ _ _ _ hk, ym_wtMerges_cons_other k v rest hk]
      exact ym_TM_spec rest acc
theorem ym_TP_spec : ∀ (ps : ym_YPairs),
    ym_Out (ym_wtLocals ps) (fun d => hasMapAnyFields d = false) (yamlTranslatePairs ps)
  | [] => by rw [ym_TP_nil, ym_wtLocals]; exact .ok rfl
  | (k, v) :: rest => by
    by_cases hk : k = "<<"
    · subst hk
      rw [ym_TP_cons_merge, ym_wtLocals_cons_merge]; exact ym_TP_spec rest
    · rw [ym_TP_cons_other _ _ _ hk, ym_wtLocals_cons_other k v rest hk]
      exact (ym_T_spec v).bind2 (fun r rs => (k, r) :: rs) (ym_TP_spec rest) fun r rs hr hrs => by
        rw [hasMapAnyFields, hr, hrs]; rfl
end

theorem ym_T_ok : ∀ (n : YNode), ym_ok (yamlTranslate n) = ym_wt n := fun n => (ym_T_spec n).ok_eq
theorem ym_TL_ok : ∀ (xs : List YNode), ym_ok (yamlTranslateList xs) = ym_wtList xs :=
  fun xs => (ym_TL_spec xs).ok_eq
theorem ym_TM_ok : ∀ (ps : ym_YPairs) (acc : RFields),
    ym_ok (yamlTranslateMerges ps acc) = ym_wtMerges ps :=
  fun ps acc => (ym_TM_spec ps acc).ok_eq
theorem ym_TP_ok : ∀ (ps : ym_YPairs), ym_ok (yamlTranslatePairs ps) = ym_wtLocals ps :=
  fun ps => (ym_TP_spec ps).ok_eq

theorem ym_T_err : ∀ (n : YNode), ym_ErrOK (yamlTranslate n) := fun n => (ym_T_spec n).errOK
theorem ym_TL_err : ∀ (xs : List YNode), ym_ErrOK (yamlTranslateList xs) :=
  fun xs => (ym_TL_spec xs).errOK
theorem ym_TM_err : ∀ (ps : ym_YPairs) (acc : RFields), ym_ErrOK (yamlTranslateMerges ps acc) :=
  fun ps acc => (ym_TM_spec ps acc).errOK
theorem ym_TP_err : ∀ (ps : ym_YPairs), ym_ErrOK (yamlTranslatePairs ps) :=
  fun ps => (ym_TP_spec ps).errOK

theorem ym_T_clean : ∀ (n : YNode), ym_All (fun r => hasMapAny r = false) (yamlTranslate n) :=
  fun n => (ym_T_spec n).all
theorem ym_TL_clean : ∀ (xs : List YNode),
    ym_All (fun rs => hasMapAnyList rs = false) (yamlTranslateList xs) :=
  fun xs => (ym_TL_spec xs).all
theorem ym_TM_clean : ∀ (ps : ym_YPairs) (acc : RFields), hasMapAnyFields acc = false →
    ym_All (fun d => hasMapAnyFields d = false) (yamlTranslateMerges ps acc) :=
  fun ps acc ha => ((ym_TM_spec ps acc).mono fun _ h => h ha).all
theorem ym_TP_clean : ∀ (ps : ym_YPairs),
    ym_All (fun d => hasMapAnyFields d = false) (yamlTranslatePairs ps) :=
  fun ps => (ym_TP_spec ps).all

theorem ym_T_normalize (n : YNode) (r : Raw) (h : yamlTranslate n = .ok r) :
    (yamlTranslate n >>= normalize) = .ok (ym_norm r) := by
  rw [h, ok_bind, ym_normalize_eq r (ym_T_clean n r h)]

/-- loading a document: translate, then normalise -/
theorem ym_load_spec (n : YNode) :
    ym_Out (ym_wt n) (fun v => ∃ r, yamlTranslate n = .ok r ∧ v = ym_norm r)
      (yamlTranslate n >>= normalize) := by
  rw [← Bool.and_true (ym_wt n)]
  exact (ym_T_spec n).bind fun r hr hc => (hc ▸ normalize_spec r).mono fun v hv => ⟨r, hr, hv⟩

/-! ## plain node trees: no `<<` key anywhere -/

mutual
def ym_plain : YNode → Bool
  | .seq items => ym_plainList items
  | .mapping ps => ym_plainPairs ps
  | _ => true
def ym_plainList : List YNode → Bool
  | [] => true
  | x :: xs => ym_plain x && ym_plainList xs
def ym_plainPairs : ym_YPairs → Bool
  | [] => true
  | (k, v) :: rest => k != "<<" && ym_plain v && ym_plainPairs rest
end

theorem ym_plainPairs_append : ∀ (a b : ym_YPairs),
    ym_plainPairs (a ++ b) = (ym_plainPairs a && ym_plainPairs b)
  | [], b => by rw [List.nil_append, ym_plainPairs, Bool.true_and]
  | (k, v) :: a, b => by
    rw [List.cons_append, ym_plainPairs, ym_plainPairs, ym_plainPairs_append a b]
    simp only [Bool.and_assoc]

theorem ym_plainPairs_noMerge : ∀ (q : ym_YPairs), ym_plainPairs q = true → ym_noMerge q
  | [], _ => ym_noMerge_nil
  | (k, v) :: rest, h => by
    rw [ym_plainPairs, Bool.and_eq_true, Bool.and_eq_true] at h
    exact ym_noMerge_cons (by simpa using h.1.1) (ym_plainPairs_noMerge rest h.2)

/-! ## the expansion theorem

`ym_expand` and its five companions, each described once: they give up (`none`) only on trees that
are not well-typed, and what they return has no `<<` key and loads as the same value. -/

/-- `ym_OutO b P o`, the outcome of an expansion: `o` is `none` only when `b` is false, and a result
    satisfies `P`.  Beside `ym_Out` (BklProofs/Lemmas/Stream.lean) because it holds one way only: `b`
    is well-typedness (`ym_wt`), which asks more than the expansion needs (acceptable scalars), so a
    tree that is not well-typed may still have an expansion. -/
def ym_OutO {α : Type} (b : Bool) (P : α → Prop) : Option α → Prop
  | none => b = false
  | some x => P x

section
variable {α β γ : Type} {b c : Bool} {P : α → Prop} {Q : β → Prop} {S : γ → Prop} {o : Option α}

theorem ym_OutO.bind {f : α → Option β} (h1 : ym_OutO b P o)
    (h2 : ∀ x, P x → ym_OutO c Q (f x)) : ym_OutO (b && c) Q (o.bind f) := by
  cases o with
  | none => exact (congrArg (· && c) h1 : _)
  | some x =>
    have := h2 x h1
    rw [Option.bind_some]
    cases hf : f x with
    | none => rw [hf] at this; exact (congrArg (b && ·) this).trans (Bool.and_false b)
    | some y => rw [hf] at this; exact this

theorem ym_OutO.map (g : α → β) (h : ym_OutO b P o) (hg : ∀ x, P x → Q (g x)) :
    ym_OutO b Q (o.bind fun x => some (g x)) := by
  cases o with
  | none => exact h
  | some x => exact hg x h

theorem ym_OutO.bind2 {o' : Option β} (g : α → β → γ) (h1 : ym_OutO b P o) (h2 : ym_OutO c Q o')
    (hg : ∀ x y, P x → Q y → S (g x y)) :
    ym_OutO (b && c) S (o.bind fun x => o'.bind fun y => some (g x y)) :=
  h1.bind fun x hx => h2.map (g x) fun y hy => hg x y hx hy

theorem ym_OutO.mono {P' : α → Prop} (h : ym_OutO b P o) (hP : ∀ x, P x → P' x) :
    ym_OutO b P' o := by
  cases o with
  | none => exact h
  | some x => exact hP x h

theorem ym_OutO.of_some {x : α} (h : ym_OutO b P o) (ho : o = some x) : P x := by
  subst ho; exact h

theorem ym_OutO.isSome (h : ym_OutO b P o) (hb : b = true) : o.isSome = true := by
  cases o with
  | none => rw [hb] at h; cases h
  | some x => rfl
end

mutual
theorem ym_expand_spec : ∀ (n : YNode), ym_OutO (ym_wt n)
    (fun n' => ym_plain n' = true ∧ ym_Rel (yamlTranslate n) (yamlTranslate n')) (ym_expand n)
  | .scalar t v f => by rw [ym_expand]; exact ⟨rfl, ym_Rel_refl _⟩
  | .empty => by rw [ym_expand]; exact ⟨rfl, ym_Rel_refl _⟩
  | .seq items => by
    rw [ym_expand_seq, ym_wt]
    refine (ym_expandList_spec items).map _ fun xs h => ⟨by rw [ym_plain]; exact h.1, ?_⟩
    rw [ym_T_seq, ym_T_seq]
    exact ym_RelOn_bind h.2 fun r r' hn => ym_RelOn_ok (by rw [ym_norm_list, ym_norm_list, hn])
  | .mapping ps => by
    rw [ym_expand_mapping, ym_wt]
    refine (ym_expandMerges_spec ps).bind2 _ (ym_expandLocals_spec ps) fun m l hm hl => ?_
    have hp : ym_plainPairs (m ++ l) = true := by rw [ym_plainPairs_append, hm.1, hl.1]; rfl
    exact ⟨by rw [ym_plain]; exact hp, ym_mapping_rel ps m l (ym_plainPairs_noMerge _ hp) hm.2 hl.2⟩
theorem ym_expandList_spec : ∀ (xs : List YNode), ym_OutO (ym_wtList xs)
    (fun xs' => ym_plainList xs' = true ∧ ym_RelL (yamlTranslateList xs) (yamlTranslateList xs'))
    (ym_expandList xs)
  | [] => by
    rw [ym_expandList, ym_TL_nil]; exact ⟨by rw [ym_plainList], ym_RelOn_ok rfl⟩
  | x :: xs => by
    rw [ym_expandList_cons, ym_wtList]
    refine (ym_expand_spec x).bind2 _ (ym_expandList_spec xs) fun x' r hx hr =>
      ⟨by rw [ym_plainList, hx.1, hr.1]; rfl, ?_⟩
    rw [ym_TL_cons, ym_TL_cons]
    exact ym_RelOn_bind hx.2 fun a a' ha => ym_RelOn_bind hr.2 fun b b' hb =>
      ym_RelOn_ok (by rw [ym_normList_cons, ym_normList_cons, ha, hb])
theorem ym_expandMerges_spec : ∀ (ps : ym_YPairs), ym_OutO (ym_wtMerges ps)
    (fun q => ym_plainPairs q = true ∧
      ∀ acc, ym_RelM (yamlTranslateMerges ps acc) (yamlTranslatePairs q) acc)
    (ym_expandMerges ps)
  | [] => by
    rw [ym_expandMerges]
    refine ⟨by rw [ym_plainPairs], fun acc => ?_⟩
    rw [ym_TM_nil, ym_TP_nil]
    exact ym_RelOn_ok fun k => by rw [ym_nl_nil, Option.none_or]
  | (k, v) :: rest => by
    by_cases hk : k = "<<"
    · subst hk
      rw [ym_expandMerges_cons_merge, ym_wtMerges_cons_merge]
      refine (ym_inline_spec v).bind2 _ (ym_expandMerges_spec rest) fun a b ha hb =>
        ⟨by rw [ym_plainPairs_append, ha.1, hb.1]; rfl, fun acc => ?_⟩
      rw [ym_TM_cons_merge, ym_TP_append]
      exact ym_RelM_seq (ha.2 acc) hb.2
    · rw [ym_expandMerges_cons_other k v rest hk, ym_wtMerges_cons_other k v rest hk]
      refine (ym_expandMerges_spec rest).mono fun q hq => ⟨hq.1, fun acc => ?_⟩
      rw [ym_TM_cons_other _ _ _ _ hk]
      exact hq.2 acc
theorem ym_expandLocals_spec : ∀ (ps : ym_YPairs), ym_OutO (ym_wtLocals ps)
    (fun q => ym_plainPairs q = true ∧ ym_RelF (yamlTranslatePairs ps) (yamlTranslatePairs q))
    (ym_expandLocals ps)
  | [] => by
    rw [ym_expandLocals, ym_TP_nil]; exact ⟨by rw [ym_plainPairs], ym_RelOn_ok rfl⟩
  | (k, v) :: rest => by
    by_cases hk : k = "<<"
    · subst hk
      rw [ym_expandLocals_cons_merge, ym_wtLocals_cons_merge, ym_TP_cons_merge]
      exact ym_expandLocals_spec rest
    · rw [ym_expandLocals_cons_other k v rest hk, ym_wtLocals_cons_other k v rest hk]
      refine (ym_expand_spec v).bind2 _ (ym_expandLocals_spec rest) fun v' r hv hr =>
        ⟨by rw [ym_plainPairs, bne_iff_ne.2 hk, hv.1, hr.1]; rfl, ?_⟩
      rw [ym_TP_cons_other _ _ _ hk, ym_TP_cons_other _ _ _ hk]
      exact ym_RelOn_bind hv.2 fun a a' ha => ym_RelOn_bind hr.2 fun b b' hb =>
        ym_RelOn_ok (by rw [ym_normFields_cons, ym_normFields_cons, ha, hb])
theorem ym_inline_spec : ∀ (v : YNode), ym_OutO (ym_wt v && ym_mergeable v)
    (fun q => ym_plainPairs q = true ∧
      ∀ acc, ym_RelM (yamlTranslate v >>= yamlMergeInto acc) (yamlTranslatePairs q) acc)
    (ym_inline v)
  | .scalar _ _ _ => by rw [ym_inline]; exact Bool.and_false _
  | .empty => by rw [ym_inline]; exact Bool.and_false _
  | .seq items => by
    rw [ym_inline, ym_wt, ym_mergeable]
    refine (ym_inlineSeq_spec items).mono fun q hq => ⟨hq.1, fun acc => ?_⟩
    rw [ym_T_seq, bind_assoc]
    simp only [pure_bind]
    exact hq.2 acc
  | .mapping ps => by
    rw [ym_inline_mapping, ym_wt, ym_mergeable, Bool.and_true]
    exact (ym_expandMerges_spec ps).bind2 _ (ym_expandLocals_spec ps) fun m l hm hl =>
      ⟨by rw [ym_plainPairs_append, hm.1, hl.1]; rfl, ym_mapping_inline ps m l hm.2 hl.2⟩
theorem ym_inlineSeq_spec : ∀ (items : List YNode),
    ym_OutO (ym_wtList items && items.all ym_isMapping)
    (fun q => ym_plainPairs q = true ∧ ∀ acc, ym_RelM
      (yamlTranslateList items >>= fun xs => yamlMergeInto acc (.list xs)) (yamlTranslatePairs q) acc)
    (ym_inlineSeq items)
  | [] => by
    rw [ym_inlineSeq]
    refine ⟨by rw [ym_plainPairs], fun acc => ?_⟩
    rw [ym_TL_nil, ym_TP_nil]
    exact ym_RelOn_ok fun k => by rw [ym_nl_nil, Option.none_or]
  | .mapping ps :: xs => by
    have hb : (ym_wtList (.mapping ps :: xs) && (YNode.mapping ps :: xs).all ym_isMapping) =
        ((ym_wt (.mapping ps) && ym_mergeable (.mapping ps)) &&
          (ym_wtList xs && xs.all ym_isMapping)) := by
      rw [ym_wtList, List.all_cons, ym_mergeable, ym_isMapping, Bool.true_and, Bool.and_true,
        Bool.and_assoc]
    rw [ym_inlineSeq_cons_mapping, hb]
    refine (ym_inline_spec (.mapping ps)).bind2 _ (ym_inlineSeq_spec xs) fun p r hp hr =>
      ⟨by rw [ym_plainPairs_append, hr.1, hp.1]; rfl, fun acc => ?_⟩
    rw [ym_TP_append]
    exact ym_RelOn_congr_left (ym_seq_swap (.mapping ps) xs acc rfl) (ym_RelM_seq (hr.2 acc) hp.2)
  | .scalar _ _ _ :: xs => by simp [ym_inlineSeq, ym_isMapping, ym_OutO]
  | .empty :: xs => by simp [ym_inlineSeq, ym_isMapping, ym_OutO]
  | .seq _ :: xs => by simp [ym_inlineSeq, ym_isMapping, ym_OutO]
end

theorem ym_expand_rel : ∀ (n n' : YNode), ym_expand n = some n' →
    ym_Rel (yamlTranslate n) (yamlTranslate n') :=
  fun n _ h => ((ym_expand_spec n).of_some h).2
theorem ym_expandList_rel : ∀ (xs xs' : List YNode), ym_expandList xs = some xs' →
    ym_RelL (yamlTranslateList xs) (yamlTranslateList xs') :=
  fun xs _ h => ((ym_expandList_spec xs).of_some h).2
theorem ym_expandMerges_rel : ∀ (ps q : ym_YPairs), ym_expandMerges ps = some q →
    ym_noMerge q ∧ ∀ acc, ym_RelM (yamlTranslateMerges ps acc) (yamlTranslatePairs q) acc :=
  fun ps q h => ((ym_expandMerges_spec ps).of_some h).imp_left (ym_plainPairs_noMerge q)
theorem ym_expandLocals_rel : ∀ (ps q : ym_YPairs), ym_expandLocals ps = some q →
    ym_noMerge q ∧ ym_RelF (yamlTranslatePairs ps) (yamlTranslatePairs q) :=
  fun ps q h => ((ym_expandLocals_spec ps).of_some h).imp_left (ym_plainPairs_noMerge q)
theorem ym_inline_rel : ∀ (v : YNode) (q : ym_YPairs), ym_inline v = some q →
    ym_noMerge q ∧ ∀ acc, ym_RelM (yamlTranslate v >>= yamlMergeInto acc) (yamlTranslatePairs q) acc :=
  fun v q h => ((ym_inline_spec v).of_some h).imp_left (ym_plainPairs_noMerge q)
theorem ym_inlineSeq_rel : ∀ (items : List YNode) (q : ym_YPairs), ym_inlineSeq items = some q →
    ym_noMerge q ∧ ∀ acc, ym_RelM
      (yamlTranslateList items >>= fun xs => yamlMergeInto acc (.list xs)) (yamlTranslatePairs q) acc :=
  fun items q h => ((ym_inlineSeq_spec items).of_some h).imp_left (ym_plainPairs_noMerge q)

theorem ym_expand_plain : ∀ (n n' : YNode), ym_expand n = some n' → ym_plain n' = true :=
  fun n _ h => ((ym_expand_spec n).of_some h).1
theorem ym_expandList_plain : ∀ (xs xs' : List YNode), ym_expandList xs = some xs' →
    ym_plainList xs' = true :=
  fun xs _ h => ((ym_expandList_spec xs).of_some h).1
theorem ym_expandMerges_plain : ∀ (ps q : ym_YPairs), ym_expandMerges ps = some q →
    ym_plainPairs q = true :=
  fun ps _ h => ((ym_expandMerges_spec ps).of_some h).1
theorem ym_expandLocals_plain : ∀ (ps q : ym_YPairs), ym_expandLocals ps = some q →
    ym_plainPairs q = true :=
  fun ps _ h => ((ym_expandLocals_spec ps).of_some h).1
theorem ym_inline_plain : ∀ (v : YNode) (q : ym_YPairs), ym_inline v = some q →
    ym_plainPairs q = true :=
  fun v _ h => ((ym_inline_spec v).of_some h).1
theorem ym_inlineSeq_plain : ∀ (items : List YNode) (q : ym_YPairs), ym_inlineSeq items = some q →
    ym_plainPairs q = true :=
  fun items _ h => ((ym_inlineSeq_spec items).of_some h).1

theorem ym_wt_expand : ∀ (n : YNode), ym_wt n = true → (ym_expand n).isSome = true :=
  fun n h => (ym_expand_spec n).isSome h
theorem ym_wt_expandList : ∀ (xs : List YNode), ym_wtList xs = true →
    (ym_expandList xs).isSome = true :=
  fun xs h => (ym_expandList_spec xs).isSome h
theorem ym_wt_expandMerges : ∀ (ps : ym_YPairs), ym_wtMerges ps = true →
    (ym_expandMerges ps).isSome = true :=
  fun ps h => (ym_expandMerges_spec ps).isSome h
theorem ym_wt_expandLocals : ∀ (ps : ym_YPairs), ym_wtLocals ps = true →
    (ym_expandLocals ps).isSome = true :=
  fun ps h => (ym_expandLocals_spec ps).isSome h
theorem ym_wt_inline : ∀ (v : YNode), ym_wt v = true → ym_mergeable v = true →
    (ym_inline v).isSome = true :=
  fun v h hm => (ym_inline_spec v).isSome (by rw [h, hm]; rfl)
theorem ym_wt_inlineSeq : ∀ (items : List YNode), ym_wtList items = true →
    items.all ym_isMapping = true → (ym_inlineSeq items).isSome = true :=
  fun items h hm => (ym_inlineSeq_spec items).isSome (by rw [h, hm]; rfl)

/-! ## a plain tree is its own expansion -/

mutual
theorem ym_expand_of_plain : ∀ (n : YNode), ym_plain n = true → ym_expand n = some n
  | .scalar t v f, _ => by rw [ym_expand]
  | .empty, _ => by rw [ym_expand]
  | .seq items, h => by
    rw [ym_plain] at h
    rw [ym_expand, ym_expandList_of_plain items h]
  | .mapping ps, h => by
    rw [ym_plain] at h
    obtain ⟨h1, h2⟩ := ym_expandPairs_of_plain ps h
    rw [ym_expand, h1, h2]; rfl
theorem ym_expandList_of_plain : ∀ (xs : List YNode), ym_plainList xs = true →
    ym_expandList xs = some xs
  | [], _ => by rw [ym_expandList]
  | x :: xs, h => by
    rw [ym_plainList, Bool.and_eq_true] at h
    rw [ym_expandList, ym_expand_of_plain x h.1, ym_expandList_of_plain xs h.2]
theorem ym_expandPairs_of_plain : ∀ (ps : ym_YPairs), ym_plainPairs ps = true →
    ym_expandMerges ps = some [] ∧ ym_expandLocals ps = some ps
  | [], _ => by rw [ym_expandMerges, ym_expandLocals]; exact ⟨rfl, rfl⟩
  | (k, v) :: rest, h => by
    rw [ym_plainPairs, Bool.and_eq_true, Bool.and_eq_true] at h
    obtain ⟨⟨hk, hv⟩, hr⟩ := h
    obtain ⟨h1, h2⟩ := ym_expandPairs_of_plain rest hr
    rw [ym_expandMerges_cons_other k v rest (bne_iff_ne.1 hk),
      ym_expandLocals_cons_other k v rest (bne_iff_ne.1 hk), h1, h2, ym_expand_of_plain v hv]
    exact ⟨rfl, rfl⟩
end

theorem ym_expand_none_fails (n : YNode) (h : ym_expand n = none) : ym_Fail (yamlTranslate n) := by
  have hw := ym_expand_spec n
  rw [h] at hw
  exact (hw ▸ ym_T_spec n).fails

/-! ## plain trees: only the scalars can fail -/

mutual
def ym_scalarsOK : YNode → Bool
  | .scalar t v f => ym_scalarOK t v f
  | .seq items => ym_scalarsOKList items
  | .mapping ps => ym_scalarsOKPairs ps
  | .empty => true
def ym_scalarsOKList : List YNode → Bool
  | [] => true
  | x :: xs => ym_scalarsOK x && ym_scalarsOKList xs
def ym_scalarsOKPairs : ym_YPairs → Bool
  | [] => true
  | (_, v) :: rest => ym_scalarsOK v && ym_scalarsOKPairs rest
end

mutual
theorem ym_plain_wt : ∀ (n : YNode), ym_plain n = true → ym_wt n = ym_scalarsOK n
  | .scalar t v f, _ => by rw [ym_wt, ym_scalarsOK]
  | .empty, _ => by rw [ym_wt, ym_scalarsOK]
  | .seq items, h => by
    rw [ym_plain] at h
    rw [ym_wt, ym_scalarsOK, ym_plainList_wt items h]
  | .mapping ps, h => by
    rw [ym_plain] at h
    obtain ⟨h1, h2⟩ := ym_plainPairs_wt ps h
    rw [ym_wt, ym_scalarsOK, h1, h2, Bool.true_and]
theorem ym_plainList_wt : ∀ (xs : List YNode), ym_plainList xs = true →
    ym_wtList xs = ym_scalarsOKList xs
  | [], _ => by rw [ym_wtList, ym_scalarsOKList]
  | x :: xs, h => by
    rw [ym_plainList, Bool.and_eq_true] at h
    rw [ym_wtList, ym_scalarsOKList, ym_plain_wt x h.1, ym_plainList_wt xs h.2]
theorem ym_plainPairs_wt : ∀ (ps : ym_YPairs), ym_plainPairs ps = true →
    ym_wtMerges ps = true ∧ ym_wtLocals ps = ym_scalarsOKPairs ps
  | [], _ => by rw [ym_wtMerges, ym_wtLocals, ym_scalarsOKPairs]; exact ⟨rfl, rfl⟩
  | (k, v) :: rest, h => by
    rw [ym_plainPairs, Bool.and_eq_true, Bool.and_eq_true] at h
    obtain ⟨⟨hk, hv⟩, hr⟩ := h
    obtain ⟨h1, h2⟩ := ym_plainPairs_wt rest hr
    rw [ym_wtMerges_cons_other k v rest (bne_iff_ne.1 hk),
      ym_wtLocals_cons_other k v rest (bne_iff_ne.1 hk), ym_scalarsOKPairs, ym_plain_wt v hv, h2]
    exact ⟨h1, rfl⟩
end

/-! ## a `<<` whose value is neither a mapping nor a list of mappings -/

theorem ym_merge_bad_value (pre post : ym_YPairs) (v : YNode) (r : Raw) (acc : RFields)
    (hpre : yamlTranslateMerges pre [] = .ok acc) (hv : yamlTranslate v = .ok r)
    (hm : ym_mergeable v = false) :
    yamlTranslate (.mapping (pre ++ ("<<", v) :: post)) = .error .invalidType := by
  rw [yamlTranslate_mapping, ym_TM_append, hpre, ok_bind, ym_TM_cons_merge, hv, ok_bind]
  obtain ⟨e, he⟩ := (hm ▸ ym_mergeInto_spec v r acc hv).fails
  rw [he, yamlMergeInto_error acc r e he]; rfl

end Bkl
