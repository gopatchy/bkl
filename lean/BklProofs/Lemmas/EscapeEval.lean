/-
  The output stage on plain data: `validate`, `findOutputs` and `filterOutput` leave it alone, each by
  the theorem of its own property (C07, C11) through the fact that plain data is `clean`, has no
  `$output` key and, once its nulls are dropped, is `noNull`.  C06 and C14 rest on it.
-/
import BklProofs.Lemmas.EscapeVal
import BklProofs.Lemmas.C11Spec
namespace Bkl

/-! ## plain data meets the condition under which each stage of the output does nothing

  The stages have their own theorems for that (`validate_iff`, Lemmas/Output.lean;
  `C11_no_marker_root_fallback`, `filterOutput_unmarked`, Lemmas/C11Spec.lean), stated in the
  vocabulary of their properties: `clean`, no `$output` key, `noNull`. -/

/-- data whose keys all satisfy `p` has no key on which `p` fails -/
theorem allStr_hasKey {p : String → Bool} {k : String} (hk : p k = false) (v : Val) :
    allStr p v = true → hasKey k v = false := by
  induction v using Val.induction_mem with
  | list xs ih =>
    rw [allStr, allStrList_iff, hasKey, hasKeyList_false]
    exact fun h x hx => ih x hx (h x hx)
  | map kvs ih =>
    rw [allStr, allStrFields_iff, hasKey, hasKeyFields_false]
    exact fun h q hq => Bool.or_eq_false_iff.2
      ⟨beq_eq_false_iff_ne.2 fun e => Bool.false_ne_true (hk.symm.trans (e ▸ (h q hq).1)),
        ih q hq (h q hq).2⟩
  | _ => intro _; rfl

theorem clean_of_allStr {p : String → Bool} (hp : ∀ s, p s = true → badString s = false) (v : Val) :
    allStr p v = true → clean v = true := by
  induction v using Val.induction_mem with
  | str s => intro h; rw [clean, hp s h]; rfl
  | list xs ih =>
    rw [allStr, allStrList_iff, clean, cleanList_iff]
    exact fun h x hx => ih x hx (h x hx)
  | map kvs ih =>
    rw [allStr, allStrFields_iff, clean, cleanFields_iff]
    exact fun h q hq => by rw [hp _ (h q hq).1, ih q hq (h q hq).2]; rfl
  | _ => intro _; rfl

/-- `noNull` of C11 asks the same of the root: it is `noNulls` and a root that is not null -/
theorem noNull_eq (v : Val) : noNull v = (!v.isNull && noNulls v) := by
  induction v using Val.induction_mem with
  | list xs ih =>
    rw [noNull, noNulls, Bool.eq_iff_iff, noNullList_iff]
    exact (forall₂_congr fun x hx => by rw [ih x hx]).trans noNullsList_iff.symm
  | map kvs ih =>
    rw [noNull, noNulls, Bool.eq_iff_iff, noNullFields_iff]
    exact (forall₂_congr fun q hq => by rw [ih q hq]).trans noNullsFields_iff.symm
  | _ => rfl

theorem noNull_of_noNulls (v : Val) (hn : noNulls v = true) (h0 : v.isNull = false) :
    noNull v = true := by
  rw [noNull_eq, h0, hn]; rfl

theorem e_validate_plain (v : Val) (h : allStr e_P v = true) : validate v = .ok () :=
  (validate_iff v).2 (clean_of_allStr
    (fun s hs => (validateString_iff s).1 (e_rc_validate (by simpa [e_P] using hs))) v h)

/-- `$output` is recognised, so it is no key of plain data: there is no marker of either polarity -/
theorem e_unmarked {v : Val} (h : allStr e_P v = true) :
    hasOutTrue v = false ∧ hasOutFalse v = false :=
  C11_no_key_no_marker v (allStr_hasKey (p := e_P)
    (Bool.eq_false_iff.2 fun hk => e_rc_names (by simpa [e_P] using hk) _ e_output_mem rfl) v h)

theorem e_findOutputs_plain (v : Val) (h : allStr e_P v = true) : findOutputs v = .ok (v, []) :=
  C11_no_marker_root_fallback v (e_unmarked h).1

theorem e_filterOutput_plain (v : Val) (h : allStr e_P v = true) (hn : noNulls v = true)
    (h0 : v.isNull = false) : filterOutput v = .ok (some v) :=
  filterOutput_unmarked v (e_unmarked h).2 (noNull_of_noNulls v hn h0)

end Bkl
