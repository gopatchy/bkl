/-
  BklProofs.Lemmas.Match — `matchV` (match.go): its two loops `matchFields` and `matchAll` as `List.all`, a map
  pattern without and with `$invert: true` (`matchV_map_noinv`, `matchV_map_inv`), the placeholder test.
-/
import Bkl.Match
import BklProofs.Lemmas.Fields
namespace Bkl

theorem matchFields_eq_all (okvs : Fields) (skip : Bool) (s : Fields) :
    matchFields okvs skip s =
      s.all (fun p => if skip && p.1 == "$invert" then true
                      else matchV ((fget okvs p.1).getD .null) p.2) := by
  induction s with
  | nil => simp [matchFields]
  | cons hd tl ih =>
    obtain ⟨k, v⟩ := hd
    rw [matchFields, ih, List.all_cons]

theorem matchAll_eq_all (os ps : List Val) :
    matchAll os ps = ps.all (fun p => os.any (fun o => matchV o p)) := by
  induction ps with
  | nil => simp [matchAll]
  | cons hd tl ih => rw [matchAll, ih, List.all_cons]

namespace Gen.Lib

/-- the model skips the `$invert` entries inside the loop; Go erases them from the pattern before the loop -/
theorem matchFields_skip_eq_fdel (okvs pkvs : Fields) :
    matchFields okvs true pkvs = matchFields okvs false (fdel pkvs "$invert") := by
  induction pkvs with
  | nil => rfl
  | cons kv rest ih =>
    obtain ⟨k, v⟩ := kv
    by_cases hk : k = "$invert"
    · subst hk; simp [fdel, matchFields, ih]
    · simp [fdel, matchFields, ih, hk]

theorem fhasBool_fdel_same (m : Fields) (k : String) (b : Bool) : fhasBool (fdel m k) k b = false := by
  rw [fhasBool, fget_fdel_same]

theorem matchV_map_noinv (obj : Val) (pkvs : Fields) (h : fhasBool pkvs "$invert" true = false) :
    matchV obj (.map pkvs) =
      (match obj with
       | .map okvs => if isPlaceholder okvs then false else matchFields okvs false pkvs
       | _ => false) := by
  cases obj <;> simp only [matchV, h] <;> rfl

theorem matchV_map_inv (obj : Val) (pkvs : Fields) (h : fhasBool pkvs "$invert" true = true) :
    matchV obj (.map pkvs) = !(matchV obj (.map (fdel pkvs "$invert"))) := by
  rw [matchV_map_noinv obj _ (fhasBool_fdel_same _ _ _)]
  cases obj <;> simp only [matchV, h, matchFields_skip_eq_fdel] <;> rfl

theorem isPlaceholder_eq (m : Fields) : isPlaceholder m =
    (m.length == 1 && m.any fun kv => kv.1 == "$merge" || kv.1 == "$replace" || kv.1 == "$encode") := by
  rcases m with _ | ⟨kv, _ | ⟨kv2, rest⟩⟩
  · rfl
  · simp only [isPlaceholder, List.length_singleton, BEq.rfl, List.any_cons, List.any_nil, Bool.or_false,
      Bool.true_and]
  · simp [isPlaceholder]

end Gen.Lib

theorem matchV_map_empty (m : Fields) : matchV (.map m) (.map []) = !isPlaceholder m := by
  rw [Gen.Lib.matchV_map_noinv _ _ rfl]
  show (if isPlaceholder m then false else true) = _
  cases isPlaceholder m <;> rfl

end Bkl
