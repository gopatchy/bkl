/-
  Strings under `$`-doubling, and the evaluator's string recognisers.  `doubleStr`, with the `$$` unescape
  of finalize as its inverse (`unescape_double`, `finalizeString_double`) and strictly monotone for the
  string order; `recognisedCore`: a directive name, a `$merge:` / `$replace:` / `$env:` prefix, an
  interpolation, or a string `validate` rejects, with what each phase sees where it answers no
  (`recognisedCore_false`; `e_stripPrefix_none`, `e_startsWith_false` for the prefix tests of
  Bkl/Process1.lean and Bkl/Process2.lean); a doubled string is not recognised (`e_rc_doubleStr`).
  C06 is stated in these terms; Lemmas/Process1, RefFree, Cycles, C10 and C13 use the recognisers too.
-/
import Bkl.Process2
import BklProofs.Lemmas.Fields
namespace Bkl

/-! ## doubling and unescaping -/

/-- every `$` becomes `$$` -/
def doubleChars : List Char → List Char
  | [] => []
  | c :: cs => if c = '$' then '$' :: '$' :: doubleChars cs else c :: doubleChars cs

def doubleStr (s : String) : String := String.ofList (doubleChars s.toList)

theorem doubleChars_dollar (cs : List Char) :
    doubleChars ('$' :: cs) = '$' :: '$' :: doubleChars cs := rfl

theorem doubleChars_cons_ne {c : Char} (h : c ≠ '$') (cs : List Char) :
    doubleChars (c :: cs) = c :: doubleChars cs := if_neg h

@[simp] theorem e_toList_doubleStr (s : String) : (doubleStr s).toList = doubleChars s.toList :=
  String.toList_ofList

theorem unescape_double (cs : List Char) : unescapeChars (doubleChars cs) = cs := by
  induction cs with
  | nil => rfl
  | cons c cs ih =>
    by_cases h : c = '$'
    · rw [h, doubleChars_dollar, unescapeChars.eq_1, ih]
    · rw [doubleChars_cons_ne h, unescapeChars.eq_2 _ _ (fun _ hc _ => h hc), ih]

theorem finalizeString_double (s : String) : finalizeString (doubleStr s) = s := by
  rw [finalizeString, e_toList_doubleStr, unescape_double, String.ofList_toList]

/-- the string contains `$$` -/
def hasDD : List Char → Bool
  | '$' :: '$' :: _ => true
  | _ :: rest => hasDD rest
  | [] => false

theorem e_unescape_noDD (cs : List Char) (h : hasDD cs = false) : unescapeChars cs = cs := by
  fun_induction hasDD cs with
  | case1 => cases h
  | case2 c rest hne ih => rw [unescapeChars.eq_2 _ _ hne, ih h]
  | case3 => rfl

theorem e_finalize_noDD (s : String) (h : hasDD s.toList = false) : finalizeString s = s := by
  rw [finalizeString, e_unescape_noDD _ h, String.ofList_toList]

/-! ## the evaluator's string recognisers -/

def directiveNames : List String :=
  ["$merge", "$replace", "$repeat", "$encode", "$decode", "$value", "$output", "$match",
   "$required", "$delete"]

/-- `interpBody` on characters -/
def e_interpChars (cs : List Char) : Option (List Char) :=
  match cs with
  | '$' :: '"' :: rest =>
    match rest.reverse with
    | '"' :: bodyRev => some bodyRev.reverse
    | [] => some []
    | _ => none
  | _ => none

theorem e_interpBody_eq (s : String) : interpBody s = e_interpChars s.toList := rfl

/-- recognised by some phase of the evaluator (not counting the `$$` escape): a directive name,
    a `$merge:` / `$replace:` / `$env:` prefix, an interpolation `$"…"`, or rejected by validate -/
def recogChars (cs : List Char) : Bool :=
  directiveNames.any (fun d => d.toList == cs)
  || "$merge:".toList.isPrefixOf cs
  || "$replace:".toList.isPrefixOf cs
  || "$env:".toList.isPrefixOf cs
  || (e_interpChars cs).isSome
  || !(validateChars cs).toBool

def recognisedCore (s : String) : Bool := recogChars s.toList

/-- recognised, or containing `$$` (which finalize rewrites) -/
def recognised (s : String) : Bool := recognisedCore s || hasDD s.toList

theorem e_stripPrefix_none {s pre : String} (h : pre.toList.isPrefixOf s.toList = false) :
    stripPrefix s pre = none := by
  have : ¬ (pre.toList <+: s.toList) := by
    rw [← List.isPrefixOf_iff_prefix]; simp [h]
  simp [stripPrefix, this]

theorem e_startsWith_false {s pre : String} (h : pre.toList.isPrefixOf s.toList = false) :
    s.startsWith pre = false := by
  have : ¬ (pre.toList <+: s.toList) := by
    rw [← List.isPrefixOf_iff_prefix]; simp [h]
  simp [this]

theorem recognisedCore_false {s : String} (h : recognisedCore s = false) :
    (∀ d ∈ directiveNames, s ≠ d) ∧ stripPrefix s "$merge:" = none ∧
    stripPrefix s "$replace:" = none ∧ s.startsWith "$env:" = false ∧ interpBody s = none ∧
    validateString s = .ok () := by
  simp only [recognisedCore, recogChars, Bool.or_eq_false_iff, List.any_eq_false] at h
  obtain ⟨⟨⟨⟨⟨hn, hm⟩, hr⟩, he⟩, hi⟩, hv⟩ := h
  refine ⟨fun d hd e => ?_, e_stripPrefix_none hm, e_stripPrefix_none hr, e_startsWith_false he,
    by simpa [e_interpBody_eq] using hi, ?_⟩
  · exact hn d hd (by rw [e]; exact beq_self_eq_true _)
  · unfold validateString
    cases hc : validateChars s.toList with
    | ok u => rfl
    | error e => rw [hc] at hv; cases hv

theorem e_rc_names {s : String} (h : recognisedCore s = false) :
    ∀ d ∈ directiveNames, s ≠ d := (recognisedCore_false h).1

theorem e_merge_mem : "$merge" ∈ directiveNames := by simp [directiveNames]
theorem e_replace_mem : "$replace" ∈ directiveNames := by simp [directiveNames]
theorem e_repeat_mem : "$repeat" ∈ directiveNames := by simp [directiveNames]
theorem e_encode_mem : "$encode" ∈ directiveNames := by simp [directiveNames]
theorem e_decode_mem : "$decode" ∈ directiveNames := by simp [directiveNames]
theorem e_value_mem : "$value" ∈ directiveNames := by simp [directiveNames]
theorem e_output_mem : "$output" ∈ directiveNames := by simp [directiveNames]
theorem e_match_mem : "$match" ∈ directiveNames := by simp [directiveNames]
theorem e_required_mem : "$required" ∈ directiveNames := by simp [directiveNames]
theorem e_delete_mem : "$delete" ∈ directiveNames := by simp [directiveNames]

theorem e_rc_env {s : String} (h : recognisedCore s = false) :
    s.startsWith "$env:" = false := (recognisedCore_false h).2.2.2.1

theorem e_rc_interp {s : String} (h : recognisedCore s = false) : interpBody s = none :=
  (recognisedCore_false h).2.2.2.2.1

theorem e_rc_validate {s : String} (h : recognisedCore s = false) :
    validateString s = .ok () := (recognisedCore_false h).2.2.2.2.2

/-! ## doubled strings are not recognised

Every recogniser asks for a `$` followed by another character that is not a `$`; after
doubling, a `$` is always followed by a `$`. -/

def dollarThenOther : List Char → Bool
  | '$' :: c :: _ => c != '$'
  | _ => false

theorem dollarThenOther_of_prefix {p cs : List Char} (hp : dollarThenOther p = true)
    (h : p.isPrefixOf cs = true) : dollarThenOther cs = true := by
  obtain ⟨t, rfl⟩ := List.isPrefixOf_iff_prefix.1 h
  unfold dollarThenOther at hp
  split at hp
  · exact hp
  · cases hp

theorem recogLiterals_dollarThenOther :
    (∀ d ∈ directiveNames, dollarThenOther d.toList = true) ∧
    dollarThenOther "$merge:".toList = true ∧ dollarThenOther "$replace:".toList = true ∧
    dollarThenOther "$env:".toList = true ∧ dollarThenOther "$required".toList = true := by
  decide +kernel

theorem e_lower_dollar : isLowerModel '$' = false := by decide

theorem dollarThenOther_of_recog {cs : List Char} (h : recogChars cs = true) :
    dollarThenOther cs = true := by
  obtain ⟨hnames, hmerge, hreplace, henv, hrequired⟩ := recogLiterals_dollarThenOther
  simp only [recogChars, Bool.or_eq_true, List.any_eq_true, beq_iff_eq] at h
  rcases h with ((((⟨d, hd, rfl⟩ | h) | h) | h) | h) | h
  · exact hnames d hd
  · exact dollarThenOther_of_prefix hmerge h
  · exact dollarThenOther_of_prefix hreplace h
  · exact dollarThenOther_of_prefix henv h
  · unfold e_interpChars at h
    split at h
    · rfl
    · cases h
  · unfold validateChars at h
    split at h
    · rename_i heq; rw [heq]; exact hrequired
    · split at h
      · rename_i c _ _
        split at h
        · rename_i hc
          have : c ≠ '$' := fun e => by rw [e, e_lower_dollar] at hc; cases hc
          simpa [dollarThenOther] using this
        · cases h
      · cases h

theorem dollarThenOther_double (cs : List Char) : dollarThenOther (doubleChars cs) = false := by
  cases cs with
  | nil => rfl
  | cons c cs =>
    by_cases h : c = '$'
    · rw [h, doubleChars_dollar]; rfl
    · rw [doubleChars_cons_ne h]
      unfold dollarThenOther
      split
      · rename_i heq; exact absurd (List.cons.inj heq).1 h
      · rfl

theorem e_recog_double (cs : List Char) : recogChars (doubleChars cs) = false :=
  Bool.eq_false_iff.2 fun h =>
    Bool.false_ne_true ((dollarThenOther_double cs).symm.trans (dollarThenOther_of_recog h))

theorem e_rc_doubleStr (s : String) : recognisedCore (doubleStr s) = false := by
  rw [recognisedCore, e_toList_doubleStr, e_recog_double]

/-! ## doubling is strictly monotone for the string order -/

theorem e_doubleChars_head (c : Char) (cs : List Char) :
    ∃ r, doubleChars (c :: cs) = c :: r := by
  by_cases h : c = '$'
  · exact ⟨'$' :: doubleChars cs, by rw [h, doubleChars_dollar]⟩
  · exact ⟨doubleChars cs, doubleChars_cons_ne h cs⟩

theorem e_doubleChars_lt {a b : List Char} (h : a < b) : doubleChars a < doubleChars b := by
  induction h with
  | @nil c cs =>
    obtain ⟨r, hr⟩ := e_doubleChars_head c cs
    rw [hr]; exact List.Lex.nil
  | @rel x xs y ys h =>
    obtain ⟨r1, h1⟩ := e_doubleChars_head x xs
    obtain ⟨r2, h2⟩ := e_doubleChars_head y ys
    rw [h1, h2]; exact List.Lex.rel h
  | @cons x xs ys _ ih =>
    by_cases hx : x = '$'
    · rw [hx, doubleChars_dollar, doubleChars_dollar]; exact .cons (.cons ih)
    · rw [doubleChars_cons_ne hx, doubleChars_cons_ne hx]; exact .cons ih

theorem doubleStr_lt {a b : String} (h : a < b) : doubleStr a < doubleStr b := by
  have h' : a.toList < b.toList := h
  show (doubleStr a).toList < (doubleStr b).toList
  rw [e_toList_doubleStr, e_toList_doubleStr]
  exact e_doubleChars_lt h'

theorem doubleStr_inj {a b : String} (h : doubleStr a = doubleStr b) : a = b := by
  have h1 := congrArg (fun s => unescapeChars s.toList) h
  simp only [e_toList_doubleStr, unescape_double] at h1
  exact String.toList_inj.1 h1

theorem doubleStr_eq_iff {a b : String} : doubleStr a = doubleStr b ↔ a = b :=
  ⟨doubleStr_inj, congrArg doubleStr⟩

theorem doubleStr_lt_iff {a b : String} : doubleStr a < doubleStr b ↔ a < b := by
  refine ⟨fun h => ?_, doubleStr_lt⟩
  rcases Std.lt_trichotomy a b with hab | he | hba
  · exact hab
  · exact absurd (he ▸ h) (String.lt_irrefl _)
  · exact absurd h (String.lt_asymm (doubleStr_lt hba))

end Bkl
