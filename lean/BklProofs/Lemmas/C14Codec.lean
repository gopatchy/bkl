/-
  BklProofs.Lemmas.C14Codec — helper definitions and lemmas for C14: an abstract single-document text codec
  (`TextCodec`) and what process2.go does around it (`encodeWith` = process2Encode, `decodeWith` =
  process2DecodeStringMap), tied to the model's `process2` (which stops with `Err.unmodelled` exactly where the codec
  would be called); a toy codec for the non-vacuity examples.
  `TextCodec` is not the `Codec` of Bkl/Stream.lean: that one is the single-document codec under C05's
  framing (lines of one document in, one value out), whereas process2.go hands `$encode`/`$decode` to a
  whole format (`MarshalStream` of one value to a string; `UnmarshalStream` of a string to any number of
  documents, then `normalize`), and the document count is part of what `$decode` checks.
-/
import BklProofs.Lemmas.Encode
import BklProofs.Lemmas.EscapeEval
import BklProofs.Lemmas.Process2
namespace Bkl

/-- One third-party text format (json / yaml / toml …), seen from process2.go:
    `enc v` is `string(GetFormat(name).MarshalStream([]any{v}))` (`none`: the marshaller failed),
    `decs s` is `GetFormat(name).UnmarshalStream([]byte(s))` followed by `normalize` of each
    document (`none`: the parser or `normalize` failed).
    `repr` is the class of values the format can represent, and `rt` is the only assumption made
    about the codec: a representable value is written as one document that reads back as itself. -/
structure TextCodec where
  name : String
  isCodec : isCodecFormat name = true
  enc : Val → Option String
  decs : String → Option (List Val)
  repr : Val → Prop
  rt : ∀ v, repr v → ∃ s, enc v = some s ∧ decs s = some [v]

/-- single-document decoder: exactly one document, else failure -/
def TextCodec.dec (c : TextCodec) (s : String) : Option Val :=
  match c.decs s with
  | some [d] => some d
  | _ => none

theorem TextCodec.rt' (c : TextCodec) (v : Val) (h : c.repr v) : (c.enc v).bind c.dec = some v := by
  obtain ⟨s, h1, h2⟩ := c.rt v h
  simp [h1, TextCodec.dec, h2]

/-- process2.go:process2Encode as the model has it: evaluate the remaining entries, validate,
    run the transform stack; a codec format leaves the model.  It is `encodeM` (Lemmas/Process2) at
    `P := process2 fuel docs root` (`encodeModel_eq`). -/
def encodeModel (fuel : Nat) (docs : List Val) (root : Val) (ec : Vars) (rest : Fields)
    (spec : Val) : R Val := do
  let obj2 ← process2 fuel docs root ec (.map rest)
  validate obj2
  match encodeAny obj2 spec with
  | .ok v => pure v
  | .err e => throw e
  | .codec _ _ => throw Err.unmodelled

/-- process2.go:process2Encode with the `default:` case of process2EncodeString served by the
    codec `c` (`f.MarshalStream([]any{obj})`, result converted to a string). -/
def encodeWith (c : TextCodec) (fuel : Nat) (docs : List Val) (root : Val) (ec : Vars)
    (rest : Fields) (spec : Val) : R Val := do
  let obj2 ← process2 fuel docs root ec (.map rest)
  validate obj2
  match encodeAny obj2 spec with
  | .ok v => pure v
  | .err e => throw e
  | .codec f v =>
    if f = c.name then
      match c.enc v with
      | some s => pure (.str s)
      | none => throw Err.other
    else throw Err.unmodelled

/-- process2.go:process2DecodeStringMap as the model has it (`rest` = the map without `$decode`,
    `f` = the format name): the three argument checks, then the model is left.  It is the string
    case of `decodeM` (Lemmas/Process2) (`decodeModel_eq`). -/
def decodeModel (rest : Fields) (f : String) : R Val :=
  match fget rest "$value" with
  | none => throw Err.invalidType
  | some (.str _) =>
    if (fdel rest "$value").length != 0 then throw Err.extraKeys
    else if isCodecFormat f then throw Err.unmodelled else throw Err.unknownFormat
  | some _ => throw Err.invalidType

/-- process2.go:process2DecodeStringMap with the codec `c`: `$value` must be present, a string,
    and the only other key; the text must hold exactly one document (`ErrUnmarshal` otherwise);
    the decoded (normalised) document is then evaluated by `process2` at the same depth. -/
def decodeWith (c : TextCodec) (fuel : Nat) (docs : List Val) (root : Val) (ec : Vars)
    (rest : Fields) (f : String) : R Val :=
  match fget rest "$value" with
  | none => throw Err.invalidType
  | some (.str s) =>
    if (fdel rest "$value").length != 0 then throw Err.extraKeys
    else if f = c.name then
      match c.decs s with
      | none => throw Err.other
      | some [d] => process2 fuel docs root ec d
      | some _ => throw Err.unmarshal
    else if isCodecFormat f then throw Err.unmodelled else throw Err.unknownFormat
  | some _ => throw Err.invalidType

/-! ## tie to the model -/

theorem encodeModel_eq (fuel : Nat) (docs : List Val) (root : Val) (ec : Vars) (rest : Fields)
    (spec : Val) :
    encodeModel fuel docs root ec rest spec
      = encodeM (process2 fuel docs root) ec (.map rest) spec := rfl

theorem decodeModel_eq (kvs : Fields) (f : String) :
    decodeModel (fdel kvs "$decode") f = decodeM kvs (.str f) := rfl

theorem length_bne_zero {α : Type} {l : List α} (h : l ≠ []) : (l.length != 0) = true := by
  cases l with
  | nil => exact absurd rfl h
  | cons a t => rfl

theorem encodeWith_conservative (c : TextCodec) (fuel : Nat) (docs : List Val) (root : Val)
    (ec : Vars) (rest : Fields) (spec : Val)
    (hr : encodeModel fuel docs root ec rest spec ≠ .error .unmodelled) :
    encodeWith c fuel docs root ec rest spec = encodeModel fuel docs root ec rest spec := by
  unfold encodeModel at hr ⊢
  unfold encodeWith
  cases h1 : process2 fuel docs root ec (.map rest) with
  | error e => rfl
  | ok obj2 =>
    simp only [h1, ok_bind] at hr ⊢
    cases h2 : validate obj2 with
    | error e => rfl
    | ok u =>
      simp only [h2, ok_bind] at hr ⊢
      cases h3 : encodeAny obj2 spec with
      | ok v => rfl
      | err e => rfl
      | codec f v => rw [h3] at hr; exact absurd rfl hr

theorem decodeWith_conservative (c : TextCodec) (fuel : Nat) (docs : List Val) (root : Val)
    (ec : Vars) (rest : Fields) (f : String) (hr : decodeModel rest f ≠ .error .unmodelled) :
    decodeWith c fuel docs root ec rest f = decodeModel rest f := by
  unfold decodeModel at hr ⊢
  unfold decodeWith
  cases h1 : fget rest "$value" with
  | none => rfl
  | some v =>
    cases v with
    | str s =>
      simp only [h1] at hr ⊢
      by_cases h2 : ((fdel rest "$value").length != 0) = true
      · simp only [h2, if_true]
      · simp only [h2, if_false, Bool.false_eq_true] at hr ⊢
        by_cases h3 : f = c.name
        · subst h3
          simp only [c.isCodec, if_true] at hr
          exact absurd rfl hr
        · simp only [h3, if_false]
    | _ => rfl

/-- The model's `process2` on a map (whose `$repeat` expansion is trivial) dispatches exactly to
    `encodeModel` / `decodeModel`, in this order: `$encode`, `$decode`, `$value`, entries. -/
theorem C14_process2_directive_dispatch (fuel : Nat) (docs : List Val) (root : Val) (ec : Vars)
    (kvs : Fields) (hs : Fields.sortedKeysB kvs = true) (hr : noRepeatEntries kvs) :
    process2 (fuel + 1) docs root ec (.map kvs) =
      match fget kvs "$encode" with
      | some spec => encodeModel fuel docs root ec (fdel kvs "$encode") spec
      | none =>
        match fget kvs "$decode" with
        | some (.str f) => decodeModel (fdel kvs "$decode") f
        | some _ => .error .invalidType
        | none =>
          match fget kvs "$value" with
          | some v =>
            if (fdel kvs "$value").length != 0 then .error .extraKeys
            else process2 fuel docs root ec v
          | none => process2Entries fuel docs root ec kvs := by
  rw [process2_map_noRepeat fuel docs root ec kvs hs hr]
  unfold mapBodyM
  cases fget kvs "$encode" with
  | some spec => exact (encodeModel_eq ..).symm
  | none =>
    cases fget kvs "$decode" with
    | none => rfl
    | some d =>
      cases d with
      | str f => exact (decodeModel_eq kvs f).symm
      | _ => rfl

example : Fields.sortedKeysB [("$encode", Val.str "json"), ("$value", .int 1)] = true ∧
    noRepeatEntries [("$encode", Val.str "json"), ("$value", .int 1)] := by
  exact ⟨by decide, noRepeatEntries_cons nofun (noRepeatEntries_cons nofun noRepeatEntries_nil)⟩

/-- Of the five argument errors of `$decode` that `C14_decode_bad_args` (C14.lean) states for
    `decodeWith`, the first four — a missing `$value`, a non-string `$value`, a key beside `$decode`
    and `$value`, an unknown format name — never reach the codec, so they are what the *model's*
    `process2` answers on a `$decode` map; before them: the `$decode` argument itself must be a
    string. -/
theorem C14_decode_bad_args_model (fuel : Nat) (docs : List Val) (root : Val) (ec : Vars)
    (kvs : Fields) (hs : Fields.sortedKeysB kvs = true) (hr : noRepeatEntries kvs)
    (he : fget kvs "$encode" = none) :
    (∀ d, fget kvs "$decode" = some d → (∀ f, d ≠ .str f) →
      process2 (fuel + 1) docs root ec (.map kvs) = .error .invalidType) ∧
    (∀ f, fget kvs "$decode" = some (.str f) → fget kvs "$value" = none →
      process2 (fuel + 1) docs root ec (.map kvs) = .error .invalidType) ∧
    (∀ f w, fget kvs "$decode" = some (.str f) → fget kvs "$value" = some w →
      (∀ s, w ≠ .str s) → process2 (fuel + 1) docs root ec (.map kvs) = .error .invalidType) ∧
    (∀ f s, fget kvs "$decode" = some (.str f) → fget kvs "$value" = some (.str s) →
      fdel (fdel kvs "$decode") "$value" ≠ [] →
      process2 (fuel + 1) docs root ec (.map kvs) = .error .extraKeys) ∧
    (∀ f s, fget kvs "$decode" = some (.str f) → fget kvs "$value" = some (.str s) →
      fdel (fdel kvs "$decode") "$value" = [] → isCodecFormat f = false →
      process2 (fuel + 1) docs root ec (.map kvs) = .error .unknownFormat) := by
  have hv : fget (fdel kvs "$decode") "$value" = fget kvs "$value" :=
    fget_fdel_ne _ _ _ (by decide)
  rw [C14_process2_directive_dispatch fuel docs root ec kvs hs hr, he]
  refine ⟨fun d h hd => ?_, fun f h h2 => ?_, fun f w h h2 hw => ?_, fun f s h h2 h3 => ?_,
    fun f s h h2 h3 h4 => ?_⟩
  · rw [h]
    cases d <;> first | exact absurd rfl (hd _) | rfl
  · simp only [h, decodeModel, hv, h2]; rfl
  · simp only [h, decodeModel, hv, h2]
    cases w <;> first | exact absurd rfl (hw _) | rfl
  · simp only [h, decodeModel, hv, h2, length_bne_zero h3, if_true]; rfl
  · simp only [h, decodeModel, hv, h2, h3, List.length_nil, bne_self_eq_false,
      Bool.false_eq_true, if_false, h4]; rfl

/-! ## the codec names are single-part specs -/

theorem codec_name_cases {f : String} (h : isCodecFormat f = true) :
    f = "json" ∨ f = "jsonl" ∨ f = "json-pretty" ∨ f = "toml" ∨ f = "yaml" ∨ f = "yml" := by
  simpa [isCodecFormat, or_assoc] using h

theorem codec_name_single {f : String} (h : isCodecFormat f = true) :
    f ∉ transformNames ∧ ':' ∉ f.toList := by
  rcases codec_name_cases h with rfl | rfl | rfl | rfl | rfl | rfl <;> decide

theorem encodeString_codec (obj : Val) {f : String} (h : isCodecFormat f = true) :
    encodeString obj f = .codec f obj := by
  rw [encodeString_eq obj (splitOn_colon_none f (codec_name_single h).2),
    encodeCmd_other obj (codec_name_single h).1, h]
  rfl

/-! ## the `{$value: v}` wrapper and the two directions around the codec -/

theorem process2_value_only (fuel : Nat) (docs : List Val) (root : Val) (ec : Vars) (v : Val)
    (hv : ∀ m, v = .map m → fget m "$repeat" = none) :
    process2 (fuel + 1) docs root ec (.map [("$value", v)]) = process2 fuel docs root ec v := by
  rw [process2_map_noRepeat _ _ _ _ _ rfl (noRepeatEntries_cons hv noRepeatEntries_nil)]
  simp [mapBodyM, fget, fdel]

theorem cx_plain_noRepeat {v : Val} (hp : plain v = true) :
    ∀ m, v = .map m → fget m "$repeat" = none := by
  intro m hm
  subst hm
  rw [e_plain_def] at hp
  simp only [allStr] at hp
  exact e_plainFields_fget hp e_repeat_mem

theorem validate_dropNulls_plain {v : Val} (hp : plain v = true) : validate (dropNulls v) = .ok () :=
  e_validate_plain _ (e_allStr_dropNulls _ v hp)

/-! ## a concrete codec (non-vacuity of `TextCodec` and of the C14 theorems) -/

def c14_exVal : Val := .map [("a", .int 1), ("b", .list [.str "x", .bool true])]
def c14_exText : String := "{\"a\":1,\"b\":[\"x\",true]}\n"

/-- A toy "json": one structured value is written as its JSON text, strings are written raw
    (so that arbitrary strings, e.g. `$"{a}"`, are representable), the empty text holds no
    document.  Only the `TextCodec` interface matters. -/
def c14_toyCodec : TextCodec where
  name := "json"
  isCodec := by simp [isCodecFormat]
  enc v := if v = c14_exVal then some c14_exText else
    match v with
    | .str s => some s
    | _ => none
  decs s := if s = c14_exText then some [c14_exVal] else if s = "" then some [] else some [.str s]
  repr v := v = c14_exVal ∨ ∃ s, v = .str s ∧ s ≠ c14_exText ∧ s ≠ ""
  rt := by
    intro v h
    rcases h with rfl | ⟨s, rfl, h1, h2⟩
    · exact ⟨c14_exText, by simp, by simp⟩
    · refine ⟨s, ?_, by simp [h1, h2]⟩
      have : Val.str s ≠ c14_exVal := by simp [c14_exVal]
      simp [this]

theorem c14_toyCodec_enc_ex : c14_toyCodec.enc c14_exVal = some c14_exText := by
  simp only [c14_toyCodec, ↓reduceIte]

theorem c14_toyCodec_decs_ex : c14_toyCodec.decs c14_exText = some [c14_exVal] := by
  simp only [c14_toyCodec, ↓reduceIte]

theorem c14_toyCodec_enc_str (s : String) : c14_toyCodec.enc (.str s) = some s := by
  simp only [c14_toyCodec, c14_exVal, reduceCtorEq, ↓reduceIte]

theorem c14_toyCodec_decs_str {s : String} (h1 : s ≠ c14_exText) (h2 : s ≠ "") :
    c14_toyCodec.decs s = some [.str s] := by
  simp only [c14_toyCodec, h1, h2, ↓reduceIte]

end Bkl
