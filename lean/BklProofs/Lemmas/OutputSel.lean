/-
  `filterOutput` (Bkl/Output.lean): its equations on each form of input (one `match` instead of a
  `do` block), on which the closed form `C11_filterOutput_eq` of Lemmas/C11Spec.lean rests.  What a
  successful call returns is read off that closed form (`filterOutput_ok_iff`, `filterOutput_some`,
  `filterOutputList_ok_iff`, `filterOutputFields_ok_iff`, there); the one-step inversion lemmas of this
  file say the same one constructor at a time.
-/
import BklProofs.Lemmas.Fields
import Bkl.Output
namespace Bkl

theorem o_sorted_tail {kv : String × Val} {rest : Fields}
    (h : Fields.sortedKeysB (kv :: rest) = true) : Fields.sortedKeysB rest = true :=
  sortedKeysB_iff.2 (sorted_tail (sortedKeysB_iff.1 h))

theorem o_fhasBool_sorted_mem (kvs : Fields) (k : String) (b : Bool)
    (hs : Fields.sortedKeysB kvs = true) (hb : fhasBool kvs k b = true) :
    ∀ kv ∈ kvs, kv.1 = k → kv.2 = .bool b := by
  intro kv hm hk
  have hg := fget_of_mem_sorted (sortedKeysB_iff.1 hs) (show (kv.1, kv.2) ∈ kvs from hm)
  rw [hk, fhasBool_iff.1 hb] at hg
  exact (Option.some.inj hg).symm

/-! ## `filterOutput` as equations -/

theorem os_filterOutput_map_eq (kvs : Fields) :
    filterOutput (.map kvs) =
      if fhasBool kvs "$output" false then .ok none
      else match filterOutputFields kvs with
        | .error e => .error e
        | .ok fs => .ok (some (.map fs)) := by
  simp only [filterOutput]
  split
  · rfl
  · cases filterOutputFields kvs <;> rfl

/-- `popListMapBool` reports marker entries with extra keys before the list is hidden -/
theorem filterOutput_list_eq (xs : List Val) :
    filterOutput (.list xs) =
      if hasListMapBool xs "$output" false then
        (match popListMapBool xs "$output" false with
         | .error e => .error e
         | .ok _ => .ok none)
      else match filterOutputList xs with
        | .error e => .error e
        | .ok rs => .ok (some (.list rs)) := by
  simp only [filterOutput]
  split
  · cases popListMapBool xs "$output" false <;> rfl
  · cases filterOutputList xs <;> rfl

theorem os_filterOutputFields_cons_eq (k : String) (v : Val) (rest : Fields) :
    filterOutputFields ((k, v) :: rest) =
      match filterOutput v with
      | .error e => .error e
      | .ok none => filterOutputFields rest
      | .ok (some v') =>
        match filterOutputFields rest with
        | .error e => .error e
        | .ok fs => .ok ((k, v') :: fs) := by
  simp only [filterOutputFields]
  cases filterOutput v with
  | error e => rfl
  | ok r =>
    cases r with
    | none => rfl
    | some v' => simp only [bind, Except.bind]; cases filterOutputFields rest <;> rfl

theorem os_filterOutputList_cons_eq (x : Val) (xs : List Val) :
    filterOutputList (x :: xs) =
      match filterOutput x with
      | .error e => .error e
      | .ok none => filterOutputList xs
      | .ok (some x') =>
        match filterOutputList xs with
        | .error e => .error e
        | .ok rs => .ok (x' :: rs) := by
  simp only [filterOutputList]
  cases filterOutput x with
  | error e => rfl
  | ok r =>
    cases r with
    | none => rfl
    | some x' => simp only [bind, Except.bind]; cases filterOutputList xs <;> rfl

/-! ## inversion of `filterOutput` -/

theorem filterOutput_map_ok {kvs : Fields} {r : Option Val}
    (h : filterOutput (.map kvs) = .ok r) :
    (fhasBool kvs "$output" false = true ∧ r = none) ∨
    (fhasBool kvs "$output" false = false ∧ ∃ fs, filterOutputFields kvs = .ok fs ∧
      r = some (.map fs)) := by
  rw [os_filterOutput_map_eq] at h
  split at h
  · next hc => cases h; exact Or.inl ⟨hc, rfl⟩
  · next hc =>
    split at h
    · cases h
    · next fs hf => cases h; exact Or.inr ⟨Bool.eq_false_iff.2 hc, fs, hf, rfl⟩

theorem filterOutput_list_ok {xs : List Val} {r : Option Val}
    (h : filterOutput (.list xs) = .ok r) :
    (hasListMapBool xs "$output" false = true ∧ r = none) ∨
    (hasListMapBool xs "$output" false = false ∧ ∃ rs, filterOutputList xs = .ok rs ∧
      r = some (.list rs)) := by
  rw [filterOutput_list_eq] at h
  split at h
  · next hc =>
    split at h
    · cases h
    · cases h; exact Or.inl ⟨hc, rfl⟩
  · next hc =>
    split at h
    · cases h
    · next rs hf => cases h; exact Or.inr ⟨Bool.eq_false_iff.2 hc, rs, hf, rfl⟩

theorem filterOutput_scalar_ok {v : Val} {r : Option Val}
    (hm : v.isMap = false) (hl : v.isList = false)
    (h : filterOutput v = .ok r) : r = if v.isNull then none else some v := by
  cases v with
  | map _ => cases hm
  | list _ => cases hl
  | _ => cases h; rfl

theorem filterOutputFields_nil_ok {fs : Fields} (h : filterOutputFields [] = .ok fs) : fs = [] := by
  cases h; rfl

theorem filterOutputFields_cons_ok {k : String} {v : Val} {rest fs : Fields}
    (h : filterOutputFields ((k, v) :: rest) = .ok fs) :
    ∃ o fs', filterOutput v = .ok o ∧ filterOutputFields rest = .ok fs' ∧
      fs = match o with | some v' => (k, v') :: fs' | none => fs' := by
  rw [os_filterOutputFields_cons_eq] at h
  split at h
  · cases h
  · next h1 => exact ⟨none, fs, h1, h, rfl⟩
  · next v' h1 =>
    split at h
    · cases h
    · next fs' h2 => cases h; exact ⟨some v', fs', h1, h2, rfl⟩

theorem filterOutputList_nil_ok {rs : List Val} (h : filterOutputList [] = .ok rs) : rs = [] := by
  cases h; rfl

theorem filterOutputList_cons_ok {x : Val} {xs rs : List Val}
    (h : filterOutputList (x :: xs) = .ok rs) :
    ∃ o rs', filterOutput x = .ok o ∧ filterOutputList xs = .ok rs' ∧
      rs = match o with | some x' => x' :: rs' | none => rs' := by
  rw [os_filterOutputList_cons_eq] at h
  split at h
  · cases h
  · next h1 => exact ⟨none, rs, h1, h, rfl⟩
  · next x' h1 =>
    split at h
    · cases h
    · next rs' h2 => cases h; exact ⟨some x', rs', h1, h2, rfl⟩

theorem filterOutputList_id {xs : List Val} (h : ∀ x ∈ xs, filterOutput x = .ok (some x)) :
    filterOutputList xs = .ok xs := by
  induction xs with
  | nil => rfl
  | cons x xs ih =>
    rw [os_filterOutputList_cons_eq, h x List.mem_cons_self,
      ih fun y hy => h y (List.mem_cons_of_mem _ hy)]

theorem filterOutputFields_id {kvs : Fields} (h : ∀ p ∈ kvs, filterOutput p.2 = .ok (some p.2)) :
    filterOutputFields kvs = .ok kvs := by
  induction kvs with
  | nil => rfl
  | cons p rest ih =>
    rw [os_filterOutputFields_cons_eq, h p List.mem_cons_self,
      ih fun y hy => h y (List.mem_cons_of_mem _ hy)]

end Bkl
