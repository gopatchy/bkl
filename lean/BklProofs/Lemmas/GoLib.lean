/-
  Lemmas about the Go primitives of Bkl/GoLib.lean, used by the translation-equivalence theorems
  (BklProofs/Facts/Trans*.lean): the nesting depth of a value with the induction that carries the fuel of a recursive
  unit (`fuel_induction`), the loops (`forRange_unique`: a loop is whatever satisfies its recursion; the loop shapes
  of the tools are instances), Go's `==` on an `any`, and the Go results of a model result that the statements of
  several units share (`resPair`, `errOpt`).

  A trap.  Every declaration gets `match` functions of its own, and Lean identifies two of them applied to a stuck term
  (a call that has not been rewritten yet) only when they take the same type parameters.  So a general lemma must not
  repeat a `match` of the translated text: it speaks about the value of a call or of a loop body (`body x s = .ok …`,
  as the lemmas below do); and a lemma that has to repeat one (`filterList_loop` in Facts/TransFilterCore) is stated for
  the concrete result type of the callee, never for a type variable.
-/
import Bkl.GoLib
import BklProofs.Lemmas.ValInduction
import BklProofs.Lemmas.Fields
namespace Bkl
namespace Go

mutual
/-- nesting depth: scalars 0, a container one more than its deepest entry -/
def depth : Val → Nat
  | .list xs => depthList xs + 1
  | .map kvs => depthFields kvs + 1
  | _ => 0
def depthList : List Val → Nat
  | [] => 0
  | x :: xs => max (depth x) (depthList xs)
def depthFields : Fields → Nat
  | [] => 0
  | (_, v) :: rest => max (depth v) (depthFields rest)
end

@[simp] theorem forRange_nil {α σ ρ : Type} (s : σ) (body : α → σ → G (Loop σ ρ)) :
    forRange ([] : List α) s body = .ok (.inl s) := rfl

theorem forRange_cons_error {α σ ρ : Type} {x : α} {xs : List α} {s : σ} {body : α → σ → G (Loop σ ρ)} {e : GErr}
    (h : body x s = .error e) : forRange (x :: xs) s body = .error e := by
  simp only [forRange, h]

theorem forRange_cons_next {α σ ρ : Type} {x : α} {xs : List α} {s s' : σ} {body : α → σ → G (Loop σ ρ)}
    (h : body x s = .ok (.next s')) : forRange (x :: xs) s body = forRange xs s' body := by
  simp only [forRange, h]

theorem forRange_cons_ret {α σ ρ : Type} {x : α} {xs : List α} {s : σ} {r : ρ} {body : α → σ → G (Loop σ ρ)}
    (h : body x s = .ok (.ret r)) : forRange (x :: xs) s body = .ok (.inr r) := by
  simp only [forRange, h]

/-- what a loop does after one execution of its body: go on with the rest, or stop -/
def Loop.andThen {σ ρ : Type} (o : G (Loop σ ρ)) (rest : σ → G (σ ⊕ ρ)) : G (σ ⊕ ρ) :=
  match o with
  | .error e => .error e
  | .ok (.next s) => rest s
  | .ok (.brk s) => .ok (.inl s)
  | .ok (.ret r) => .ok (.inr r)

theorem forRange_cons {α σ ρ : Type} (x : α) (xs : List α) (s : σ) (body : α → σ → G (Loop σ ρ)) :
    forRange (x :: xs) s body = Loop.andThen (body x s) (fun s' => forRange xs s' body) :=
  forRange.eq_2 ..

/-- A loop is determined by its recursion: whatever satisfies it (on the elements of the list) is the loop.  `M` is
    written from the model function the loop computes, and `hcons` then is the model's own equation for `x :: xs`
    beside the value of `body x s`. -/
theorem forRange_unique {α σ ρ : Type} (M : List α → σ → G (σ ⊕ ρ)) (body : α → σ → G (Loop σ ρ)) (l : List α)
    (hnil : ∀ s, M [] s = .ok (.inl s))
    (hcons : ∀ x ∈ l, ∀ xs s, M (x :: xs) s = Loop.andThen (body x s) (M xs)) (s : σ) :
    forRange l s body = M l s := by
  induction l generalizing s with
  | nil => exact (hnil s).symm
  | cons x xs ih =>
    rw [forRange_cons, hcons x List.mem_cons_self xs s]
    exact congrArg _ (funext fun s' => ih (fun y hy => hcons y (List.mem_cons_of_mem _ hy)) s')

theorem forRange_fold {α σ ρ : Type} (g : σ → α → σ) (xs : List α) (s : σ) (body : α → σ → G (Loop σ ρ))
    (h : ∀ x ∈ xs, ∀ s, body x s = .ok (.next (g s x))) :
    forRange xs s body = .ok (.inl (xs.foldl g s)) :=
  forRange_unique (fun xs s => .ok (.inl (xs.foldl g s))) body xs (fun _ => rfl)
    (fun x hx xs s => by rw [h x hx]; rfl) s

theorem forRange_any {α ρ : Type} (p : α → Bool) (r : ρ) (xs : List α) (body : α → Unit → G (Loop Unit ρ))
    (h : ∀ x ∈ xs, body x () = if p x then .ok (.ret r) else .ok (.next ())) :
    forRange xs () body = .ok (if xs.any p then .inr r else .inl ()) :=
  forRange_unique (fun xs _ => .ok (if xs.any p then .inr r else .inl ())) body xs (fun _ => rfl)
    (fun x hx xs _ => by rw [h x hx, List.any_cons]; cases p x <;> rfl) ()

/-- `len(x) == 1` -/
theorem int_ofNat_beq_one (n : Nat) : ((Int.ofNat n) == (1 : Int)) = (n == 1) := by
  cases n with
  | zero => rfl
  | succ n => cases n <;> rfl

/-- `len(x) >= 2` on a slice with two entries or more -/
theorem int_ofNat_length_ge_two {α : Type} (a b : α) (l : List α) :
    decide (Int.ofNat (a :: b :: l).length ≥ 2) = true :=
  decide_eq_true (Int.ofNat_le.2 (Nat.le_add_left 2 l.length))

theorem runeAt_zero (c : Char) (cs : List Char) : runeAt (c :: cs) 0 = c := rfl

theorem runeAt_one (a b : Char) (cs : List Char) : runeAt (a :: b :: cs) 1 = b := rfl

theorem depth_induction {P : Val → Prop} (h : ∀ v, (∀ w, depth w < depth v → P w) → P v) (v : Val) : P v :=
  (measure depth).wf.induction v h

theorem depth_le_of_mem_list {x : Val} {xs : List Val} (h : x ∈ xs) : depth x ≤ depthList xs :=
  (max_of_eqns depthList.eq_1 depthList.eq_2).1 (Nat.le_refl _) x h

theorem depth_le_of_mem_fields {k : String} {v : Val} {kvs : Fields} (h : (k, v) ∈ kvs) :
    depth v ≤ depthFields kvs :=
  (max_of_eqns depthFields.eq_1 fun p l => depthFields.eq_2 p.1 p.2 l).1 (Nat.le_refl _) (k, v) h

theorem depthFields_fdel_le (m : Fields) (k : String) : depthFields (fdel m k) ≤ depthFields m := by
  induction m with
  | nil => exact Nat.le_refl _
  | cons p rest ih =>
    obtain ⟨k', v'⟩ := p
    simp only [fdel]
    split <;> simp only [depthFields] <;> omega

theorem depthList_le_of_forall {l : List Val} {N : Nat} (h : ∀ x ∈ l, depth x ≤ N) : depthList l ≤ N :=
  (max_of_eqns depthList.eq_1 depthList.eq_2).2 h

theorem depthFields_le_of_forall {m : Fields} {N : Nat} (h : ∀ p ∈ m, depth p.2 ≤ N) : depthFields m ≤ N :=
  (max_of_eqns depthFields.eq_1 fun p l => depthFields.eq_2 p.1 p.2 l).2 h

theorem fuel_of_le {a fuel : Nat} (h : a + 1 ≤ fuel) : ∃ f, fuel = f + 1 ∧ ∀ b, b ≤ a → b ≤ f :=
  ⟨fuel - 1, (Nat.sub_add_cancel (Nat.le_trans (Nat.le_add_left 1 a) h)).symm,
    fun _ hb => Nat.le_trans hb (Nat.le_sub_one_of_lt h)⟩

/-- Fuel for a container is fuel for each of its entries one call further down: at `c` calls per level and `k` calls
    between the container and the recursive call on an entry. -/
theorem fuel_of_mem_fields {c k fuel : Nat} {kvs : Fields} (h : c * depthFields kvs + k + 1 ≤ fuel) :
    ∃ f, fuel = f + 1 ∧ ∀ p ∈ kvs, c * depth p.2 + k ≤ f :=
  (fuel_of_le h).imp fun _ hf => ⟨hf.1, fun p hp => hf.2 _
    (Nat.add_le_add_right (Nat.mul_le_mul_left c (depth_le_of_mem_fields (k := p.1) (v := p.2) hp)) k)⟩

theorem fuel_of_mem_list {c k fuel : Nat} {xs : List Val} (h : c * depthList xs + k + 1 ≤ fuel) :
    ∃ f, fuel = f + 1 ∧ ∀ x ∈ xs, c * depth x + k ≤ f :=
  (fuel_of_le h).imp fun _ hf => ⟨hf.1, fun _ hx => hf.2 _
    (Nat.add_le_add_right (Nat.mul_le_mul_left c (depth_le_of_mem_list hx)) k)⟩

/-- Recursion of a translated function over a value, at `c` calls per level of nesting: a scalar is answered by any
    call with fuel, and a container at fuel `f + c` if everything no deeper than its entries is answered at every
    fuel from `f` on. -/
theorem fuel_induction (c : Nat) {P : Nat → Val → Prop}
    (leaf : ∀ f v, depth v = 0 → P (f + 1) v)
    (map : ∀ f kvs, (∀ w, depth w ≤ depthFields kvs → ∀ f', f ≤ f' → P f' w) → P (f + c) (.map kvs))
    (list : ∀ f xs, (∀ w, depth w ≤ depthList xs → ∀ f', f ≤ f' → P f' w) → P (f + c) (.list xs))
    (v : Val) (fuel : Nat) (h : c * depth v + 1 ≤ fuel) : P fuel v := by
  induction v using depth_induction generalizing fuel with | _ v ih =>
  -- depth `d + 1`: `c` calls are spent on the way to the entries, and what is left suffices for every depth `≤ d`
  have node : ∀ d, depth v = d + 1 → ∃ f, fuel = f + c ∧ ∀ w, depth w ≤ d → ∀ f', f ≤ f' → P f' w := fun d hd => by
    rw [hd, Nat.mul_succ] at h
    refine ⟨fuel - c, by omega, fun w hw f' hf' => ih w (hd ▸ Nat.lt_succ_of_le hw) f' ?_⟩
    have := Nat.mul_le_mul_left c hw
    omega
  cases v with
  | map kvs => obtain ⟨f, rfl, hf⟩ := node _ rfl; exact map f kvs hf
  | list xs => obtain ⟨f, rfl, hf⟩ := node _ rfl; exact list f xs hf
  | _ =>
    obtain ⟨f, rfl⟩ := Nat.exists_eq_add_one_of_ne_zero (Nat.ne_zero_of_lt h)
    exact leaf f _ rfl

/-! ## Go's `==` on an `any` -/

/-- Go's `v == nil` on an `any` -/
theorem beq_null_eq_isNull (v : Val) : (v == Val.null) = v.isNull := by
  cases v <;> rfl

/-- Go's `==` on two strings / two slices held in an `any` -/
theorem str_beq (a b : String) : (Val.str a == Val.str b) = (a == b) := by
  by_cases h : a = b
  · subst h; rw [BEq.rfl, BEq.rfl]
  · rw [beq_eq_false_iff_ne.2 h, beq_eq_false_iff_ne.2 (fun e => h (Val.str.inj e))]

theorem list_beq (a b : List Val) : (Val.list a == Val.list b) = (a == b) := by
  by_cases h : a = b
  · subst h; simp
  · rw [beq_eq_false_iff_ne.2 h, beq_eq_false_iff_ne.2 (by simpa using h)]

/-! ## the loops of diff.go, intersect.go and required.go, over an abstract body -/

theorem forRange_filter {α ρ : Type} (p : α → Bool) (xs : List α) (s : List α)
    (body : α → List α → G (Loop (List α) ρ))
    (hb : ∀ x s, body x s = .ok (.next (if p x then s ++ [x] else s))) :
    forRange xs s body = .ok (.inl (s ++ xs.filter p)) :=
  forRange_unique (fun xs s => .ok (.inl (s ++ xs.filter p))) body xs
    (fun s => congrArg (fun l => Except.ok (Sum.inl l)) (List.append_nil s))
    (fun x _ xs s => by
      rw [hb, List.filter_cons]
      cases p x
      · rfl
      · exact congrArg (fun l => Except.ok (Sum.inl l)) (List.append_assoc s [x] _).symm) s

theorem forRange_collect_or_ret {α β ρ : Type} (p ok : α → Bool) (f : α → β) (r : ρ) (xs : List α) (s : List β)
    (body : α → List β → G (Loop (List β) ρ))
    (hb : ∀ x s, body x s =
      .ok (if p x then (if ok x then .next (s ++ [f x]) else .ret r) else .next s)) :
    forRange xs s body =
      .ok (if (xs.filter p).all ok then .inl (s ++ (xs.filter p).map f) else .inr r) :=
  forRange_unique (fun xs s => .ok (if (xs.filter p).all ok then .inl (s ++ (xs.filter p).map f) else .inr r))
    body xs (fun s => congrArg (fun l => Except.ok (Sum.inl l)) (List.append_nil s))
    (fun x _ xs s => by
      rw [hb, List.filter_cons]
      cases p x
      · rfl
      · rw [if_pos rfl, if_pos rfl, List.all_cons, List.map_cons]
        cases ok x
        · rfl
        · simp only [Loop.andThen, List.append_assoc, Bool.true_and, if_true]
          rfl) s

/-- `for _, v := range xs { v2 := g(v); if v2 == nil { continue }; ret = append(ret, v2) }` -/
theorem forRange_filterMap_append {ρ : Type} (g : Val → Option Val) (xs : List Val)
    (body : Val → List Val → G (Loop (List Val) ρ))
    (h : ∀ x ∈ xs, ∀ acc, body x acc = .ok (.next (acc ++ (g x).toList))) :
    ∀ acc, forRange xs acc body = .ok (.inl (acc ++ xs.filterMap g)) :=
  forRange_unique (fun xs acc => .ok (.inl (acc ++ xs.filterMap g))) body xs
    (fun s => congrArg (fun l => Except.ok (Sum.inl l)) (List.append_nil s))
    (fun x hx xs acc => by rw [h x hx, List.filterMap_cons]; cases g x <;> simp [Loop.andThen])

/-- `for k, v := range kvs { if w, ok := g(k, v); ok { ret[k] = w } }` into a Go map: the key-wise loop -/
theorem forRange_filterMapVal {ρ : Type} (g : String → Val → Option Val) (kvs : Fields)
    (body : String × Val → Fields → G (Loop Fields ρ))
    (h : ∀ p ∈ kvs, ∀ acc, body p acc = .ok (.next ((g p.1 p.2).elim acc (fset acc p.1)))) :
    ∀ acc, forRange kvs acc body = .ok (.inl (fsetAll acc (Fields.filterMapVal g kvs))) :=
  forRange_unique (fun kvs acc => .ok (.inl (fsetAll acc (Fields.filterMapVal g kvs)))) body kvs (fun _ => rfl)
    (fun p hp kvs acc => by
      obtain ⟨k, v⟩ := p
      rw [h _ hp, filterMapVal_cons]; cases g k v <;> rfl)

/-- the same with an early exit: `if stop(k, v) { return r }` first -/
theorem forRange_filterMapVal_or_ret {ρ : Type} (stop : String × Val → Bool) (g : String → Val → Option Val)
    (r : ρ) (kvs : Fields) (body : String × Val → Fields → G (Loop Fields ρ))
    (h : ∀ p ∈ kvs, ∀ acc, body p acc =
      .ok (if stop p then .ret r else .next ((g p.1 p.2).elim acc (fset acc p.1)))) :
    ∀ acc, forRange kvs acc body =
      .ok (if kvs.any stop then .inr r else .inl (fsetAll acc (Fields.filterMapVal g kvs))) :=
  forRange_unique
    (fun kvs acc => .ok (if kvs.any stop then .inr r else .inl (fsetAll acc (Fields.filterMapVal g kvs))))
    body kvs (fun _ => rfl)
    (fun p hp kvs acc => by
      obtain ⟨k, v⟩ := p
      rw [h _ hp, List.any_cons, filterMapVal_cons]
      cases stop (k, v)
      · cases g k v <;> rfl
      · rfl)

end Go

/-- the Go result pair `(list, err)` of a model result: the list and no error, or nil and the error class -/
def Gen.Lib.resPair {α : Type} : R (List α) → List α × Option Err
  | .ok l => (l, none)
  | .error e => ([], some e)

namespace Gen.Lib

@[simp] theorem resPair_ok {α : Type} (l : List α) : resPair (.ok l : R (List α)) = (l, none) := rfl
@[simp] theorem resPair_error {α : Type} (e : Err) : resPair (.error e : R (List α)) = ([], some e) := rfl

/-- the Go `error` of a model result that carries no value: nil, or the error class -/
def errOpt : R Unit → Option Err
  | .ok _ => none
  | .error e => some e

@[simp] theorem errOpt_ok (u : Unit) : errOpt (.ok u) = none := rfl
@[simp] theorem errOpt_error (e : Err) : errOpt (.error e) = some e := rfl

theorem depth_le_of_fget {m : Fields} {k : String} {v : Val} (h : fget m k = some v) :
    Go.depth v ≤ Go.depthFields m :=
  Go.depth_le_of_mem_fields (fget_mem h)

end Gen.Lib

end Bkl
