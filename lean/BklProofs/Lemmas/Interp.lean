/-
  BklProofs.Lemmas.Interp — `process2String` (and with it `process2` on a string): the interpolation scanner with
  `render`, its inverse on canonical segment lists; `process2String` on a `$"…"` string as its specification `interpSpec`,
  segment by segment (`interpSeg`); strings that are not interpolations, `$env:` and the variables (`getVar`, `getWithVar`
  by the outcome of `get`); references that are a single plain key; and the text that is put in place of a reference
  (`cx_substSeg`; C13's "substituted values are not rescanned").
-/
import Bkl.Process2
import BklProofs.Lemmas.SplitOn
import BklProofs.Lemmas.Fields
namespace Bkl

def renderSeg : Seg → List Char
  | .lit cs => cs
  | .ref cs => '{' :: cs ++ ['}']

def render : List Seg → List Char
  | [] => []
  | s :: rest => renderSeg s ++ render rest

def startsLit : List Seg → Bool
  | .lit _ :: _ => true
  | _ => false

/-- canonical segment lists: literals are non-empty, contain no '{' and are never adjacent;
    references contain neither '}' nor a newline -/
def Canonical : List Seg → Prop
  | [] => True
  | .lit cs :: rest => cs ≠ [] ∧ '{' ∉ cs ∧ startsLit rest = false ∧ Canonical rest
  | .ref cs :: rest => '}' ∉ cs ∧ '\n' ∉ cs ∧ Canonical rest

/-- the pending literal, emitted when a reference or the end of input is reached -/
def flush (lit : List Char) : List Seg := if lit.isEmpty then [] else [Seg.lit lit.reverse]

theorem flush_cons (c : Char) (lit : List Char) : flush (c :: lit) = [Seg.lit (c :: lit).reverse] :=
  rfl

theorem render_flush (lit : List Char) : render (flush lit) = lit.reverse := by
  cases lit with
  | nil => rfl
  | cons c cs => simp [flush_cons, render, renderSeg]

theorem render_append (a b : List Seg) : render (a ++ b) = render a ++ render b := by
  induction a with
  | nil => rfl
  | cons s a ih => simp [render, ih]

theorem scanClose_char {c : Char} (h1 : c ≠ '}') (h2 : c ≠ '\n') (rest acc : List Char) :
    scanClose (c :: rest) acc = scanClose rest (c :: acc) :=
  scanClose.eq_4 _ _ _ h1 h2

theorem scanSegs_nil (lit : List Char) (fuel : Nat) : scanSegs [] lit fuel = flush lit := by
  rw [scanSegs.eq_1]; rfl

theorem scanSegs_char {c : Char} (hc : c ≠ '{') (rest lit : List Char) (fuel : Nat) :
    scanSegs (c :: rest) lit (fuel + 1) = scanSegs rest (c :: lit) fuel :=
  scanSegs.eq_4 _ _ _ _ hc

theorem scanSegs_ref {rest inner after : List Char} (h : scanClose rest [] = some (inner, after))
    (lit : List Char) (fuel : Nat) :
    scanSegs ('{' :: rest) lit (fuel + 1) = flush lit ++ Seg.ref inner :: scanSegs after [] fuel := by
  rw [scanSegs.eq_3, h]; rfl

theorem scanSegs_unclosed {rest : List Char} (h : scanClose rest [] = none) (lit : List Char)
    (fuel : Nat) : scanSegs ('{' :: rest) lit (fuel + 1) = scanSegs rest ('{' :: lit) fuel := by
  rw [scanSegs.eq_3, h]

theorem scanSegs_lit_run (cs tl lit : List Char) (fuel : Nat) (h : '{' ∉ cs) :
    scanSegs (cs ++ tl) lit (fuel + cs.length) = scanSegs tl (cs.reverse ++ lit) fuel := by
  induction cs generalizing lit with
  | nil => rfl
  | cons c cs ih =>
    rw [List.mem_cons, not_or] at h
    rw [List.cons_append, List.length_cons, ← Nat.add_assoc, scanSegs_char (Ne.symm h.1), ih _ h.2,
      List.reverse_cons, List.append_assoc]
    rfl

theorem scanClose_inner (inner tl acc : List Char) (h1 : '}' ∉ inner) (h2 : '\n' ∉ inner) :
    scanClose (inner ++ '}' :: tl) acc = some (acc.reverse ++ inner, tl) := by
  induction inner generalizing acc with
  | nil => simp [scanClose]
  | cons c cs ih =>
    rw [List.mem_cons, not_or] at h1 h2
    rw [List.cons_append, scanClose_char (Ne.symm h1.1) (Ne.symm h2.1), ih _ h1.2 h2.2,
      List.reverse_cons, List.append_assoc]
    rfl

theorem scanClose_nil_inner (inner tl : List Char) (h1 : '}' ∉ inner) (h2 : '\n' ∉ inner) :
    scanClose (inner ++ '}' :: tl) [] = some (inner, tl) :=
  scanClose_inner inner tl [] h1 h2

theorem scanClose_some {cs acc inner after : List Char}
    (h : scanClose cs acc = some (inner, after)) :
    ∃ i', inner = acc.reverse ++ i' ∧ cs = i' ++ '}' :: after ∧ '}' ∉ i' ∧ '\n' ∉ i' := by
  induction cs generalizing acc with
  | nil => cases h
  | cons c cs ih =>
    by_cases hc1 : c = '}'
    · subst hc1
      simp only [scanClose, Option.some.injEq, Prod.mk.injEq] at h
      exact ⟨[], by simp [h.1], by simp [h.2], by simp, by simp⟩
    · by_cases hc2 : c = '\n'
      · subst hc2; cases h
      · rw [scanClose_char hc1 hc2] at h
        obtain ⟨i', e1, e2, n1, n2⟩ := ih h
        exact ⟨c :: i', by simp [e1], by simp [e2], by simp [n1, Ne.symm hc1],
          by simp [n2, Ne.symm hc2]⟩

theorem scanClose_nil_some {cs inner after : List Char}
    (h : scanClose cs [] = some (inner, after)) :
    cs = inner ++ '}' :: after ∧ '}' ∉ inner ∧ '\n' ∉ inner := by
  obtain ⟨i', rfl, h2⟩ := scanClose_some h
  exact h2

/-- A pending literal must not be followed by a literal segment: the scanner would merge the two. -/
theorem scanSegs_render (segs : List Seg) (hc : Canonical segs) :
    ∀ (lit : List Char) (fuel : Nat), (render segs).length ≤ fuel →
      (lit = [] ∨ startsLit segs = false) →
      scanSegs (render segs) lit fuel = flush lit ++ segs := by
  induction segs with
  | nil => intro lit fuel _ _; simp [render, scanSegs_nil]
  | cons s rest ih =>
    intro lit fuel hf hl
    cases s with
    | lit cs =>
      obtain ⟨hne, hno, hsl, hrest⟩ := hc
      obtain rfl : lit = [] := hl.resolve_right (by simp [startsLit])
      simp only [render, renderSeg, List.length_append] at hf ⊢
      obtain ⟨f', rfl⟩ : ∃ f', fuel = f' + cs.length := ⟨fuel - cs.length, by omega⟩
      rw [scanSegs_lit_run _ _ _ _ hno, ih hrest _ _ (by omega) (Or.inr hsl), List.append_nil]
      cases hcs : cs.reverse with
      | nil => exact absurd (List.reverse_eq_nil_iff.1 hcs) hne
      | cons a b => rw [flush_cons, ← hcs, List.reverse_reverse]; rfl
    | ref cs =>
      obtain ⟨h1, h2, hrest⟩ := hc
      simp only [render, renderSeg, List.length_append, List.length_cons, List.cons_append,
        List.append_assoc, List.nil_append] at hf ⊢
      obtain ⟨f', rfl⟩ : ∃ f', fuel = f' + 1 := ⟨fuel - 1, by omega⟩
      rw [scanSegs_ref (scanClose_nil_inner _ _ h1 h2),
        ih hrest _ _ (by simp at hf; omega) (Or.inl rfl)]
      rfl

/-- The scanner recovers exactly the literal text and the references of a canonical template:
    literals (non-empty, no '{', never adjacent — '}' and ':' etc. are copied verbatim) and
    `{ref}`s (no '}' and no newline inside). -/
theorem C13_scan_spec (segs : List Seg) (hc : Canonical segs) :
    interpSegs (render segs) = segs := by
  unfold interpSegs
  rw [scanSegs_render segs hc [] _ (Nat.le_succ _) (Or.inl rfl)]
  rfl

theorem render_scanSegs (fuel : Nat) : ∀ (cs lit : List Char), cs.length ≤ fuel →
    render (scanSegs cs lit fuel) = lit.reverse ++ cs := by
  induction fuel using Nat.strongRecOn with
  | _ fuel ih =>
    intro cs lit hf
    cases cs with
    | nil => simp [scanSegs_nil, render_flush]
    | cons c rest =>
      obtain ⟨f', rfl⟩ : ∃ f', fuel = f' + 1 := ⟨fuel - 1, by simp at hf; omega⟩
      simp only [List.length_cons] at hf
      by_cases hc : c = '{'
      · subst hc
        cases hsc : scanClose rest [] with
        | none =>
          rw [scanSegs_unclosed hsc, ih f' (by omega) _ _ (by omega)]
          simp
        | some p =>
          obtain ⟨inner, after⟩ := p
          obtain ⟨e2, _, _⟩ := scanClose_nil_some hsc
          have hlen : after.length ≤ f' := by
            have := congrArg List.length e2
            simp at this
            omega
          rw [scanSegs_ref hsc, render_append, render_flush, render, ih f' (by omega) _ _ hlen, e2]
          simp [renderSeg]
      · rw [scanSegs_char hc, ih f' (by omega) _ _ (by omega)]
        simp

/-! ## specification of `process2String` on interpolated strings -/

/-- one segment: literal text is copied; a reference is looked up (`getWithVar`), a string
    result gets one more `process2String` pass (with one unit of fuel less), and the value is
    formatted with `%v` -/
def interpSeg (fuel : Nat) (docs : List Val) (root : Val) (ec : Vars) : Seg → R String
  | .lit cs => .ok (String.ofList cs)
  | .ref cs =>
    match getWithVar root docs ec (String.ofList cs) with
    | .error e => .error e
    | .ok (.str s2) =>
      match process2String fuel docs root ec s2 with
      | .error e => .error e
      | .ok v => .ok (fmtV v)
    | .ok v => .ok (fmtV v)

def interpSpec (fuel : Nat) (docs : List Val) (root : Val) (ec : Vars) (segs : List Seg) : R Val :=
  match segs.mapM (interpSeg fuel docs root ec) with
  | .error e => .error e
  | .ok parts => .ok (.str (String.join parts))

theorem interpSpec_eq_bind (fuel : Nat) (docs : List Val) (root : Val) (ec : Vars)
    (segs : List Seg) :
    interpSpec fuel docs root ec segs
      = (segs.mapM (interpSeg fuel docs root ec) >>= fun parts => pure (.str (String.join parts))) := by
  unfold interpSpec
  cases segs.mapM (interpSeg fuel docs root ec) <;> rfl

theorem interpSpec_ok (fuel : Nat) (docs : List Val) (root : Val) (ec : Vars) (segs : List Seg)
    (part : Seg → String) (h : ∀ s ∈ segs, interpSeg fuel docs root ec s = .ok (part s)) :
    interpSpec fuel docs root ec segs = .ok (.str (String.join (segs.map part))) := by
  rw [interpSpec, mapM_ok_of_forall _ part segs h]

theorem join_ofList_renderSeg (segs : List Seg) :
    String.join (segs.map fun s => String.ofList (renderSeg s)) = String.ofList (render segs) := by
  induction segs with
  | nil => rfl
  | cons s rest ih => simp only [List.map_cons, String.join_cons, ih, render, String.ofList_append]

theorem interpSpec_render (fuel : Nat) (docs : List Val) (root : Val) (ec : Vars) (segs : List Seg)
    (σ : Seg → Seg)
    (h : ∀ s ∈ segs, interpSeg fuel docs root ec s = .ok (String.ofList (renderSeg (σ s)))) :
    interpSpec fuel docs root ec segs = .ok (.str (String.ofList (render (segs.map σ)))) := by
  rw [interpSpec_ok _ _ _ _ _ _ h, ← join_ofList_renderSeg, List.map_map]
  rfl

/-- the text for a reference, written as `process2String` computes it: look up, then evaluate a string once more -/
theorem interpSeg_ref (fuel : Nat) (docs : List Val) (root : Val) (ec : Vars) (cs : List Char) :
    interpSeg fuel docs root ec (.ref cs) = getWithVar root docs ec (String.ofList cs) >>= fun v =>
      match v with
      | .str s2 => process2String fuel docs root ec s2 >>= fun w => pure (fmtV w)
      | _ => pure (fmtV v) := by
  simp only [interpSeg]
  cases getWithVar root docs ec (String.ofList cs) with
  | error e => rfl
  | ok v =>
    cases v <;> try rfl
    simp only [ok_bind]
    cases process2String fuel docs root ec _ <;> rfl

theorem process2String_interp_eq (fuel : Nat) (docs : List Val) (root : Val) (ec : Vars) (s : String)
    (body : List Char) (hb : interpBody s = some body) :
    process2String (fuel + 1) docs root ec s = interpSpec fuel docs root ec (interpSegs body) := by
  rw [process2String.eq_1, interpSpec_eq_bind]
  simp only [hb]
  congr 2
  funext seg
  cases seg with
  | lit cs => rfl
  | ref cs => exact (interpSeg_ref fuel docs root ec cs).symm

/-- a reference to a value that is not a string: its `%v` text -/
theorem interpSeg_ref_val {fuel : Nat} {docs : List Val} {root : Val} {ec : Vars} {r : List Char} {v : Val}
    (hg : getWithVar root docs ec (String.ofList r) = .ok v) (hv : ∀ s, v ≠ .str s) :
    interpSeg fuel docs root ec (.ref r) = .ok (fmtV v) := by
  rw [interpSeg, hg]
  cases v <;> first | rfl | exact absurd rfl (hv _)

/-- a reference to a string: the string is evaluated once more, with one unit of fuel less -/
theorem interpSeg_ref_str {fuel : Nat} {docs : List Val} {root : Val} {ec : Vars} {r : List Char} {s2 : String}
    {w : Val} (hg : getWithVar root docs ec (String.ofList r) = .ok (.str s2))
    (hp : process2String fuel docs root ec s2 = .ok w) :
    interpSeg fuel docs root ec (.ref r) = .ok (fmtV w) := by
  rw [interpSeg, hg]
  simp only [hp]

/-- a `$"…"` string whose segments evaluate, one by one, to `parts`.  For a closed string `hb` is an evaluation and
    `hp` lists what each segment gives: `rfl` for a literal, `interpSeg_ref_val` / `interpSeg_ref_str` for a reference -/
theorem process2String_parts {fuel : Nat} {docs : List Val} {root : Val} {ec : Vars} {s : String}
    (segs : List Seg) {parts : List String} (hb : (interpBody s).map interpSegs = some segs)
    (hp : Pointwise (fun seg part => interpSeg fuel docs root ec seg = .ok part) segs parts) :
    process2String (fuel + 1) docs root ec s = .ok (.str (String.join parts)) := by
  cases hs : interpBody s with
  | none => rw [hs] at hb; cases hb
  | some body =>
    rw [hs] at hb
    cases hb
    rw [process2String_interp_eq _ _ _ _ _ _ hs, interpSpec, (mapM_ok_iff _ _ _).2 hp]

/-- with no fuel left an interpolated string is a circular-reference error -/
theorem C13_interp_no_fuel (docs : List Val) (root : Val) (ec : Vars) (s : String)
    (body : List Char) (hb : interpBody s = some body) :
    process2String 0 docs root ec s = .error .circularRef := by
  rw [process2String.eq_1]; simp only [hb]; rfl

theorem interpBody_quoted (T : List Char) :
    interpBody (String.ofList ('$' :: '"' :: (T ++ ['"']))) = some T := by
  simp [interpBody]

/-! ## strings that are not interpolations, variables -/

theorem process2_str_eq (fuel : Nat) (docs : List Val) (root : Val) (ec : Vars) (s : String) :
    process2 (fuel + 1) docs root ec (.str s) = process2String (fuel + 1) docs root ec s := by
  rw [process2]

theorem process2String_not_interp (fuel : Nat) (docs : List Val) (root : Val) (ec : Vars)
    {s : String} (h : interpBody s = none) :
    process2String fuel docs root ec s
      = if s.startsWith "$env:" || s == "$repeat" then getVar ec s else .ok (.str s) := by
  rw [process2String.eq_1, h]; rfl

theorem process2String_plain (fuel : Nat) (docs : List Val) (root : Val) (ec : Vars) (s : String)
    (h1 : interpBody s = none) (h2 : s.startsWith "$env:" = false) (h3 : s ≠ "$repeat") :
    process2String fuel docs root ec s = .ok (.str s) := by
  rw [process2String_not_interp _ _ _ _ h1, h2, if_neg (by simpa using h3)]

theorem process2String_nodollar (fuel : Nat) (docs : List Val) (root : Val) (ec : Vars) (s : String)
    (h : s.toList.head? ≠ some '$') : process2String fuel docs root ec s = .ok (.str s) := by
  apply process2String_plain
  · unfold interpBody
    split
    · rename_i e; rw [e] at h; exact absurd rfl h
    · rfl
  · have : ¬ (['$', 'e', 'n', 'v', ':'] <+: s.toList) := by
      rintro ⟨t, e⟩
      rw [← e] at h
      exact h rfl
    simp [this]
  · rintro rfl
    exact h (by decide)

theorem process2_str_nodollar (fuel : Nat) (docs : List Val) (root : Val) (ec : Vars) (s : String)
    (h : s.toList.head? ≠ some '$') : process2 (fuel + 1) docs root ec (.str s) = .ok (.str s) := by
  rw [process2_str_eq, process2String_nodollar _ _ _ _ _ h]

theorem getVar_some {ec : Vars} {k : String} {v : Val} (h : fget ec k = some v) :
    getVar ec k = .ok v := by
  rw [getVar, h]; rfl

theorem getVar_none {ec : Vars} {k : String} (h : fget ec k = none) :
    getVar ec k = .error .variableNotFound := by
  rw [getVar, h]; rfl

theorem getVar_fset_ne (ec : Vars) {k k' : String} (v : Val) (h : k ≠ k') :
    getVar (fset ec k' v) k = getVar ec k := by
  rw [getVar, getVar, fget_fset_ne _ _ _ _ h]

/-- `$env:` values are strings -/
def envWF (ec : Vars) : Prop :=
  ∀ k v, fget ec k = some v → k.startsWith "$env:" = true → ∃ s, v = Val.str s

theorem getWithVar_of_get_ok {root : Val} {docs : List Val} {m : String} {v : Val} (ec : Vars)
    (hg : get root docs (.str m) = .ok v) : getWithVar root docs ec m = .ok v := by
  rw [getWithVar, hg]; rfl

theorem getWithVar_of_get_unmodelled {root : Val} {docs : List Val} {m : String} (ec : Vars)
    (hg : get root docs (.str m) = .error .unmodelled) : getWithVar root docs ec m = .error .unmodelled := by
  rw [getWithVar, hg]; rfl

theorem getWithVar_of_get_error {root : Val} {docs : List Val} {m : String} {e : Err} (ec : Vars)
    (hg : get root docs (.str m) = .error e) (hu : e ≠ .unmodelled) :
    getWithVar root docs ec m = getVar ec m := by
  unfold getWithVar
  rw [hg]
  cases e <;> first | rfl | exact absurd rfl hu

theorem interpBody_env (name : String) : interpBody ("$env:" ++ name) = none := by
  simp [interpBody, String.toList_append]

theorem interpBody_repeat : interpBody "$repeat" = none := by decide

theorem startsWith_env (name : String) : ("$env:" ++ name).startsWith "$env:" = true := by
  simp [String.toList_append]

theorem process2String_env (fuel : Nat) (docs : List Val) (root : Val) (ec : Vars) (name : String) :
    process2String fuel docs root ec ("$env:" ++ name) = getVar ec ("$env:" ++ name) := by
  rw [process2String_not_interp _ _ _ _ (interpBody_env name), startsWith_env]
  rfl

theorem env_ne (name : String) (k : String) (hk : ¬ ("$env:".toList <+: k.toList)) :
    "$env:" ++ name ≠ k := by
  intro e
  apply hk
  rw [← e, String.toList_append]
  exact List.prefix_append _ _

/-! ## references that are a single plain key -/

theorem get_simple_key (root : Val) (docs : List Val) (k : String)
    (h1 : isPlainRef k = true) (h2 : '.' ∉ k.toList) :
    get root docs (.str k) = getPath root [k] := by
  rw [get]
  simp only [getPathFromString, parseRef, h1, if_true, splitOn_dot_none k h2]

theorem getWithVar_simple_key (kvs : Fields) (docs : List Val) (ec : Vars) (k : String) (v : Val)
    (h1 : isPlainRef k = true) (h2 : '.' ∉ k.toList) (hv : fget kvs k = some v) :
    getWithVar (.map kvs) docs ec k = .ok v := by
  exact getWithVar_of_get_ok ec (by rw [get_simple_key _ _ _ h1 h2]; simp [getPath, hv]; rfl)

/-- `String.toLower` on characters; with it `isPlainRef` of a literal is a closed evaluation -/
theorem toLower_eq (s : String) : s.toLower = String.ofList (s.toList.map Char.toLower) :=
  String.toList_inj.1 (by simp [String.toLower, String.toList_map])

theorem isPlainRef_a : isPlainRef "a" = true := by
  rw [isPlainRef, toLower_eq]; decide

/-! ## substitution of referenced values -/

/-- the text put in place of one segment when reference `r` stands for the value `ev r` -/
def cx_substSeg (ev : List Char → Val) : Seg → String
  | .lit cs => String.ofList cs
  | .ref r => fmtV (ev r)

/-- the same on characters -/
def substSegChars (ev : List Char → Val) : Seg → List Char
  | .lit cs => cs
  | .ref r => (fmtV (ev r)).toList

theorem toList_join_substSeg (ev : List Char → Val) (segs : List Seg) :
    (String.join (segs.map (cx_substSeg ev))).toList = segs.flatMap (substSegChars ev) := by
  rw [String.toList_join]
  induction segs with
  | nil => rfl
  | cons a t ih =>
    simp only [List.map_cons, List.flatMap_cons, ih]
    cases a <;> simp [cx_substSeg, substSegChars]

/-- when every reference resolves — to a value that is not a string (then `ev r` is that value), or to a string
    whose own evaluation, one level deeper, gives `ev r` — the template evaluates to the literals and the `%v` texts
    of the `ev r`, in order -/
theorem interpSpec_subst (fuel : Nat) (docs : List Val) (root : Val) (ec : Vars)
    (segs : List Seg) (ev : List Char → Val)
    (h : ∀ r, Seg.ref r ∈ segs →
      ∃ v, getWithVar root docs ec (String.ofList r) = .ok v ∧
        (((∀ s2, v ≠ .str s2) ∧ ev r = v) ∨
          ∃ s2, v = .str s2 ∧ process2String fuel docs root ec s2 = .ok (ev r))) :
    interpSpec fuel docs root ec segs = .ok (.str (String.join (segs.map (cx_substSeg ev)))) :=
  interpSpec_ok fuel docs root ec segs (cx_substSeg ev) fun s hs =>
    match s with
    | .lit _ => rfl
    | .ref r => by
      obtain ⟨v, hg, ⟨hns, hw⟩ | ⟨s2, rfl, hp⟩⟩ := h r hs
      · exact (interpSeg_ref_val hg hns).trans (by rw [cx_substSeg, hw])
      · exact interpSeg_ref_str hg hp

/-- a string that `process2String` leaves alone -/
def inertStr (s : String) : Prop :=
  interpBody s = none ∧ s.startsWith "$env:" = false ∧ s ≠ "$repeat"

/-- the characters put in place of a segment when reference `r` stands for the string `sv r` -/
def substStrChars (sv : List Char → String) : Seg → List Char
  | .lit cs => cs
  | .ref r => (sv r).toList

theorem substSegChars_str (sv : List Char → String) :
    substSegChars (fun r => Val.str (sv r)) = substStrChars sv := by
  funext seg
  cases seg <;> simp [substSegChars, substStrChars, fmtV]

end Bkl
