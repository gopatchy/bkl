/-
  BklProofs.Lemmas.Json — the JSON reader on the writers' output under any whitespace layout
  (`jsp_layout`: the compact and the indented writer are two layouts of one writer), `normalize` of
  what the reader returns, streams, and the instance of the abstract `Codec` of Bkl/Stream.lean.
  The tokens are in BklProofs/Lemmas/JsonText.lean, the reader on its own in
  BklProofs/Lemmas/JsonParser.lean.
-/
import BklProofs.Lemmas.JsonParser
import BklProofs.Lemmas.EscapeVal
import BklProofs.Lemmas.Stream
namespace Bkl

/-! ## what the encoder can write so that it reads back -/

/-- The hypothesis on the two float parameters at the `%v` text `r`: the literal written for it is
    a JSON number token that is not an integer token (it has a fraction or an exponent), and
    parsing that literal gives the float with `%v` text `r` back (`r ≠ ""`: the empty text is the
    model's mark for "strconv.ParseFloat failed", not the text of a float). -/
structure js_FloatOK (jf fol : String → String) (r : String) : Prop where
  tok : jsonNumberTok (jf r).toList = true
  frac : ∃ c ∈ (jf r).toList, c = '.' ∨ c = 'e' ∨ c = 'E'
  back : fol (jf r) = r
  ne : r ≠ ""

mutual
/-- every integer inside fits int64, every float text meets `js_FloatOK` -/
def js_NumsOK (jf fol : String → String) : Val → Prop
  | .int i => int64Min ≤ i ∧ i ≤ int64Max
  | .flt r => js_FloatOK jf fol r
  | .list xs => js_NumsOKList jf fol xs
  | .map kvs => js_NumsOKFields jf fol kvs
  | _ => True
def js_NumsOKList (jf fol : String → String) : List Val → Prop
  | [] => True
  | x :: xs => js_NumsOK jf fol x ∧ js_NumsOKList jf fol xs
def js_NumsOKFields (jf fol : String → String) : Fields → Prop
  | [] => True
  | (_, v) :: rest => js_NumsOK jf fol v ∧ js_NumsOKFields jf fol rest
end

theorem js_numsOKList_iff {jf fol : String → String} {xs : List Val} :
    js_NumsOKList jf fol xs ↔ ∀ x ∈ xs, js_NumsOK jf fol x :=
  forall_of_eqns (js_NumsOKList.eq_1 jf fol) (js_NumsOKList.eq_2 jf fol)

theorem js_numsOKFields_iff {jf fol : String → String} {kvs : Fields} :
    js_NumsOKFields jf fol kvs ↔ ∀ p ∈ kvs, js_NumsOK jf fol p.2 :=
  forall_of_eqns (js_NumsOKFields.eq_1 jf fol) fun p l => js_NumsOKFields.eq_2 jf fol p.1 p.2 l

/-! ### distinct keys

  The reader stores the members of an object into a Go map: of two members with the same key only
  the LATER one survives (`jsonParseMembers`).  So the text of a value reads back as that value only
  when no map inside it has two members with the same key.  Well-formed values (`Val.WF`: keys
  strictly sorted) meet this. -/

mutual
/-- the keys of every map inside the value are pairwise distinct -/
def js_DistinctKeys : Val → Bool
  | .list xs => js_DistinctKeysList xs
  | .map kvs => js_keysDistinct kvs && js_DistinctKeysFields kvs
  | _ => true
def js_DistinctKeysList : List Val → Bool
  | [] => true
  | x :: xs => js_DistinctKeys x && js_DistinctKeysList xs
def js_DistinctKeysFields : Fields → Bool
  | [] => true
  | (_, v) :: rest => js_DistinctKeys v && js_DistinctKeysFields rest
end


theorem js_keysDistinct_of_sorted (m : Fields) (h : Fields.SortedKeys m) : js_keysDistinct m = true :=
  (js_keysDistinct_iff_nodup m).2 (distinctKeys_of_sorted h)

theorem js_distinctList_iff {xs : List Val} :
    js_DistinctKeysList xs = true ↔ ∀ x ∈ xs, js_DistinctKeys x = true :=
  all_of_eqns js_DistinctKeysList.eq_1 js_DistinctKeysList.eq_2

theorem js_distinctFields_iff {kvs : Fields} :
    js_DistinctKeysFields kvs = true ↔ ∀ p ∈ kvs, js_DistinctKeys p.2 = true :=
  all_of_eqns js_DistinctKeysFields.eq_1 fun p l => js_DistinctKeysFields.eq_2 p.1 p.2 l

theorem js_distinct_of_wfB : ∀ (v : Val), v.wfB = true → js_DistinctKeys v = true := by
  intro v
  induction v using Val.induction_mem with
  | list xs ih =>
    rw [Val.wfB, wfListB_iff, js_DistinctKeys, js_distinctList_iff]
    exact fun h x hx => ih x hx (h x hx)
  | map kvs ih =>
    rw [Val.wfB, Bool.and_eq_true, wfFieldsB_iff, js_DistinctKeys, Bool.and_eq_true, js_distinctFields_iff]
    exact fun h => ⟨js_keysDistinct_of_sorted kvs (sortedKeysB_iff.1 h.1), fun p hp => ih p hp (h.2 p hp)⟩
  | _ => intro _; rfl
theorem js_distinctList_of_wfB : ∀ (l : List Val), Val.wfListB l = true →
    js_DistinctKeysList l = true :=
  fun l h => (js_DistinctKeys.eq_1 l).symm.trans (js_distinct_of_wfB (.list l) (by rwa [Val.wfB]))
theorem js_distinctFields_of_wfB : ∀ (l : Fields), Val.wfFieldsB l = true →
    js_DistinctKeysFields l = true :=
  fun _ h => js_distinctFields_iff.2 fun p hp => js_distinct_of_wfB p.2 (wfFieldsB_iff.1 h p hp)

/-- the values the JSON codec represents exactly -/
def js_Repr (jf fol : String → String) (v : Val) : Prop := v.WF ∧ js_NumsOK jf fol v

mutual
/-- what the decoder returns for the text of `v` -/
def js_rawOf (jf fol : String → String) : Val → Raw
  | .null => .null
  | .bool b => .bool b
  | .int i => jsonNumberRaw fol (jsonIntChars i)
  | .flt r => jsonNumberRaw fol (jf r).toList
  | .str s => .str s
  | .list xs => .list (js_rawList jf fol xs)
  | .map kvs => .map (js_rawFields jf fol kvs)
def js_rawList (jf fol : String → String) : List Val → List Raw
  | [] => []
  | x :: xs => js_rawOf jf fol x :: js_rawList jf fol xs
def js_rawFields (jf fol : String → String) : Fields → List (String × Raw)
  | [] => []
  | (k, v) :: rest => (k, js_rawOf jf fol v) :: js_rawFields jf fol rest
end

theorem js_rawFields_any (jf fol : String → String) (k : String) : ∀ (l : Fields),
    ((js_rawFields jf fol l).any fun e => e.1 == k) = l.any fun e => e.1 == k
  | [] => by rw [js_rawFields]; rfl
  | (k', v) :: rest => by
    rw [js_rawFields, List.any_cons, List.any_cons, js_rawFields_any jf fol k rest]

theorem js_float_tok {jf fol : String → String} {r : String} (h : js_FloatOK jf fol r) :
    ∃ st, jnumRun .start (jf r).toList = some st ∧ jnumAccept st = true := by
  have := h.tok
  unfold jsonNumberTok at this
  cases hr : jnumRun .start (jf r).toList with
  | none => rw [hr] at this; cases this
  | some st => rw [hr] at this; exact ⟨st, rfl, this⟩

/-! ## both writers are one writer with two layouts (no hypothesis at all)

  `jsp_layout nl sp` writes a value with `nl lvl` where the indented writer breaks the line at
  level `lvl` and `sp` after the `:` of a member. -/

mutual
def jsp_layout (nl : Nat → List Char) (sp : List Char) (jf : String → String) (lvl : Nat) :
    Val → List Char
  | .list [] => ['[', ']']
  | .list (x :: xs) =>
    '[' :: (nl (lvl + 1) ++ (jsp_layout nl sp jf (lvl + 1) x ++ jsp_layoutElemsTail nl sp jf lvl xs))
  | .map [] => ['{', '}']
  | .map ((k, v) :: rest) =>
    '{' :: (nl (lvl + 1) ++ (jsonQuote k.toList ++ ':' :: (sp ++
      (jsp_layout nl sp jf (lvl + 1) v ++ jsp_layoutMembersTail nl sp jf lvl rest))))
  | v => jsonEncodeChars jf v
def jsp_layoutElemsTail (nl : Nat → List Char) (sp : List Char) (jf : String → String)
    (lvl : Nat) : List Val → List Char
  | [] => nl lvl ++ [']']
  | x :: xs =>
    ',' :: (nl (lvl + 1) ++ (jsp_layout nl sp jf (lvl + 1) x ++ jsp_layoutElemsTail nl sp jf lvl xs))
def jsp_layoutMembersTail (nl : Nat → List Char) (sp : List Char) (jf : String → String)
    (lvl : Nat) : Fields → List Char
  | [] => nl lvl ++ ['}']
  | (k, v) :: rest =>
    ',' :: (nl (lvl + 1) ++ (jsonQuote k.toList ++ ':' :: (sp ++
      (jsp_layout nl sp jf (lvl + 1) v ++ jsp_layoutMembersTail nl sp jf lvl rest))))
end

mutual
theorem jsp_layout_compact (jf : String → String) : ∀ (v : Val) (lvl : Nat),
    jsp_layout (fun _ => []) [] jf lvl v = jsonEncodeChars jf v
  | .null, lvl => by simp [jsp_layout]
  | .bool b, lvl => by simp [jsp_layout]
  | .int i, lvl => by simp [jsp_layout]
  | .flt r, lvl => by simp [jsp_layout]
  | .str s, lvl => by simp [jsp_layout]
  | .list [], lvl => by rw [jsp_layout, jsonEncodeChars, jsonEncodeElems]
  | .map [], lvl => by rw [jsp_layout, jsonEncodeChars, jsonEncodeMembers]
  | .list (x :: xs), lvl => by
    rw [jsp_layout, jsonEncodeChars, jsonEncodeElems, jsp_layout_compact jf x (lvl + 1),
      jsp_layoutElemsTail_compact jf xs lvl]
    rfl
  | .map ((k, v) :: ps), lvl => by
    rw [jsp_layout, jsonEncodeChars, jsonEncodeMembers, jsp_layout_compact jf v (lvl + 1),
      jsp_layoutMembersTail_compact jf ps lvl]
    rfl
theorem jsp_layoutElemsTail_compact (jf : String → String) : ∀ (l : List Val) (lvl : Nat),
    jsp_layoutElemsTail (fun _ => []) [] jf lvl l = jsonEncodeElemsTail jf l
  | [], lvl => by rw [jsp_layoutElemsTail, jsonEncodeElemsTail]; rfl
  | x :: xs, lvl => by
    rw [jsp_layoutElemsTail, jsonEncodeElemsTail, jsp_layout_compact jf x (lvl + 1),
      jsp_layoutElemsTail_compact jf xs lvl]
    rfl
theorem jsp_layoutMembersTail_compact (jf : String → String) : ∀ (l : Fields) (lvl : Nat),
    jsp_layoutMembersTail (fun _ => []) [] jf lvl l = jsonEncodeMembersTail jf l
  | [], lvl => by rw [jsp_layoutMembersTail, jsonEncodeMembersTail]; rfl
  | (k, v) :: ps, lvl => by
    rw [jsp_layoutMembersTail, jsonEncodeMembersTail, jsp_layout_compact jf v (lvl + 1),
      jsp_layoutMembersTail_compact jf ps lvl]
    rfl
end

mutual
theorem js_enc_le_layout {nl : Nat → List Char} {sp : List Char} (jf : String → String) :
    ∀ (v : Val) (lvl : Nat), (jsonEncodeChars jf v).length ≤ (jsp_layout nl sp jf lvl v).length
  | .null, lvl | .bool _, lvl | .int _, lvl | .flt _, lvl | .str _, lvl => by
    simp only [jsp_layout]
    exact Nat.le_refl _
  | .list [], lvl => by rw [jsp_layout, jsonEncodeChars, jsonEncodeElems]; exact Nat.le_refl _
  | .map [], lvl => by rw [jsp_layout, jsonEncodeChars, jsonEncodeMembers]; exact Nat.le_refl _
  | .list (x :: xs), lvl => by
    have h1 := js_enc_le_layout (nl := nl) (sp := sp) jf x (lvl + 1)
    have h2 := js_elemsTail_le_layout (nl := nl) (sp := sp) jf xs lvl
    rw [jsp_layout, jsonEncodeChars, jsonEncodeElems]
    simp only [List.length_cons, List.length_append]
    omega
  | .map ((k, v) :: ps), lvl => by
    have h1 := js_enc_le_layout (nl := nl) (sp := sp) jf v (lvl + 1)
    have h2 := js_membersTail_le_layout (nl := nl) (sp := sp) jf ps lvl
    rw [jsp_layout, jsonEncodeChars, jsonEncodeMembers]
    simp only [List.length_cons, List.length_append]
    omega
theorem js_elemsTail_le_layout {nl : Nat → List Char} {sp : List Char} (jf : String → String) :
    ∀ (l : List Val) (lvl : Nat),
    (jsonEncodeElemsTail jf l).length ≤ (jsp_layoutElemsTail nl sp jf lvl l).length
  | [], lvl => by rw [jsonEncodeElemsTail, jsp_layoutElemsTail]; simp
  | x :: xs, lvl => by
    have h1 := js_enc_le_layout (nl := nl) (sp := sp) jf x (lvl + 1)
    have h2 := js_elemsTail_le_layout (nl := nl) (sp := sp) jf xs lvl
    rw [jsonEncodeElemsTail, jsp_layoutElemsTail]
    simp only [List.length_cons, List.length_append]
    omega
theorem js_membersTail_le_layout {nl : Nat → List Char} {sp : List Char} (jf : String → String) :
    ∀ (l : Fields) (lvl : Nat),
    (jsonEncodeMembersTail jf l).length ≤ (jsp_layoutMembersTail nl sp jf lvl l).length
  | [], lvl => by rw [jsonEncodeMembersTail, jsp_layoutMembersTail]; simp
  | (k, v) :: ps, lvl => by
    have h1 := js_enc_le_layout (nl := nl) (sp := sp) jf v (lvl + 1)
    have h2 := js_membersTail_le_layout (nl := nl) (sp := sp) jf ps lvl
    rw [jsonEncodeMembersTail, jsp_layoutMembersTail]
    simp only [List.length_cons, List.length_append]
    omega
end

/-! ## the parser on the writers' output -/

theorem js_enc_head (jf fol : String → String) (v : Val) (hv : js_NumsOK jf fol v) :
    ∃ c t, jsonEncodeChars jf v = c :: t ∧ js_valueStart c := by
  cases v with
  | null => exact ⟨_, _, rfl, by simp [js_valueStart]⟩
  | bool b => cases b <;> exact ⟨_, _, rfl, by simp [js_valueStart]⟩
  | int i =>
    obtain ⟨st, h, ha⟩ := js_int_tok i
    obtain ⟨c, t, e, hc⟩ := js_tok_head h ha
    exact ⟨c, t, by rw [jsonEncodeChars, e], js_num_head_valueStart hc⟩
  | flt r =>
    obtain ⟨st, h, ha⟩ := js_float_tok hv
    obtain ⟨c, t, e, hc⟩ := js_tok_head h ha
    exact ⟨c, t, by rw [jsonEncodeChars, e], js_num_head_valueStart hc⟩
  | str s => exact ⟨_, _, rfl, by simp [js_valueStart]⟩
  | list xs => exact ⟨_, _, by rw [jsonEncodeChars], by simp [js_valueStart]⟩
  | map kvs => exact ⟨_, _, by rw [jsonEncodeChars], by simp [js_valueStart]⟩

theorem js_layout_head_eq (nl : Nat → List Char) (sp : List Char) (jf : String → String)
    (lvl : Nat) (v : Val) :
    (jsp_layout nl sp jf lvl v).head? = (jsonEncodeChars jf v).head? := by
  cases v with
  | list xs => cases xs <;> rw [jsp_layout, jsonEncodeChars] <;> rfl
  | map kvs =>
    cases kvs with
    | nil => rw [jsp_layout, jsonEncodeChars]; rfl
    | cons p ps => obtain ⟨k, v⟩ := p; rw [jsp_layout, jsonEncodeChars]; rfl
  | _ => simp only [jsp_layout]

theorem js_layout_head {nl : Nat → List Char} {sp : List Char} (jf fol : String → String)
    (lvl : Nat) (v : Val) (hv : js_NumsOK jf fol v) :
    ∃ c t, jsp_layout nl sp jf lvl v = c :: t ∧ js_valueStart c := by
  obtain ⟨c, t, e, hc⟩ := js_enc_head jf fol v hv
  have h := js_layout_head_eq nl sp jf lvl v
  rw [e] at h
  cases hl : jsp_layout nl sp jf lvl v with
  | nil => rw [hl] at h; cases h
  | cons c' t' => rw [hl] at h; cases h; exact ⟨c, t', rfl, hc⟩

theorem js_stop_cons {c : Char} (h : js_numChar c = false) (t : List Char) : js_Stop (c :: t) := by
  intro c' t' e
  cases e
  exact h

theorem js_stop_nil : js_Stop [] := by intro c t e; cases e

theorem js_ws_not_numChar {c : Char} (h : jsonIsWs c = true) : js_numChar c = false := by
  simp only [jsonIsWs, Bool.or_eq_true, decide_eq_true_eq] at h
  rcases h with ((rfl | rfl) | rfl) | rfl <;> decide

theorem js_stop_ws_append {ws : List Char} (hw : ∀ c ∈ ws, jsonIsWs c = true) {c : Char}
    (hc : js_numChar c = false) (t : List Char) : js_Stop (ws ++ c :: t) := by
  cases ws with
  | nil => exact js_stop_cons hc t
  | cons w ws => exact js_stop_cons (js_ws_not_numChar (hw w List.mem_cons_self)) _

theorem js_parse_number (fol : String → String) (lit : List Char) (st : JNumState)
    (h : jnumRun .start lit = some st) (ha : jnumAccept st = true) (fuel : Nat) (rest : List Char)
    (hs : js_Stop rest) :
    jsonParseValue fol (fuel + 1) (lit ++ rest) = .ok (jsonNumberRaw fol lit, rest) := by
  obtain ⟨c, t, e, hc⟩ := js_tok_head h ha
  have hscan := js_scan_run lit .start st rest h ha hs
  subst e
  rw [List.cons_append] at hscan ⊢
  rw [js_parseValue_num (js_skipWs_cons (js_valueStart_facts (js_num_head_valueStart hc)).1 _) hc,
    hscan]

theorem js_stripPrefix_append : ∀ (p rest : List Char), jsonStripPrefix p (p ++ rest) = some rest
  | [], rest => by cases rest <;> rfl
  | c :: p, rest => by simp [jsonStripPrefix, js_stripPrefix_append p rest]

theorem js_fuel_succ {fuel n : Nat} (h : n + 1 ≤ fuel) : ∃ m, fuel = m + 1 := ⟨fuel - 1, by omega⟩

section layout
variable {nl : Nat → List Char} {sp : List Char} (jf fol : String → String)

theorem js_stop_layoutElemsTail (hnl : ∀ l, ∀ c ∈ nl l, jsonIsWs c = true) (lvl : Nat)
    (xs : List Val) (rest : List Char) : js_Stop (jsp_layoutElemsTail nl sp jf lvl xs ++ rest) := by
  cases xs with
  | nil =>
    rw [jsp_layoutElemsTail, List.append_assoc]; exact js_stop_ws_append (hnl lvl) (by decide) _
  | cons y ys => rw [jsp_layoutElemsTail]; exact js_stop_cons (by decide) _

theorem js_stop_layoutMembersTail (hnl : ∀ l, ∀ c ∈ nl l, jsonIsWs c = true) (lvl : Nat)
    (ps : Fields) (rest : List Char) : js_Stop (jsp_layoutMembersTail nl sp jf lvl ps ++ rest) := by
  cases ps with
  | nil =>
    rw [jsp_layoutMembersTail, List.append_assoc]
    exact js_stop_ws_append (hnl lvl) (by decide) _
  | cons p ps => obtain ⟨k, v⟩ := p; rw [jsp_layoutMembersTail]; exact js_stop_cons (by decide) _

mutual
/-- The layout is skipped without spending fuel: the length of the compact text is enough. -/
theorem js_parse_layout (hnl : ∀ l, ∀ c ∈ nl l, jsonIsWs c = true)
    (hsp : ∀ c ∈ sp, jsonIsWs c = true) : ∀ (v : Val) (lvl fuel : Nat) (rest : List Char),
    js_NumsOK jf fol v → js_DistinctKeys v = true → (jsonEncodeChars jf v).length ≤ fuel →
    js_Stop rest →
    jsonParseValue fol fuel (jsp_layout nl sp jf lvl v ++ rest) = .ok (js_rawOf jf fol v, rest)
  | v, _, 0, _, hv, _, hf, _ => by
    obtain ⟨c, t, e, -⟩ := js_enc_head jf fol v hv
    rw [e] at hf
    cases hf
  | .null, lvl, fuel + 1, rest, _, _, _, _ => by
    simp only [jsp_layout]
    rw [jsonEncodeChars, List.cons_append,
      js_parseValue_null (js_skipWs_cons (by decide) _), js_stripPrefix_append, js_rawOf]
  | .bool true, lvl, fuel + 1, rest, _, _, _, _ => by
    simp only [jsp_layout]
    rw [jsonEncodeChars, List.cons_append,
      js_parseValue_true (js_skipWs_cons (by decide) _), js_stripPrefix_append, js_rawOf]
  | .bool false, lvl, fuel + 1, rest, _, _, _, _ => by
    simp only [jsp_layout]
    rw [jsonEncodeChars, List.cons_append,
      js_parseValue_false (js_skipWs_cons (by decide) _), js_stripPrefix_append, js_rawOf]
  | .int i, lvl, fuel + 1, rest, _, _, _, hs => by
    obtain ⟨st, h, ha⟩ := js_int_tok i
    simp only [jsp_layout]
    rw [jsonEncodeChars, js_parse_number fol _ st h ha fuel rest hs, js_rawOf]
  | .flt r, lvl, fuel + 1, rest, hv, _, _, hs => by
    obtain ⟨st, h, ha⟩ := js_float_tok hv
    simp only [jsp_layout]
    rw [jsonEncodeChars, js_parse_number fol _ st h ha fuel rest hs, js_rawOf]
  | .str s, lvl, fuel + 1, rest, _, _, _, _ => by
    simp only [jsp_layout]
    rw [jsonEncodeChars, js_quote_append,
      js_parseValue_str (js_skipWs_cons (by decide) _), js_parseStr_escape, js_rawOf]
    simp only [String.ofList_toList]
  | .list [], lvl, fuel + 1, rest, _, _, _, _ => by
    rw [jsp_layout, List.cons_append, js_parseValue_list (js_skipWs_cons (by decide) _),
      List.singleton_append, js_skipWs_cons (by decide), js_rawOf, js_rawList]
    rfl
  | .map [], lvl, fuel + 1, rest, _, _, _, _ => by
    rw [jsp_layout, List.cons_append, js_parseValue_map (js_skipWs_cons (by decide) _),
      List.singleton_append, js_skipWs_cons (by decide), js_rawOf, js_rawFields]
    rfl
  | .list (x :: xs), lvl, fuel + 1, rest, hv, hd, hf, _ => by
    rw [jsonEncodeChars, jsonEncodeElems, List.length_cons, List.length_append] at hf
    rw [js_DistinctKeys, js_DistinctKeysList, Bool.and_eq_true] at hd
    rw [jsp_layout, List.cons_append, List.append_assoc, List.append_assoc, js_rawOf, js_rawList]
    have he := js_parse_layoutElemsTail hnl hsp xs lvl fuel _ _ rest _ hv.2 hd.2
      (Nat.le_of_succ_le_succ hf) fun f r => js_parse_layout hnl hsp x (lvl + 1) f r hv.1 hd.1
    obtain ⟨c, t, e, hc⟩ := js_layout_head (nl := nl) (sp := sp) jf fol (lvl + 1) x hv.1
    rw [e, List.cons_append] at he ⊢
    rw [js_parseValue_list (js_skipWs_cons (by decide) _), js_skipWs_append (hnl _),
      js_skipWs_cons (js_valueStart_facts hc).1]
    simp only [(js_valueStart_facts hc).2.1, if_false, he]
  | .map ((k, v) :: ps), lvl, fuel + 1, rest, hv, hd, hf, _ => by
    rw [jsonEncodeChars, jsonEncodeMembers, List.length_cons, List.length_append,
      List.length_cons, List.length_append] at hf
    rw [js_DistinctKeys, js_keysDistinct, js_DistinctKeysFields, Bool.and_eq_true,
      Bool.and_eq_true, Bool.and_eq_true, Bool.not_eq_true'] at hd
    rw [jsp_layout, js_rawOf, js_rawFields]
    simp only [List.cons_append, List.append_assoc]
    rw [js_parseValue_map (js_skipWs_cons (by decide) _), js_skipWs_append (hnl _), js_quote_append,
      js_skipWs_cons (by decide)]
    simp only [show ('"' = '}') = False from by decide, if_false]
    rw [← js_quote_append]
    rw [js_parse_layoutMembersTail hnl hsp ps lvl fuel (jsonEncodeChars jf v).length k _ rest _
      hv.2 hd.1.2 hd.2.2 hd.1.1 (by omega) fun f r => js_parse_layout hnl hsp v (lvl + 1) f r hv.1 hd.2.1]
/-- … a non-empty array after its `[`: an element whose text `t` parses to `a` with fuel `n`, then
    the remaining elements -/
theorem js_parse_layoutElemsTail (hnl : ∀ l, ∀ c ∈ nl l, jsonIsWs c = true)
    (hsp : ∀ c ∈ sp, jsonIsWs c = true) : ∀ (xs : List Val) (lvl fuel n : Nat) (t rest : List Char)
    (a : Raw), js_NumsOKList jf fol xs → js_DistinctKeysList xs = true →
    n + (jsonEncodeElemsTail jf xs).length ≤ fuel →
    (∀ f r, n ≤ f → js_Stop r → jsonParseValue fol f (t ++ r) = .ok (a, r)) →
    jsonParseElems fol fuel (t ++ (jsp_layoutElemsTail nl sp jf lvl xs ++ rest)) =
      .ok (a :: js_rawList jf fol xs, rest)
  | [], lvl, fuel, n, t, rest, a, _, _, hf, hx => by
    obtain ⟨fuel, rfl⟩ := js_fuel_succ hf
    rw [js_rawList]
    refine js_parseElems_last (hx fuel _ (Nat.le_of_succ_le_succ hf)
      (js_stop_layoutElemsTail jf hnl lvl [] rest)) ?_
    rw [jsp_layoutElemsTail, List.append_assoc, js_skipWs_append (hnl lvl)]
    exact js_skipWs_cons (by decide) _
  | y :: ys, lvl, fuel, n, t, rest, a, hv, hd, hf, hx => by
    rw [jsonEncodeElemsTail, List.length_cons, List.length_append] at hf
    obtain ⟨fuel, rfl⟩ := js_fuel_succ (fuel := fuel) (n := n) (by omega)
    rw [js_DistinctKeysList, Bool.and_eq_true] at hd
    have h := hx fuel (jsp_layoutElemsTail nl sp jf lvl (y :: ys) ++ rest) (by omega)
      (js_stop_layoutElemsTail jf hnl lvl _ rest)
    rw [jsp_layoutElemsTail, List.cons_append, List.append_assoc, List.append_assoc] at h ⊢
    rw [js_rawList]
    refine js_parseElems_more h (js_skipWs_cons (by decide) _) ?_
    rw [js_parseElems_congr fol _ (js_skipWs_append (hnl _) _)]
    exact js_parse_layoutElemsTail hnl hsp ys lvl fuel (jsonEncodeChars jf y).length _ rest _ hv.2
      hd.2 (by omega) fun f r => js_parse_layout hnl hsp y (lvl + 1) f r hv.1 hd.1
/-- … a non-empty object after its `{`: a member with a key `k` that none of the following has
    and a value whose text `t` parses to `a` with fuel `n`, then the remaining members -/
theorem js_parse_layoutMembersTail (hnl : ∀ l, ∀ c ∈ nl l, jsonIsWs c = true)
    (hsp : ∀ c ∈ sp, jsonIsWs c = true) : ∀ (ps : Fields) (lvl fuel n : Nat) (k : String)
    (t rest : List Char) (a : Raw), js_NumsOKFields jf fol ps → js_keysDistinct ps = true →
    js_DistinctKeysFields ps = true → (ps.any fun e => e.1 == k) = false →
    n + (jsonEncodeMembersTail jf ps).length ≤ fuel →
    (∀ f r, n ≤ f → js_Stop r → jsonParseValue fol f (t ++ r) = .ok (a, r)) →
    jsonParseMembers fol fuel (jsonQuote k.toList ++ ':' :: (sp ++ (t ++
        (jsp_layoutMembersTail nl sp jf lvl ps ++ rest)))) =
      .ok ((k, a) :: js_rawFields jf fol ps, rest)
  | [], lvl, fuel, n, k, t, rest, a, _, _, _, _, hf, hx => by
    rw [jsonEncodeMembersTail] at hf
    obtain ⟨fuel, rfl⟩ := js_fuel_succ hf
    have h := hx fuel (jsp_layoutMembersTail nl sp jf lvl [] ++ rest) (Nat.le_of_succ_le_succ hf)
      (js_stop_layoutMembersTail jf hnl lvl _ rest)
    rw [← js_parseValue_congr fol _ (js_skipWs_append hsp _)] at h
    rw [jsp_layoutMembersTail, List.append_assoc, List.singleton_append] at h ⊢
    rw [js_rawFields, js_parseMembers_last k.toList h
      (by rw [js_skipWs_append (hnl lvl)]; exact js_skipWs_cons (by decide) _),
      String.ofList_toList]
  | (k', v) :: qs, lvl, fuel, n, k, t, rest, a, hv, hk, hd, hk', hf, hx => by
    rw [jsonEncodeMembersTail, List.length_cons, List.length_append, List.length_cons,
      List.length_append] at hf
    obtain ⟨fuel, rfl⟩ := js_fuel_succ (fuel := fuel) (n := n) (by omega)
    rw [js_keysDistinct, Bool.and_eq_true, Bool.not_eq_true'] at hk
    rw [js_DistinctKeysFields, Bool.and_eq_true] at hd
    have h := hx fuel (jsp_layoutMembersTail nl sp jf lvl ((k', v) :: qs) ++ rest) (by omega)
      (js_stop_layoutMembersTail jf hnl lvl _ rest)
    rw [← js_parseValue_congr fol _ (js_skipWs_append hsp _)] at h
    rw [jsp_layoutMembersTail] at h ⊢
    simp only [List.cons_append, List.append_assoc] at h ⊢
    have hm := js_parse_layoutMembersTail hnl hsp qs lvl fuel (jsonEncodeChars jf v).length k' _
      rest _ hv.2 hk.2 hd.2 hk.1 (by omega) fun f r => js_parse_layout hnl hsp v (lvl + 1) f r hv.1 hd.1
    rw [← js_parseMembers_congr fol _ (js_skipWs_append (hnl (lvl + 1)) _)] at hm
    rw [js_parseMembers_step k.toList h (js_skipWs_cons (by decide) _) hm, String.ofList_toList,
      if_neg, js_rawFields]
    rw [← js_rawFields, js_rawFields_any, hk']
    exact Bool.false_ne_true
end

theorem js_parse_layoutElems (hnl : ∀ l, ∀ c ∈ nl l, jsonIsWs c = true)
    (hsp : ∀ c ∈ sp, jsonIsWs c = true) (x : Val) (xs : List Val) (lvl fuel : Nat) (rest : List Char)
    (hv : js_NumsOKList jf fol (x :: xs)) (hd : js_DistinctKeysList (x :: xs) = true)
    (hf : (jsonEncodeElems jf (x :: xs)).length ≤ fuel) :
    jsonParseElems fol fuel
        (jsp_layout nl sp jf (lvl + 1) x ++ jsp_layoutElemsTail nl sp jf lvl xs ++ rest) =
      .ok (js_rawList jf fol (x :: xs), rest) := by
  rw [jsonEncodeElems, List.length_append] at hf
  rw [js_DistinctKeysList, Bool.and_eq_true] at hd
  rw [List.append_assoc, js_rawList]
  exact js_parse_layoutElemsTail jf fol hnl hsp xs lvl fuel _ _ rest _ hv.2 hd.2 hf
    fun f r => js_parse_layout jf fol hnl hsp x (lvl + 1) f r hv.1 hd.1

theorem js_parse_layoutMembers (hnl : ∀ l, ∀ c ∈ nl l, jsonIsWs c = true)
    (hsp : ∀ c ∈ sp, jsonIsWs c = true) (k : String) (v : Val) (ps : Fields) (lvl fuel : Nat)
    (rest : List Char) (hv : js_NumsOKFields jf fol ((k, v) :: ps))
    (hk : js_keysDistinct ((k, v) :: ps) = true)
    (hd : js_DistinctKeysFields ((k, v) :: ps) = true)
    (hf : (jsonEncodeMembers jf ((k, v) :: ps)).length ≤ fuel) :
    jsonParseMembers fol fuel
        (jsonQuote k.toList ++ ':' :: (sp ++ (jsp_layout nl sp jf (lvl + 1) v ++
          jsp_layoutMembersTail nl sp jf lvl ps)) ++ rest) =
      .ok (js_rawFields jf fol ((k, v) :: ps), rest) := by
  rw [jsonEncodeMembers, List.length_append, List.length_cons, List.length_append] at hf
  rw [js_keysDistinct, Bool.and_eq_true, Bool.not_eq_true'] at hk
  rw [js_DistinctKeysFields, Bool.and_eq_true] at hd
  rw [js_rawFields]
  simp only [List.cons_append, List.append_assoc]
  exact js_parse_layoutMembersTail jf fol hnl hsp ps lvl fuel (jsonEncodeChars jf v).length k _ rest
    _ hv.2 hk.2 hd.2 hk.1 (by omega) fun f r => js_parse_layout jf fol hnl hsp v (lvl + 1) f r hv.1 hd.1

end layout

/-! ### the compact writer: no layout -/

theorem js_parse_enc (jf fol : String → String) (v : Val) (fuel : Nat) (rest : List Char)
    (hv : js_NumsOK jf fol v) (hd : js_DistinctKeys v = true)
    (hf : (jsonEncodeChars jf v).length ≤ fuel) (hs : js_Stop rest) :
    jsonParseValue fol fuel (jsonEncodeChars jf v ++ rest) = .ok (js_rawOf jf fol v, rest) := by
  rw [← jsp_layout_compact jf v 0]
  exact js_parse_layout jf fol (fun _ _ h => by cases h) (fun _ h => by cases h) v 0 fuel rest hv hd
    hf hs

theorem js_parse_elems (jf fol : String → String) : ∀ (l : List Val) (fuel : Nat)
    (rest : List Char), l ≠ [] → js_NumsOKList jf fol l → js_DistinctKeysList l = true →
    (jsonEncodeElems jf l).length ≤ fuel →
    jsonParseElems fol fuel (jsonEncodeElems jf l ++ rest) = .ok (js_rawList jf fol l, rest)
  | [], _, _, hne, _, _, _ => absurd rfl hne
  | x :: xs, fuel, rest, _, hv, hd, hf => by
    rw [jsonEncodeElems, ← jsp_layout_compact jf x 1, ← jsp_layoutElemsTail_compact jf xs 0]
    exact js_parse_layoutElems jf fol (fun _ _ h => by cases h) (fun _ h => by cases h) x xs 0 fuel
      rest hv hd hf

theorem js_parse_members (jf fol : String → String) : ∀ (l : Fields) (fuel : Nat)
    (rest : List Char), l ≠ [] → js_NumsOKFields jf fol l → js_keysDistinct l = true →
    js_DistinctKeysFields l = true → (jsonEncodeMembers jf l).length ≤ fuel →
    jsonParseMembers fol fuel (jsonEncodeMembers jf l ++ rest) = .ok (js_rawFields jf fol l, rest)
  | [], _, _, hne, _, _, _, _ => absurd rfl hne
  | (k, v) :: ps, fuel, rest, _, hv, hk, hd, hf => by
    rw [jsonEncodeMembers, ← jsp_layout_compact jf v 1, ← jsp_layoutMembersTail_compact jf ps 0]
    exact js_parse_layoutMembers (nl := fun _ => []) (sp := []) jf fol (fun _ _ h => by cases h) (fun _ h => by cases h) k v ps 0
      fuel rest hv hk hd hf

/-! ## `normalize` of what the parser returns -/

theorem js_normalize_int (fol : String → String) (i : Int) (h1 : int64Min ≤ i)
    (h2 : i ≤ int64Max) : normalize (jsonNumberRaw fol (jsonIntChars i)) = .ok (.int i) := by
  rw [jsonNumberRaw, js_intChars_toString, normalize_jnum, parseInt64_toString i h1 h2]

theorem js_normalize_float {jf fol : String → String} {r : String} (h : js_FloatOK jf fol r) :
    normalize (jsonNumberRaw fol (jf r).toList) = .ok (.flt r) := by
  obtain ⟨c, hc, hc'⟩ := h.frac
  have hp : parseInt64 (jf r) = none := by
    apply parseInt64_none_of_bad_char (jf r) c hc <;>
      rcases hc' with e | e | e <;> subst e <;> decide
  have hne : r.isEmpty = false := by
    cases he : r.isEmpty
    · rfl
    · exact absurd (String.isEmpty_iff.1 he) h.ne
  rw [jsonNumberRaw, String.ofList_toList, normalize_jnum, hp, h.back]
  simp [hne]

mutual
theorem js_normalize_raw (jf fol : String → String) : ∀ (v : Val), v.wfB = true →
    js_NumsOK jf fol v → normalize (js_rawOf jf fol v) = .ok v
  | .null, _, _ => by rw [js_rawOf, normalize]; rfl
  | .bool b, _, _ => by rw [js_rawOf, normalize]; rfl
  | .int i, _, hv => by
    rw [js_rawOf, js_normalize_int fol i hv.1 hv.2]
  | .flt r, _, hv => by
    rw [js_rawOf, js_normalize_float hv]
  | .str s, _, _ => by rw [js_rawOf, normalize]; rfl
  | .list xs, hw, hv => by
    rw [js_rawOf, normalize, js_normalizeList_raw jf fol xs hw hv]; rfl
  | .map kvs, hw, hv => by
    simp only [Val.wfB, Bool.and_eq_true] at hw
    rw [js_rawOf, normalize_map, js_normalizeFields_raw jf fol kvs hw.2 hv]
    simp only [ok_bind, R_pure, fofList_of_sortedKeysB hw.1]
theorem js_normalizeList_raw (jf fol : String → String) : ∀ (l : List Val),
    Val.wfListB l = true → js_NumsOKList jf fol l →
    normalizeList (js_rawList jf fol l) = .ok l
  | [], _, _ => by rw [js_rawList, normalizeList]; rfl
  | x :: xs, hw, hv => by
    simp only [Val.wfListB, Bool.and_eq_true] at hw
    rw [js_rawList, normalizeList, js_normalize_raw jf fol x hw.1 hv.1,
      js_normalizeList_raw jf fol xs hw.2 hv.2]; rfl
theorem js_normalizeFields_raw (jf fol : String → String) : ∀ (l : Fields),
    Val.wfFieldsB l = true → js_NumsOKFields jf fol l →
    normalizeFields (js_rawFields jf fol l) = .ok l
  | [], _, _ => by rw [js_rawFields, normalizeFields_nil]
  | (k, v) :: rest, hw, hv => by
    simp only [Val.wfFieldsB, Bool.and_eq_true] at hw
    rw [js_rawFields, normalizeFields_cons, js_normalize_raw jf fol v hw.1 hv.1,
      js_normalizeFields_raw jf fol rest hw.2 hv.2]; rfl
end

/-! ## streams -/

theorem js_decodeDocs_ws (fol : String → String) (fuel : Nat) {c : Char} (h : jsonIsWs c = true)
    (cs : List Char) :
    jsonDecodeDocs fol (fuel + 1) (c :: cs) = jsonDecodeDocs fol (fuel + 1) cs := by
  rw [jsonDecodeDocs, jsonDecodeDocs, js_skipWs_ws h]

theorem js_decodeDocs_nil (fol : String → String) (fuel : Nat) :
    jsonDecodeDocs fol (fuel + 1) [] = .ok [] := by
  rw [jsonDecodeDocs]; rfl

theorem js_lines_length {α : Type} (w : α → List Char) : ∀ (vs : List α),
    vs.length ≤ (vs.map fun v => w v ++ ['\n']).flatten.length
  | [] => Nat.le_refl _
  | v :: vs => by
    have := js_lines_length w vs
    simp only [List.map_cons, List.flatten_cons, List.length_append, List.length_cons]
    omega

section layout
variable {nl : Nat → List Char} {sp : List Char} (jf fol : String → String)
  (hnl : ∀ l, ∀ c ∈ nl l, jsonIsWs c = true) (hsp : ∀ c ∈ sp, jsonIsWs c = true)
include hnl hsp

theorem js_decodeDocs_layout (v : Val) (hv : js_NumsOK jf fol v) (hd : js_DistinctKeys v = true)
    (lvl fuel : Nat) (rest : List Char) (hs : js_Stop rest) :
    jsonDecodeDocs fol (fuel + 1) (jsp_layout nl sp jf lvl v ++ rest) =
      match jsonDecodeDocs fol fuel rest with
      | .ok xs => .ok (js_rawOf jf fol v :: xs)
      | .error e => .error e := by
  obtain ⟨c, t, e, hc⟩ := js_layout_head (nl := nl) (sp := sp) jf fol lvl v hv
  have hl := js_enc_le_layout (nl := nl) (sp := sp) jf v lvl
  rw [e, List.length_cons] at hl
  have h1 := js_parse_layout jf fol hnl hsp v lvl (2 * (t ++ rest).length + 3) rest hv hd
    (by rw [List.length_append]; omega) hs
  rw [e] at h1 ⊢
  rw [List.cons_append] at h1 ⊢
  rw [jsonDecodeDocs, js_skipWs_cons (js_valueStart_facts hc).1]
  simp only [h1]
  rfl

theorem js_decode_layoutStream : ∀ (vs : List Val) (fuel : Nat),
    js_NumsOKList jf fol vs → js_DistinctKeysList vs = true → vs.length + 1 ≤ fuel →
    jsonDecodeDocs fol fuel (vs.map fun v => jsp_layout nl sp jf 0 v ++ ['\n']).flatten =
      .ok (js_rawList jf fol vs)
  | [], fuel, _, _, hf => by
    obtain ⟨fuel, rfl⟩ := js_fuel_succ hf
    rw [List.map_nil, List.flatten_nil, js_decodeDocs_nil, js_rawList]
  | v :: vs, fuel, hv, hd, hf => by
    rw [js_DistinctKeysList, Bool.and_eq_true] at hd
    rw [List.length_cons] at hf
    obtain ⟨fuel, rfl⟩ : ∃ m, fuel = m + 2 := ⟨fuel - 2, by omega⟩
    rw [List.map_cons, List.flatten_cons, List.append_assoc, List.singleton_append,
      js_decodeDocs_layout jf fol hnl hsp v hv.1 hd.1 0 _ _ (js_stop_cons (by decide) _),
      js_decodeDocs_ws fol fuel (by decide),
      js_decode_layoutStream vs (fuel + 1) hv.2 hd.2 (by omega), js_rawList]

theorem js_loadStream_layout (vs : List Val) (h : ∀ v ∈ vs, js_Repr jf fol v) :
    jsonLoadStream fol
      (String.ofList (vs.map fun v => jsp_layout nl sp jf 0 v ++ ['\n']).flatten) = .ok vs := by
  have h1 : js_NumsOKList jf fol vs := js_numsOKList_iff.2 fun v hv => (h v hv).2
  have h2 : Val.wfListB vs = true := wfListB_iff.2 fun v hv => (h v hv).1
  have := js_lines_length (jsp_layout nl sp jf 0) vs
  rw [jsonLoadStream, jsonDecodeStream, String.toList_ofList,
    js_decode_layoutStream jf fol hnl hsp vs _ h1 (js_distinctList_of_wfB vs h2) (by omega)]
  exact js_normalizeList_raw jf fol vs h2 h1

theorem js_load_layout (v : Val) (lvl : Nat) (h : js_Repr jf fol v) :
    jsonLoad fol (String.ofList (jsp_layout nl sp jf lvl v)) = .ok v := by
  obtain ⟨c, t, e, _⟩ := js_layout_head (nl := nl) (sp := sp) jf fol lvl v h.2
  have hd := js_decodeDocs_layout jf fol hnl hsp v h.2 (js_distinct_of_wfB v h.1) lvl (t.length + 1) []
    js_stop_nil
  rw [List.append_nil, js_decodeDocs_nil] at hd
  rw [jsonLoad, jsonLoadStream, jsonDecodeStream, String.toList_ofList]
  rw [e] at hd ⊢
  rw [List.length_cons, hd]
  simp only [normalizeList, js_normalize_raw jf fol v h.1 h.2]
  rfl

end layout

theorem js_stream_eq_lines (jf : String → String) : ∀ (vs : List Val),
    jsonEncodeStreamChars jf vs = (vs.map fun v => jsonEncodeChars jf v ++ ['\n']).flatten
  | [] => rfl
  | v :: vs => by
    rw [jsonEncodeStreamChars, js_stream_eq_lines jf vs]; simp

theorem js_loadStream_encodeStream (jf fol : String → String) (vs : List Val)
    (h : ∀ v ∈ vs, js_Repr jf fol v) :
    jsonLoadStream fol (jsonEncodeStream jf vs) = .ok vs := by
  rw [jsonEncodeStream, js_stream_eq_lines,
    ← funext fun v => congrArg (· ++ ['\n']) (jsp_layout_compact jf v 0)]
  exact js_loadStream_layout jf fol (fun _ _ h => by cases h) (fun _ h => by cases h) vs h

theorem js_load_encode (jf fol : String → String) (v : Val) (h : js_Repr jf fol v) :
    jsonLoad fol (jsonEncode jf v) = .ok v := by
  rw [jsonEncode, ← jsp_layout_compact jf v 0]
  exact js_load_layout jf fol (fun _ _ h => by cases h) (fun _ h => by cases h) v 0 h

theorem js_load_encodeStream_one (jf fol : String → String) (v : Val) (h : js_Repr jf fol v) :
    jsonLoad fol (jsonEncodeStream jf [v]) = .ok v := by
  rw [jsonLoad, js_loadStream_encodeStream jf fol [v] (by simpa using h)]

/-! ## the instance of the abstract `Codec` (Bkl/Stream.lean) -/

/-- the hypothesis of `json_rt` / `C05_json_stream_rt` for the concrete codec -/
theorem js_codec_ok (jf fol : String → String) : ∀ v, js_Repr jf fol v →
    ∃ l, (jsonCodec jf fol).enc v = .ok [l] ∧ (jsonCodec jf fol).dec [l] = .ok v :=
  fun v h => ⟨jsonEncode jf v, rfl,
    (js_load_encode jf fol v h : jsonLoad fol (jsonEncode jf v) = .ok v)⟩

/-! ## a JSON document is a single line -/

theorem js_escapeChar_no_nl (c : Char) : '\n' ∉ jsonEscapeChar c := by
  rcases js_escapeChar_cases c with ⟨e, h, -, hs⟩ | ⟨x, y, z, w, h, -, -, ha⟩ | ⟨h, -, -, h3⟩
  · have : e ≠ '\n' := by rintro rfl; cases hs
    rw [h]; simp [Ne.symm this]
  · rw [h]
    intro hm
    rw [List.mem_cons, List.mem_cons] at hm
    rcases hm with hm | hm | hm
    · cases hm
    · cases hm
    · exact (js_alnum_ne (ha _ hm)).2.2 rfl
  · rw [h]
    have : c ≠ '\n' := by rintro rfl; exact h3 (by decide)
    simpa using Ne.symm this

theorem js_escape_no_nl (s : List Char) : '\n' ∉ jsonEscape s := by
  simp only [jsonEscape, List.mem_flatMap, not_exists, not_and]
  intro c _
  exact js_escapeChar_no_nl c

theorem js_quote_no_nl (s : List Char) : '\n' ∉ jsonQuote s := by
  have := js_escape_no_nl s
  simp [jsonQuote, this]

theorem js_intChars_no_nl (i : Int) : '\n' ∉ jsonIntChars i := by
  obtain ⟨st, h, _⟩ := js_int_tok i
  intro hm
  have := js_tok_numChars _ _ _ h _ hm
  revert this; decide

theorem js_float_no_nl {jf fol : String → String} {r : String} (h : js_FloatOK jf fol r) :
    '\n' ∉ (jf r).toList := by
  obtain ⟨st, h, _⟩ := js_float_tok h
  intro hm
  have := js_tok_numChars _ _ _ h _ hm
  revert this; decide

mutual
theorem js_enc_no_nl (jf fol : String → String) : ∀ (v : Val), js_NumsOK jf fol v →
    '\n' ∉ jsonEncodeChars jf v
  | .null, _ => by rw [jsonEncodeChars]; decide
  | .bool true, _ => by rw [jsonEncodeChars]; decide
  | .bool false, _ => by rw [jsonEncodeChars]; decide
  | .int i, _ => by rw [jsonEncodeChars]; exact js_intChars_no_nl i
  | .flt r, hv => by
    rw [jsonEncodeChars]; exact js_float_no_nl hv
  | .str s, _ => by rw [jsonEncodeChars]; exact js_quote_no_nl _
  | .list xs, hv => by
    rw [jsonEncodeChars]
    have := (js_elems_no_nl jf fol xs hv).1
    simp [this]
  | .map kvs, hv => by
    rw [jsonEncodeChars]
    have := (js_members_no_nl jf fol kvs hv).1
    simp [this]
theorem js_elems_no_nl (jf fol : String → String) : ∀ (l : List Val), js_NumsOKList jf fol l →
    '\n' ∉ jsonEncodeElems jf l ∧ '\n' ∉ jsonEncodeElemsTail jf l
  | [], _ => by rw [jsonEncodeElems, jsonEncodeElemsTail]; decide
  | x :: xs, hv => by
    have h1 := js_enc_no_nl jf fol x hv.1
    have h2 := (js_elems_no_nl jf fol xs hv.2).2
    rw [jsonEncodeElems, jsonEncodeElemsTail]
    simp [h1, h2]
theorem js_members_no_nl (jf fol : String → String) : ∀ (l : Fields), js_NumsOKFields jf fol l →
    '\n' ∉ jsonEncodeMembers jf l ∧ '\n' ∉ jsonEncodeMembersTail jf l
  | [], _ => by rw [jsonEncodeMembers, jsonEncodeMembersTail]; decide
  | (k, v) :: rest, hv => by
    have h1 := js_enc_no_nl jf fol v hv.1
    have h2 := (js_members_no_nl jf fol rest hv.2).2
    have h3 := js_quote_no_nl k.toList
    rw [jsonEncodeMembers, jsonEncodeMembersTail]
    simp [h1, h2, h3]
end

/-! ## evaluation (`dropNulls`) keeps a value representable -/

theorem js_numsOK_dropNulls (jf fol : String → String) : ∀ (v : Val), js_NumsOK jf fol v →
    js_NumsOK jf fol (dropNulls v) := by
  intro v
  induction v using Val.induction_mem with
  | list xs ih =>
    rw [dropNulls, js_NumsOK, js_NumsOK, js_numsOKList_iff, js_numsOKList_iff]
    intro h y hy
    obtain ⟨x, hx, -, rfl⟩ := mem_dropNullsList hy
    exact ih x hx (h x hx)
  | map kvs ih =>
    rw [dropNulls, js_NumsOK, js_NumsOK, js_numsOKFields_iff, js_numsOKFields_iff]
    intro h q hq
    obtain ⟨r, hr, -, rfl⟩ := mem_dropNullsFields hq
    exact ih r hr (h r hr)
  | _ => rw [dropNulls]; exact id
theorem js_numsOKList_dropNulls (jf fol : String → String) : ∀ (l : List Val),
    js_NumsOKList jf fol l → js_NumsOKList jf fol (dropNullsList l) :=
  fun l h => js_numsOK_dropNulls jf fol (.list l) h
theorem js_numsOKFields_dropNulls (jf fol : String → String) : ∀ (l : Fields),
    js_NumsOKFields jf fol l → js_NumsOKFields jf fol (dropNullsFields l) :=
  fun l h => js_numsOK_dropNulls jf fol (.map l) h

/-! ## a concrete pair of float parameters (for examples): identity except on three texts where
    encoding/json and `%v` differ -/

def js_demoJf (r : String) : String :=
  if r = "1e-07" then "1e-7" else if r = "1e-05" then "0.00001" else if r = "2" then "2.0" else r

def js_demoFol (l : String) : String :=
  if l = "1e-7" then "1e-07" else if l = "0.00001" then "1e-05" else if l = "2.0" then "2" else l

theorem js_demo_floatOK : ∀ r ∈ ["1.5", "1e+21", "1e-07", "1e-05", "2"],
    js_FloatOK js_demoJf js_demoFol r := by
  intro r hr
  simp only [List.mem_cons, List.mem_nil_iff, or_false] at hr
  rcases hr with rfl | rfl | rfl | rfl | rfl
  · exact ⟨by decide, ⟨'.', by decide, Or.inl rfl⟩, by decide, by decide⟩
  · exact ⟨by decide, ⟨'e', by decide, Or.inr (Or.inl rfl)⟩, by decide, by decide⟩
  · exact ⟨by decide, ⟨'e', by decide, Or.inr (Or.inl rfl)⟩, by decide, by decide⟩
  · exact ⟨by decide, ⟨'.', by decide, Or.inl rfl⟩, by decide, by decide⟩
  · exact ⟨by decide, ⟨'.', by decide, Or.inl rfl⟩, by decide, by decide⟩

/-- the value of the labelled test (observed on the real encoder) -/
def js_demoVal : Val :=
  .map [("", .str "x"),
    ("k\n", .list [.int 1, .flt "1.5", .flt "1e+21", .flt "1e-07", .flt "1e-05", .bool true, .null,
      .map [], .list []]),
    ("s", .str "a\"b\\c\n\r\t\x08\x0c\x01\x1f<>&\u2028\u2029é日😀")]

def js_demoText : String :=
  "{\"\":\"x\",\"k\\n\":[1,1.5,1e+21,1e-7,0.00001,true,null,{},[]],\"s\":\"a\\\"b\\\\c\\n\\r\\t\\b\\f\\u0001\\u001f<>&\\u2028\\u2029é日😀\"}"

/-- the exact text Go's encoder was observed to write for this value -/
theorem js_demoText_eq : jsonEncode js_demoJf js_demoVal = js_demoText :=
  -- a string literal is `String.ofList` of its characters: the two texts are compared as lists
  congrArg String.ofList (by decide +kernel)

theorem js_demoVal_repr : js_Repr js_demoJf js_demoFol js_demoVal := by
  refine ⟨by decide, ?_⟩
  simp only [js_demoVal, js_NumsOK, js_NumsOKFields, js_NumsOKList, and_true, true_and]
  exact ⟨by decide, js_demo_floatOK _ (by simp), js_demo_floatOK _ (by simp),
    js_demo_floatOK _ (by simp), js_demo_floatOK _ (by simp)⟩

/-! ## an integer of any size: what comes back is `normalize` of its literal -/

theorem js_decode_int (jf fol : String → String) (i : Int) :
    jsonDecodeStream fol (jsonEncode jf (.int i)) = .ok [jsonNumberRaw fol (jsonIntChars i)] := by
  obtain ⟨st, h, ha⟩ := js_int_tok i
  obtain ⟨c, t, e, hc⟩ := js_tok_head h ha
  have hp := js_parse_number fol _ st h ha (2 * t.length + 2) [] js_stop_nil
  rw [jsonDecodeStream, jsonEncode, String.toList_ofList, jsonEncodeChars]
  rw [List.append_nil] at hp
  rw [e] at hp ⊢
  rw [jsonDecodeDocs, js_skipWs_cons (js_valueStart_facts (js_num_head_valueStart hc)).1]
  simp only [hp, List.length_cons, js_decodeDocs_nil]

theorem js_load_big_int (jf fol : String → String) (i : Int)
    (h : ¬ (int64Min ≤ i ∧ i ≤ int64Max)) :
    jsonLoad fol (jsonEncode jf (.int i)) =
      if (fol (toString i)).isEmpty then .error .other else .ok (.flt (fol (toString i))) := by
  rw [jsonLoad, jsonLoadStream, js_decode_int]
  simp only [normalizeList, jsonNumberRaw, js_intChars_toString, normalize_jnum,
    parseInt64_toString_eq, if_neg h]
  cases (fol (toString i)).isEmpty <;> rfl

end Bkl
