/-
  BklProofs.Lemmas.FilesParents — which files a file inherits from (file.go:parents): `fileParents` by directive, else by
  symlink, else by file name (`fromName`, `globName`).  `findFile`, `findRooted`, `loadFile`, `fileMatch` on a layer that exactly
  one file of a link-free directory provides (`LayerFile`), also through one symlink.
-/
import BklProofs.Lemmas.FilesGlob
import BklProofs.Lemmas.Fields
namespace Bkl

theorem loadFile_eq (fs : FS) (cfg : RootCfg) (path : Comps) (fid : String) :
    loadFile fs cfg path fid =
      if supportedExts.contains (extOf (baseOf path)) then
        fs.rootOpen cfg.root (relTo cfg.root path)
      else .error .unknownFormat := by
  unfold loadFile
  cases supportedExts.contains (extOf (baseOf path)) <;> rfl

/-- parser.go:findFile with the rooted `Parser.stat` — the first supported extension for which
    `layer.ext` is not reported missing beneath `root` (what `fileParents` uses) -/
def FS.findRooted (fs : FS) (root dir : Comps) (layer : String) : Option Comps :=
  (supportedExts.map fun e => dir ++ [layer ++ "." ++ e]).find?
    (fun c => fs.rootExists root (relTo root c))

def parentNames (dirs : List ParentDir) : List String :=
  dirs.flatMap fun d => match d with | .names ns => ns | _ => []

def hasNoParent (dirs : List ParentDir) : Bool :=
  dirs.any fun d => match d with | .noParent => true | _ => false

/-- the filename rule: `a.b.yaml` has the parent layer `a` -/
def fromName (fs : FS) (cfg : RootCfg) (p : Comps) : R (List Comps) :=
  let parts := (baseOf p).splitOn "."
  if parts.length < 2 then .error .invalidFilename
  else if parts.length == 2 then .ok []
  else
    match fs.findRooted cfg.root (dirOf p) (".".intercalate (parts.take (parts.length - 2))) with
    | some f => .ok [f]
    | none => .error .missingFile

/-- the files one `$parent` name stands for -/
def globName (fs : FS) (cfg : RootCfg) (path : Comps) (n : String) : List Comps :=
  fs.globFiles cfg.root (cleanComps (dirOf path ++ splitPath n))

def globStep (fs : FS) (cfg : RootCfg) (path : Comps) (acc : List Comps) (n : String) : R (List Comps) :=
  if (globName fs cfg path n).isEmpty then .error .missingFile else .ok (acc ++ globName fs cfg path n)

theorem fileParents_eq (fs : FS) (cfg : RootCfg) (path : Comps) (docs : List Val) :
    fileParents fs cfg path docs =
      match docs.mapM parentDirective with
      | .error e => .error e
      | .ok dirs =>
        if hasNoParent dirs then
          if !(parentNames dirs).isEmpty then .error .conflictingParent else .ok []
        else if !(parentNames dirs).isEmpty then
          (parentNames dirs).foldlM (globStep fs cfg path) []
        else
          match fs.evalSymlinks path with
          | none => .error .other
          | some dest => fromName fs cfg dest := by
  unfold fileParents
  cases docs.mapM parentDirective with
  | error e => rfl
  | ok dirs =>
    simp only [ok_bind]
    rfl

theorem parentDirective_error (v : Val) (e : Err) (h : parentDirective v = .error e) :
    e = .invalidParent := by
  unfold parentDirective at h
  split at h
  · split at h
    · cases h
    · cases h
    · split at h
      · cases h
      · cases h; rfl
    · split at h
      · cases h; rfl
      · cases h
    · cases h
    · cases h
  · cases h

theorem parentDirective_map (kvs : Fields) :
    parentDirective (.map kvs) =
      match fget kvs "$parent" with
      | none => .ok .absent
      | some (.str s) => .ok (.names [s])
      | some (.list l) =>
        match toStringList l with
        | .ok ns => .ok (.names ns)
        | .error _ => .error .invalidParent
      | some (.bool b) => if b then .error .invalidParent else .ok .noParent
      | some .null => .ok .noParent
      | some _ => .ok (.names []) := rfl

theorem stripParent_of_absent (v : Val) (h : parentDirective v = .ok .absent) : stripParent v = v := by
  cases v with
  | map kvs =>
    rw [parentDirective_map] at h
    have : fget kvs "$parent" = none := by
      split at h
      · assumption
      · cases h
      · split at h <;> cases h
      · split at h <;> cases h
      · cases h
      · cases h
    simp [stripParent, fhas, this]
  | _ => rfl

theorem absent_dirs (docs : List Val) :
    hasNoParent (docs.map fun _ => ParentDir.absent) = false ∧
      parentNames (docs.map fun _ => ParentDir.absent) = [] := by
  simp [hasNoParent, parentNames]

theorem fileParents_no_directive (fs : FS) (cfg : RootCfg) (path : Comps) (docs : List Val)
    (h : ∀ d ∈ docs, parentDirective d = .ok .absent) :
    fileParents fs cfg path docs =
      match fs.evalSymlinks path with
      | none => .error .other
      | some dest => fromName fs cfg dest := by
  rw [fileParents_eq, mapM_ok_of_forall parentDirective (fun _ => .absent) docs h]
  simp only [absent_dirs]
  rfl

theorem findFile_eq (fs : FS) (dir : Comps) (layer : String) :
    fs.findFile dir layer = (supportedExts.map fun e => dir ++ [layer ++ "." ++ e]).find? fs.exists :=
  rfl

theorem find?_ext_some {ex : Comps → Bool} {dir f : Comps} {layer : String}
    (h : (supportedExts.map fun e => dir ++ [layer ++ "." ++ e]).find? ex = some f) :
    ∃ e, e ∈ supportedExts ∧ f = dir ++ [layer ++ "." ++ e] ∧ ex f = true := by
  obtain ⟨e, he, rfl⟩ := List.mem_map.1 (List.mem_of_find?_eq_some h)
  exact ⟨e, he, rfl, List.find?_some h⟩

theorem findFile_some (fs : FS) (dir : Comps) (layer : String) (f : Comps)
    (h : fs.findFile dir layer = some f) :
    ∃ e, e ∈ supportedExts ∧ f = dir ++ [layer ++ "." ++ e] ∧ fs.exists f = true :=
  find?_ext_some h

/-- the layer `layer` is provided by exactly one file `layer.e₀` of the directory `d` (that `d` is reached without links is a
    hypothesis of its own wherever it is needed: `PlainDir`) -/
structure LayerFile (fs : FS) (d : Comps) (layer e₀ : String) (content : R (List Val)) : Prop where
  ext : e₀ ∈ supportedExts
  file : fs.lstat (d ++ [layer ++ "." ++ e₀]) = some (.file content)
  unique : ∀ e ∈ supportedExts, e ≠ e₀ → fs.lstat (d ++ [layer ++ "." ++ e]) = none

instance (fs : FS) (d : Comps) (layer e₀ : String) (content : R (List Val)) :
    Decidable (LayerFile fs d layer e₀ content) :=
  decidable_of_iff
    (e₀ ∈ supportedExts ∧ fs.lstat (d ++ [layer ++ "." ++ e₀]) = some (.file content) ∧
      ∀ e ∈ supportedExts, e ≠ e₀ → fs.lstat (d ++ [layer ++ "." ++ e]) = none)
    ⟨fun ⟨a, b, c⟩ => ⟨a, b, c⟩, fun ⟨a, b, c⟩ => ⟨a, b, c⟩⟩

section layer

variable {fs : FS} {d : Comps} {layer e : String} (hd : PlainDir fs d) (hl : 0 < layer.length)
  (he : e ∈ supportedExts)

include hd hl he

theorem layer_seen {n : FNode} (h : fs.lstat (d ++ [layer ++ "." ++ e]) = some n)
    (hn : n.isLink = false) :
    fs.exists (d ++ [layer ++ "." ++ e]) = true ∧
      fs.rootExists [] (relTo [] (d ++ [layer ++ "." ++ e])) = true := by
  have hp := plainComp_layer _ _ hl (supportedExt_length_pos e he)
  rw [FS.exists, evalSymlinks_file hd hp h hn, relTo_nil]
  exact ⟨rfl, rootExists_file hd hp h hn⟩

theorem layer_unseen (h : fs.lstat (d ++ [layer ++ "." ++ e]) = none) :
    fs.exists (d ++ [layer ++ "." ++ e]) = false ∧
      fs.rootExists [] (relTo [] (d ++ [layer ++ "." ++ e])) = false := by
  have hp := plainComp_layer _ _ hl (supportedExt_length_pos e he)
  rw [FS.exists, evalSymlinks_missing hd hp h, relTo_nil]
  exact ⟨rfl, rootExists_missing hd hp h⟩

end layer

theorem findFile_layerFile {fs : FS} {d : Comps} {layer e₀ : String} {content : R (List Val)}
    (hd : PlainDir fs d) (hl : 0 < layer.length) (h : LayerFile fs d layer e₀ content) :
    fs.findFile d layer = some (d ++ [layer ++ "." ++ e₀]) :=
  find?_map_unique (fun e => d ++ [layer ++ "." ++ e]) fs.exists e₀ supportedExts h.ext
    (layer_seen hd hl h.ext h.file rfl).1
    (fun e he hne => (layer_unseen hd hl he (h.unique e he hne)).1)

theorem findFile_none_of_missing {fs : FS} {d : Comps} {layer : String}
    (hd : PlainDir fs d) (hl : 0 < layer.length)
    (h : ∀ e ∈ supportedExts, fs.lstat (d ++ [layer ++ "." ++ e]) = none) :
    fs.findFile d layer = none := by
  rw [findFile_eq, List.find?_eq_none]
  intro x hx
  obtain ⟨e, he, rfl⟩ := List.mem_map.1 hx
  rw [(layer_unseen hd hl he (h e he)).1]
  exact Bool.false_ne_true

theorem findRooted_eq (fs : FS) (root dir : Comps) (layer : String) :
    fs.findRooted root dir layer =
      (supportedExts.map fun e => dir ++ [layer ++ "." ++ e]).find?
        (fun c => fs.rootExists root (relTo root c)) := rfl

theorem findRooted_layerFile {fs : FS} {d : Comps} {layer e₀ : String} {content : R (List Val)}
    (hd : PlainDir fs d) (hl : 0 < layer.length) (h : LayerFile fs d layer e₀ content) :
    fs.findRooted [] d layer = some (d ++ [layer ++ "." ++ e₀]) :=
  find?_map_unique (fun e => d ++ [layer ++ "." ++ e])
    (fun c => fs.rootExists [] (relTo [] c)) e₀ supportedExts h.ext
    (layer_seen hd hl h.ext h.file rfl).2
    (fun e he hne => (layer_unseen hd hl he (h.unique e he hne)).2)

theorem findRooted_none_of_missing {fs : FS} {d : Comps} {layer : String}
    (hd : PlainDir fs d) (hl : 0 < layer.length)
    (h : ∀ e ∈ supportedExts, fs.lstat (d ++ [layer ++ "." ++ e]) = none) :
    fs.findRooted [] d layer = none := by
  rw [findRooted_eq, List.find?_eq_none]
  intro x hx
  obtain ⟨e, he, rfl⟩ := List.mem_map.1 hx
  rw [(layer_unseen hd hl he (h e he)).2]
  exact Bool.false_ne_true

theorem loadFile_layerFile {fs : FS} {d : Comps} {layer e₀ : String} {content : R (List Val)}
    (hd : PlainDir fs d) (hl : 0 < layer.length) (h : LayerFile fs d layer e₀ content)
    (cwd : Comps) (fid : String) :
    loadFile fs ⟨[], cwd⟩ (d ++ [layer ++ "." ++ e₀]) fid = content := by
  rw [loadFile_eq, baseOf_snoc, extOf_snoc _ _ (supportedExt_noDot _ h.ext),
    supportedExts_contains h.ext]
  simp only [if_true, relTo_nil]
  exact rootOpen_plain hd (plainComp_layer _ _ hl (supportedExt_length_pos _ h.ext)) h.file

theorem evalSymlinks_layerFile {fs : FS} {d : Comps} {layer e₀ : String} {content : R (List Val)}
    (hd : PlainDir fs d) (hl : 0 < layer.length) (h : LayerFile fs d layer e₀ content) :
    fs.evalSymlinks (d ++ [layer ++ "." ++ e₀]) = some (d ++ [layer ++ "." ++ e₀]) :=
  evalSymlinks_file hd (plainComp_layer _ _ hl (supportedExt_length_pos _ h.ext)) h.file rfl

theorem fromName_snoc (fs : FS) (cfg : RootCfg) (d : Comps) (l e : String) (he : '.' ∉ e.toList) :
    fromName fs cfg (d ++ [l ++ "." ++ e]) =
      if (l.splitOn ".").length = 1 then .ok []
      else
        match fs.findRooted cfg.root d (".".intercalate (l.splitOn ".").dropLast) with
        | some f => .ok [f]
        | none => .error .missingFile := by
  unfold fromName
  rw [baseOf_snoc, dirOf_snoc, splitOn_dot_snoc l e he]
  cases hp : l.splitOn "." with
  | nil => exact absurd hp (splitOn_dot_ne_nil l)
  | cons a t =>
    cases t with
    | nil => rfl
    | cons b t =>
      have h1 : ¬ (a :: b :: t ++ [e]).length < 2 := by simp
      have h2 : ((a :: b :: t ++ [e]).length == 2) = false := by simp
      have h3 : (a :: b :: t ++ [e]).take ((a :: b :: t ++ [e]).length - 2) = (a :: b :: t).dropLast := by
        rw [List.dropLast_eq_take, List.take_append_of_le_length (by simp)]
        congr 1
        simp
      simp only [h1, h2, h3, if_false, Bool.false_eq_true]
      rfl

theorem fileParents_layer {fs : FS} {d : Comps} {l e : String} {content : R (List Val)}
    {docs : List Val} (cfg : RootCfg) (hd : PlainDir fs d) (hl : 0 < l.length)
    (h : LayerFile fs d l e content)
    (hdocs : ∀ x ∈ docs, parentDirective x = .ok .absent) :
    fileParents fs cfg (d ++ [l ++ "." ++ e]) docs =
      if (l.splitOn ".").length = 1 then .ok []
      else
        match fs.findRooted cfg.root d (".".intercalate (l.splitOn ".").dropLast) with
        | some f => .ok [f]
        | none => .error .missingFile := by
  rw [fileParents_no_directive fs cfg _ docs hdocs, evalSymlinks_layerFile hd hl h]
  exact fromName_snoc fs cfg d l e (supportedExt_noDot e h.ext)

theorem globName_short {fs : FS} {cwd path d : Comps} {n : String} {names : List String}
    (hd : PlainDir fs d) (hdir : fs.lstat d = some .dir) (hm : d.any hasMeta = false)
    (hn : splitPath n = [n]) (hp : cleanComps (dirOf path ++ [n]) = d ++ [n])
    (h2 : globNames fs d n = names) (hlen : names.length ≤ 1) :
    globName fs ⟨[], cwd⟩ path n = names.map fun x => d ++ [x] := by
  rw [globName, hn, hp]
  exact globFiles_short (root := []) hd.1.1 hm (rootWalk_plainDir hd) hdir h2 hlen

theorem fileParents_str_single (fs : FS) (cfg : RootCfg) (path q : Comps) (kvs : Fields) (n : String)
    (h : fget kvs "$parent" = some (.str n)) (hg : globName fs cfg path n = [q]) :
    fileParents fs cfg path [.map kvs] = .ok [q] := by
  have hd : [Val.map kvs].mapM parentDirective = .ok [.names [n]] := by
    rw [mapM_cons, mapM_nil, parentDirective_map, h]
  rw [fileParents_eq, hd]
  have h2 : hasNoParent [.names [n]] = false := rfl
  have h3 : parentNames [.names [n]] = [n] := rfl
  simp only [h2, h3]
  simp [globStep, hg]

theorem globStep_foldlM (fs : FS) (cfg : RootCfg) (path : Comps) :
    ∀ (names : List String) (acc : List Comps),
    names.foldlM (globStep fs cfg path) acc =
      if names.any (fun n => (globName fs cfg path n).isEmpty) then .error .missingFile
      else .ok (acc ++ names.flatMap (globName fs cfg path))
  | [], acc => by simp [List.foldlM_nil, R_pure]
  | n :: names, acc => by
    rw [List.foldlM_cons, globStep]
    by_cases h : (globName fs cfg path n).isEmpty = true
    · simp [h, error_bind]
    · simp only [h, Bool.false_eq_true, if_false, ok_bind, List.any_cons, Bool.false_or,
        List.flatMap_cons]
      rw [globStep_foldlM fs cfg path names, List.append_assoc]

theorem layerFile_of_decide {fs : FS} {d : Comps} {layer e₀ : String} {content : R (List Val)}
    (he : e₀ ∈ supportedExts) (hf : fs.lstat (d ++ [layer ++ "." ++ e₀]) = some (.file content))
    (h1 : e₀ ≠ "json" → fs.lstat (d ++ [layer ++ "." ++ "json"]) = none)
    (h2 : e₀ ≠ "json-pretty" → fs.lstat (d ++ [layer ++ "." ++ "json-pretty"]) = none)
    (h3 : e₀ ≠ "jsonl" → fs.lstat (d ++ [layer ++ "." ++ "jsonl"]) = none)
    (h4 : e₀ ≠ "toml" → fs.lstat (d ++ [layer ++ "." ++ "toml"]) = none)
    (h5 : e₀ ≠ "yaml" → fs.lstat (d ++ [layer ++ "." ++ "yaml"]) = none)
    (h6 : e₀ ≠ "yml" → fs.lstat (d ++ [layer ++ "." ++ "yml"]) = none) :
    LayerFile fs d layer e₀ content := by
  refine ⟨he, hf, ?_⟩
  intro e hmem hne
  simp only [supportedExts, List.mem_cons, List.not_mem_nil, or_false] at hmem
  rcases hmem with rfl | rfl | rfl | rfl | rfl | rfl
  · exact h1 (Ne.symm hne)
  · exact h2 (Ne.symm hne)
  · exact h3 (Ne.symm hne)
  · exact h4 (Ne.symm hne)
  · exact h5 (Ne.symm hne)
  · exact h6 (Ne.symm hne)

theorem fileMatch_eq (fs : FS) (cwd : Comps) (arg : String) :
    fileMatch fs cwd arg =
      if supportedExts.contains (extOf (baseOf (absPath cwd arg))) then
        match fs.findFile (dirOf (absPath cwd arg)) (stemOf (baseOf (absPath cwd arg))) with
        | some real => .ok (real, extOf (baseOf (absPath cwd arg)))
        | none => .error .missingFile
      else .error .invalidType := by
  unfold fileMatch
  simp only []
  cases supportedExts.contains (extOf (baseOf (absPath cwd arg))) <;> rfl

theorem fileMatch_ok {fs : FS} {cwd : Comps} {a : String} {real : Comps} {g : String}
    (h : fileMatch fs cwd a = .ok (real, g)) :
    g = extOf (baseOf (absPath cwd a)) ∧ supportedExts.contains g = true ∧
      fs.findFile (dirOf (absPath cwd a)) (stemOf (baseOf (absPath cwd a))) = some real := by
  rw [fileMatch_eq] at h
  split at h
  · rename_i hx
    split at h
    · rename_i r hr
      simp only [Except.ok.injEq, Prod.mk.injEq] at h
      obtain ⟨h1, h2⟩ := h
      subst h1
      exact ⟨h2.symm, by rw [← h2]; exact hx, hr⟩
    · cases h
  · cases h

/-- `fileMatch` on an argument that stands for `d/l.e`: the first file that provides the layer `l`, in the format `e` -/
theorem fileMatch_snoc {fs : FS} {d cwd : Comps} {arg l e : String}
    (habs : absPath cwd arg = d ++ [l ++ "." ++ e]) (he : e ∈ supportedExts) :
    fileMatch fs cwd arg =
      match fs.findFile d l with
      | some real => .ok (real, e)
      | none => .error .missingFile := by
  rw [fileMatch_eq, habs, baseOf_snoc, dirOf_snoc, extOf_snoc l e (supportedExt_noDot e he),
    supportedExts_contains he, stemOf_snoc l e (supportedExt_noDot e he)]
  rfl

theorem fileMatch_layer {fs : FS} {d cwd : Comps} {arg l e e₀ : String} {content : R (List Val)}
    (habs : absPath cwd arg = d ++ [l ++ "." ++ e]) (he : e ∈ supportedExts)
    (hd : PlainDir fs d) (hl : 0 < l.length) (h : LayerFile fs d l e₀ content) :
    fileMatch fs cwd arg = .ok (d ++ [l ++ "." ++ e₀], e) := by
  rw [fileMatch_snoc habs he, findFile_layerFile hd hl h]

theorem wa_supportedExt_ok (f : String) (hf : f ∈ supportedExts) :
    '.' ∉ f.toList ∧ '/' ∉ f.toList ∧ f ≠ "" :=
  ⟨(supportedExt_spec f hf).1, (supportedExt_spec f hf).2.1,
    fun e => Nat.lt_irrefl 0 (e ▸ (supportedExt_spec f hf).2.2 :)⟩

/-- From within a link-free directory `d`, the argument `l.e` (any supported `e`) resolves to the one file `l.e₀` that
    provides the layer `l`; the format is the extension the argument names. -/
theorem fileMatch_name {fs : FS} {d : Comps} {l e e₀ : String} {content : R (List Val)}
    (hd : PlainDir fs d) (hl : 0 < l.length) (hs : '/' ∉ l.toList) (he : e ∈ supportedExts)
    (h : LayerFile fs d l e₀ content) :
    fileMatch fs d (l ++ "." ++ e) = .ok (d ++ [l ++ "." ++ e₀], e) :=
  fileMatch_layer
    (absPath_name hd.1.1 (by simp [String.toList_append, hs, (wa_supportedExt_ok e he).2.1])
      (plainComp_layer l e hl (supportedExt_length_pos e he)))
    he hd hl h

theorem fileMatch_noext {fs : FS} {cwd : Comps} {arg : String}
    (h : supportedExts.contains (extOf (baseOf (absPath cwd arg))) = false) :
    fileMatch fs cwd arg = .error .invalidType := by
  rw [fileMatch_eq, h]; rfl

theorem fileParents_missing_entry (fs : FS) (cfg : RootCfg) (path : Comps) (docs : List Val)
    (dirs : List ParentDir)
    (n : String) (hd : docs.mapM parentDirective = .ok dirs) (hnp : hasNoParent dirs = false)
    (hn : n ∈ parentNames dirs) (hg : globName fs cfg path n = []) :
    fileParents fs cfg path docs = .error .missingFile := by
  rw [fileParents_eq, hd]
  have h1 : (parentNames dirs).isEmpty = false := by
    cases h : parentNames dirs with
    | nil => rw [h] at hn; cases hn
    | cons a l => rfl
  simp only [hnp, h1, Bool.false_eq_true, if_false, Bool.not_false, if_true]
  rw [globStep_foldlM]
  have h2 : (parentNames dirs).any (fun n => (globName fs cfg path n).isEmpty) = true := by
    rw [List.any_eq_true]
    exact ⟨n, hn, by rw [hg]; rfl⟩
  rw [h2]; rfl

theorem fileParents_link {fs : FS} {d : Comps} {c t l e : String} {n : FNode} {docs : List Val}
    (cfg : RootCfg)
    (hd : PlainDir fs d) (hlen : d.length + 3 ≤ linkFuel) (hc : plainComp c = true)
    (hl : fs.lstat (d ++ [c]) = some (.link t)) (ha : isAbsPath t = false)
    (hs : splitPath t = [l ++ "." ++ e]) (hll : 0 < l.length) (he : e ∈ supportedExts)
    (hl' : fs.lstat (d ++ [l ++ "." ++ e]) = some n) (hn : n.isLink = false)
    (hdocs : ∀ x ∈ docs, parentDirective x = .ok .absent) :
    fileParents fs cfg (d ++ [c]) docs =
      if (l.splitOn ".").length = 1 then .ok []
      else
        match fs.findRooted cfg.root d (".".intercalate (l.splitOn ".").dropLast) with
        | some f => .ok [f]
        | none => .error .missingFile := by
  rw [fileParents_no_directive fs cfg _ docs hdocs,
    evalSymlinks_link hd hlen hc hl ha hs (plainComp_layer _ _ hll (supportedExt_length_pos e he)) hl' hn]
  exact fromName_snoc fs cfg d l e (supportedExt_noDot e he)

theorem loadFile_link {fs : FS} {d cwd : Comps} {c t l e : String} {docs : R (List Val)}
    (hd : PlainDir fs d) (hlen : d.length + 3 ≤ linkFuel) (hc : plainComp c = true)
    (hce : supportedExts.contains (extOf c) = true)
    (hl : fs.lstat (d ++ [c]) = some (.link t)) (ha : isAbsPath t = false)
    (hs : splitPath t = [l ++ "." ++ e]) (hll : 0 < l.length) (he : e ∈ supportedExts)
    (hl' : fs.lstat (d ++ [l ++ "." ++ e]) = some (.file docs)) (fid : String) :
    loadFile fs ⟨[], cwd⟩ (d ++ [c]) fid = docs := by
  rw [loadFile_eq, baseOf_snoc, hce]
  simp only [if_true, relTo_nil]
  exact rootOpen_link hd hlen hc hl ha hs (plainComp_layer _ _ hll (supportedExt_length_pos e he)) hl'

theorem parentDirective_stripParent (w : Val) : parentDirective (stripParent w) = .ok .absent := by
  cases w with
  | map kvs =>
    unfold stripParent
    by_cases h : fhas kvs "$parent" = true
    · simp only [h, if_true]
      rw [parentDirective_map, fget_fdel_same]
    · simp only [h, Bool.false_eq_true, if_false]
      rw [parentDirective_map, fhas_eq_false_iff.1 (by simpa using h)]
  | _ => rfl

theorem stripParent_idem (w : Val) : stripParent (stripParent w) = stripParent w :=
  stripParent_of_absent _ (parentDirective_stripParent w)

theorem globNames_plain {fs : FS} {d : Comps} {n e : String} {content : R (List Val)}
    (hn : PlainName n) (hw : ∀ ch ∈ n.toList, ch ≠ '*' ∧ ch ≠ '?')
    (h : LayerFile fs d n e content) (hnd : (fs.entries.map (·.1)).Nodup) :
    globNames fs d n = [n ++ "." ++ e] := by
  -- a name `s` of the directory matches `n.*` iff `s = n.r`; the one dot of the pattern makes `r` dot-free, so `extOf s = r`;
  -- a supported `r` other than `e` would be a second file for the layer (`LayerFile.unique`); so `n.e` is the only name
  -- selected, and the directory lists no name twice
  have hpat : (n ++ ".*").toList = n.toList ++ ['.', '*'] := by
    rw [String.toList_append]; rfl
  have hplen : (n ++ ".*").length = n.toList.length + 2 := by
    rw [String.length_append, String.length_toList]
    have : ".*".length = 2 := by decide
    omega
  have hn0 := (countDots_eq_zero n).2 hn.2
  have hdots : countDots (n ++ ".*") = 1 := by
    rw [countDots_append, hn0]; decide
  have hed := supportedExt_noDot e h.ext
  rw [globNames_eq]
  apply filter_unique _ _ _ (nodup_dirNames d hnd)
  · obtain ⟨en, hen, he⟩ := mem_of_lstat h.file (by simp)
    exact mem_dirNames_iff.2 ⟨en, hen, by rw [he]; simp, by rw [he]; simp, by rw [he, baseOf_snoc]⟩
  · intro s hs
    obtain ⟨en, hen, hne, hdl, rfl⟩ := mem_dirNames hs
    rw [globSel, hpat, hplen, globMatch_dotstar _ _ _ hw (by
      have := String.length_toList (s := baseOf en.1)
      omega), hdots]
    simp only [Bool.and_eq_true, decide_eq_true_eq, beq_iff_eq]
    constructor
    · rintro ⟨⟨⟨r, hr⟩, hc⟩, hx⟩
      have hs' : baseOf en.1 = n ++ "." ++ String.ofList r := by
        apply String.toList_inj.1
        rw [← hr]
        simp [String.toList_append]
      rw [hs', countDots_append, countDots_append, hn0] at hc
      have hrd : '.' ∉ (String.ofList r).toList :=
        (countDots_eq_zero _).1 (by have : countDots "." = 1 := by decide
                                    omega)
      rw [hs', extOf_snoc _ _ hrd] at hx
      by_cases he : String.ofList r = e
      · rw [hs', he]
      · have := h.unique _ (List.contains_iff_mem.1 hx) he
        rw [← hs', ← path_eq_of_dir hdl hne] at this
        exact absurd this (lstat_of_mem hen hne)
    · intro hs'
      rw [hs']
      refine ⟨⟨⟨e.toList, by simp [String.toList_append]⟩, ?_⟩, ?_⟩
      · rw [countDots_append, countDots_append, hn0, (countDots_eq_zero e).2 hed]
        decide
      · rw [extOf_snoc _ _ hed]
        exact supportedExts_contains h.ext

theorem globName_plain {fs : FS} {d : Comps} {c n e : String} {content : R (List Val)}
    (cwd : Comps) (hd : PlainDir fs d) (hdir : fs.lstat d = some .dir) (hmeta : d.any hasMeta = false)
    (hn : PlainName n)
    (hw : ∀ ch ∈ n.toList, ch ≠ '*' ∧ ch ≠ '?' ∧ ch ≠ '/')
    (h : LayerFile fs d n e content) (hnd : (fs.entries.map (·.1)).Nodup) :
    globName fs ⟨[], cwd⟩ (d ++ [c]) n = [d ++ [n ++ "." ++ e]] := by
  refine globName_short (names := [n ++ "." ++ e]) hd hdir hmeta
    (splitPath_plain n hn.1 (fun hm => (hw _ hm).2.2 rfl)) ?_
    (globNames_plain hn (fun ch hc => ⟨(hw ch hc).1, (hw ch hc).2.1⟩) h hnd) (Nat.le_refl 1)
  rw [dirOf_snoc]
  apply cleanComps_of_plain
  intro x hx
  rcases List.mem_append.1 hx with hx | hx
  · exact hd.1.1 x hx
  · rw [List.mem_singleton.1 hx]
    exact plainComp_of_plainName hn

end Bkl
