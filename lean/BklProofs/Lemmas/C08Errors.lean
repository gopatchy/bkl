/-
  BklProofs.Lemmas.C08Errors — which `Err` constructors the evaluation pipeline
  (`process1` → `repeatDoc` → `process2` → `emit`, i.e. `outputDocuments`) can return.

  `cy_RepP P x`: the result `x` is a value or an error of the class `P`.  Three classes:
  * `cy_p1Err`    — the 9 constructors of phase 3 (`get`, `merge`, `process1`);
  * `cy_emitErr`  — the 3 constructors of the output stage (`findOutputs`, `filterOutput`,
                    `validate`, `emit`);
  * `cy_reported` — the 15 constructors of the whole pipeline.
  The list helpers of util.go throw `extraKeys` only, which all three contain.  Every function of
  the pipeline satisfies `cy_RepP` for its class.  Where a function has a closed form or an equation layer, its
  lemma is read off that: `popListMapValue` (`popListMapValue_spec`), `popListMapBool` (`popListMapBool_closed`),
  `getPath` (`getPath_eq_getLoc`), `validate` and its loops (`validate_error`), `filterOutput` and its loops
  (`C11_filterOutput_eq`), `mergeListTagged` (`mergeListTagged_eq`), `merge` (the equations of
  BklProofs/Lemmas/Merge.lean, by induction on the patch),
  `process2String` (`process2String_interp_eq`, `process2String_not_interp`), `encodeString` (row by row along the
  table `encodeCmd` of BklProofs/Lemmas/Encode.lean).  Otherwise the proof is the definition read along the rules
  for bind, `<$>`, `if`, folds and `mapM`, which are proved once: one rule per layer, one case per arm of a
  `match`.  `process1` goes by the five cases of `p1View` over the pieces named in BklProofs/Lemmas/Process1.lean
  (`mapStep`, `entryStep`, `listFinish`, `mergeRefStep`; the `$merge` host through `process1_merge_eq`), `process2`
  loop by loop over the functions of BklProofs/Lemmas/Process2.lean for any evaluator `P` that stays in the class.
-/
import Bkl.Process2
import BklProofs.Lemmas.Process1
import BklProofs.Lemmas.Output
import BklProofs.Lemmas.C11Spec
import BklProofs.Lemmas.Process2
import BklProofs.Lemmas.Interp
import BklProofs.Lemmas.Encode
namespace Bkl

/-- phase 3: `get`, `merge`, `process1` -/
def cy_p1Err : Err → Bool
  | .circularRef | .extraKeys | .invalidType | .refNotFound | .missingMatch | .multiMatch
  | .noMatchFound | .uselessOverride | .unmodelled => true
  | _ => false

/-- the output stage: `findOutputs`, `filterOutput`, `validate` -/
def cy_emitErr : Err → Bool
  | .extraKeys | .requiredField | .invalidDirective => true
  | _ => false

/-- the error classes that `outputDocuments` can return -/
def cy_reported : Err → Bool
  | .circularRef | .extraKeys | .invalidArguments | .invalidDirective | .invalidType
  | .invalidRepeat | .refNotFound | .missingMatch | .multiMatch | .noMatchFound
  | .requiredField | .unknownFormat | .uselessOverride | .variableNotFound | .unmodelled => true
  | _ => false

theorem cy_le_1_rep : ∀ e, cy_p1Err e = true → cy_reported e = true := by
  intro e; cases e <;> decide
theorem cy_le_emit_rep : ∀ e, cy_emitErr e = true → cy_reported e = true := by
  intro e; cases e <;> decide

/-- `x` is a value or an error of class `P` -/
structure cy_RepP {α : Type} (P : Err → Bool) (x : R α) : Prop where
  rep : ∀ e, x = .error e → P e = true

section generic
variable {P Q : Err → Bool}

theorem cy_rep_mono {α : Type} {x : R α} (h : ∀ e, P e = true → Q e = true)
    (hx : cy_RepP P x) : cy_RepP Q x := ⟨fun e he => h e (hx.rep e he)⟩

theorem cy_rep_elim {α : Type} {x : R α} {e : Err} (h : x = .error e) (hx : cy_RepP P x) :
    P e = true := hx.rep e h

theorem cy_rep_ok {α : Type} (a : α) : cy_RepP P (.ok a : R α) := ⟨fun _ h => by cases h⟩
theorem cy_rep_pure {α : Type} (a : α) : cy_RepP P (pure a : R α) := ⟨fun _ h => by cases h⟩
theorem cy_rep_error {α : Type} {e : Err} (h : P e = true) :
    cy_RepP P (.error e : R α) := ⟨fun _ h' => by cases h'; exact h⟩
theorem cy_rep_throw {α : Type} {e : Err} (h : P e = true) :
    cy_RepP P (throw e : R α) := ⟨fun _ h' => by cases h'; exact h⟩

theorem cy_rep_bind {α β : Type} {x : R α} {f : α → R β} (hx : cy_RepP P x)
    (hf : ∀ a, cy_RepP P (f a)) : cy_RepP P (x >>= f) := by
  cases x with
  | error e => exact ⟨fun e' h => by cases h; exact hx.rep e rfl⟩
  | ok a => exact hf a

theorem cy_rep_map {α β : Type} {x : R α} (f : α → β) (hx : cy_RepP P x) :
    cy_RepP P (f <$> x) := by
  cases x with
  | error e => exact ⟨fun e' h => by cases h; exact hx.rep e rfl⟩
  | ok a => exact cy_rep_ok _

theorem cy_rep_ite {α : Type} {c : Prop} [Decidable c] {x y : R α} (hx : cy_RepP P x)
    (hy : cy_RepP P y) : cy_RepP P (if c then x else y) := by
  split
  · exact hx
  · exact hy

theorem cy_rep_foldlM {α β : Type} {f : β → α → R β} (hf : ∀ b a, cy_RepP P (f b a)) :
    ∀ (l : List α) (b : β), cy_RepP P (l.foldlM f b)
  | [], b => cy_rep_ok b
  | a :: l, b => by
    rw [List.foldlM_cons]
    exact cy_rep_bind (hf b a) (fun b' => cy_rep_foldlM hf l b')

theorem cy_rep_mapM {α β : Type} {f : α → R β} (hf : ∀ a, cy_RepP P (f a)) :
    ∀ (l : List α), cy_RepP P (l.mapM f)
  | [] => by rw [List.mapM_nil]; exact cy_rep_pure _
  | a :: l => by
    rw [List.mapM_cons]
    exact cy_rep_bind (hf a) (fun b => cy_rep_bind (cy_rep_mapM hf l) (fun bs => cy_rep_pure _))

end generic

/-! ## util.go: the list helpers throw `extraKeys` only -/

section helpers
variable {P : Err → Bool} (hP : P .extraKeys = true)
include hP

theorem cy_rep_popVal : ∀ (hs : List Val) (ret : Val), cy_RepP P (popVal ret hs)
  | [], ret => cy_rep_ok ret
  | v :: hs, ret => by
    rw [popVal]
    exact cy_rep_ite (cy_rep_error hP) (cy_rep_popVal hs v)

theorem cy_rep_popListMapValue (l : List Val) (k : String) : cy_RepP P (popListMapValue l k) := by
  rw [popListMapValue_spec]
  exact cy_rep_map _ (cy_rep_popVal hP _ _)

theorem cy_rep_popListMapBool (l : List Val) (k : String) (b : Bool) :
    cy_RepP P (popListMapBool l k b) := by
  rw [popListMapBool_closed]
  exact cy_rep_ite (cy_rep_ok _) (cy_rep_ite (cy_rep_error hP) (cy_rep_ok _))

end helpers

/-! ## phase 3: get.go, merge.go, process1.go -/

section stage1
local notation "cy_Rep" => cy_RepP cy_p1Err

theorem cy_rep_toStringList (l : List Val) : cy_Rep (toStringList l) :=
  cy_rep_mapM (fun v => by
    split
    · exact cy_rep_pure _
    · exact cy_rep_throw rfl) l

theorem cy_rep_getPath (ps : List String) (obj : Val) : cy_Rep (getPath obj ps) := by
  rw [getPath_eq_getLoc]
  split
  · exact cy_rep_ok _
  · exact cy_rep_error rfl

theorem cy_rep_getCrossDoc (docs : List Val) (pat : Val) : cy_Rep (getCrossDoc docs pat) := by
  unfold getCrossDoc
  split
  · exact cy_rep_throw rfl
  · exact cy_rep_pure _
  · exact cy_rep_throw rfl

/-- a path given as a list of strings, inside the document `d` -/
theorem cy_rep_getPath_strs (d : Val) (path : List Val) :
    cy_Rep (toStringList path >>= fun ks => getPath d ks) :=
  cy_rep_bind (cy_rep_toStringList path) fun ks => cy_rep_getPath ks d

theorem cy_rep_getPathFromList (obj : Val) (docs path : List Val) :
    cy_Rep (getPathFromList obj docs path) := by
  unfold getPathFromList
  split
  · exact cy_rep_bind (cy_rep_getCrossDoc docs _) fun d => cy_rep_getPath_strs d _
  · exact cy_rep_bind (cy_rep_getCrossDoc docs _) fun d => cy_rep_getPath_strs d _
  · exact cy_rep_getPath_strs obj path

theorem cy_rep_getPathFromString (obj : Val) (docs : List Val) (path : String) :
    cy_Rep (getPathFromString obj docs path) := by
  unfold getPathFromString
  split
  · exact cy_rep_getPath _ obj
  · exact cy_rep_getPathFromList obj docs _
  · exact cy_rep_throw rfl

theorem cy_rep_get (root : Val) (docs : List Val) (m : Val) : cy_Rep (get root docs m) := by
  fun_induction get root docs m with
  | case1 root s => exact cy_rep_getPathFromString root docs s
  | case2 root l => exact cy_rep_getPathFromList root docs l
  | case3 => exact cy_rep_throw rfl
  | case4 root conf pat _ ih =>
    refine cy_rep_bind (cy_rep_getCrossDoc docs pat) fun d => ?_
    split
    · next path hp => exact ih d path hp
    · exact cy_rep_pure d
  | case5 => exact cy_rep_throw rfl

theorem cy_rep_matchStep {d : List Val} {m upd : Val} {rest : List Val}
    (ih2 : ∀ e, cy_Rep (merge e upd)) (ih1 : ∀ d', cy_Rep (mergeEntries d' rest)) :
    cy_Rep (matchStep d m upd rest) := by
  unfold matchStep
  have hm : cy_Rep (d.mapM fun e => if matchV e m then merge e upd else pure e) :=
    cy_rep_mapM (fun e => cy_rep_ite (ih2 e) (cy_rep_pure e)) d
  split
  · next e he => exact cy_rep_error (hm.rep e he)
  · exact cy_rep_ite (ih1 _) (cy_rep_error rfl)

theorem cy_rep_mergeAct {cur : Option Val} {v : Val} (ih : ∀ e, cy_Rep (merge e v)) :
    cy_Rep (mergeAct cur v) := by
  by_cases hv : v.toStr = "$delete"
  · cases cur with
    | none => rw [mergeAct_delete_none hv]; exact cy_rep_error rfl
    | some e => rw [mergeAct_delete_some hv]; exact cy_rep_ok _
  · cases cur with
    | none => rw [mergeAct_none hv]; exact cy_rep_ok _
    | some e => rw [mergeAct_some hv]; exact cy_rep_map some (ih e)

theorem cy_rep_mergeFields' {s : Fields} (ih : ∀ p ∈ s, ∀ e, cy_Rep (merge e p.2)) :
    ∀ d, cy_Rep (mergeFields d s) := by
  induction s with
  | nil => intro d; rw [mergeFields_nil]; exact cy_rep_ok _
  | cons p tl iht =>
    obtain ⟨k, v⟩ := p
    intro d
    rw [mergeFields_cons_act]
    have h1 := cy_rep_mergeAct (cur := fget d k) (ih (k, v) List.mem_cons_self)
    cases ha : mergeAct (fget d k) v with
    | error e => exact cy_rep_error (h1.rep e ha)
    | ok a => exact iht (fun p hp => ih p (List.mem_cons_of_mem _ hp)) _

theorem cy_rep_mergeEntries {s : List Val}
    (ih : ∀ kvs, Val.map kvs ∈ s → ∀ e, cy_Rep (merge e (matchPatch kvs))) :
    ∀ d, cy_Rep (mergeEntries d s) := by
  induction s with
  | nil => intro d; rw [mergeEntries_nil]; exact cy_rep_ok _
  | cons v rest ihr =>
    intro d
    have ihr := ihr fun kvs hm => ih kvs (List.mem_cons_of_mem _ hm)
    cases v with
    | map kvs =>
      cases hdel : fget kvs "$delete" with
      | some del =>
        by_cases hx : (fdel kvs "$delete").length > 0
        · rw [mergeEntries_delete_extra d rest hdel hx]; exact cy_rep_error rfl
        · rw [mergeEntries_delete d rest hdel (Nat.eq_zero_of_not_pos hx)]
          split
          · exact ihr _
          · exact cy_rep_error rfl
      | none =>
        cases hm : fget kvs "$match" with
        | none => rw [mergeEntries_map_plain d rest hdel hm]; exact ihr _
        | some m =>
          rw [mergeEntries_match d rest hdel hm]
          split
          · exact cy_rep_error rfl
          · exact cy_rep_matchStep (ih kvs List.mem_cons_self) ihr
    | _ => rw [mergeEntries_nonmap d rest rfl]; exact ihr _

/-- by induction on the patch; every case is one equation of `merge` in closed form -/
theorem cy_rep_merge_patch : ∀ (src dst : Val), cy_Rep (merge dst src) := by
  refine merge_patch_induction fun s ihm ihl d => ?_
  rcases Val.kind_cases d s with ⟨dm, sm, rfl, rfl⟩ | ⟨dl, sl, rfl, rfl⟩ | ⟨h1, h2⟩
  · rw [merge_map_map, mergeMapMap_eq]
    split
    · exact cy_rep_ok _
    · exact cy_rep_map _ (cy_rep_mergeFields' (fun p hp e => ihm sm rfl p hp e) dm)
  · rw [merge_list_list, mergeListList_eq]
    split
    · exact cy_rep_ok _
    · split
      · exact cy_rep_error rfl
      · split
        · exact cy_rep_ok _
        · exact cy_rep_map _ (cy_rep_mergeEntries (fun kvs hm e => ihl sl rfl kvs hm e) _)
  · cases d with
    | null => rw [merge_null]; exact cy_rep_ok _
    | map dm =>
      cases s with
      | map sm => cases h1
      | null => rw [merge_map_null]; exact cy_rep_ok _
      | _ =>
        rw [merge_map_other _ _ rfl rfl]
        split
        · exact cy_rep_ok _
        · exact cy_rep_error rfl
    | list dl =>
      cases s with
      | list sl => cases h2
      | null => rw [merge_list_null]; exact cy_rep_ok _
      | _ => rw [merge_list_other _ _ rfl rfl]; exact cy_rep_error rfl
    | _ =>
      rw [merge_scalar _ _ rfl]
      split
      · exact cy_rep_error rfl
      · exact cy_rep_ok _

theorem cy_rep_merge (dst src : Val) : cy_Rep (merge dst src) := cy_rep_merge_patch src dst

theorem cy_rep_tagStep (acc : Tagged) (v : Val) : cy_Rep (tagStep acc v) := by
  unfold tagStep
  split
  · split
    · exact cy_rep_ite (cy_rep_throw rfl) (cy_rep_ite (cy_rep_pure _) (cy_rep_throw rfl))
    · exact cy_rep_ite (cy_rep_throw rfl) (cy_rep_pure _)
  · exact cy_rep_pure _

theorem cy_rep_mergeListTagged (d : Tagged) (s : List Val) : cy_Rep (mergeListTagged d s) := by
  rw [mergeListTagged_eq]
  refine cy_rep_ite (cy_rep_ok _) ?_
  split
  · next e he => exact cy_rep_error ((cy_rep_popListMapBool rfl s _ _).rep e he)
  · exact cy_rep_ite (cy_rep_ok _) (cy_rep_foldlM cy_rep_tagStep s _)

/-! `process1`: the five cases of `p1View`; the fold over a map, the list step and the end of the list case are
    the pieces named in BklProofs/Lemmas/Process1.lean -/

theorem cy_rep_mergeRefStep (root : Val) (docs : List Val) (acc : Tagged) (ref : Val) :
    cy_Rep (mergeRefStep root docs acc ref) :=
  cy_rep_bind (cy_rep_get ..) fun _ => by
    split
    · exact cy_rep_mergeListTagged _ _
    · exact cy_rep_pure _
    · exact cy_rep_throw rfl

section p1
variable {n : Nat} (ih : ∀ docs root loc obj, cy_Rep (process1 n docs root loc obj))
include ih

theorem cy_rep_mapStep (docs : List Val) (loc : Loc) (s : Fields × Val) (a : String × Val) :
    cy_Rep (mapStep n docs loc s a) := by
  refine cy_rep_bind (ih ..) ?_
  rintro ⟨v2, rt1⟩
  refine cy_rep_ite (cy_rep_pure _) (cy_rep_bind (ih ..) ?_)
  rintro ⟨k2, rt2⟩
  dsimp only
  split
  · exact cy_rep_pure _
  · exact cy_rep_throw rfl

theorem cy_rep_entryStep (docs : List Val) (loc : Loc) (s : List Val × Val) (a : Val × Option Nat) :
    cy_Rep (entryStep n docs loc s a) := by
  refine cy_rep_bind (ih ..) ?_
  rintro ⟨v2, rt1⟩
  exact cy_rep_ite (cy_rep_pure _) (cy_rep_pure _)

theorem cy_rep_listFinish (docs : List Val) (root : Val) (loc : Loc) (obj1 : Tagged) :
    cy_Rep (listFinish n docs root loc obj1) := by
  refine cy_rep_bind (cy_rep_popListMapValue rfl _ _) ?_
  rintro ⟨rep, rest⟩
  exact cy_rep_ite (cy_rep_bind (cy_rep_get ..) fun _ => ih ..)
    (cy_rep_bind (cy_rep_foldlM (cy_rep_entryStep ih docs loc) _ _) fun _ => cy_rep_pure _)

end p1

theorem cy_rep_process1 : ∀ (fuel : Nat) (docs : List Val) (root : Val) (loc : Loc) (obj : Val),
    cy_Rep (process1 fuel docs root loc obj) := by
  intro fuel
  induction fuel with
  | zero => intro docs root loc obj; exact cy_rep_error rfl
  | succ n ih =>
    intro docs root loc obj
    cases p1View obj with
    | leaf hl => rw [hl]; exact cy_rep_ok _
    | fwd hf => rw [hf.forwards]; exact cy_rep_bind (cy_rep_get ..) fun _ => ih ..
    | host hm =>
      rw [process1_merge_eq hm]
      exact cy_rep_bind (cy_rep_get ..) fun _ =>
        cy_rep_bind (cy_rep_merge ..) fun _ => cy_rep_ite (ih ..) (ih ..)
    | fold hm hr =>
      rw [process1_map_plain hm hr]
      exact cy_rep_bind (cy_rep_foldlM (cy_rep_mapStep ih docs loc) _ _) fun _ => cy_rep_pure _
    | list xs =>
      rw [process1_list]
      exact cy_rep_bind (cy_rep_foldlM (cy_rep_mergeRefStep root docs) _ _)
        (cy_rep_listFinish ih docs root loc)

end stage1

/-! ## the output stage: validate.go, output.go -/

section stage2
local notation "cy_Rep" => cy_RepP cy_emitErr

/-- `validate` and its two loops return `requiredField` or `invalidDirective` only (`validate_error`,
    BklProofs/Lemmas/Output.lean) -/
theorem cy_rep_of_validate_error {x : R Unit}
    (h : ∀ e, x = .error e → e = .requiredField ∨ e = .invalidDirective) : cy_Rep x :=
  ⟨fun e he => (h e he).elim (· ▸ rfl) (· ▸ rfl)⟩

theorem cy_rep_validate : ∀ v : Val, cy_Rep (validate v) :=
  fun v => cy_rep_of_validate_error (validate_error v)
theorem cy_rep_validateFields : ∀ kvs : Fields, cy_Rep (validateFields kvs) :=
  fun kvs => cy_rep_of_validate_error (validate_error_fields kvs)
theorem cy_rep_validateList : ∀ xs : List Val, cy_Rep (validateList xs) :=
  fun xs => cy_rep_of_validate_error (validate_error_list xs)

mutual
theorem cy_rep_findOutputs : ∀ v : Val, cy_Rep (findOutputs v)
  | .map kvs => by
    rw [findOutputs]
    exact cy_rep_bind (cy_rep_findOutputsFields kvs _) fun _ => cy_rep_pure _
  | .list xs => by
    rw [findOutputs]
    exact cy_rep_bind (cy_rep_findOutputsList xs _) fun _ => cy_rep_pure _
  | .null | .bool _ | .int _ | .flt _ | .str _ => by unfold findOutputs; exact cy_rep_pure _
theorem cy_rep_findOutputsFields : ∀ (kvs : Fields) (skip : Bool),
    cy_Rep (findOutputsFields kvs skip)
  | [], _ => by rw [findOutputsFields]; exact cy_rep_pure _
  | (k, v) :: rest, skip => by
    rw [findOutputsFields]
    exact cy_rep_ite (cy_rep_findOutputsFields rest skip) (cy_rep_bind (cy_rep_findOutputs v) fun _ =>
      cy_rep_bind (cy_rep_findOutputsFields rest skip) fun _ => cy_rep_pure _)
theorem cy_rep_findOutputsList : ∀ (xs : List Val) (skip : Bool),
    cy_Rep (findOutputsList xs skip)
  | [], _ => by rw [findOutputsList]; exact cy_rep_pure _
  | x :: xs, skip => by
    have step : cy_Rep (do
        let (x', o1) ← findOutputs x
        let (xs', o2) ← findOutputsList xs skip
        pure (x' :: xs', o1 ++ o2)) :=
      cy_rep_bind (cy_rep_findOutputs x) fun _ =>
        cy_rep_bind (cy_rep_findOutputsList xs skip) fun _ => cy_rep_pure _
    rw [findOutputsList_cons_eq]
    refine cy_rep_ite ?_ step
    -- a marker entry: extra keys are an error, otherwise the entry is dropped
    split
    · exact cy_rep_ite (cy_rep_throw rfl) (cy_rep_findOutputsList xs skip)
    · exact cy_rep_findOutputsList xs skip
end

/-- `filterOutput` and its two loops fail only where their closed forms (`C11_filterOutput_eq`,
    BklProofs/Lemmas/C11Spec.lean) say: with `extraKeys` -/
theorem cy_rep_filterOutput : ∀ v : Val, cy_Rep (filterOutput v) := by
  intro v
  rw [C11_filterOutput_eq]
  exact cy_rep_ite (cy_rep_error rfl) (cy_rep_ok _)
theorem cy_rep_filterOutputFields : ∀ (kvs : Fields), cy_Rep (filterOutputFields kvs) := by
  intro kvs
  rw [C11_filterOutput_eq_fields]
  exact cy_rep_ite (cy_rep_error rfl) (cy_rep_ok _)
theorem cy_rep_filterOutputList : ∀ (xs : List Val), cy_Rep (filterOutputList xs) := by
  intro xs
  rw [C11_filterOutput_eq_list]
  exact cy_rep_ite (cy_rep_error rfl) (cy_rep_ok _)

theorem cy_rep_emitSelect : ∀ ds : List Val, cy_Rep (emitSelect ds)
  | [] => by rw [emitSelect]; exact cy_rep_pure _
  | d :: ds => by
    rw [emitSelect]
    exact cy_rep_bind (cy_rep_findOutputs d) fun _ =>
      cy_rep_bind (cy_rep_emitSelect ds) fun _ => cy_rep_pure _

theorem cy_rep_emitFinish : ∀ vs : List Val, cy_Rep (emitFinish vs)
  | [] => by rw [emitFinish]; exact cy_rep_pure _
  | v :: vs => by
    rw [emitFinish]
    refine cy_rep_bind (cy_rep_filterOutput v) fun r => ?_
    split
    · exact cy_rep_emitFinish vs
    · exact cy_rep_bind (cy_rep_validate _) fun _ =>
        cy_rep_bind (cy_rep_emitFinish vs) fun _ => cy_rep_pure _

theorem cy_rep_emit (ds : List Val) : cy_Rep (emit ds) := by
  rw [emit_eq]
  exact cy_rep_bind (cy_rep_emitSelect ds) (fun outs => cy_rep_emitFinish outs)

end stage2

/-! ## the whole pipeline: process2.go, repeat.go, document.go, parser.go -/

section stage3
local notation "cy_Rep" => cy_RepP cy_reported

theorem cy_rep_get_3 (root : Val) (docs : List Val) (m : Val) : cy_Rep (get root docs m) :=
  cy_rep_mono cy_le_1_rep (cy_rep_get root docs m)

/-! ### `$encode` transforms -/

/-- a transform result is a value, a codec request or a reported error -/
structure cy_EncRep (r : EncRes) : Prop where
  rep : ∀ e, r = .err e → cy_reported e = true

theorem cy_encrep_ok (v : Val) : cy_EncRep (.ok v) := ⟨fun _ h => by cases h⟩
theorem cy_encrep_codec (f : String) (v : Val) : cy_EncRep (.codec f v) := ⟨fun _ h => by cases h⟩
theorem cy_encrep_err {e : Err} (h : cy_reported e = true) : cy_EncRep (.err e) :=
  ⟨fun _ h' => by cases h'; exact h⟩

theorem cy_encrep_ite {c : Prop} [Decidable c] {a b : EncRes} (ha : cy_EncRep a) (hb : cy_EncRep b) :
    cy_EncRep (if c then a else b) := by
  split <;> assumption

theorem cy_encrep_noArgs (args : List String) {r : EncRes} (h : cy_EncRep r) : cy_EncRep (noArgs args r) :=
  cy_encrep_ite h (cy_encrep_err rfl)

theorem cy_encrep_oneArg (args : List String) {f : String → EncRes} (h : ∀ a, cy_EncRep (f a)) :
    cy_EncRep (oneArg args f) := by
  unfold oneArg
  split
  · exact h _
  · exact cy_encrep_err rfl

theorem cy_encrep_joinSpec (d : String) (obj : Val) : cy_EncRep (joinSpec d obj) := by
  cases obj <;> first | exact cy_encrep_ok _ | exact cy_encrep_err rfl

theorem cy_encrep_prefixSpec (p : String) (obj : Val) : cy_EncRep (prefixSpec p obj) := by
  cases obj <;> first | exact cy_encrep_ok _ | exact cy_encrep_err rfl

theorem cy_encrep_tolistSpec (d : String) (obj : Val) : cy_EncRep (tolistSpec d obj) := by
  rcases tolistSpec_cases d obj with ⟨l, h⟩ | h <;> rw [h]
  · exact cy_encrep_ok _
  · exact cy_encrep_err rfl

theorem cy_encrep_flagsSpec (obj : Val) : cy_EncRep (flagsSpec obj) := by
  rw [flagsSpec]
  rcases tolistSpec_cases "=" obj with ⟨l, h⟩ | h <;> rw [h]
  · exact cy_encrep_prefixSpec _ _
  · exact cy_encrep_err rfl

/-- every row of the table is a value, a codec request, or one of `invalidArguments`, `invalidType`,
    `unknownFormat` -/
theorem cy_encrep_encodeCmd (obj : Val) (cmd : String) (args : List String) : cy_EncRep (encodeCmd obj cmd args) :=
  cy_encrep_ite (cy_encrep_noArgs args (cy_encrep_ok _)) <|
  cy_encrep_ite (cy_encrep_noArgs args (cy_encrep_flagsSpec obj)) <|
  cy_encrep_ite (cy_encrep_noArgs args
    (by cases obj <;> first | exact cy_encrep_ok _ | exact cy_encrep_err rfl)) <|      -- flattenSpec
  cy_encrep_ite (by split <;> first | exact cy_encrep_joinSpec _ obj | exact cy_encrep_err rfl) <|
  cy_encrep_ite (cy_encrep_oneArg args fun p => cy_encrep_prefixSpec p obj) <|
  cy_encrep_ite (cy_encrep_noArgs args (cy_encrep_ok _)) <|
  cy_encrep_ite (cy_encrep_oneArg args fun d => cy_encrep_tolistSpec d obj) <|
  cy_encrep_ite (cy_encrep_noArgs args
    (by cases obj <;> first | exact cy_encrep_ok _ | exact cy_encrep_err rfl)) <|      -- valuesSpec
  cy_encrep_noArgs args (cy_encrep_ite (cy_encrep_codec _ _) (cy_encrep_err rfl))

theorem cy_encrep_encodeString (obj : Val) (spec : String) : cy_EncRep (encodeString obj spec) := by
  obtain ⟨p, ps, h⟩ := exists_cons_splitOn spec
  rw [encodeString_eq obj h]
  exact cy_encrep_encodeCmd obj p ps

mutual
theorem cy_encrep_encodeAny (obj : Val) : ∀ spec : Val, cy_EncRep (encodeAny obj spec)
  | .str s => by unfold encodeAny; exact cy_encrep_encodeString obj s
  | .list specs => by unfold encodeAny; exact cy_encrep_encodeList obj specs
  | .null | .bool _ | .int _ | .flt _ | .map _ => by unfold encodeAny; exact cy_encrep_err rfl
theorem cy_encrep_encodeList (obj : Val) : ∀ specs : List Val, cy_EncRep (encodeList obj specs)
  | [] => by unfold encodeList; exact cy_encrep_ok _
  | sp :: rest => by
    unfold encodeList
    split
    · exact cy_encrep_encodeList _ rest
    · exact cy_encrep_encodeAny obj sp
end

theorem cy_rep_throw_encode {α : Type} {obj spec : Val} {e : Err}
    (h : encodeAny obj spec = .err e) : cy_Rep (throw e : R α) :=
  cy_rep_throw ((cy_encrep_encodeAny obj spec).rep e h)

/-! ### process2.go, repeat.go -/

theorem cy_rep_getVar (ec : Vars) (name : String) : cy_Rep (getVar ec name) := by
  unfold getVar
  split
  · exact cy_rep_pure _
  · exact cy_rep_throw rfl

theorem cy_rep_getWithVar (root : Val) (docs : List Val) (ec : Vars) (m : String) :
    cy_Rep (getWithVar root docs ec m) := by
  unfold getWithVar
  split
  · exact cy_rep_pure _
  · exact cy_rep_throw rfl
  · exact cy_rep_getVar ec m

/-- one segment of an interpolated string (BklProofs/Lemmas/Interp.lean) -/
theorem cy_rep_interpSeg {fuel : Nat} {docs : List Val} {root : Val} {ec : Vars}
    (ih : ∀ s, cy_Rep (process2String fuel docs root ec s)) (seg : Seg) :
    cy_Rep (interpSeg fuel docs root ec seg) := by
  unfold interpSeg
  split
  · exact cy_rep_ok _
  · split
    · next e he => exact cy_rep_error (cy_rep_elim he (cy_rep_getWithVar ..))
    · split
      · next e he => exact cy_rep_error (cy_rep_elim he (ih _))
      · exact cy_rep_ok _
    · exact cy_rep_ok _

/-- a string that is no interpolation is a variable or itself; an interpolation is the depth guard or the
    `mapM` of `interpSeg` over its segments -/
theorem cy_rep_process2String : ∀ (fuel : Nat) (docs : List Val) (root : Val) (ec : Vars)
    (s : String), cy_Rep (process2String fuel docs root ec s) := by
  intro fuel
  induction fuel with
  | zero =>
    intro docs root ec s
    cases hb : interpBody s with
    | some body => rw [C13_interp_no_fuel _ _ _ _ _ hb]; exact cy_rep_error rfl
    | none =>
      rw [process2String_not_interp _ _ _ _ hb]
      exact cy_rep_ite (cy_rep_getVar ec s) (cy_rep_ok _)
  | succ n ih =>
    intro docs root ec s
    cases hb : interpBody s with
    | some body =>
      rw [process2String_interp_eq _ _ _ _ _ _ hb, interpSpec_eq_bind]
      exact cy_rep_bind (cy_rep_mapM (cy_rep_interpSeg (ih docs root ec)) _) fun _ => cy_rep_pure _
    | none =>
      rw [process2String_not_interp _ _ _ _ hb]
      exact cy_rep_ite (cy_rep_getVar ec s) (cy_rep_ok _)

/-! ### the loops of `process2` over an evaluator `P` of the class -/

section level
variable {P : Vars → Val → R Val} (hP : ∀ ec v, cy_Rep (P ec v))
include hP

theorem cy_rep_elemOut (ec : Vars) (v : Val) : cy_Rep (elemOut P ec v) :=
  cy_rep_bind (hP ec v) fun _ => cy_rep_pure _

theorem cy_rep_entryOut (ec : Vars) (kv : String × Val) : cy_Rep (entryOut P ec kv) :=
  cy_rep_bind (hP ec kv.2) fun v2 => by
    split
    · exact cy_rep_pure _
    · refine cy_rep_bind (hP ec _) fun k2 => ?_
      split
      · exact cy_rep_pure _
      · exact cy_rep_throw rfl

theorem cy_rep_listOut (ec : Vars) (v : Val) : cy_Rep (listOut P ec v) := by
  unfold listOut
  split
  · split
    · split
      · exact cy_rep_bind (cy_rep_mapM (fun i => cy_rep_elemOut hP _ _) _) fun _ => cy_rep_pure _
      · exact cy_rep_throw rfl
    · exact cy_rep_elemOut hP ec _
  · exact cy_rep_elemOut hP ec _

theorem cy_rep_expandOut (ec : Vars) (kv : String × Val) : cy_Rep (expandOut P ec kv) := by
  unfold expandOut
  split
  · split
    · split
      · exact cy_rep_bind (cy_rep_mapM (fun i => cy_rep_entryOut hP _ _) _) fun _ => cy_rep_pure _
      · exact cy_rep_throw rfl
    · exact cy_rep_pure _
  · exact cy_rep_pure _

theorem cy_rep_encodeM (ec : Vars) (obj spec : Val) : cy_Rep (encodeM P ec obj spec) :=
  cy_rep_bind (hP ec obj) fun obj2 =>
    cy_rep_bind (cy_rep_mono cy_le_emit_rep (cy_rep_validate obj2)) fun _ => by
      split
      · exact cy_rep_pure _
      · exact cy_rep_throw_encode ‹_›
      · exact cy_rep_throw rfl

omit hP in
theorem cy_rep_decodeM (kvs : Fields) (spec : Val) : cy_Rep (decodeM kvs spec) := by
  unfold decodeM
  split
  · dsimp only
    split
    · exact cy_rep_throw rfl
    · split
      · exact cy_rep_throw rfl
      · split <;> exact cy_rep_throw rfl
    · exact cy_rep_throw rfl
  · exact cy_rep_throw rfl

theorem cy_rep_mapBodyM (ec : Vars) (kvs : Fields) : cy_Rep (mapBodyM P ec kvs) := by
  unfold mapBodyM
  split
  · exact cy_rep_encodeM hP ec _ _
  · split
    · exact cy_rep_decodeM kvs _
    · split
      · split
        · exact cy_rep_throw rfl
        · exact hP ec _
      · rw [foldlM_entryStepM, bind_assoc]
        exact cy_rep_bind (cy_rep_mapM (cy_rep_entryOut hP ec) _) fun _ => cy_rep_pure _

theorem cy_rep_listBodyM (ec : Vars) (xs : List Val) : cy_Rep (listBodyM P ec xs) :=
  cy_rep_bind (cy_rep_popListMapValue (P := cy_reported) rfl xs _) fun p => by
    dsimp only
    split
    · exact cy_rep_encodeM hP ec _ _
    · rw [foldlM_listStepM, bind_assoc]
      exact cy_rep_bind (cy_rep_mapM (cy_rep_listOut hP ec) _) fun _ => cy_rep_pure _

end level

theorem cy_rep_process2 : ∀ (fuel : Nat) (docs : List Val) (root : Val) (ec : Vars) (obj : Val),
    cy_Rep (process2 fuel docs root ec obj) := by
  intro fuel
  induction fuel with
  | zero => intro docs root ec obj; exact cy_rep_error rfl
  | succ n ih =>
    intro docs root ec obj
    cases obj with
    | map kvs =>
      rw [process2_map_succ, expandM_out, bind_assoc]
      exact cy_rep_bind (cy_rep_mapM (cy_rep_expandOut (ih docs root) ec) _) fun _ =>
        cy_rep_mapBodyM (ih docs root) ec _
    | list xs => rw [process2_list_succ]; exact cy_rep_listBodyM (ih docs root) ec _
    | str s => rw [process2]; exact cy_rep_process2String _ _ _ _ _
    | null | bool _ | int _ | flt _ => exact cy_rep_ok _

theorem cy_rep_repeatGen (data : Val) (ec : Vars) (v : Val) : cy_Rep (repeatGen data ec v) := by
  unfold repeatGen
  split
  · exact cy_rep_pure _
  · refine cy_rep_foldlM ?_ _ _
    rintro pairs ⟨name, count⟩
    dsimp only
    split
    · exact cy_rep_pure _
    · exact cy_rep_throw rfl
  · exact cy_rep_throw rfl

theorem cy_rep_repeatDoc (data : Val) (ec : Vars) : cy_Rep (repeatDoc data ec) := by
  unfold repeatDoc
  split
  · split
    · exact cy_rep_repeatGen ..
    · exact cy_rep_pure _
  · refine cy_rep_bind (cy_rep_popListMapValue rfl _ _) ?_
    rintro ⟨v, rest⟩
    exact cy_rep_ite (cy_rep_repeatGen ..) (cy_rep_pure _)
  · exact cy_rep_pure _

/-! ### the pipeline -/

theorem cy_rep_processDoc (docs : List Val) (env : Vars) (data : Val) :
    cy_Rep (processDoc docs env data) :=
  cy_rep_bind (cy_rep_mono cy_le_1_rep (cy_rep_process1 ..)) fun _ =>
    cy_rep_bind (cy_rep_repeatDoc ..) fun _ => cy_rep_mapM (fun _ => cy_rep_process2 ..) _

theorem cy_rep_outputDocument (docs : List Val) (env : Vars) (data : Val) :
    cy_Rep (outputDocument docs env data) :=
  cy_rep_bind (cy_rep_processDoc ..) fun _ => cy_rep_mono cy_le_emit_rep (cy_rep_emit _)

theorem cy_rep_outputDocuments (docs : List Val) (env : Vars) :
    cy_Rep (outputDocuments docs env) :=
  cy_rep_bind (cy_rep_mapM (cy_rep_outputDocument docs env) docs) fun _ => cy_rep_pure _

end stage3

end Bkl
