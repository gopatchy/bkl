/-
  BklProofs.Lemmas.Process2 — `process2` on maps and lists, `processDoc` stage by stage.
  * The loops of the model text as functions over an arbitrary evaluator `P` for the level below (`expandM`,
    `mapBodyM`, `listBodyM`, …): `process2 (F + 1) docs root` is these functions at `P := process2 F docs root`
    (`process2_map_succ`, `process2_list_succ`); anything else but a string is returned as it is (`process2_scalar`;
    strings: Lemmas/Interp).
  * Every loop maps each element, without looking at the accumulator, to what it contributes (`elemOut`, `entryOut`,
    `listOut`, `expandOut`) and puts the contributions in, in order (`foldlM_emit`, Lemmas/Except).  A fact about a list or map whose
    entries evaluate in some way is therefore a fact about `List.mapM` of the contributions, for any `P`:
    `process2_map`, `process2_list`, and, without nested `$repeat` entries and directive keys, `process2_map_plain`,
    `process2_list_plain`.
  * Maps without nested `$repeat` entries (`noRepeatEntries`): the expansion step only sorts, so `process2` is the
    directive check and the entry-wise evaluation of the sorted map (`process2_map_unexpanded`; for a map that is
    sorted already, `process2_map_noRepeat`).
  * The statements of C09, C12 and C14 name these functions at `P := process2 fuel docs root`: `evalEntry` is
    `entryOut`, `process2Entries` the last branch of `mapBodyM`, `process2MapTail` is `mapBodyM`, and `repeatEntry`
    (Lemmas/C12Subst) is `entryOut` under the binding `repEc ec i`; the proofs pass from one to the other by
    `evalEntry_eq`, `process2Entries_eq`, `process2MapTail_eq`, `repeatEntry_eq`.
-/
import BklProofs.Lemmas.Repeat
import BklProofs.Lemmas.Fields
namespace Bkl.Gen.Lib
open Bkl

/-- `$repeat` inside a list: the evaluated copies are appended -/
def repListM (P : Vars → Val → R Val) (ec : Vars) (body : Val) (is : List Nat) (acc : List Val) : R (List Val) :=
  is.foldlM (init := acc) fun acc2 i => do
    let v2 ← P (fset ec "$repeat" (.int (Int.ofNat i))) body
    if v2.isNull then pure acc2 else pure (acc2 ++ [v2])

/-- `$repeat` inside a map entry: the evaluated copies are stored under the evaluated key -/
def repMapM (P : Vars → Val → R Val) (ec : Vars) (k : String) (body : Val) (is : List Nat) (acc : Fields) : R Fields :=
  is.foldlM (init := acc) fun acc2 i => do
    let v2 ← P (fset ec "$repeat" (.int (Int.ofNat i))) body
    if v2.isNull then pure acc2
    else do
      match ← P (fset ec "$repeat" (.int (Int.ofNat i))) (.str k) with
      | .str k2 => pure (fset acc2 k2 v2)
      | _ => throw Err.invalidType

def expandStepM (P : Vars → Val → R Val) (ec : Vars) (acc : Fields) (kv : String × Val) : R Fields :=
  match kv.2 with
  | .map m =>
    match fget m "$repeat" with
    | some r =>
      match r with
      | .int n => repMapM P ec kv.1 (Val.map (fdel m "$repeat")) (List.range n.toNat) acc
      | _ => throw Err.invalidType
    | none => pure (fset acc kv.1 kv.2)
  | _ => pure (fset acc kv.1 kv.2)

def expandM (P : Vars → Val → R Val) (ec : Vars) (kvs0 : Fields) : R Fields :=
  kvs0.foldlM (init := ([] : Fields)) (expandStepM P ec)

def encodeM (P : Vars → Val → R Val) (ec : Vars) (obj spec : Val) : R Val := do
  let obj2 ← P ec obj
  validate obj2
  match encodeAny obj2 spec with
  | .ok v => pure v
  | .err e => throw e
  | .codec _ _ => throw Err.unmodelled

def decodeM (kvs : Fields) (spec : Val) : R Val :=
  match spec with
  | .str f =>
    let rest := fdel kvs "$decode"
    match fget rest "$value" with
    | none => throw Err.invalidType
    | some (.str _) =>
      if (fdel rest "$value").length != 0 then throw Err.extraKeys
      else if isCodecFormat f then throw Err.unmodelled else throw Err.unknownFormat
    | some _ => throw Err.invalidType
  | _ => throw Err.invalidType

def entryStepM (P : Vars → Val → R Val) (ec : Vars) (acc : Fields) (kv : String × Val) : R Fields := do
  let v2 ← P ec kv.2
  if v2.isNull then pure acc
  else
    match ← P ec (.str kv.1) with
    | .str k2 => pure (fset acc k2 v2)
    | _ => throw Err.invalidType

def mapBodyM (P : Vars → Val → R Val) (ec : Vars) (kvs : Fields) : R Val :=
  match fget kvs "$encode" with
  | some spec => encodeM P ec (.map (fdel kvs "$encode")) spec
  | none =>
    match fget kvs "$decode" with
    | some spec => decodeM kvs spec
    | none =>
      match fget kvs "$value" with
      | some v =>
        if (fdel kvs "$value").length != 0 then throw Err.extraKeys
        else P ec v
      | none => do
        let ret ← kvs.foldlM (init := ([] : Fields)) (entryStepM P ec)
        pure (.map ret)

def listStepM (P : Vars → Val → R Val) (ec : Vars) (acc : List Val) (v : Val) : R (List Val) :=
  match v with
  | .map m =>
    match fget m "$repeat" with
    | some r =>
      match r with
      | .int n => repListM P ec (Val.map (fdel m "$repeat")) (List.range n.toNat) acc
      | _ => throw Err.invalidType
    | none => do
      let v2 ← P ec v
      if v2.isNull then pure acc else pure (acc ++ [v2])
  | _ => do
    let v2 ← P ec v
    if v2.isNull then pure acc else pure (acc ++ [v2])

def listBodyM (P : Vars → Val → R Val) (ec : Vars) (xs : List Val) : R Val := do
  let (spec, rest) ← popListMapValue xs "$encode"
  if !spec.isNull then encodeM P ec (.list rest) spec
  else do
    let ret ← rest.foldlM (init := ([] : List Val)) (listStepM P ec)
    pure (.list ret)

end Bkl.Gen.Lib

namespace Bkl
export Gen.Lib (repListM repMapM expandStepM expandM encodeM decodeM entryStepM mapBodyM listStepM listBodyM)

theorem process2_map_succ (F : Nat) (docs : List Val) (root : Val) (ec : Vars) (kvs0 : Fields) :
    process2 (F + 1) docs root ec (.map kvs0)
      = expandM (process2 F docs root) ec kvs0 >>= mapBodyM (process2 F docs root) ec := by
  rw [process2]
  rfl

theorem process2_list_succ (F : Nat) (docs : List Val) (root : Val) (ec : Vars) (xs : List Val) :
    process2 (F + 1) docs root ec (.list xs) = listBodyM (process2 F docs root) ec xs := by
  rw [process2]
  rfl

/-- anything but a map, a list or a string is returned as it is -/
theorem process2_scalar (F : Nat) (docs : List Val) (root : Val) (ec : Vars) {v : Val}
    (hm : v.isMap = false) (hl : v.isList = false) (hs : v.isStr = false) :
    process2 (F + 1) docs root ec v = .ok v := by
  cases v with
  | map _ => cases hm
  | list _ => cases hl
  | str _ => cases hs
  | _ => rfl

section contributions
variable (P : Vars → Val → R Val) (ec : Vars)

/-- a list element: its evaluation, unless that is null -/
def elemOut (v : Val) : R (List Val) := do
  let v2 ← P ec v
  pure (if v2.isNull then [] else [v2])

/-- a map entry: the value is evaluated first; a null result drops the entry; otherwise the key is evaluated and
    must be a string -/
def entryOut (kv : String × Val) : R (Option (String × Val)) := do
  let v2 ← P ec kv.2
  if v2.isNull then pure none
  else
    match ← P ec (.str kv.1) with
    | .str k2 => pure (some (k2, v2))
    | _ => throw Err.invalidType

/-- the binding of the `i`-th copy of a nested `$repeat` -/
abbrev repEc (i : Nat) : Vars := fset ec "$repeat" (.int (Int.ofNat i))

/-- a list element, with a nested `$repeat` expanded: the copies for `i = 0 … n-1` -/
def listOut (v : Val) : R (List Val) :=
  match v with
  | .map m =>
    match fget m "$repeat" with
    | some r =>
      match r with
      | .int n =>
        (List.range n.toNat).mapM (fun i => elemOut P (repEc ec i) (.map (fdel m "$repeat"))) >>= fun vss =>
          pure vss.flatten
      | _ => throw Err.invalidType
    | none => elemOut P ec v
  | _ => elemOut P ec v

/-- a map entry in the expansion step: itself, or the copies of a nested `$repeat` under their evaluated keys -/
def expandOut (kv : String × Val) : R Fields :=
  match kv.2 with
  | .map m =>
    match fget m "$repeat" with
    | some r =>
      match r with
      | .int n =>
        (List.range n.toNat).mapM (fun i => entryOut P (repEc ec i) (kv.1, .map (fdel m "$repeat"))) >>= fun os =>
          pure (os.filterMap id)
      | _ => throw Err.invalidType
    | none => pure [kv]
  | _ => pure [kv]

theorem elemStep_out (acc : List Val) (v : Val) :
    (do let v2 ← P ec v; if v2.isNull then pure acc else pure (acc ++ [v2]) : R (List Val))
      = elemOut P ec v >>= fun bs => pure (acc ++ bs) := by
  unfold elemOut
  cases P ec v with
  | error e => rfl
  | ok v2 =>
    simp only [ok_bind, pure_bind]
    split <;> simp

theorem entryStepM_out (acc : Fields) (kv : String × Val) :
    entryStepM P ec acc kv = entryOut P ec kv >>= fun o => pure (fsetAll acc o.toList) := by
  unfold entryStepM entryOut
  cases P ec kv.2 with
  | error e => rfl
  | ok v2 =>
    simp only [ok_bind]
    split
    · rfl
    · cases P ec (.str kv.1) with
      | error e => rfl
      | ok k2 => cases k2 <;> rfl

theorem foldlM_entryStepM (kvs acc : Fields) :
    kvs.foldlM (entryStepM P ec) acc
      = kvs.mapM (entryOut P ec) >>= fun os => pure (fsetAll acc (os.filterMap id)) := by
  rw [show entryStepM P ec = fun acc kv => entryOut P ec kv >>= fun o => pure (fsetAll acc o.toList) from
    funext fun acc => funext fun kv => entryStepM_out P ec acc kv, foldlM_emit]
  simp only [foldl_fsetAll_toList]

theorem repMapM_out (k : String) (body : Val) (is : List Nat) (acc : Fields) :
    repMapM P ec k body is acc
      = is.mapM (fun i => entryOut P (repEc ec i) (k, body)) >>= fun os => pure (fsetAll acc (os.filterMap id)) := by
  rw [show repMapM P ec k body is acc
      = is.foldlM (fun acc i => entryOut P (repEc ec i) (k, body) >>= fun o => pure (fsetAll acc o.toList)) acc from
    congrArg (fun f => is.foldlM f acc) (funext fun acc => funext fun i => entryStepM_out P _ acc (k, body)),
    foldlM_emit]
  simp only [foldl_fsetAll_toList]

theorem repListM_out (body : Val) (is : List Nat) (acc : List Val) :
    repListM P ec body is acc
      = is.mapM (fun i => elemOut P (repEc ec i) body) >>= fun vss => pure (acc ++ vss.flatten) := by
  rw [show repListM P ec body is acc
      = is.foldlM (fun acc i => elemOut P (repEc ec i) body >>= fun bs => pure (acc ++ bs)) acc from
    congrArg (fun f => is.foldlM f acc) (funext fun acc => funext fun i => elemStep_out P _ acc body),
    foldlM_emit]
  simp only [foldl_append_flatten]

theorem listStepM_out (acc : List Val) (v : Val) :
    listStepM P ec acc v = listOut P ec v >>= fun bs => pure (acc ++ bs) := by
  cases v with
  | map m =>
    simp only [listStepM, listOut]
    cases fget m "$repeat" with
    | none => exact elemStep_out P ec acc _
    | some r =>
      cases r with
      | int n => simp only [repListM_out, bind_assoc, pure_bind]
      | _ => rfl
  | _ => exact elemStep_out P ec acc _

theorem expandStepM_out (acc : Fields) (kv : String × Val) :
    expandStepM P ec acc kv = expandOut P ec kv >>= fun ps => pure (fsetAll acc ps) := by
  obtain ⟨k, v⟩ := kv
  cases v with
  | map m =>
    simp only [expandStepM, expandOut]
    cases fget m "$repeat" with
    | none => rfl
    | some r =>
      cases r with
      | int n => simp only [repMapM_out, bind_assoc, pure_bind]
      | _ => rfl
  | _ => rfl

theorem foldlM_listStepM (xs acc : List Val) :
    xs.foldlM (listStepM P ec) acc = xs.mapM (listOut P ec) >>= fun vss => pure (acc ++ vss.flatten) := by
  rw [show listStepM P ec = fun acc v => listOut P ec v >>= fun bs => pure (acc ++ bs) from
    funext fun acc => funext fun v => listStepM_out P ec acc v, foldlM_emit]
  simp only [foldl_append_flatten]

theorem expandM_out (kvs : Fields) :
    expandM P ec kvs = kvs.mapM (expandOut P ec) >>= fun pss => pure (fofList pss.flatten) := by
  rw [expandM, show expandStepM P ec = fun acc kv => expandOut P ec kv >>= fun ps => pure (fsetAll acc ps) from
    funext fun acc => funext fun kv => expandStepM_out P ec acc kv, foldlM_emit]
  simp only [foldl_fsetAll_flatten]
  rfl

end contributions

/-- everything `process2` does on a map after the expansion step (verbatim copy of the model text): `mapBodyM` at
    `P := process2 fuel docs root`, `process2MapTail_eq` -/
def process2MapTail (fuel : Nat) (docs : List Val) (root : Val) (ec : Vars) (kvs : Fields) : R Val :=
      match fget kvs "$encode" with
      | some spec => do
        let obj2 ← process2 fuel docs root ec (.map (fdel kvs "$encode"))
        validate obj2
        match encodeAny obj2 spec with
        | .ok v => pure v
        | .err e => throw e
        | .codec _ _ => throw Err.unmodelled
      | none =>
        match fget kvs "$decode" with
        | some spec =>
          match spec with
          | .str f =>
            let rest := fdel kvs "$decode"
            match fget rest "$value" with
            | none => throw Err.invalidType
            | some (.str _) =>
              if (fdel rest "$value").length != 0 then throw Err.extraKeys
              else if isCodecFormat f then throw Err.unmodelled else throw Err.unknownFormat
            | some _ => throw Err.invalidType
          | _ => throw Err.invalidType
        | none =>
          match fget kvs "$value" with
          | some v =>
            if (fdel kvs "$value").length != 0 then throw Err.extraKeys
            else process2 fuel docs root ec v
          | none => do
            let ret ← kvs.foldlM (init := ([] : Fields)) fun acc (k, v) => do
              let v2 ← process2 fuel docs root ec v
              if v2.isNull then pure acc
              else
                match ← process2 fuel docs root ec (.str k) with
                | .str k2 => pure (fset acc k2 v2)
                | _ => throw Err.invalidType
            pure (.map ret)

def lacksKey (k : String) (v : Val) : Prop := ∀ m, v = .map m → fget m k = none

/-- no entry of the map is itself a map carrying `$repeat` (so the expansion step of
    `process2` on a map only sorts) -/
def noRepeatEntries (kvs : Fields) : Prop :=
  ∀ p ∈ kvs, ∀ m, p.2 = Val.map m → fget m "$repeat" = none

theorem noRepeatEntries_iff {kvs : Fields} : noRepeatEntries kvs ↔ ∀ q ∈ kvs, lacksKey "$repeat" q.2 := Iff.rfl

theorem noRepeatEntries_nil : noRepeatEntries [] := fun _ h => nomatch h

theorem noRepeatEntries_cons {k : String} {v : Val} {kvs : Fields}
    (hv : ∀ m, v = .map m → fget m "$repeat" = none) (h : noRepeatEntries kvs) :
    noRepeatEntries ((k, v) :: kvs) :=
  fun p hp => (List.mem_cons.1 hp).elim (fun e => e ▸ hv) (h p)

theorem noRepeatEntries_perm {s s' : Fields} (hp : s'.Perm s) (h : noRepeatEntries s) :
    noRepeatEntries s' := fun p hm => h p (hp.mem_iff.1 hm)

/-! ## `process2` on a map, on a list: the contributions of the entries -/

section
variable (P : Vars → Val → R Val) (ec : Vars) (fuel : Nat) (docs : List Val) (root : Val)

theorem process2MapTail_eq : process2MapTail fuel docs root ec = mapBodyM (process2 fuel docs root) ec := rfl

/-- `process2` on a map: the contributions of the entries (copies of nested `$repeat`s under their evaluated keys)
    are inserted in order; the resulting map goes through the directive check and the entry-wise evaluation -/
theorem process2_map (kvs0 : Fields) :
    process2 (fuel + 1) docs root ec (.map kvs0)
      = kvs0.mapM (expandOut (process2 fuel docs root) ec) >>= fun pss =>
          mapBodyM (process2 fuel docs root) ec (fofList pss.flatten) := by
  rw [process2_map_succ, expandM_out, bind_assoc]
  rfl

/-- `process2` on a list without an `$encode` entry: the contributions of the elements, in order -/
theorem process2_list (xs : List Val) (h : popListMapValue xs "$encode" = .ok (.null, xs)) :
    process2 (fuel + 1) docs root ec (.list xs)
      = xs.mapM (listOut (process2 fuel docs root) ec) >>= fun vss => pure (.list vss.flatten) := by
  rw [process2_list_succ]
  simp only [listBodyM, h, ok_bind, isNull_null, Bool.not_true, Bool.false_eq_true, if_false,
    foldlM_listStepM, bind_assoc, pure_bind, List.nil_append]

theorem listOut_plain {v : Val} (h : lacksKey "$repeat" v) : listOut P ec v = elemOut P ec v := by
  cases v with
  | map m => simp only [listOut, h m rfl]
  | _ => rfl

theorem expandOut_plain {kv : String × Val} (h : lacksKey "$repeat" kv.2) : expandOut P ec kv = .ok [kv] := by
  obtain ⟨k, v⟩ := kv
  cases v with
  | map m => simp only [expandOut, h m rfl]; rfl
  | _ => rfl

/-- without nested `$repeat` entries the expansion step only sorts -/
theorem expandM_plain {kvs : Fields} (h : ∀ q ∈ kvs, lacksKey "$repeat" q.2) :
    expandM P ec kvs = .ok (fofList kvs) := by
  rw [expandM_out, mapM_ok_of_forall _ (fun q => [q]) _ fun q hq => expandOut_plain P ec (h q hq), ok_bind,
    ← List.flatMap_def, List.flatMap_singleton']
  rfl

theorem mapBodyM_plain {kvs : Fields} (h1 : fget kvs "$encode" = none) (h2 : fget kvs "$decode" = none)
    (h3 : fget kvs "$value" = none) :
    mapBodyM P ec kvs = kvs.mapM (entryOut P ec) >>= fun os => pure (.map (fofList (os.filterMap id))) := by
  simp only [mapBodyM, h1, h2, h3, foldlM_entryStepM, bind_assoc, pure_bind]
  rfl

end

/-- a map without nested `$repeat` entries: the directive check and the entry-wise evaluation, on the sorted map -/
theorem process2_map_unexpanded (fuel : Nat) (docs : List Val) (root : Val) (ec : Vars) (kvs : Fields)
    (hr : noRepeatEntries kvs) :
    process2 (fuel + 1) docs root ec (.map kvs) = mapBodyM (process2 fuel docs root) ec (fofList kvs) := by
  rw [process2_map_succ, expandM_plain _ ec (noRepeatEntries_iff.1 hr), ok_bind]

theorem flatten_map_nonNull (vs : List Val) :
    (vs.map fun v => if v.isNull then [] else [v]).flatten = vs.filter fun v => !v.isNull := by
  induction vs with
  | nil => rfl
  | cons v vs ih => cases h : v.isNull <;> simp [h, ih]

theorem mapM_elemOut (P : Vars → Val → R Val) (ec : Vars) (xs : List Val) :
    xs.mapM (elemOut P ec) = xs.mapM (P ec) >>= fun vs => pure (vs.map fun v => if v.isNull then [] else [v]) :=
  mapM_bind_pure (P ec) _ xs

theorem process2_list_plain (fuel : Nat) (docs : List Val) (root : Val) (ec : Vars) (xs : List Val)
    (h1 : ∀ x ∈ xs, lacksKey "$encode" x) (h2 : ∀ x ∈ xs, lacksKey "$repeat" x) :
    process2 (fuel + 1) docs root ec (.list xs)
      = (xs.mapM (process2 fuel docs root ec) >>= fun vs =>
          pure (.list (vs.filter fun v => !v.isNull))) := by
  rw [process2_list _ _ _ _ _ (popListMapValue_none _ xs fun x hx m e _ => h1 x hx m e),
    mapM_congr_mem fun x hx => listOut_plain _ ec (h2 x hx), mapM_elemOut, bind_assoc]
  simp only [pure_bind, flatten_map_nonNull]

theorem process2_map_plain (fuel : Nat) (docs : List Val) (root : Val) (ec : Vars) (kvs : Fields)
    (h0 : ∀ q ∈ kvs, lacksKey "$repeat" q.2)
    (hd : ∀ q ∈ kvs, q.1 ≠ "$encode" ∧ q.1 ≠ "$decode" ∧ q.1 ≠ "$value") :
    process2 (fuel + 1) docs root ec (.map kvs)
      = ((fofList kvs).mapM (entryOut (process2 fuel docs root) ec) >>= fun os =>
          pure (.map (fofList (os.filterMap id)))) := by
  rw [process2_map_unexpanded _ _ _ _ _ (noRepeatEntries_iff.2 h0)]
  exact mapBodyM_plain _ ec (fget_fsetAll_of_not_mem fun q h => (hd q h).1)
    (fget_fsetAll_of_not_mem fun q h => (hd q h).2.1) (fget_fsetAll_of_not_mem fun q h => (hd q h).2.2)

/-- the hypotheses of `process2_map_plain` as one check, for concrete maps -/
def plainEntries (kvs : Fields) : Bool :=
  kvs.all fun q => q.1 != "$encode" && q.1 != "$decode" && q.1 != "$value" &&
    match q.2 with
    | .map m => (fget m "$repeat").isNone
    | _ => true

theorem plainEntries_spec {kvs : Fields} (h : plainEntries kvs = true) :
    (∀ q ∈ kvs, lacksKey "$repeat" q.2) ∧ ∀ q ∈ kvs, q.1 ≠ "$encode" ∧ q.1 ≠ "$decode" ∧ q.1 ≠ "$value" := by
  have hq := List.all_eq_true.1 h
  refine ⟨fun q hqm m e => ?_, fun q hqm => ?_⟩
  · have := hq q hqm
    simp only [e, Bool.and_eq_true, Option.isNone_iff_eq_none] at this
    exact this.2
  · have := hq q hqm
    simp only [Bool.and_eq_true, bne_iff_ne, ne_eq] at this
    exact ⟨this.1.1.1, this.1.1.2, this.1.2⟩

theorem process2_map_plainEntries (fuel : Nat) (docs : List Val) (root : Val) (ec : Vars)
    {kvs : Fields} (h : plainEntries kvs = true) :
    process2 (fuel + 1) docs root ec (.map kvs)
      = ((fofList kvs).mapM (entryOut (process2 fuel docs root) ec) >>= fun os =>
          pure (.map (fofList (os.filterMap id)))) :=
  process2_map_plain fuel docs root ec kvs (plainEntries_spec h).1 (plainEntries_spec h).2

/-- an entry whose value evaluates to the non-null `v` and whose key evaluates to the string `k2` -/
theorem entryOut_ok {P : Vars → Val → R Val} {ec : Vars} {kv : String × Val} {v : Val} {k2 : String}
    (hv : P ec kv.2 = .ok v) (hn : v.isNull = false) (hk : P ec (.str kv.1) = .ok (.str k2)) :
    entryOut P ec kv = .ok (some (k2, v)) := by
  simp only [entryOut, hv, hn, hk, ok_bind, Bool.false_eq_true, if_false]
  rfl

/-- a key-sorted map without directives whose entries evaluate, one by one, to `os` -/
theorem process2_map_closed {fuel : Nat} {docs : List Val} {root : Val} {ec : Vars} {kvs : Fields}
    {os : List (Option (String × Val))} (hp : plainEntries kvs = true) (hs : Fields.sortedKeysB kvs = true)
    (h : Pointwise (fun kv o => entryOut (process2 fuel docs root) ec kv = .ok o) kvs os) :
    process2 (fuel + 1) docs root ec (.map kvs) = .ok (.map (fofList (os.filterMap id))) := by
  rw [process2_map_plainEntries _ _ _ _ hp, fofList_of_sortedKeysB hs, (mapM_ok_iff _ _ _).2 h]
  rfl

theorem process2_single_entry (fuel : Nat) (docs : List Val) (root : Val) (ec : Vars) (k : String)
    (v v' : Val) (h0 : lacksKey "$repeat" v)
    (hv : process2 fuel docs root ec v = .ok v') (hnn : v'.isNull = false)
    (hd : k ≠ "$encode" ∧ k ≠ "$decode" ∧ k ≠ "$value") :
    process2 (fuel + 1) docs root ec (.map [(k, v)])
      = (process2 fuel docs root ec (.str k) >>= fun kv =>
          match kv with
          | .str k2 => pure (.map [(k2, v')])
          | _ => throw Err.invalidType) := by
  rw [process2_map_plain _ _ _ _ _ (fun q hq => by cases List.mem_singleton.1 hq; exact h0)
    (fun q hq => by cases List.mem_singleton.1 hq; exact hd)]
  simp only [fofList, fsetAll, List.foldl_cons, List.foldl_nil, fset, List.mapM_cons, List.mapM_nil,
    entryOut, hv, hnn, ok_bind, Bool.false_eq_true, if_false]
  cases process2 fuel docs root ec (.str k) with
  | error e => rfl
  | ok kv => cases kv <;> rfl

/-! ## `processDoc`: phase 3, document-level `$repeat`, phase 5 -/

theorem processDoc_error {docs : List Val} {env : Vars} {data : Val} {e : Err}
    (h : process1 depthLimit docs data (some []) data = .error e) : processDoc docs env data = .error e := by
  rw [processDoc, h]; rfl

theorem processDoc_ok {docs : List Val} {env : Vars} {data d1 rt : Val}
    (h : process1 depthLimit docs data (some []) data = .ok (d1, rt)) :
    processDoc docs env data
      = repeatDoc d1 env >>= fun pairs => pairs.mapM fun p => process2 depthLimit docs p.1 p.2 p.1 := by
  rw [processDoc, h]; rfl

theorem processDoc_single {docs : List Val} {env : Vars} {data d1 rt : Val}
    (h : process1 depthLimit docs data (some []) data = .ok (d1, rt)) (hr : repeatDoc d1 env = .ok [(d1, env)]) :
    processDoc docs env data = process2 depthLimit docs d1 env d1 >>= fun v => pure [v] := by
  rw [processDoc_ok h, hr]
  simp only [ok_bind, List.mapM_cons, List.mapM_nil, pure_bind]

/-! ## maps without nested `$repeat` entries, in the words of C09 and C14 -/

/-- the last stage of `process2` on a map: entry-wise evaluation of values and keys, in list
    (= sorted key) order, null results dropped, later entries overwrite earlier ones; the last branch of `mapBodyM` at
    `P := process2 fuel docs root`, as a `mapM` in `process2Entries_eq` -/
def process2Entries (fuel : Nat) (docs : List Val) (root : Val) (ec : Vars) (kvs : Fields) :
    R Val := do
  let ret ← kvs.foldlM (init := ([] : Fields)) fun acc (k, v) => do
    let v2 ← process2 fuel docs root ec v
    if v2.isNull then pure acc
    else
      match ← process2 fuel docs root ec (.str k) with
      | .str k2 => pure (fset acc k2 v2)
      | _ => throw Err.invalidType
  pure (.map ret)

/-- a sorted map without nested `$repeat` entries goes straight to the directive check -/
theorem process2_map_noRepeat (fuel : Nat) (docs : List Val) (root : Val) (ec : Vars)
    (kvs : Fields) (hs : Fields.sortedKeysB kvs = true) (hr : noRepeatEntries kvs) :
    process2 (fuel + 1) docs root ec (.map kvs) = mapBodyM (process2 fuel docs root) ec kvs := by
  rw [process2_map_unexpanded _ _ _ _ _ hr, fofList_of_sortedKeysB hs]

/-- `entryOut` at `P := process2 fuel docs root` (`evalEntry_eq`) -/
def evalEntry (fuel : Nat) (docs : List Val) (root : Val) (ec : Vars) (p : String × Val) :
    R (Option (String × Val)) := do
  let v2 ← process2 fuel docs root ec p.2
  if v2.isNull then pure none
  else
    match ← process2 fuel docs root ec (.str p.1) with
    | .str k2 => pure (some (k2, v2))
    | _ => throw Err.invalidType

theorem evalEntry_eq (fuel : Nat) (docs : List Val) (root : Val) (ec : Vars) :
    evalEntry fuel docs root ec = entryOut (process2 fuel docs root) ec := rfl

theorem process2Entries_eq (fuel : Nat) (docs : List Val) (root : Val) (ec : Vars) (kvs : Fields) :
    process2Entries fuel docs root ec kvs =
      (kvs.mapM (evalEntry fuel docs root ec) >>= fun os => pure (.map (fofList (os.filterMap id)))) :=
  (congrArg (· >>= fun ret => pure (Val.map ret)) (foldlM_entryStepM (process2 fuel docs root) ec kvs [])).trans
    (bind_assoc ..)

theorem process2_map_perm (fuel : Nat) (docs : List Val) (root : Val) (ec : Vars) {s s' : Fields}
    (hn : Fields.DistinctKeys s) (hr : noRepeatEntries s) (hp : s'.Perm s) :
    process2 (fuel + 1) docs root ec (.map s') = process2 (fuel + 1) docs root ec (.map s) := by
  rw [process2_map_unexpanded _ _ _ _ _ hr, process2_map_unexpanded _ _ _ _ _ (noRepeatEntries_perm hp hr),
    fofList_perm hn hp]

/-! ## the ends of `process2`, and the pipeline above `processDoc` -/

theorem process2_zero (docs : List Val) (root : Val) (ec : Vars) (v : Val) :
    process2 0 docs root ec v = .error .circularRef := rfl

theorem process2_list_nil (fuel : Nat) (docs : List Val) (root : Val) (ec : Vars) :
    process2 (fuel + 1) docs root ec (.list []) = .ok (.list []) := by
  rw [process2_list_succ]; rfl

theorem process2_map_nil (fuel : Nat) (docs : List Val) (root : Val) (ec : Vars) :
    process2 (fuel + 1) docs root ec (.map []) = .ok (.map []) := by
  rw [process2_map_succ]; rfl

/-- `processDoc` uses the value of phase 3 only, not the root it threads -/
theorem processDoc_eq_fst (docs : List Val) (env : Vars) (data : Val) :
    processDoc docs env data =
      (Except.map Prod.fst (process1 depthLimit docs data (some []) data) >>= fun d1 =>
        repeatDoc d1 env >>= fun pairs => pairs.mapM fun p => process2 depthLimit docs p.1 p.2 p.1) := by
  cases h : process1 depthLimit docs data (some []) data with
  | error e => rw [processDoc_error h]; rfl
  | ok r => rw [processDoc_ok h]; rfl

theorem outputDocument_eq (docs : List Val) (env : Vars) (data : Val) :
    outputDocument docs env data = processDoc docs env data >>= emit := rfl

end Bkl
