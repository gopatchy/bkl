/-
  BklProofs.Lemmas.SplitOn — `String.splitOn` with a one-character separator, characterised on
  `List Char` (`List.splitOnP`).  `String.splitOnAux` is a well-founded loop over raw byte
  positions; Batteries' position lemmas (`get_of_valid`, `next_of_valid`, …) are used to step it.
  The separators the model splits at: ':' (`$encode` specs), '.' (reference paths, file extensions),
  '/' (file paths); with them `splitPath` and `extOf` (Bkl/Files.lean) on `List Char`, so that
  concrete paths evaluate.
-/
import Batteries.Data.String.Lemmas
import Bkl.Files
namespace Bkl
open String

/-- `l` is the input consumed up to and including the last separator, `m` the field read so far, `r` the rest;
    `acc` holds the finished fields in reverse -/
theorem splitOnAux_char (sc : Char) (r : List Char) : ∀ (l m : List Char) (acc : List String),
    String.splitOnAux (ofList (l ++ m ++ r)) (ofList [sc]) ⟨utf8Len l⟩ ⟨utf8Len l + utf8Len m⟩ 0 acc
      = acc.reverse ++ (List.splitOnPPrepend (· == sc) r m.reverse).map ofList := by
  have h4 : (0 : Pos.Raw).get (ofList [sc]) = sc := by
    simpa using get_of_valid [] [sc]
  have h6 : (0 : Pos.Raw).next (ofList [sc]) = ⟨sc.utf8Size⟩ := by
    simpa using next_of_valid [] sc []
  have h5 : (⟨sc.utf8Size⟩ : Pos.Raw).atEnd (ofList [sc]) = true := by
    simpa using (atEnd_of_valid [sc] []).2 rfl
  induction r with
  | nil =>
    intro l m acc
    unfold String.splitOnAux
    have h1 : Pos.Raw.atEnd (ofList (l ++ m ++ [])) ⟨utf8Len l + utf8Len m⟩ = true := by
      have := (atEnd_of_valid (l ++ m) []).2 rfl
      simpa [utf8Len_append] using this
    have h2 := extract_of_valid l m []
    simp only [h1, if_true, h2]
    simp [List.splitOnPPrepend]
  | cons c r ih =>
    intro l m acc
    unfold String.splitOnAux
    have h1 : Pos.Raw.atEnd (ofList (l ++ m ++ c :: r)) ⟨utf8Len l + utf8Len m⟩ = false := by
      have := (atEnd_of_valid (l ++ m) (c :: r))
      rw [utf8Len_append] at this
      cases h : Pos.Raw.atEnd (ofList (l ++ m ++ c :: r)) ⟨utf8Len l + utf8Len m⟩
      · rfl
      · exact absurd (this.1 h) (by simp)
    have h2 : Pos.Raw.get (ofList (l ++ m ++ c :: r)) ⟨utf8Len l + utf8Len m⟩ = c := by
      have := get_of_valid (l ++ m) (c :: r)
      simpa [utf8Len_append] using this
    have h3 : Pos.Raw.next (ofList (l ++ m ++ c :: r)) ⟨utf8Len l + utf8Len m⟩
        = ⟨utf8Len l + utf8Len m + c.utf8Size⟩ := by
      have := next_of_valid (l ++ m) c r
      simpa [utf8Len_append] using this
    simp only [h1, h2, h4, Bool.false_eq_true, if_false]
    by_cases hc : c = sc
    · subst hc
      simp only [beq_self_eq_true, if_true, h3, h6, h5]
      have e1 : (⟨utf8Len l + utf8Len m + c.utf8Size⟩ : Pos.Raw).unoffsetBy ⟨c.utf8Size⟩
          = ⟨utf8Len l + utf8Len m⟩ := by
        ext; simp
      rw [e1, extract_of_valid l m (c :: r)]
      have := ih (l ++ m ++ [c]) [] (ofList m :: acc)
      simp only [List.append_assoc, List.singleton_append, utf8Len_append,
        utf8Len_cons, utf8Len_nil, List.append_nil, Nat.add_zero, List.reverse_nil,
        Nat.zero_add] at this
      rw [← Nat.add_assoc] at this
      simp only [List.append_assoc]
      rw [this]
      simp [List.splitOnPPrepend_cons_eq_if]
    · have : (c == sc) = false := by simpa using hc
      simp only [this, Bool.false_eq_true, if_false]
      have e1 : (⟨utf8Len l + utf8Len m⟩ : Pos.Raw).unoffsetBy 0 = ⟨utf8Len l + utf8Len m⟩ := by
        ext; simp
      rw [e1, h3]
      have := ih l (m ++ [c]) acc
      simp only [List.append_assoc, List.singleton_append, utf8Len_append,
        utf8Len_cons, utf8Len_nil, Nat.zero_add] at this
      rw [← Nat.add_assoc] at this
      simp only [List.append_assoc]
      rw [this]
      simp [List.splitOnPPrepend_cons_eq_if, hc]

theorem splitOn_char (sc : Char) (s : String) :
    s.splitOn (ofList [sc]) = (List.splitOnP (· == sc) s.toList).map String.ofList := by
  have h := splitOnAux_char sc s.toList [] [] []
  simp only [List.nil_append, String.ofList_toList, utf8Len_nil, Nat.add_zero,
    List.reverse_nil] at h
  have hne : (ofList [sc] == "") = false := by
    rw [beq_eq_false_iff_ne]
    intro e
    have := congrArg String.toList e
    simp at this
  simp only [String.splitOn, hne, Bool.false_eq_true, if_false]
  exact h

theorem splitOn_colon (s : String) :
    s.splitOn ":" = (List.splitOnP (· == ':') s.toList).map String.ofList :=
  splitOn_char ':' s
theorem splitOn_dot (s : String) :
    s.splitOn "." = (List.splitOnP (· == '.') s.toList).map String.ofList :=
  splitOn_char '.' s

theorem sep_free {sc : Char} {l : List Char} (h : sc ∉ l) : ∀ c ∈ l, (c == sc) = false :=
  fun _ hc => beq_eq_false_iff_ne.2 fun e => h (e ▸ hc)

theorem splitOn_char_none (sc : Char) (s : String) (h : sc ∉ s.toList) :
    s.splitOn (ofList [sc]) = [s] := by
  rw [splitOn_char, List.splitOnP_eq_singleton (sep_free h)]
  simp

theorem splitOn_char_cons (sc : Char) (a rest : String) (h : sc ∉ a.toList) :
    (a ++ ofList [sc] ++ rest).splitOn (ofList [sc]) = a :: rest.splitOn (ofList [sc]) := by
  rw [splitOn_char, splitOn_char]
  have : (a ++ ofList [sc] ++ rest).toList = a.toList ++ sc :: rest.toList := by
    simp [String.toList_append]
  rw [this, List.splitOnP_append_cons_of_forall_mem (sep_free h) sc (beq_self_eq_true sc)]
  simp

theorem splitOn_char_length_pos (sc : Char) (s : String) :
    1 ≤ (s.splitOn (ofList [sc])).length := by
  rw [splitOn_char, List.length_map]
  exact List.length_pos_iff.2 (List.splitOnP_ne_nil _ _)

theorem splitOn_colon_none (s : String) (h : ':' ∉ s.toList) : s.splitOn ":" = [s] :=
  splitOn_char_none ':' s h

theorem splitOn_dot_none (s : String) (h : '.' ∉ s.toList) : s.splitOn "." = [s] :=
  splitOn_char_none '.' s h

theorem splitOn_a : "a".splitOn "." = ["a"] := splitOn_dot_none "a" (by decide)

/-! ## `splitPath` and `extOf` on `List Char` -/

theorem splitPath_eq (p : String) :
    splitPath p = ((List.splitOnP (· == '/') p.toList).map String.ofList).filter (· != "") := by
  unfold splitPath
  rw [show "/" = String.ofList ['/'] from rfl, splitOn_char]

theorem extOf_eq (base : String) :
    extOf base =
      match ((List.splitOnP (· == '.') base.toList).map String.ofList).reverse with
      | e :: _ :: _ => e
      | _ => "" := by
  unfold extOf
  rw [splitOn_dot]
  all_goals rfl

end Bkl
