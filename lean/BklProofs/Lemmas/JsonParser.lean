/-
  BklProofs.Lemmas.JsonParser — the JSON reader of Bkl/Json.lean on its own: the equations of
  `jsonParseValue` by first character, what a successful run of the three parser functions has read
  and the converse, that a parse consumes input, that what the reader returns has pairwise distinct
  keys in every object, and that more fuel never changes a result.  Of the writers only `jsonQuote`
  occurs here: the two member steps `js_parseMembers_last` / `js_parseMembers_step` are stated on a
  key as the writers quote it.
-/
import BklProofs.Lemmas.JsonText
import BklProofs.Lemmas.List
namespace Bkl

/-! ## the parser: its equations, and what a successful run has read -/

theorem js_skipWs_cons {c : Char} (h : jsonIsWs c = false) (rest : List Char) :
    jsonSkipWs (c :: rest) = c :: rest := by
  simp [jsonSkipWs, List.dropWhile, h]

theorem js_skipWs_ws {c : Char} (h : jsonIsWs c = true) (rest : List Char) :
    jsonSkipWs (c :: rest) = jsonSkipWs rest := by
  simp [jsonSkipWs, List.dropWhile, h]

theorem js_skipWs_append {ws : List Char} (hw : ∀ c ∈ ws, jsonIsWs c = true) (cs : List Char) :
    jsonSkipWs (ws ++ cs) = jsonSkipWs cs :=
  List.dropWhile_append_of_pos hw

/-- the characters a value can start with -/
def js_valueStart (c : Char) : Prop :=
  c = '-' ∨ c.isDigit = true ∨ c = '"' ∨ c = '[' ∨ c = '{' ∨ c = 'n' ∨ c = 't' ∨ c = 'f'

theorem js_valueStart_facts {c : Char} (h : js_valueStart c) :
    jsonIsWs c = false ∧ c ≠ ']' ∧ c ≠ '}' ∧ c ≠ ',' ∧ c ≠ ':' := by
  have hd : ∀ d : Char, d.isDigit = true →
      jsonIsWs d = false ∧ d ≠ ']' ∧ d ≠ '}' ∧ d ≠ ',' ∧ d ≠ ':' := by
    intro d hd
    refine ⟨?_, ?_, ?_, ?_, ?_⟩
    · have := isDigit_not_ws hd
      cases hw : jsonIsWs d
      · rfl
      · simp only [jsonIsWs, Bool.or_eq_true, decide_eq_true_eq] at hw
        rcases hw with ((hw | hw) | hw) | hw <;> (subst hw; revert hd; decide)
    all_goals (intro e; subst e; revert hd; decide)
  rcases h with h | h | h | h | h | h | h | h
  · subst h; decide
  · exact hd c h
  all_goals (subst h; decide)

theorem js_num_head_valueStart {c : Char} (h : c = '-' ∨ c.isDigit = true) : js_valueStart c := by
  rcases h with h | h
  · exact Or.inl h
  · exact Or.inr (Or.inl h)

/-! ### the equations of `jsonParseValue`, by the first character after the whitespace -/

section
variable {fol : String → String} {fuel : Nat} {cs rest r : List Char}

theorem js_parseValue_nil (hs : jsonSkipWs cs = []) :
    jsonParseValue fol (fuel + 1) cs = .error .other := by
  rw [jsonParseValue.eq_2, hs]

theorem js_parseValue_num {c : Char} (hs : jsonSkipWs cs = c :: rest)
    (hc : c = '-' ∨ c.isDigit = true) :
    jsonParseValue fol (fuel + 1) cs =
      match jsonScanNumber .start (c :: rest) with
      | some (lit, r) => .ok (jsonNumberRaw fol lit, r)
      | none => .error .other := by
  rw [jsonParseValue.eq_2, hs]
  exact if_pos hc

theorem js_parseValue_str (hs : jsonSkipWs cs = '"' :: rest) :
    jsonParseValue fol (fuel + 1) cs =
      match jsonParseStr rest with
      | some (s, r) => .ok (.str (String.ofList s), r)
      | none => .error .other := by
  rw [jsonParseValue.eq_2, hs]
  rfl

theorem js_parseValue_list (hs : jsonSkipWs cs = '[' :: rest) :
    jsonParseValue fol (fuel + 1) cs =
      match jsonSkipWs rest with
      | [] => .error .other
      | d :: r =>
        if d = ']' then .ok (.list [], r)
        else
          match jsonParseElems fol fuel (d :: r) with
          | .ok (xs, r') => .ok (.list xs, r')
          | .error e => .error e := by
  rw [jsonParseValue.eq_2, hs]
  rfl

theorem js_parseValue_map (hs : jsonSkipWs cs = '{' :: rest) :
    jsonParseValue fol (fuel + 1) cs =
      match jsonSkipWs rest with
      | [] => .error .other
      | d :: r =>
        if d = '}' then .ok (.map [], r)
        else
          match jsonParseMembers fol fuel (d :: r) with
          | .ok (kvs, r') => .ok (.map kvs, r')
          | .error e => .error e := by
  rw [jsonParseValue.eq_2, hs]
  rfl

theorem js_parseValue_null (hs : jsonSkipWs cs = 'n' :: rest) :
    jsonParseValue fol (fuel + 1) cs =
      match jsonStripPrefix ['u', 'l', 'l'] rest with
      | some r => .ok (.null, r)
      | none => .error .other := by
  rw [jsonParseValue.eq_2, hs]
  rfl

theorem js_parseValue_true (hs : jsonSkipWs cs = 't' :: rest) :
    jsonParseValue fol (fuel + 1) cs =
      match jsonStripPrefix ['r', 'u', 'e'] rest with
      | some r => .ok (.bool true, r)
      | none => .error .other := by
  rw [jsonParseValue.eq_2, hs]
  rfl

theorem js_parseValue_false (hs : jsonSkipWs cs = 'f' :: rest) :
    jsonParseValue fol (fuel + 1) cs =
      match jsonStripPrefix ['a', 'l', 's', 'e'] rest with
      | some r => .ok (.bool false, r)
      | none => .error .other := by
  rw [jsonParseValue.eq_2, hs]
  rfl

theorem js_parseValue_other {c : Char} (hs : jsonSkipWs cs = c :: rest) (hc : ¬ js_valueStart c) :
    jsonParseValue fol (fuel + 1) cs = .error .other := by
  simp only [js_valueStart, not_or] at hc
  obtain ⟨h1, h2, h3, h4, h5, h6, h7, h8⟩ := hc
  rw [jsonParseValue.eq_2, hs]
  simp only [h1, h2, h3, h4, h5, h6, h7, h8, false_or, if_false]
  rfl

/-! ### a successful parse: what was read, what it produced, what is left -/

theorem js_parseValue_ok {x : Raw} (h : jsonParseValue fol (fuel + 1) cs = .ok (x, r)) :
    ∃ c rest, jsonSkipWs cs = c :: rest ∧
      ((∃ lit, jsonScanNumber .start (c :: rest) = some (lit, r) ∧ x = jsonNumberRaw fol lit) ∨
       (∃ s, jsonParseStr rest = some (s, r) ∧ x = .str (String.ofList s)) ∨
       (∃ d t, jsonSkipWs rest = d :: t ∧
         ((t = r ∧ (x = .list [] ∨ x = .map [])) ∨
          (∃ xs, jsonParseElems fol fuel (d :: t) = .ok (xs, r) ∧ x = .list xs) ∨
          (∃ kvs, jsonParseMembers fol fuel (d :: t) = .ok (kvs, r) ∧ x = .map kvs))) ∨
       (∃ p, jsonStripPrefix p rest = some r ∧ (x = .null ∨ ∃ b, x = .bool b))) := by
  cases hs : jsonSkipWs cs with
  | nil => rw [js_parseValue_nil hs] at h; cases h
  | cons c rest =>
    refine ⟨c, rest, rfl, ?_⟩
    by_cases hc : js_valueStart c
    · rw [js_valueStart, ← or_assoc] at hc
      rcases hc with hc | rfl | rfl | rfl | rfl | rfl | rfl
      · rw [js_parseValue_num hs hc] at h
        split at h <;> cases h
        exact .inl ⟨_, ‹_›, rfl⟩
      · rw [js_parseValue_str hs] at h
        split at h <;> cases h
        exact .inr (.inl ⟨_, ‹_›, rfl⟩)
      · rw [js_parseValue_list hs] at h
        split at h
        · cases h
        · refine .inr (.inr (.inl ⟨_, _, ‹_›, ?_⟩))
          split at h
          · cases h; exact .inl ⟨rfl, .inl rfl⟩
          · split at h <;> cases h
            exact .inr (.inl ⟨_, ‹_›, rfl⟩)
      · rw [js_parseValue_map hs] at h
        split at h
        · cases h
        · refine .inr (.inr (.inl ⟨_, _, ‹_›, ?_⟩))
          split at h
          · cases h; exact .inl ⟨rfl, .inr rfl⟩
          · split at h <;> cases h
            exact .inr (.inr ⟨_, ‹_›, rfl⟩)
      · rw [js_parseValue_null hs] at h
        split at h <;> cases h
        exact .inr (.inr (.inr ⟨_, ‹_›, .inl rfl⟩))
      · rw [js_parseValue_true hs] at h
        split at h <;> cases h
        exact .inr (.inr (.inr ⟨_, ‹_›, .inr ⟨_, rfl⟩⟩))
      · rw [js_parseValue_false hs] at h
        split at h <;> cases h
        exact .inr (.inr (.inr ⟨_, ‹_›, .inr ⟨_, rfl⟩⟩))
    · rw [js_parseValue_other hs hc] at h; cases h

theorem js_parseElems_ok {xs : List Raw} (h : jsonParseElems fol (fuel + 1) cs = .ok (xs, r)) :
    ∃ x r1, jsonParseValue fol fuel cs = .ok (x, r1) ∧
      ((jsonSkipWs r1 = ']' :: r ∧ xs = [x]) ∨
       ∃ t ys, jsonSkipWs r1 = ',' :: t ∧ jsonParseElems fol fuel t = .ok (ys, r) ∧
         xs = x :: ys) := by
  rw [jsonParseElems.eq_2] at h
  split at h
  · cases h
  · rename_i x r1 hv
    refine ⟨x, r1, hv, ?_⟩
    split at h
    · cases h
    · rename_i d t hs
      split at h
      · rename_i hd
        subst hd
        split at h <;> cases h
        exact .inr ⟨t, _, hs, ‹_›, rfl⟩
      · split at h <;> cases h
        rename_i hd
        subst hd
        exact .inl ⟨hs, rfl⟩

theorem js_parseMembers_ok {kvs : List (String × Raw)}
    (h : jsonParseMembers fol (fuel + 1) cs = .ok (kvs, r)) :
    ∃ r0 k r1 r2 x r3, jsonSkipWs cs = '"' :: r0 ∧ jsonParseStr r0 = some (k, r1) ∧
      jsonSkipWs r1 = ':' :: r2 ∧ jsonParseValue fol fuel r2 = .ok (x, r3) ∧
      ((jsonSkipWs r3 = '}' :: r ∧ kvs = [(String.ofList k, x)]) ∨
       ∃ t ys, jsonSkipWs r3 = ',' :: t ∧ jsonParseMembers fol fuel t = .ok (ys, r) ∧
         kvs = if ys.any (fun e => e.1 == String.ofList k) then ys
               else (String.ofList k, x) :: ys) := by
  rw [jsonParseMembers.eq_2] at h
  cases hs : jsonSkipWs cs with
  | nil => rw [hs] at h; cases h
  | cons q r0 =>
    rw [hs] at h; dsimp only at h
    by_cases hq : q = '"'
    · subst hq
      rw [if_pos rfl] at h
      cases hp : jsonParseStr r0 with
      | none => rw [hp] at h; cases h
      | some p =>
        rw [hp] at h; dsimp only at h
        cases hs1 : jsonSkipWs p.2 with
        | nil => rw [hs1] at h; cases h
        | cons col r2 =>
          rw [hs1] at h; dsimp only at h
          by_cases hc : col = ':'
          · subst hc
            rw [if_pos rfl] at h
            cases hv : jsonParseValue fol fuel r2 with
            | error e => rw [hv] at h; cases h
            | ok y =>
              rw [hv] at h; dsimp only at h
              refine ⟨r0, p.1, p.2, r2, y.1, y.2, rfl, hp, hs1, hv, ?_⟩
              split at h
              · cases h
              · rename_i d t hs3
                split at h
                · rename_i hd; subst hd
                  split at h
                  · rename_i ys r5 hm
                    refine .inr ⟨t, ys, hs3, ?_⟩
                    split at h <;> cases h
                    · exact ⟨hm, (if_pos ‹_›).symm⟩
                    · exact ⟨hm, (if_neg ‹_›).symm⟩
                  · cases h
                · split at h <;> cases h
                  rename_i hd; subst hd
                  exact .inl ⟨hs3, rfl⟩
          · rw [if_neg hc] at h; cases h
    · rw [if_neg hq] at h; cases h
end

/-! ### the converse: from the pieces to the parse -/

section
variable {fol : String → String} {fuel : Nat} {cs rest r : List Char}

theorem js_parseValue_congr (fol : String → String) (fuel : Nat) {a b : List Char}
    (h : jsonSkipWs a = jsonSkipWs b) : jsonParseValue fol fuel a = jsonParseValue fol fuel b := by
  cases fuel with
  | zero => rw [jsonParseValue, jsonParseValue]
  | succ n => rw [jsonParseValue.eq_2, jsonParseValue.eq_2, h]

theorem js_parseElems_congr (fol : String → String) (fuel : Nat) {a b : List Char}
    (h : jsonSkipWs a = jsonSkipWs b) : jsonParseElems fol fuel a = jsonParseElems fol fuel b := by
  cases fuel with
  | zero => rw [jsonParseElems, jsonParseElems]
  | succ n => rw [jsonParseElems.eq_2, jsonParseElems.eq_2, js_parseValue_congr fol n h]

theorem js_parseMembers_congr (fol : String → String) (fuel : Nat) {a b : List Char}
    (h : jsonSkipWs a = jsonSkipWs b) :
    jsonParseMembers fol fuel a = jsonParseMembers fol fuel b := by
  cases fuel with
  | zero => rw [jsonParseMembers, jsonParseMembers]
  | succ n => rw [jsonParseMembers.eq_2, jsonParseMembers.eq_2, h]

theorem js_parseElems_last {x : Raw} {r1 : List Char}
    (hv : jsonParseValue fol fuel cs = .ok (x, r1)) (hs : jsonSkipWs r1 = ']' :: r) :
    jsonParseElems fol (fuel + 1) cs = .ok ([x], r) := by
  rw [jsonParseElems.eq_2, hv]
  simp only [hs, show (']' = ',') = False from by decide, if_false, if_true]

theorem js_parseElems_more {x : Raw} {xs : List Raw} {r1 more : List Char}
    (hv : jsonParseValue fol fuel cs = .ok (x, r1)) (hs : jsonSkipWs r1 = ',' :: more)
    (he : jsonParseElems fol fuel more = .ok (xs, r)) :
    jsonParseElems fol (fuel + 1) cs = .ok (x :: xs, r) := by
  rw [jsonParseElems.eq_2, hv]
  simp only [hs, if_true, he]

theorem js_parseMembers_last (k : List Char) {txt r1 : List Char} {x : Raw}
    (hv : jsonParseValue fol fuel txt = .ok (x, r1)) (hs : jsonSkipWs r1 = '}' :: r) :
    jsonParseMembers fol (fuel + 1) (jsonQuote k ++ ':' :: txt) =
      .ok ([(String.ofList k, x)], r) := by
  rw [js_quote_append, jsonParseMembers.eq_2, js_skipWs_cons (by decide)]
  simp only [if_true, js_parseStr_escape, js_skipWs_cons (c := ':') (by decide), hv, hs,
    show ('}' = ',') = False from by decide, if_false]

theorem js_parseMembers_step (k : List Char) {txt r1 more : List Char} {x : Raw}
    {kvs : List (String × Raw)}
    (hv : jsonParseValue fol fuel txt = .ok (x, r1)) (hs : jsonSkipWs r1 = ',' :: more)
    (hm : jsonParseMembers fol fuel more = .ok (kvs, r)) :
    jsonParseMembers fol (fuel + 1) (jsonQuote k ++ ':' :: txt) =
      .ok (if (kvs.any fun e => e.1 == String.ofList k) = true then kvs
           else (String.ofList k, x) :: kvs, r) := by
  rw [js_quote_append, jsonParseMembers.eq_2, js_skipWs_cons (by decide)]
  simp only [if_true, js_parseStr_escape, js_skipWs_cons (c := ':') (by decide), hv, hs, hm]
  split <;> rfl

end

/-! ## a parse consumes input -/

theorem js_parseStr_length {cs s r : List Char} (h : jsonParseStr cs = some (s, r)) :
    r.length < cs.length := by
  fun_induction jsonParseStr cs generalizing s r
  case case2 => cases h; exact Nat.lt_succ_self _
  -- the other cases: an error, or one more character in front of the result of a recursive call
  all_goals first
    | cases h
    | obtain ⟨⟨s', r'⟩, hp, e⟩ := Option.map_eq_some_iff.1 h
      cases e
      have := ‹∀ {s r : List Char}, jsonParseStr _ = some (s, r) → _› hp
      simp only [List.length_cons] at this ⊢
      omega

theorem js_skipWs_length (cs : List Char) : (jsonSkipWs cs).length ≤ cs.length :=
  (List.dropWhile_sublist _).length_le

theorem js_skipWs_cons_length {cs : List Char} {c : Char} {rest : List Char}
    (h : jsonSkipWs cs = c :: rest) : rest.length + 1 ≤ cs.length := by
  have := js_skipWs_length cs
  rwa [h] at this

theorem js_stripPrefix_length : ∀ (p cs r : List Char), jsonStripPrefix p cs = some r →
    r.length ≤ cs.length
  | [], cs, r, h => by cases h; exact Nat.le_refl _
  | _ :: _, [], r, h => by cases h
  | a :: p, c :: cs, r, h => by
    rw [jsonStripPrefix] at h
    split at h
    · exact Nat.le_succ_of_le (js_stripPrefix_length p cs r h)
    · cases h

theorem js_scanNumber_length : ∀ (cs : List Char) (st : JNumState) (lit r : List Char),
    jsonScanNumber st cs = some (lit, r) → r.length ≤ cs.length
  | [], st, lit, r, h => by
    rw [jsonScanNumber] at h
    split at h <;> cases h
    exact Nat.le_refl _
  | c :: cs, st, lit, r, h => by
    rw [jsonScanNumber] at h
    split at h
    · obtain ⟨⟨l', r'⟩, hp, e⟩ := Option.map_eq_some_iff.1 h
      cases e
      exact Nat.le_succ_of_le (js_scanNumber_length cs _ _ _ hp)
    · split at h <;> cases h
      exact Nat.le_refl _

/-- a number token is not empty -/
theorem js_scanNumber_start_length {c : Char} {cs lit r : List Char}
    (h : jsonScanNumber .start (c :: cs) = some (lit, r)) : r.length ≤ cs.length := by
  rw [jsonScanNumber] at h
  split at h
  · obtain ⟨⟨l', r'⟩, hp, e⟩ := Option.map_eq_some_iff.1 h
    cases e
    exact js_scanNumber_length _ _ _ _ hp
  · cases h

theorem js_parse_length (fol : String → String) : ∀ (fuel : Nat),
    (∀ cs x r, jsonParseValue fol fuel cs = .ok (x, r) → r.length < cs.length) ∧
    (∀ cs xs r, jsonParseElems fol fuel cs = .ok (xs, r) → r.length ≤ cs.length) ∧
    (∀ cs kvs r, jsonParseMembers fol fuel cs = .ok (kvs, r) → r.length ≤ cs.length)
  | 0 => by
    refine ⟨fun _ _ _ h => ?_, fun _ _ _ h => ?_, fun _ _ _ h => ?_⟩
    · rw [jsonParseValue] at h; cases h
    · rw [jsonParseElems] at h; cases h
    · rw [jsonParseMembers] at h; cases h
  | fuel + 1 => by
    obtain ⟨ihV, ihE, ihM⟩ := js_parse_length fol fuel
    refine ⟨fun cs x r h => ?_, fun cs xs r h => ?_, fun cs kvs r h => ?_⟩
    · obtain ⟨c, rest, hs, hx⟩ := js_parseValue_ok h
      have hl := js_skipWs_cons_length hs
      rcases hx with ⟨_, hn, -⟩ | ⟨_, hp, -⟩ |
        ⟨d, t, hs', ⟨rfl, -⟩ | ⟨_, he, -⟩ | ⟨_, hm, -⟩⟩ | ⟨_, hp, -⟩
      · have := js_scanNumber_start_length hn; omega
      · have := js_parseStr_length hp; omega
      · have := js_skipWs_cons_length hs'; omega
      · have := js_skipWs_cons_length hs'
        have := ihE _ _ _ he
        rw [List.length_cons] at this; omega
      · have := js_skipWs_cons_length hs'
        have := ihM _ _ _ hm
        rw [List.length_cons] at this; omega
      · have := js_stripPrefix_length _ _ _ hp; omega
    · obtain ⟨x, r1, hv, ⟨hs, -⟩ | ⟨t, ys, hs, he, -⟩⟩ := js_parseElems_ok h
      · have := ihV _ _ _ hv
        have := js_skipWs_cons_length hs; omega
      · have := ihV _ _ _ hv
        have := js_skipWs_cons_length hs
        have := ihE _ _ _ he; omega
    · obtain ⟨r0, k, r1, r2, x, r3, hs, hp, hs1, hv, hx⟩ := js_parseMembers_ok h
      have := js_skipWs_cons_length hs
      have := js_parseStr_length hp
      have := js_skipWs_cons_length hs1
      have := ihV _ _ _ hv
      rcases hx with ⟨hs3, -⟩ | ⟨t, ys, hs3, hm, -⟩
      · have := js_skipWs_cons_length hs3; omega
      · have := js_skipWs_cons_length hs3
        have := ihM _ _ _ hm; omega

/-! ## duplicate keys: what the reader returns has pairwise distinct keys in every object -/

/-- no two entries of an association list have the same key -/
def js_keysDistinct {α : Type} : List (String × α) → Bool
  | [] => true
  | (k, _) :: rest => !(rest.any fun e => e.1 == k) && js_keysDistinct rest

mutual
/-- the same on what the reader returns -/
def js_RawDistinct : Raw → Bool
  | .list xs => js_RawDistinctList xs
  | .map kvs => js_keysDistinct kvs && js_RawDistinctFields kvs
  | .listOfMaps ms => js_RawDistinctMaps ms
  | _ => true
def js_RawDistinctList : List Raw → Bool
  | [] => true
  | x :: xs => js_RawDistinct x && js_RawDistinctList xs
def js_RawDistinctFields : List (String × Raw) → Bool
  | [] => true
  | (_, v) :: rest => js_RawDistinct v && js_RawDistinctFields rest
def js_RawDistinctMaps : List (List (String × Raw)) → Bool
  | [] => true
  | m :: ms => js_keysDistinct m && js_RawDistinctFields m && js_RawDistinctMaps ms
end

theorem js_keysDistinct_iff_nodup {α : Type} (l : List (String × α)) :
    js_keysDistinct l = true ↔ (l.map (·.1)).Nodup := by
  induction l with
  | nil => simp [js_keysDistinct]
  | cons p l ih =>
    obtain ⟨k, x⟩ := p
    simp only [js_keysDistinct, Bool.and_eq_true, Bool.not_eq_true', any_fst_beq_false_iff, ih,
      List.map_cons, List.nodup_cons, List.mem_map, not_exists, not_and]

theorem js_parse_distinct (fol : String → String) : ∀ (fuel : Nat),
    (∀ cs x r, jsonParseValue fol fuel cs = .ok (x, r) → js_RawDistinct x = true) ∧
    (∀ cs xs r, jsonParseElems fol fuel cs = .ok (xs, r) → js_RawDistinctList xs = true) ∧
    (∀ cs kvs r, jsonParseMembers fol fuel cs = .ok (kvs, r) →
      js_keysDistinct kvs = true ∧ js_RawDistinctFields kvs = true)
  | 0 => by
    refine ⟨fun _ _ _ h => ?_, fun _ _ _ h => ?_, fun _ _ _ h => ?_⟩
    · rw [jsonParseValue] at h; cases h
    · rw [jsonParseElems] at h; cases h
    · rw [jsonParseMembers] at h; cases h
  | fuel + 1 => by
    obtain ⟨ihV, ihE, ihM⟩ := js_parse_distinct fol fuel
    refine ⟨fun cs x r h => ?_, fun cs xs r h => ?_, fun cs kvs r h => ?_⟩
    · obtain ⟨c, rest, -, hx⟩ := js_parseValue_ok h
      rcases hx with ⟨_, -, rfl⟩ | ⟨_, -, rfl⟩ |
        ⟨d, t, -, ⟨-, rfl | rfl⟩ | ⟨_, he, rfl⟩ | ⟨_, hm, rfl⟩⟩ | ⟨_, -, rfl | ⟨_, rfl⟩⟩
      any_goals rfl
      · rw [js_RawDistinct]; exact ihE _ _ _ he
      · rw [js_RawDistinct, Bool.and_eq_true]; exact ihM _ _ _ hm
    · obtain ⟨x, r1, hv, ⟨-, rfl⟩ | ⟨t, ys, -, he, rfl⟩⟩ := js_parseElems_ok h
      · rw [js_RawDistinctList, js_RawDistinctList, ihV _ _ _ hv]; rfl
      · rw [js_RawDistinctList, ihV _ _ _ hv, ihE _ _ _ he]; rfl
    · obtain ⟨r0, k, r1, r2, x, r3, -, -, -, hv, hx⟩ := js_parseMembers_ok h
      have hx' := ihV _ _ _ hv
      rcases hx with ⟨-, rfl⟩ | ⟨t, ys, -, hm, rfl⟩
      · simp [js_keysDistinct, js_RawDistinctFields, hx']
      · obtain ⟨a, b⟩ := ihM _ _ _ hm
        split
        · exact ⟨a, b⟩
        · rename_i hany
          rw [Bool.not_eq_true] at hany
          simp [js_keysDistinct, js_RawDistinctFields, hany, a, b, hx']

theorem js_parseMembers_nodup (fol : String → String) (fuel : Nat) (cs : List Char)
    (kvs : List (String × Raw)) (r : List Char)
    (h : jsonParseMembers fol fuel cs = .ok (kvs, r)) : (kvs.map (·.1)).Nodup :=
  (js_keysDistinct_iff_nodup kvs).1 ((js_parse_distinct fol fuel).2.2 cs kvs r h).1

theorem js_decodeDocs_distinct (fol : String → String) : ∀ (fuel : Nat) (cs : List Char)
    (xs : List Raw), jsonDecodeDocs fol fuel cs = .ok xs → js_RawDistinctList xs = true
  | 0, cs, xs, h => by rw [jsonDecodeDocs] at h; cases h
  | n + 1, cs, xs, h => by
    rw [jsonDecodeDocs] at h
    split at h
    · cases h; rfl
    · split at h
      · cases h
      · rename_i x r hv
        split at h <;> cases h
        rw [js_RawDistinctList, (js_parse_distinct fol _).1 _ _ _ hv,
          js_decodeDocs_distinct fol n _ _ ‹_›]
        rfl

/-! ## fuel: more fuel never changes a result, so the parser never fails for lack of it -/

theorem js_parse_stable (fol : String → String) : ∀ (fuel : Nat),
    (∀ cs, 2 * cs.length < fuel →
      jsonParseValue fol (fuel + 1) cs = jsonParseValue fol fuel cs) ∧
    (∀ cs, 2 * cs.length + 1 < fuel →
      jsonParseElems fol (fuel + 1) cs = jsonParseElems fol fuel cs) ∧
    (∀ cs, 2 * cs.length + 1 < fuel →
      jsonParseMembers fol (fuel + 1) cs = jsonParseMembers fol fuel cs)
  | 0 => ⟨fun _ h => by omega, fun _ h => by omega, fun _ h => by omega⟩
  | n + 1 => by
    -- both sides are the same expression up to the fuel of the recursive calls: expose these by
    -- case analysis on what is scrutinised above them, and rewrite them with the induction hypothesis
    obtain ⟨ihV, ihE, ihM⟩ := js_parse_stable fol n
    refine ⟨fun cs hf => ?_, fun cs hf => ?_, fun cs hf => ?_⟩
    · rw [jsonParseValue.eq_2 fol cs (n + 1), jsonParseValue.eq_2 fol cs n]
      cases hs : jsonSkipWs cs with
      | nil => rfl
      | cons c rest =>
        have hl := js_skipWs_cons_length hs
        dsimp only
        cases hs' : jsonSkipWs rest with
        | nil => rfl
        | cons d r =>
          have hl' := js_skipWs_cons_length hs'
          have hd : 2 * (d :: r).length + 1 < n := by rw [List.length_cons]; omega
          dsimp only
          rw [ihE _ hd, ihM _ hd]
    · rw [jsonParseElems.eq_2 fol cs (n + 1), jsonParseElems.eq_2 fol cs n, ihV cs (by omega)]
      cases hv : jsonParseValue fol n cs with
      | error e => rfl
      | ok p =>
        have h1 := (js_parse_length fol n).1 _ _ _ hv
        dsimp only
        cases hs : jsonSkipWs p.2 with
        | nil => rfl
        | cons d r' =>
          have hl := js_skipWs_cons_length hs
          dsimp only
          rw [ihE r' (by omega)]
    · rw [jsonParseMembers.eq_2 fol cs (n + 1), jsonParseMembers.eq_2 fol cs n]
      cases hs : jsonSkipWs cs with
      | nil => rfl
      | cons q r0 =>
        have hl := js_skipWs_cons_length hs
        dsimp only
        cases hp : jsonParseStr r0 with
        | none => rfl
        | some p =>
          have h1 := js_parseStr_length hp
          dsimp only
          cases hs1 : jsonSkipWs p.2 with
          | nil => rfl
          | cons col r2 =>
            have hl1 := js_skipWs_cons_length hs1
            dsimp only
            rw [ihV r2 (by omega)]
            cases hv : jsonParseValue fol n r2 with
            | error e => rfl
            | ok y =>
              have h3 := (js_parse_length fol n).1 _ _ _ hv
              dsimp only
              cases hs3 : jsonSkipWs y.2 with
              | nil => rfl
              | cons d r4 =>
                have hl3 := js_skipWs_cons_length hs3
                dsimp only
                rw [ihM r4 (by omega)]

theorem js_fuel_const {α : Type} (f : Nat → α) (b : Nat) (h : ∀ n, b < n → f (n + 1) = f n) :
    ∀ n, b < n → f n = f (b + 1)
  | 0, hn => by omega
  | n + 1, hn => by
    by_cases e : n = b
    · rw [e]
    · rw [h n (by omega), js_fuel_const f b h n (by omega)]

theorem js_parseValue_fuel (fol : String → String) (cs : List Char) (fuel : Nat)
    (h : 2 * cs.length < fuel) :
    jsonParseValue fol fuel cs = jsonParseValue fol (2 * cs.length + 1) cs :=
  js_fuel_const (jsonParseValue fol · cs) _ (fun n hn => (js_parse_stable fol n).1 cs hn) fuel h

theorem js_decodeDocs_stable (fol : String → String) : ∀ (fuel : Nat) (cs : List Char),
    cs.length < fuel → jsonDecodeDocs fol (fuel + 1) cs = jsonDecodeDocs fol fuel cs
  | 0, cs, h => by omega
  | n + 1, cs, h => by
    rw [jsonDecodeDocs, jsonDecodeDocs.eq_2 fol cs n]
    cases hs : jsonSkipWs cs with
    | nil => rfl
    | cons c cs' =>
      have hl := js_skipWs_cons_length hs
      dsimp only
      cases hv : jsonParseValue fol (2 * cs'.length + 3) (c :: cs') with
      | error e => rfl
      | ok p =>
        have h1 := (js_parse_length fol _).1 _ _ _ hv
        rw [List.length_cons] at h1
        dsimp only
        rw [js_decodeDocs_stable fol n p.2 (by omega)]

theorem js_decodeDocs_fuel (fol : String → String) (cs : List Char) (fuel : Nat)
    (h : cs.length < fuel) :
    jsonDecodeDocs fol fuel cs = jsonDecodeDocs fol (cs.length + 1) cs :=
  js_fuel_const (jsonDecodeDocs fol · cs) _ (fun n hn => js_decodeDocs_stable fol n cs hn) fuel h

end Bkl
