/-
  BklProofs.Lemmas.Order — the closed forms of loops that the Go code runs over a Go map (`for k, v := range m`,
  random order) and that C09 compares under permutation: the map loops of the tools
  as the key-wise loop `Fields.filterMapVal` (`intersectFields_eq`, `diffFields_fst`, `diffFields_snd`;
  `requiredFields_eq` stands in Lemmas/Required), with `intersectAt` / `diffAt` saying what is kept under one key;
  `allParents` up to the members of the list of direct parents.
-/
import Bkl.Parser
import Bkl.Tools
import BklProofs.Lemmas.Fields
namespace Bkl

/-- what `intersectFields` keeps under a key of the first map, given the second map's value there -/
def intersectAt (v : Val) : Option Val → Option Val
  | none => none
  | some v2 =>
    if v.isNull && v2.isNull then some .null
    else if (intersect v v2).isNull then none else some (intersect v v2)

theorem intersectFields_eq (s bm : Fields) :
    intersectFields s bm = Fields.filterMapVal (fun k v => intersectAt v (fget bm k)) s := by
  induction s with
  | nil => rfl
  | cons hd tl ih =>
    obtain ⟨k, v⟩ := hd
    rw [intersectFields, filterMapVal_cons, ← ih]
    cases fget bm k with
    | none => rfl
    | some v2 =>
      dsimp only [intersectAt]
      cases (v.isNull && v2.isNull) <;> cases (intersect v v2).isNull <;> rfl

/-- the entry that the `range dst` loop of diffMapMap emits for a target value `v`, given the base
    value at the same key -/
def diffAt (v : Val) : Option Val → Option Val
  | none => some v
  | some v2 => match diff v v2 with
    | .patch p => if p.isNull then none else some p
    | _ => none

/-- this key asks for its parent to be replaced -/
def diffRP (sm : Fields) (p : String × Val) : Bool :=
  match fget sm p.1 with
  | none => false
  | some v2 =>
    match diff p.2 v2 with
    | .replaceParent => true
    | _ => false

theorem diffFields_cons (k : String) (v : Val) (rest sm : Fields) :
    diffFields ((k, v) :: rest) sm =
      ((match diffAt v (fget sm k) with
        | none => (diffFields rest sm).1
        | some q => fset (diffFields rest sm).1 k q),
       diffRP sm (k, v) || (diffFields rest sm).2) := by
  rw [diffFields, diffRP]
  cases fget sm k with
  | none => rfl
  | some v2 =>
    dsimp only [diffAt]
    cases diff v v2 with
    | same => rfl
    | patch p => dsimp only; cases p.isNull <;> rfl
    | replaceParent => rfl

/-- the loop collects from the right what a `range dst` loop stores from the left -/
theorem diffFields_fst (s sm : Fields) :
    (diffFields s sm).1 =
      fofList (Fields.filterMapVal (fun k v => diffAt v (fget sm k)) s).reverse := by
  induction s with
  | nil => rfl
  | cons hd tl ih =>
    obtain ⟨k, v⟩ := hd
    rw [diffFields_cons, filterMapVal_cons]
    cases diffAt v (fget sm k) with
    | none => exact ih
    | some q => rw [List.reverse_cons, fofList_snoc, ← ih]

theorem diffFields_snd (s sm : Fields) : (diffFields s sm).2 = s.any (diffRP sm) := by
  induction s with
  | nil => rfl
  | cons hd tl ih =>
    obtain ⟨k, v⟩ := hd
    rw [diffFields_cons, List.any_cons, ← ih]

theorem sorted_diffFields (s sm : Fields) : Fields.SortedKeys (diffFields s sm).1 := by
  rw [diffFields_fst]; exact sorted_fofList _

/-- with pairwise distinct keys these are the entries that a left-to-right `ret[k] = v` loop stores -/
theorem diffFields_fst_distinct {dm : Fields} (hd : Fields.DistinctKeys dm) (sm : Fields) :
    (diffFields dm sm).1 = fofList (Fields.filterMapVal (fun k v => diffAt v (fget sm k)) dm) := by
  rw [diffFields_fst]
  exact fofList_perm (distinctKeys_filterMapVal _ hd) (List.reverse_perm _)

theorem fget_diffFields_fst {dm : Fields} (hn : Fields.DistinctKeys dm) (sm : Fields) (k : String) :
    fget (diffFields dm sm).1 k = (fget dm k).bind fun v => diffAt v (fget sm k) := by
  rw [diffFields_fst, fget_fofList, List.reverse_reverse, fget_filterMapVal _ hn]

theorem mem_allParents_congr (known : List (String × List String)) (fuel : Nat)
    {direct direct' : List String} (h : ∀ x, x ∈ direct' ↔ x ∈ direct) :
    ∀ x, x ∈ allParents known fuel direct' ↔ x ∈ allParents known fuel direct := by
  intro x
  cases fuel with
  | zero => simp only [allParents]; exact h x
  | succ n =>
    simp only [allParents, List.mem_append, List.mem_flatMap, h]

end Bkl
