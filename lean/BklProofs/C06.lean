/-
  C06 — "Plain data passes through unchanged; `$$` escapes any literal dollar."

  In bkl's terms: data is *inert* (`inert v`) when no map key and no string leaf is something a phase
  of bkl acts on: a directive name, a `$merge:` / `$replace:` / `$env:` reference, an interpolation
  `$"…"`, a string `validate` rejects (these four: `recognisedCore`), or a string containing `$$`, which
  finalize rewrites; *plain* (`plain v`) is the same with `$$` allowed.  Escaping is `double`: every `$`
  of every key and every string leaf written `$$`.  "Unchanged" is up to `dropNulls`, since evaluation
  drops null map values and null list entries, and within bkl's depth guard (`depth v < depthLimit`).
  The definitions are in BklProofs/Lemmas/Escape.lean (strings) and EscapeVal.lean (values).

  The string-level results `unescape_double`, `finalizeString_double`, `doubleStr_lt` are in
  BklProofs/Lemmas/Escape.lean; the merge-level results `C06_merge_double`,
  `C06_mergeChain_double`, `C06_plainMerge_is_merge` in BklProofs/Lemmas/C06Layered.lean.
-/
import BklProofs.Lemmas.C06Layered
import BklProofs.Lemmas.EscapeProc
namespace Bkl

/-! ## 1. a doubled string is recognised by no phase of the evaluator -/

theorem doubled_not_recognised (s : String) :
    doubleStr s ≠ "$merge" ∧ doubleStr s ≠ "$replace" ∧ doubleStr s ≠ "$repeat" ∧
    doubleStr s ≠ "$encode" ∧ doubleStr s ≠ "$decode" ∧ doubleStr s ≠ "$value" ∧
    doubleStr s ≠ "$output" ∧ doubleStr s ≠ "$match" ∧ doubleStr s ≠ "$required" ∧
    doubleStr s ≠ "$delete" ∧
    stripPrefix (doubleStr s) "$merge:" = none ∧
    stripPrefix (doubleStr s) "$replace:" = none ∧
    interpBody (doubleStr s) = none ∧
    (doubleStr s).startsWith "$env:" = false ∧
    validateString (doubleStr s) = .ok () := by
  obtain ⟨hn, hm, hr, he, hi, hv⟩ := recognisedCore_false (e_rc_doubleStr s)
  simp only [directiveNames, List.forall_mem_cons] at hn
  obtain ⟨h1, h2, h3, h4, h5, h6, h7, h8, h9, h10, -⟩ := hn
  exact ⟨h1, h2, h3, h4, h5, h6, h7, h8, h9, h10, hm, hr, hi, he, hv⟩

/-! ## 2. the two evaluation phases are the identity up to null dropping -/

/-- process1 on plain data (inert or doubled): only nulls are dropped, the root is untouched. -/
theorem C06_process1_plain (fuel : Nat) (docs : List Val) (root : Val) (loc : Loc) (v : Val)
    (hp : plain v = true) (hw : v.WF) (hd : depth v < fuel) :
    process1 fuel docs root loc v = .ok (dropNulls v, root) :=
  e_process1_plain fuel docs root loc v hp hw hd

theorem C06_process1_inert (fuel : Nat) (docs : List Val) (root : Val) (loc : Loc) (v : Val)
    (hi : inert v = true) (hw : v.WF) (hd : depth v < fuel) :
    process1 fuel docs root loc v = .ok (dropNulls v, root) :=
  e_process1_plain fuel docs root loc v (e_inert_plain hi) hw hd

theorem C06_process2_plain (fuel : Nat) (docs : List Val) (root : Val) (ec : Vars) (v : Val)
    (hp : plain v = true) (hw : v.WF) (hd : depth v < fuel) :
    process2 fuel docs root ec v = .ok (dropNulls v) :=
  e_process2_plain fuel docs root ec v hp hw hd

theorem C06_process2_inert (fuel : Nat) (docs : List Val) (root : Val) (ec : Vars) (v : Val)
    (hi : inert v = true) (hw : v.WF) (hd : depth v < fuel) :
    process2 fuel docs root ec v = .ok (dropNulls v) :=
  e_process2_plain fuel docs root ec v (e_inert_plain hi) hw hd

/-! ## 3. emission -/

theorem C06_emit_inert (v : Val) (hi : inert v = true) (hw : v.WF) (hn : noNulls v = true)
    (h0 : v ≠ .null) : emit [v] = .ok [v] := by
  have hp := e_inert_plain hi
  rw [emit_single v v (e_findOutputs_plain v hp)
    (e_filterOutput_plain v hp hn (by cases v <;> simp_all [Val.isNull])),
    e_validate_plain v hp, ok_bind, e_finalize_of_noDD v (e_inert_noDD hi) hw]
  rfl

/-! ## 4. plain data passes through unchanged -/

theorem dropNulls_eq_null_iff (v : Val) : dropNulls v = .null ↔ v = .null := by
  cases v <;> simp [dropNulls]

theorem plainOutputs_of_ne {v : Val} (hn : dropNulls v ≠ .null) : plainOutputs v = [dropNulls v] := by
  cases v <;> first | rfl | exact absurd rfl hn

theorem outputDocument_inert (docs : List Val) (env : Vars) (v : Val)
    (hi : inert v = true) (hw : v.WF) (hd : depth v < depthLimit) :
    outputDocument docs env v = .ok (plainOutputs v) := by
  rw [e_outputDocument_plain docs env v (e_inert_plain hi) hw hd, e_finalize_of_noDD _
    (e_allStr_dropNulls _ v (e_inert_noDD hi)) (e_wf_dropNulls v hw)]
  rfl

theorem C06_identity (docs : List Val) (env : Vars) (v : Val)
    (hi : inert v = true) (hw : v.WF) (hd : depth v < depthLimit) (hn : dropNulls v ≠ .null) :
    outputDocument docs env v = .ok [dropNulls v] := by
  rw [outputDocument_inert docs env v hi hw hd, plainOutputs_of_ne hn]

/-- a null document produces no output at all -/
theorem C06_identity_null (docs : List Val) (env : Vars) :
    outputDocument docs env .null = .ok [] :=
  outputDocument_inert docs env .null rfl rfl (by decide)

/-! ## 5. `$$` escapes any literal dollar: doubled data evaluates to the original data -/

theorem outputDocument_double (docs : List Val) (env : Vars) (v : Val)
    (hw : v.WF) (hd : depth v < depthLimit) :
    outputDocument docs env (double v) = .ok (plainOutputs v) := by
  rw [e_outputDocument_plain docs env (double v) (e_plain_double v) (e_wf_double hw)
      (by rw [e_depth_double_all.1]; exact hd), e_double_isNull, e_dropNulls_double_all.1,
    e_finalize_double _ (e_wf_dropNulls v hw)]
  rfl

theorem C06_escape (docs : List Val) (env : Vars) (v : Val)
    (hw : v.WF) (hd : depth v < depthLimit) (hn : dropNulls v ≠ .null) :
    outputDocument docs env (double v) = .ok [dropNulls v] := by
  rw [outputDocument_double docs env v hw hd, plainOutputs_of_ne hn]

theorem C06_escape_null (docs : List Val) (env : Vars) :
    outputDocument docs env (double .null) = .ok [] :=
  outputDocument_double docs env .null rfl (by decide)

/-! ## the depth hypothesis cannot be dropped -/

/-- `nest n` (n singleton lists around `1`) is inert, well-formed, null-free, of depth `n`;
    below the limit it evaluates to itself, at the limit evaluation fails with
    `circularRef` (process1 enters the root with fuel `depthLimit = 1000`). -/
theorem C06_depth_bound_needed (docs : List Val) (env : Vars) (n : Nat) :
    inert (nest n) = true ∧ (nest n).WF ∧ depth (nest n) = n ∧ dropNulls (nest n) = nest n ∧
    (n < depthLimit → outputDocument docs env (nest n) = .ok [nest n]) ∧
    (depthLimit ≤ n → outputDocument docs env (nest n) = .error .circularRef) := by
  obtain ⟨h1, h2, h3, h4⟩ := e_nest_props n
  refine ⟨h1, h2, h3, h4, ?_, e_outputDocument_nest_fail docs env n⟩
  intro hn
  have := C06_identity docs env (nest n) h1 h2 (by omega) (by rw [h4]; cases n <;> simp [nest])
  rw [this, h4]

/-! ## the theorems above on sample documents -/

/-- plain data with dollars that are not directives, nulls to drop, nested containers -/
def c06_ex1 : Val :=
  .map [("a", .str "$5 bill"), ("b", .list [.null, .int 1, .str "x{y}$", .map [("$", .null)]]),
        ("c", .null), ("d", .map [])]

theorem c06_ex1_inert : inert c06_ex1 = true := by decide +kernel

example : inert c06_ex1 = true ∧ c06_ex1.WF ∧ depth c06_ex1 < depthLimit ∧
    dropNulls c06_ex1 ≠ .null := ⟨c06_ex1_inert, by decide⟩

example : outputDocument [] [] c06_ex1 =
    .ok [.map [("a", .str "$5 bill"), ("b", .list [.int 1, .str "x{y}$", .map []]),
               ("d", .map [])]] :=
  C06_identity [] [] c06_ex1 c06_ex1_inert (by decide) (by decide)
    (by decide)

theorem c06_ex1_dropNulls_inert : inert (dropNulls c06_ex1) = true :=
  e_allStr_dropNulls _ _ c06_ex1_inert

example : inert (dropNulls c06_ex1) = true ∧ (dropNulls c06_ex1).WF ∧
    noNulls (dropNulls c06_ex1) = true ∧ dropNulls c06_ex1 ≠ .null :=
  ⟨c06_ex1_dropNulls_inert, by decide⟩

example : process1 depthLimit [] c06_ex1 (some []) c06_ex1 = .ok (dropNulls c06_ex1, c06_ex1) :=
  C06_process1_inert _ _ _ _ _ c06_ex1_inert (by decide) (by decide)

example : process2 depthLimit [] c06_ex1 [] c06_ex1 = .ok (dropNulls c06_ex1) :=
  C06_process2_inert _ _ _ _ _ c06_ex1_inert (by decide) (by decide)

example : emit [dropNulls c06_ex1] = .ok [dropNulls c06_ex1] :=
  C06_emit_inert _ c06_ex1_dropNulls_inert (by decide) (by decide)
    (by decide)

/-- data full of directive names: every one is neutralised by doubling -/
def c06_ex2 : Val :=
  .map [("$merge", .str "$env:HOME"), ("$output", .bool false),
        ("k$$", .list [.str "$\"{a}\"", .null, .str "$required", .map [("$repeat", .int 3)]])]

example : c06_ex2.WF ∧ depth c06_ex2 < depthLimit ∧ dropNulls c06_ex2 ≠ .null := by
  decide +kernel

example : outputDocument [] [] (double c06_ex2) =
    .ok [.map [("$merge", .str "$env:HOME"), ("$output", .bool false),
        ("k$$", .list [.str "$\"{a}\"", .str "$required", .map [("$repeat", .int 3)]])]] :=
  C06_escape [] [] c06_ex2 (by decide +kernel) (by decide +kernel) (by decide +kernel)

example : doubleStr "a$b$$" = "a$$b$$$$" := by decide

/-- the fuel bound is tight: depth 1 needs fuel 2 -/
example : process1 1 [] .null none (.list [.int 1]) = .error .circularRef := by rfl
example : process1 2 [] .null none (.list [.int 1]) = .ok (.list [.int 1], .null) := by rfl
example : process2 1 [] .null [] (.list [.int 1]) = .error .circularRef := by rfl

/-! ## 6. doubled data layered over other documents

  `plainMerge` / `plainChain` (BklProofs/Lemmas/C06Layered.lean) are `merge` / `mergeChain` with every
  directive switched off: what bkl's layering does if `$delete`, `$replace`, `$match`, `$required`, … in
  the child are data, e.g. `plainMerge {a: 1} {a: "$delete"} = {a: "$delete"}`.  `noDollar v`: no map
  key and no string leaf of `v` contains a `$` (such a `v` is inert and `double v = v`, `C06_noDollar`).
  `plainOutputs r` (BklProofs/Lemmas/EscapeVal.lean): `[]` for the null document, else `[dropNulls r]`. -/

/-- `$`-free data is inert, and doubling leaves it alone -/
theorem C06_noDollar (p : Val) (hp : noDollar p = true) : inert p = true ∧ double p = p :=
  ⟨l_free_inert hp, l_double_free hp⟩

/-- merge level: a doubled child over a `$`-free parent -/
theorem C06_layered_merge (p v : Val) (hp : noDollar p = true) :
    mergeChain [p, double v] = Except.map double (plainMerge p v) := by
  have h := C06_merge_double p v
  rw [l_double_free hp] at h
  rw [l_mergeChain_pair, h]

/-- **C06, layered**: evaluating the chain `[p, double v]` (merge, then the pipeline of
    `C06_escape`) gives exactly the plain structural merge of `p` and the *undoubled* `v`, nulls
    dropped: success with `dropNulls (plainMerge p v)` exactly when `plainMerge p v` succeeds,
    the same error exactly where it fails. -/
theorem C06_layered (docs : List Val) (env : Vars) (p v : Val)
    (hp : noDollar p = true) (hpw : p.WF) (hvw : v.WF)
    (hpd : depth p < depthLimit) (hvd : depth v < depthLimit) :
    (mergeChain [p, double v] >>= outputDocument docs env) =
      Except.map plainOutputs (plainMerge p v) := by
  rw [C06_layered_merge p v hp]
  cases hm : plainMerge p v with
  | error e => rfl
  | ok r =>
    exact outputDocument_double docs env r (l_plainMerge_wf hpw hvw hm) (Nat.lt_succ_of_le
      (l_plainMerge_depth (Nat.le_of_lt_succ hpd) (Nat.le_of_lt_succ hvd) hm))

/-- the two halves of `C06_layered`, spelled out -/
theorem C06_layered_ok (docs : List Val) (env : Vars) (p v r : Val)
    (hp : noDollar p = true) (hpw : p.WF) (hvw : v.WF)
    (hpd : depth p < depthLimit) (hvd : depth v < depthLimit) (hm : plainMerge p v = .ok r) :
    mergeChain [p, double v] = .ok (double r) ∧
    (mergeChain [p, double v] >>= outputDocument docs env) = .ok (plainOutputs r) := by
  refine ⟨by rw [C06_layered_merge p v hp, hm]; rfl, ?_⟩
  rw [C06_layered docs env p v hp hpw hvw hpd hvd, hm]; rfl

theorem C06_layered_error (docs : List Val) (env : Vars) (p v : Val) (e : Err)
    (hp : noDollar p = true) (hm : plainMerge p v = .error e) :
    mergeChain [p, double v] = .error e ∧
    (mergeChain [p, double v] >>= outputDocument docs env) = .error e := by
  rw [C06_layered_merge p v hp, hm]; exact ⟨rfl, rfl⟩

/-- for two maps the merged document is a map, so exactly one document is printed -/
theorem C06_layered_map (docs : List Val) (env : Vars) (p v : Fields)
    (hp : noDollar (.map p) = true) (hpw : (Val.map p).WF) (hvw : (Val.map v).WF)
    (hpd : depth (.map p) < depthLimit) (hvd : depth (.map v) < depthLimit) :
    (mergeChain [.map p, double (.map v)] >>= outputDocument docs env) =
      Except.map (fun r => [dropNulls r]) (plainMerge (.map p) (.map v)) := by
  rw [C06_layered docs env _ _ hp hpw hvw hpd hvd, l_pm_map_map]
  cases plainMergeFields p v <;> rfl

/-- The parent must really be `$`-free; *inert* (not recognised by the evaluator, no `$$`) is
    not enough.  (1) An inert parent string with a `$` is no longer equal to the doubled child
    string, so a `uselessOverride` of the plain merge is lost.  (2) An inert parent key with a
    `$` and its doubled twin are different keys for `merge` but the same key after `$$` is
    unescaped: the override by the upper layer is lost. -/
theorem C06_layered_inert_counterexample :
    (let p : Val := .map [("a", .str "$5")]
     inert p = true ∧ p.WF ∧ noDollar p = false ∧
     plainMerge p p = .error .uselessOverride ∧
     (mergeChain [p, double p] >>= outputDocument [] []) = .ok [p]) ∧
    (let p : Val := .map [("$X", .int 1)]
     let v : Val := .map [("$X", .int 2)]
     inert p = true ∧ p.WF ∧ v.WF ∧ noDollar p = false ∧
     plainMerge p v = .ok v ∧
     (mergeChain [p, double v] >>= outputDocument [] []) = .ok [p]) := by
  -- one evaluation of the recognisers for all three values
  have hi : inert (.map [("a", .str "$5")]) = true ∧ inert (.map [("$X", .int 1)]) = true ∧
      plain (.map [("$$X", .int 2), ("$X", .int 1)]) = true := by decide +kernel
  constructor
  · refine ⟨hi.1, by decide +kernel, by decide +kernel, by decide +kernel, ?_⟩
    have hd : double (.map [("a", .str "$5")]) = .map [("a", .str "$$5")] := by decide +kernel
    have hm : mergeChain [.map [("a", .str "$5")], .map [("a", .str "$$5")]]
        = .ok (.map [("a", .str "$$5")]) := by
      rw [l_mergeChain_pair]
      simp [merge, mergeMapMap, mergeFields, fhasBool, fget, fset, Val.toStr, e_pure_eq, ok_bind]
    rw [hd, hm, ok_bind, ← hd, C06_escape [] [] _ (by decide +kernel) (by decide +kernel)
      (by decide +kernel)]
    decide +kernel
  · refine ⟨hi.2.1, by decide +kernel, by decide +kernel, by decide +kernel, by decide +kernel, ?_⟩
    have hd : double (.map [("$X", .int 2)]) = .map [("$$X", .int 2)] := by decide +kernel
    have hm : mergeChain [.map [("$X", .int 1)], .map [("$$X", .int 2)]]
        = .ok (.map [("$$X", .int 2), ("$X", .int 1)]) := by
      rw [l_mergeChain_pair]
      simp [merge, mergeMapMap, mergeFields, fhasBool, fget, fset, Val.toStr, e_pure_eq, ok_bind]
    rw [hd, hm, ok_bind, e_outputDocument_plain [] [] _ hi.2.2 (by decide +kernel)
      (by decide +kernel)]
    decide +kernel

/-- a `$`-free parent -/
def c06_par : Val :=
  .map [("a", .int 1), ("k", .map [("x", .str "old"), ("y", .null)]), ("l", .list [.int 1])]

/-- a child full of strings that `merge` would take for directives -/
def c06_child : Val :=
  .map [("$match", .int 7), ("a", .str "$delete"),
        ("k", .map [("$replace", .bool true), ("x", .str "$required")]),
        ("l", .list [.str "$replace", .map [("$delete", .int 1)]])]

example : noDollar c06_par = true ∧ c06_par.WF ∧ c06_child.WF ∧
    depth c06_par < depthLimit ∧ depth c06_child < depthLimit := by decide +kernel

/-- every "directive" of the child arrives as data; `y: null` of the parent is dropped -/
example : (mergeChain [c06_par, double c06_child] >>= outputDocument [] []) =
    .ok [.map [("$match", .int 7), ("a", .str "$delete"),
        ("k", .map [("$replace", .bool true), ("x", .str "$required")]),
        ("l", .list [.int 1, .str "$replace", .map [("$delete", .int 1)]])]] := by
  rw [C06_layered [] [] c06_par c06_child (by decide +kernel) (by decide +kernel) (by decide +kernel) (by decide +kernel)
    (by decide +kernel)]
  decide +kernel

/-- whereas the undoubled child is full of directives: `a` is deleted, `k` and `l` replaced -/
example : merge c06_par c06_child ≠ plainMerge c06_par c06_child := by
  have hm : merge c06_par c06_child = .ok (.map [("$match", .int 7),
      ("k", .map [("x", .str "$required")]), ("l", .list [.map [("$delete", .int 1)]])]) := by
    simp [c06_par, c06_child, merge, mergeMapMap, mergeFields, fhasBool, fget, fset, fdel, fhas,
      Val.toStr, mergeListList, popListString, e_pure_eq, ok_bind]
  have hp : plainMerge c06_par c06_child = .ok (.map [("$match", .int 7), ("a", .str "$delete"),
      ("k", .map [("$replace", .bool true), ("x", .str "$required"), ("y", .null)]),
      ("l", .list [.int 1, .str "$replace", .map [("$delete", .int 1)]])]) := by decide +kernel
  rw [hm, hp]
  intro h
  exact absurd (Except.ok.inj h) (by decide +kernel)

/-- an error of the plain merge is the error of the layered evaluation -/
example : plainMerge c06_par (.map [("l", .int 3)]) = .error .invalidType ∧
    (mergeChain [c06_par, double (.map [("l", .int 3)])] >>= outputDocument [] [])
      = .error .invalidType :=
  ⟨by decide, (C06_layered_error [] [] c06_par _ _ (by decide) (by decide)).2⟩

example : noDollar c06_par = true ∧ noDollar (.map [("a", .str "x")]) = true ∧
    merge c06_par (.map [("a", .str "x")]) = plainMerge c06_par (.map [("a", .str "x")]) :=
  ⟨by decide, by decide, C06_plainMerge_is_merge _ _ (by decide) (by decide)⟩


end Bkl
