import BklProofs.C11
#print axioms Bkl.C11_aux_isTrueMarker_eq
#print axioms Bkl.C11_no_marker_root_fallback
#print axioms Bkl.C11_no_marker_root_fallback_list
#print axioms Bkl.C11_no_marker_root_fallback_fields
#print axioms Bkl.C11_no_marker_emit_root
#print axioms Bkl.C11_selected_count_partial
#print axioms Bkl.C11_selected_count_list
#print axioms Bkl.C11_selected_count_fields
#print axioms Bkl.C11_aux_hasOutTrueList
#print axioms Bkl.C11_markers_stripped
#print axioms Bkl.C11_markers_stripped_list
#print axioms Bkl.C11_markers_stripped_fields
#print axioms Bkl.C11_map_self_first
#print axioms Bkl.C11_list_self_last
#print axioms Bkl.C11_hide_spec
#print axioms Bkl.C11_hidden_not_kept
#print axioms Bkl.C11_hide_spec_map
#print axioms Bkl.C11_hide_spec_list
#print axioms Bkl.C11_aux_hasOutFalseList
#print axioms Bkl.C11_hidden_absent_partial
#print axioms Bkl.C11_hidden_absent_list
#print axioms Bkl.C11_hidden_absent_fields
#print axioms Bkl.C11_no_null
#print axioms Bkl.C11_no_null_list
#print axioms Bkl.C11_no_null_fields
#print axioms Bkl.C11_marker_extra_keys_error
#print axioms Bkl.C11_marker_extra_keys_error_mem
#print axioms Bkl.C11_validate_no_bad_key
#print axioms Bkl.C11_validate_no_bad_key_list
#print axioms Bkl.C11_validate_no_bad_key_fields
#print axioms Bkl.C11_aux_hasKeyFields_of_fget
#print axioms Bkl.C11_aux_fhasBool_of_no_key
#print axioms Bkl.C11_no_key_no_marker
#print axioms Bkl.C11_no_key_no_marker_list
#print axioms Bkl.C11_no_key_no_marker_fields
#print axioms Bkl.C11_emit_no_markers
#print axioms Bkl.C11_emit_provenance
#print axioms Bkl.C11_findOutputs_eq
#print axioms Bkl.C11_findOutputs_eq_list
#print axioms Bkl.C11_findOutputs_eq_fields
#print axioms Bkl.C11_aux_map_subtreeAt_step
#print axioms Bkl.C11_aux_selDocs_paths
#print axioms Bkl.C11_aux_selDocs_paths_list
#print axioms Bkl.C11_aux_selDocs_paths_fields
#print axioms Bkl.C11_selected_spec
#print axioms Bkl.C11_aux_mem_selectedPathsList
#print axioms Bkl.C11_aux_mem_selectedPathsFields
#print axioms Bkl.C11_selectedPaths_mem
#print axioms Bkl.C11_selectedPaths_nodup
#print axioms Bkl.C11_selectedPaths_nodup_list
#print axioms Bkl.C11_selectedPaths_nodup_fields
#print axioms Bkl.C11_aux_isBadMarker_eq
#print axioms Bkl.C11_filterOutput_eq
#print axioms Bkl.C11_filterOutput_eq_list
#print axioms Bkl.C11_filterOutput_eq_fields
#print axioms Bkl.C11_aux_no_paths
#print axioms Bkl.C11_aux_no_paths_list
#print axioms Bkl.C11_aux_no_paths_fields
#print axioms Bkl.C11_aux_paths_of_no_marker
#print axioms Bkl.C11_aux_paths_of_no_marker_list
#print axioms Bkl.C11_aux_paths_of_no_marker_fields
#print axioms Bkl.C11_selectedPaths_nil_iff
#print axioms Bkl.C11_aux_docCandidates
#print axioms Bkl.C11_aux_selDocs_nil
#print axioms Bkl.C11_emit_doc_eq
#print axioms Bkl.C11_aux_render_eq
#print axioms Bkl.C11_emit_doc_spec
#print axioms Bkl.C11_root_fallback_spec
#print axioms Bkl.C11_order_stable
#print axioms Bkl.C11_order_stable_emit
#print axioms Bkl.C11_duplicate_markers
#print axioms Bkl.C11_duplicate_markers_spec
#print axioms Bkl.C11_nonbool_marker_counterexample
#print axioms Bkl.C11_aux_fget_stripOutFields
#print axioms Bkl.C11_aux_fget_pruneFields
#print axioms Bkl.C11_aux_not_clean_of_key
#print axioms Bkl.C11_nonbool_marker_kept
#print axioms Bkl.C11_nonbool_marker_partial
#print axioms Bkl.C11_nonbool_marker_root
#print axioms Bkl.C11_hidden_eq
#print axioms Bkl.C11_aux_subtreeAt_cons
#print axioms Bkl.C11_aux_subtreeAt_append
#print axioms Bkl.C11_aux_childAt_wf
#print axioms Bkl.C11_aux_mem_idxPaths
#print axioms Bkl.C11_aux_mem_keyPaths
#print axioms Bkl.C11_aux_nil_mem_pathsWhere
#print axioms Bkl.C11_aux_cons_mem_pathsWhere
#print axioms Bkl.C11_pathsWhere_mem
#print axioms Bkl.C11_hiddenPaths_mem
#print axioms Bkl.C11_aux_pruneList_getElem
#print axioms Bkl.C11_aux_pruneList_getElem_inv
#print axioms Bkl.C11_aux_fget_pruneFields_inv
#print axioms Bkl.C11_aux_childAt_prune
#print axioms Bkl.C11_aux_childAt_prune_inv
#print axioms Bkl.C11_aux_droppedAt_cons
#print axioms Bkl.C11_keptPath_none
#print axioms Bkl.C11_keptPath_some
#print axioms Bkl.C11_keptPath_surj
#print axioms Bkl.C11_droppedAt_iff
#print axioms Bkl.C11_hidden_spec
#print axioms Bkl.C11_hidden_root
