import BklProofs.Facts.SourceC17
#print axioms Bkl.Gen.S_C17_only_markers
#print axioms Bkl.Gen.S_C17_empty_iff
#print axioms Bkl.Gen.S_C17_idempotent
#print axioms Bkl.depth_required_le
#print axioms Bkl.required_wf
