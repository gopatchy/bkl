import BklProofs.C06
#print axioms Bkl.unescape_double
#print axioms Bkl.finalizeString_double
#print axioms Bkl.doubled_not_recognised
#print axioms Bkl.doubleStr_lt
#print axioms Bkl.C06_process1_plain
#print axioms Bkl.C06_process1_inert
#print axioms Bkl.C06_process2_plain
#print axioms Bkl.C06_process2_inert
#print axioms Bkl.dropNulls_idem
#print axioms Bkl.C06_emit_inert
#print axioms Bkl.C06_identity
#print axioms Bkl.C06_identity_null
#print axioms Bkl.dropNulls_eq_null_iff
#print axioms Bkl.C06_escape
#print axioms Bkl.C06_escape_null
#print axioms Bkl.C06_depth_bound_needed
#print axioms Bkl.C06_merge_double
#print axioms Bkl.C06_mergeChain_double
#print axioms Bkl.C06_plainMerge_is_merge
#print axioms Bkl.C06_noDollar
#print axioms Bkl.C06_layered_merge
#print axioms Bkl.C06_layered
#print axioms Bkl.C06_layered_ok
#print axioms Bkl.C06_layered_error
#print axioms Bkl.C06_layered_map
#print axioms Bkl.C06_layered_inert_counterexample
