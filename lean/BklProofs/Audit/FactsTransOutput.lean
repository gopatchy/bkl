import BklProofs.Facts.TransOutput
#print axioms Bkl.Gen.Lib.T_filterOutput_eq
#print axioms Bkl.Gen.Lib.T_filterOutputMap_eq
#print axioms Bkl.Gen.Lib.T_filterOutputList_eq
#print axioms Bkl.Gen.Lib.T_filterOutputMap_eq_fields
#print axioms Bkl.Gen.Lib.T_filterOutputList_eq_list
#print axioms Bkl.Gen.Lib.T_filterOutput_eq_norm
#print axioms Bkl.Gen.Lib.T_filterOutputMap_eq_norm
#print axioms Bkl.Gen.Lib.T_filterOutputList_eq_norm
#print axioms Bkl.Gen.Lib.T_filterOutput_eq_iff
#print axioms Bkl.Gen.Lib.O_T_filterList_flatMap
#print axioms Bkl.Gen.Lib.O_T_filterMap_flatMap
#print axioms Bkl.Gen.Lib.filterOutput_eq_needs_WF
#print axioms Bkl.Gen.Lib.filterOutput_eq_needs_WF_nested
#print axioms Bkl.Gen.Lib.filterOutputMap_eq_needs_sorted
#print axioms Bkl.Gen.Lib.filterOutputList_eq_needs_WF
#print axioms Bkl.Gen.Lib.filterOutput_eq_needs_WF_dupkey
