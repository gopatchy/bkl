import BklProofs.C02
#print axioms Bkl.C02_sel_example
#print axioms Bkl.C02_msel_example
#print axioms Bkl.C02_ancestor_iff
#print axioms Bkl.C02_selection
#print axioms Bkl.C02_selection_noMatch
#print axioms Bkl.C02_selection_append
#print axioms Bkl.C02_selection_merge
#print axioms Bkl.C02_targets
#print axioms Bkl.C02_targets_map
#print axioms Bkl.C02_targets_ok_iff
#print axioms Bkl.C02_targets_append
#print axioms Bkl.C02_run_example
#print axioms Bkl.C02_mrun_example
#print axioms Bkl.C02_known
#print axioms Bkl.C02_ids
#print axioms Bkl.C02_frame
#print axioms Bkl.C02_frame_mem
#print axioms Bkl.C02_order
#print axioms Bkl.C02_local
#print axioms Bkl.C02_noninterference_step
#print axioms Bkl.C02_singleton
#print axioms Bkl.C02_singleton_mem
#print axioms Bkl.C02_singleton_stream
#print axioms Bkl.C02_duplicate_ids_select_by_id
#print axioms Bkl.C02_error_no_match
#print axioms Bkl.C02_match_null_appends
#print axioms Bkl.C02_default_no_parents_appends
#print axioms Bkl.C02_default_root_appends
#print axioms Bkl.C02_merge_error_propagates
#print axioms Bkl.C02_merge_error_first
#print axioms Bkl.C02_length
#print axioms Bkl.C02_noninterference
#print axioms Bkl.C02_selection_nomatch_congr
#print axioms Bkl.C02_sameSelections_nomatch
#print axioms Bkl.C02_noninterference_nomatch
#print axioms Bkl.C02_run_example₂
#print axioms Bkl.C02_append_id
#print axioms Bkl.C02_ids_unique_preserved
#print axioms Bkl.C02_file_layer_targets
#print axioms Bkl.C02_file_layer_docs
#print axioms Bkl.C02_file_layer_docs_empty_parent
#print axioms Bkl.C02_file_layer_independent
#print axioms Bkl.C02_file_layer_noninterference
#print axioms Bkl.C02_file_layer_singleton_partial
#print axioms Bkl.C02_file_layer_singleton_nomatch
#print axioms Bkl.C02_three_layers_after_append
#print axioms Bkl.C02_three_layers_body
#print axioms Bkl.C02_ids_unique_files
#print axioms Bkl.C02_ids_unique_loaded
#print axioms Bkl.C02_ids_unique_run
#print axioms Bkl.C02_file_layer_singleton_false
#print axioms Bkl.C02_null_layer_changes_nothing
