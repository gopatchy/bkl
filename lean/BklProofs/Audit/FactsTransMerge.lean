import BklProofs.Facts.TransMerge
#print axioms Bkl.Gen.Lib.T_merge_eq
#print axioms Bkl.Gen.Lib.T_mergeMap_eq
#print axioms Bkl.Gen.Lib.T_mergeMapMap_eq
#print axioms Bkl.Gen.Lib.T_mergeMapMap_eq_model
#print axioms Bkl.Gen.Lib.T_mergeList_eq
#print axioms Bkl.Gen.Lib.T_mergeList_eq_model
#print axioms Bkl.Gen.Lib.T_mergeListList_eq
#print axioms Bkl.Gen.Lib.T_mergeListList_eq_model
#print axioms Bkl.Gen.Lib.T_mergeListDelete_eq
#print axioms Bkl.Gen.Lib.T_mergeListMatch_eq
#print axioms Bkl.Gen.Lib.mergeEntries_eq_steps
#print axioms Bkl.Gen.Lib.mergeMapMap_eq_F
#print axioms Bkl.mergeListList_eq_L
#print axioms Bkl.Gen.Lib.merge_list_eq_L
#print axioms Bkl.Gen.Lib.merge_unsorted_patch_differs
#print axioms Bkl.Gen.Lib.merge_unsorted_match_go
#print axioms Bkl.Gen.Lib.merge_unsorted_match_model
