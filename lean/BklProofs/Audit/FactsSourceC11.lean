import BklProofs.Facts.SourceC11
#print axioms Bkl.Gen.Lib.S_C11_ok_iff
#print axioms Bkl.Gen.Lib.S_C11_hidden_map
#print axioms Bkl.Gen.Lib.S_C11_hidden_list
#print axioms Bkl.Gen.Lib.S_C11_hide_spec
#print axioms Bkl.Gen.Lib.S_C11_unmarked_unchanged
#print axioms Bkl.Gen.Lib.S_C11_hidden_absent
#print axioms Bkl.filterOutput_unmarked
