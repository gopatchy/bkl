import BklProofs.Facts.SourceMatch
#print axioms Bkl.Gen.Lib.S_match_invert
#print axioms Bkl.Gen.Lib.S_match_refl_plain
#print axioms Bkl.Gen.Lib.S_match_scalar
#print axioms Bkl.Gen.Lib.S_match_placeholder
