import BklProofs.C01
#print axioms Bkl.C01_null_child_map
#print axioms Bkl.C01_null_child_list
#print axioms Bkl.C01_null_child
#print axioms Bkl.C01_null_parent
#print axioms Bkl.C01_scalar
#print axioms Bkl.C01_scalar_reject_iff
#print axioms Bkl.C01_kind_mismatch_map
#print axioms Bkl.C01_kind_mismatch_list
#print axioms Bkl.C01_kind_mismatch_empty_map
#print axioms Bkl.C01_replace_true
#print axioms Bkl.C01_map_by_key
#print axioms Bkl.C01_map_reject_iff
#print axioms Bkl.C01_list_concat
#print axioms Bkl.C01_list_replace_string
#print axioms Bkl.C01_list_replace_marker
#print axioms Bkl.C01_list_delete
#print axioms Bkl.C01_list_match_value
#print axioms Bkl.C01_list_extra_keys_delete
#print axioms Bkl.C01_list_extra_keys_match
#print axioms Bkl.C01_list_extra_keys_replace
#print axioms Bkl.C01_wf
#print axioms Bkl.C01_chain_frame
#print axioms Bkl.C01_rejectsEntries_of_error
#print axioms Bkl.C01_rejects_of_error
#print axioms Bkl.C01_reject_iff_of_src_wf
#print axioms Bkl.C01_reject_iff
#print axioms Bkl.C01_reject_entries_iff
#print axioms Bkl.C01_accept_total
#print axioms Bkl.C01_accept_total_wf
#print axioms Bkl.C01_replace_true_never_rejects
#print axioms Bkl.C01_replace_string_never_rejects
#print axioms Bkl.C01_reject_iff_needs_src_wf
#print axioms Bkl.C01_merge_assoc_frame_ok
#print axioms Bkl.C01_merge_assoc_frame_reject
#print axioms Bkl.C01_merge_assoc_frame_false
#print axioms Bkl.C01_merge_assoc_frame_partial
