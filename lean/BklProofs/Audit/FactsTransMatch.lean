import BklProofs.Facts.TransMatch
#print axioms Bkl.Gen.Lib.T_match_eq
#print axioms Bkl.Gen.Lib.T_matchMap_eq
#print axioms Bkl.Gen.Lib.T_matchList_eq
#print axioms Bkl.Gen.Lib.T_matchListSingle_eq
