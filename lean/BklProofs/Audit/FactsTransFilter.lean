import BklProofs.Facts.TransFilter
#print axioms Bkl.Gen.Lib.T_filterList_rec
#print axioms Bkl.Gen.Lib.T_filterList_spec
#print axioms Bkl.Gen.Lib.T_filterList_spec_err
#print axioms Bkl.Gen.Lib.T_filterList_spec_gerr
#print axioms Bkl.Gen.Lib.T_filterList_flatMapR
#print axioms Bkl.Gen.Lib.T_filterList_foldlM
#print axioms Bkl.Gen.Lib.T_filterList_foldlM_ok
#print axioms Bkl.Gen.Lib.T_filterList_foldlM_err
#print axioms Bkl.Gen.Lib.filterList_foldlM_of_eq
#print axioms Bkl.Gen.Lib.T_filterMap_rec
#print axioms Bkl.Gen.Lib.T_filterMap_spec
#print axioms Bkl.Gen.Lib.T_filterMap_spec_flatMap
#print axioms Bkl.Gen.Lib.T_filterMap_spec_err
#print axioms Bkl.Gen.Lib.T_filterMap_spec_gerr
#print axioms Bkl.Gen.Lib.T_popListString_eq
#print axioms Bkl.Gen.Lib.popListMapValue_eq_foldStepR
#print axioms Bkl.Gen.Lib.T_popListMapValue_eq
#print axioms Bkl.Gen.Lib.popListMapBool_eq_flatMapR
#print axioms Bkl.Gen.Lib.T_popListMapBoolValue_eq
#print axioms Bkl.Gen.Lib.T_popListMapStringValue_eq
#print axioms Bkl.Gen.Lib.popListMapStr_ok
#print axioms Bkl.Gen.Lib.popListMapStr_err
