/-
  C03 — "The inheritance chain is resolved from filenames and `$parent`, base first".

  Model: `Bkl/Files.lean` (`fileParents`, `loadFileAndParents`, `mergeFiles`, `cliRun`).
  Helper definitions used in the statements (in `BklProofs/Lemmas/FilesWalk.lean`, `FilesParents.lean`, `FilesCli.lean`, `Cli.lean`):
  `PlainDir fs d` (an existing directory reached without symlinks), `LayerFile fs d layer e c`
  (layer `layer` is provided by exactly the file `layer.e` of `d`, with content `c`),
  `globName fs cfg path n` (the files one `$parent` name stands for: the rooted glob
  `fs.globFiles cfg.root …`), `fs.findRooted root dir layer` (the rooted `findFile` of
  `fileParents`: the first supported extension `e` with
  `fs.rootExists root (relTo root (dir ++ [layer.e]))`), `fromName fs cfg p` (the filename rule),
  `cliMerge` / `cliStep` (the input loop of cmd/bkl), `aloneDocs` (what `-P` merges).
  Chains of arbitrary depth and missing layers are in Lemmas/FilesChain.lean, `$parent`-linked chains in Lemmas/C03Chain.lean, the
  symbolic-link budget in Lemmas/C03Links.lean (`C03_symlink_limit_ok` and `C03_symlink_limit_exceeded_chain` stand there);
  `C03_cycle_is_error` and `C03_parent_list_depth_first` stand in Lemmas/FilesLoad.lean next to `loadFileAndParents` along a chain.
-/
import BklProofs.Lemmas.C03Chain
import BklProofs.Lemmas.C03Links
import BklProofs.Lemmas.FilesCli
namespace Bkl

/-! ## the filename rule -/

/-- Without a `$parent` directive and without symlinks the parents of `p` come from its base
    name split on ".": fewer than two parts is an error, two parts (`a.yaml`) mean no parent,
    otherwise the parent is the file found for the layer "base name minus its last two parts";
    a layer that no file provides is an error (never silently skipped). -/
theorem C03_filename_parent (fs : FS) (cfg : RootCfg) (p : Comps) (docs : List Val)
    (hdocs : ∀ d ∈ docs, parentDirective d = .ok .absent)
    (hlink : fs.evalSymlinks p = some p) :
    let parts := (baseOf p).splitOn "."
    let layer := ".".intercalate (parts.take (parts.length - 2))
    (parts.length < 2 → fileParents fs cfg p docs = .error .invalidFilename) ∧
    (parts.length = 2 → fileParents fs cfg p docs = .ok []) ∧
    (3 ≤ parts.length →
      (∀ f, fs.findRooted cfg.root (dirOf p) layer = some f → fileParents fs cfg p docs = .ok [f]) ∧
      (fs.findRooted cfg.root (dirOf p) layer = none →
        fileParents fs cfg p docs = .error .missingFile)) := by
  intro parts layer
  rw [fileParents_no_directive fs cfg p docs hdocs, hlink]
  simp only [fromName]
  refine ⟨?_, ?_, ?_⟩
  · intro h
    rw [if_pos h]
  · intro h
    have h1 : ¬ parts.length < 2 := by omega
    rw [if_neg h1]
    simp [parts, h]
  · intro h
    have h1 : ¬ parts.length < 2 := by omega
    have h2 : (parts.length == 2) = false := by
      simp only [beq_eq_false_iff_ne]; omega
    rw [if_neg h1]
    simp only [parts] at h2
    simp only [h2, Bool.false_eq_true, if_false]
    refine ⟨?_, ?_⟩
    · intro f hf
      simp only [layer, parts] at hf
      rw [hf]
    · intro hf
      simp only [layer, parts] at hf
      rw [hf]

/-- non-vacuity: `/w/a.b.json` in the sample file system -/
example : (∀ d ∈ [Val.map [("y", .int 2)]], parentDirective d = .ok .absent) ∧
    chainFS.evalSymlinks ["w", "a.b.json"] = some ["w", "a.b.json"] := by
  refine ⟨fun d hd => ?_, by decide⟩
  rw [List.mem_singleton.1 hd]
  rfl

/-- What a candidate returned by the rooted `findFile` (`FS.findRooted`, the probe `fileParents`
    uses) is: `layer.e` for a supported `e` that the rooted `Parser.stat` does not report
    missing beneath the root. -/
theorem C03_findFile_spec (fs : FS) (root dir : Comps) (layer : String) (f : Comps)
    (h : fs.findRooted root dir layer = some f) :
    ∃ e, e ∈ supportedExts ∧ f = dir ++ [layer ++ "." ++ e] ∧
      fs.rootExists root (relTo root f) = true :=
  find?_ext_some h

example : chainFS.findRooted [] ["w"] "a.b" = some ["w", "a.b.json"] := by
  decide

/-- Concrete names: `a.b.c.yaml → a.b`, `a.b.yaml → a`, `a.yaml` has two parts (no parent),
    `Makefile` has one (invalid). -/
theorem C03_filename_layers :
    (let parts := "a.b.c.yaml".splitOn "."
     ".".intercalate (parts.take (parts.length - 2)) = "a.b") ∧
    (let parts := "a.b.yaml".splitOn "."
     ".".intercalate (parts.take (parts.length - 2)) = "a") ∧
    ("a.yaml".splitOn ".").length = 2 ∧ ("Makefile".splitOn ".").length = 1 := by
  simp only [splitOn_dot]
  decide +kernel

/-- The same for any supported extension `e` (symbolic): the parents of `d/a.b.c.e`, `d/a.b.e`
    and `d/a.e`, given by the file found for the layer. -/
theorem C03_filename_parent_ext (fs : FS) (cfg : RootCfg) (d : Comps) (e : String)
    (he : e ∈ supportedExts) :
    fromName fs cfg (d ++ ["a.b.c" ++ "." ++ e]) =
      (match fs.findRooted cfg.root d "a.b" with
        | some f => .ok [f] | none => .error .missingFile) ∧
    fromName fs cfg (d ++ ["a.b" ++ "." ++ e]) =
      (match fs.findRooted cfg.root d "a" with
        | some f => .ok [f] | none => .error .missingFile) ∧
    fromName fs cfg (d ++ ["a" ++ "." ++ e]) = .ok [] := by
  have hd := supportedExt_noDot e he
  refine ⟨?_, ?_, ?_⟩
  · rw [fromName_snoc fs cfg d _ e hd, parts_abc]
    have : ".".intercalate (["a", "b", "c"] : List String).dropLast = "a.b" := by decide
    rw [this]; rfl
  · rw [fromName_snoc fs cfg d _ e hd, parts_ab]
    have : ".".intercalate (["a", "b"] : List String).dropLast = "a" := by decide
    rw [this]; rfl
  · rw [fromName_snoc fs cfg d _ e hd, splitOn_a]; rfl

example : "toml" ∈ supportedExts := by decide

/-- a missing layer is an error: `/w/orphan.x.yaml` has no `orphan.*` -/
example : fileParents chainFS ⟨[], []⟩ ["w", "orphan.x.yaml"] [.map []] = .error .missingFile := by
  have h3 := C03_filename_parent chainFS ⟨[], []⟩ ["w", "orphan.x.yaml"] [.map []]
    (fun d hd => by rw [List.mem_singleton.1 hd]; rfl) (by decide +kernel)
  simp only [] at h3
  have hparts : (baseOf ["w", "orphan.x.yaml"]).splitOn "." = ["orphan", "x", "yaml"] := by
    rw [splitOn_dot]; decide +kernel
  rw [hparts] at h3
  exact (h3.2.2 (by decide)).2 (by decide +kernel)

/-! ## base first -/

/-- Depth 3, symbolic extensions and documents: if the layers `a`, `a.b`, `a.b.c` of a
    link-free directory `d` are provided by exactly one file each (`a.e₁`, `a.b.e₂`, `a.b.c.e₃`,
    any supported extensions), each holding one document without `$parent`, then loading
    `d/a.b.c.e₃` (no root restriction) returns the three files **base first**
    `[a.e₁, a.b.e₂, a.b.c.e₃]`, each document pointing at the document of the next lower layer. -/
theorem C03_chain_order (fs : FS) (d cwd : Comps) (e₁ e₂ e₃ : String) (v₁ v₂ v₃ : Val)
    (hd : PlainDir fs d)
    (h₁ : LayerFile fs d "a" e₁ (.ok [v₁])) (h₂ : LayerFile fs d "a.b" e₂ (.ok [v₂]))
    (h₃ : LayerFile fs d "a.b.c" e₃ (.ok [v₃]))
    (a₁ : parentDirective v₁ = .ok .absent) (a₂ : parentDirective v₂ = .ok .absent)
    (a₃ : parentDirective v₃ = .ok .absent) :
    let p₁ := d ++ ["a" ++ "." ++ e₁]
    let p₂ := d ++ ["a.b" ++ "." ++ e₂]
    let p₃ := d ++ ["a.b.c" ++ "." ++ e₃]
    let id₃ := pathStr p₃
    let id₂ := id₃ ++ "|" ++ pathStr p₂
    let id₁ := id₂ ++ "|" ++ pathStr p₁
    loadFileAndParents fs ⟨[], cwd⟩ loadFuel p₃ none [] [] =
      .ok ([{ id := id₁, path := p₁, docs := [oneDoc id₁ [] v₁] },
            { id := id₂, path := p₂, docs := [oneDoc id₂ [id₁ ++ "|doc" ++ toString 0] v₂] },
            { id := id₃, path := p₃, docs := [oneDoc id₃ [id₂ ++ "|doc" ++ toString 0] v₃] }],
           [id₃ ++ "|doc" ++ toString 0]) :=
  lfp_clChain (cwd := cwd) hd ⟨"c", e₃, [v₃]⟩ [⟨"b", e₂, [v₂]⟩, ⟨"a", e₁, [v₁]⟩]
    (show ∀ n ∈ ["a", "b", "c"], PlainName n by decide)
    ⟨h₃, List.forall_mem_singleton.2 a₃, h₂, List.forall_mem_singleton.2 a₂, h₁, List.forall_mem_singleton.2 a₁, trivial⟩ 61 none [] []
    (fun _ _ => rfl)

/-- Depth 2. -/
theorem C03_chain_order_2 (fs : FS) (d cwd : Comps) (e₁ e₂ : String) (v₁ v₂ : Val)
    (hd : PlainDir fs d)
    (h₁ : LayerFile fs d "a" e₁ (.ok [v₁])) (h₂ : LayerFile fs d "a.b" e₂ (.ok [v₂]))
    (a₁ : parentDirective v₁ = .ok .absent) (a₂ : parentDirective v₂ = .ok .absent) :
    let p₁ := d ++ ["a" ++ "." ++ e₁]
    let p₂ := d ++ ["a.b" ++ "." ++ e₂]
    let id₂ := pathStr p₂
    let id₁ := id₂ ++ "|" ++ pathStr p₁
    loadFileAndParents fs ⟨[], cwd⟩ loadFuel p₂ none [] [] =
      .ok ([{ id := id₁, path := p₁, docs := [oneDoc id₁ [] v₁] },
            { id := id₂, path := p₂, docs := [oneDoc id₂ [id₁ ++ "|doc" ++ toString 0] v₂] }],
           [id₂ ++ "|doc" ++ toString 0]) :=
  lfp_clChain (cwd := cwd) hd ⟨"b", e₂, [v₂]⟩ [⟨"a", e₁, [v₁]⟩]
    (show ∀ n ∈ ["a", "b"], PlainName n by decide)
    ⟨h₂, List.forall_mem_singleton.2 a₂, h₁, List.forall_mem_singleton.2 a₁, trivial⟩ 62 none [] [] (fun _ _ => rfl)

/-- Hence the merge order: layering `d/a.b.c.e₃` onto a parser state merges the three documents
    base first. -/
theorem C03_chain_merge (fs : FS) (d cwd : Comps) (e₁ e₂ e₃ : String) (v₁ v₂ v₃ : Val)
    (hd : PlainDir fs d)
    (h₁ : LayerFile fs d "a" e₁ (.ok [v₁])) (h₂ : LayerFile fs d "a.b" e₂ (.ok [v₂]))
    (h₃ : LayerFile fs d "a.b.c" e₃ (.ok [v₃]))
    (a₁ : parentDirective v₁ = .ok .absent) (a₂ : parentDirective v₂ = .ok .absent)
    (a₃ : parentDirective v₃ = .ok .absent) (st : PState) :
    let p₁ := d ++ ["a" ++ "." ++ e₁]
    let p₂ := d ++ ["a.b" ++ "." ++ e₂]
    let p₃ := d ++ ["a.b.c" ++ "." ++ e₃]
    let id₃ := pathStr p₃
    let id₂ := id₃ ++ "|" ++ pathStr p₂
    let id₁ := id₂ ++ "|" ++ pathStr p₁
    mergeFileLayers fs ⟨[], cwd⟩ st p₃ =
      runMerges st [oneDoc id₁ [] v₁, oneDoc id₂ [id₁ ++ "|doc" ++ toString 0] v₂,
        oneDoc id₃ [id₂ ++ "|doc" ++ toString 0] v₃] := by
  intro p₁ p₂ p₃ id₃ id₂ id₁
  exact mergeFileLayers_of_load (C03_chain_order fs d cwd e₁ e₂ e₃ v₁ v₂ v₃ hd h₁ h₂ h₃ a₁ a₂ a₃) st

/-- Corollary: the order of the loaded paths. -/
theorem C03_chain_paths (fs : FS) (d cwd : Comps) (e₁ e₂ e₃ : String) (v₁ v₂ v₃ : Val)
    (hd : PlainDir fs d)
    (h₁ : LayerFile fs d "a" e₁ (.ok [v₁])) (h₂ : LayerFile fs d "a.b" e₂ (.ok [v₂]))
    (h₃ : LayerFile fs d "a.b.c" e₃ (.ok [v₃]))
    (a₁ : parentDirective v₁ = .ok .absent) (a₂ : parentDirective v₂ = .ok .absent)
    (a₃ : parentDirective v₃ = .ok .absent) :
    ∃ files ids, loadFileAndParents fs ⟨[], cwd⟩ loadFuel (d ++ ["a.b.c" ++ "." ++ e₃]) none [] [] =
        .ok (files, ids) ∧
      files.map (·.path) = [d ++ ["a" ++ "." ++ e₁], d ++ ["a.b" ++ "." ++ e₂], d ++ ["a.b.c" ++ "." ++ e₃]] ∧
      files.map (fun f => f.docs.map (·.data)) = [[v₁], [v₂], [v₃]] :=
  ⟨_, _, C03_chain_order fs d cwd e₁ e₂ e₃ v₁ v₂ v₃ hd h₁ h₂ h₃ a₁ a₂ a₃, rfl, rfl⟩

/-- non-vacuity: /w/a.yaml, /w/a.b.json, /w/a.b.c.toml (mixed formats) -/
example : PlainDir chainFS ["w"] ∧
    LayerFile chainFS ["w"] "a" "yaml" (.ok [.map [("x", .int 1)]]) ∧
    LayerFile chainFS ["w"] "a.b" "json" (.ok [.map [("y", .int 2)]]) ∧
    LayerFile chainFS ["w"] "a.b.c" "toml" (.ok [.map [("z", .int 3)]]) ∧
    parentDirective (.map [("x", .int 1)]) = .ok .absent ∧
    parentDirective (.map [("y", .int 2)]) = .ok .absent ∧
    parentDirective (.map [("z", .int 3)]) = .ok .absent :=
  ⟨chainFS_plain, chainFS_a, chainFS_ab, chainFS_abc, rfl, rfl, rfl⟩

/-! ## `$parent` has priority -/

/-- If the documents carry `$parent` names (and no `$parent: false/null`), the parents are the
    glob matches of those names, relative to the file's directory, in order; a name matching
    nothing is an error.  Neither `evalSymlinks path` nor `findFile` occurs on the right-hand
    side: the symlink and filename rules are not consulted. -/
theorem C03_priority (fs : FS) (cfg : RootCfg) (path : Comps) (docs : List Val)
    (dirs : List ParentDir)
    (hd : docs.mapM parentDirective = .ok dirs) (hnp : hasNoParent dirs = false)
    (hn : parentNames dirs ≠ []) :
    fileParents fs cfg path docs =
      if (parentNames dirs).any (fun n => (globName fs cfg path n).isEmpty) then .error .missingFile
      else .ok ((parentNames dirs).flatMap (globName fs cfg path)) := by
  rw [fileParents_eq, hd]
  have : (parentNames dirs).isEmpty = false := by
    cases h : parentNames dirs with
    | nil => exact absurd h hn
    | cons a l => rfl
  simp only [hnp, this, Bool.false_eq_true, if_false, Bool.not_false, if_true]
  rw [globStep_foldlM]
  rfl

/-- One document with `$parent: "x"`: the glob of `x` next to the file. -/
theorem C03_priority_str (fs : FS) (cfg : RootCfg) (path : Comps) (kvs : Fields) (x : String)
    (h : fget kvs "$parent" = some (.str x)) :
    fileParents fs cfg path [.map kvs] =
      let target := cleanComps (dirOf path ++ splitPath x)
      let ms := fs.globFiles cfg.root target
      if ms.isEmpty then .error .missingFile else .ok ms := by
  have hd : [Val.map kvs].mapM parentDirective = .ok [.names [x]] := by
    rw [mapM_cons, mapM_nil, parentDirective_map, h]
  rw [C03_priority fs cfg path _ _ hd rfl (by simp [parentNames])]
  simp [parentNames, globName]

example : fget [("$parent", Val.str "a")] "$parent" = some (.str "a") := by decide

/-- non-vacuity of the general form -/
example : [Val.map [("$parent", .str "a")], .map [("x", .int 1)]].mapM parentDirective =
      .ok [.names ["a"], .absent] ∧
    hasNoParent [.names ["a"], .absent] = false ∧ parentNames [.names ["a"], .absent] ≠ [] := by
  refine ⟨?_, rfl, by simp [parentNames]⟩
  rw [mapM_cons, mapM_cons, mapM_nil]; rfl

/-- the self-parent file: `$parent: a` in `/a.yaml` resolves to `/a.yaml` itself -/
example : fileParents selfFS ⟨[], []⟩ ["a.yaml"] [.map [("$parent", .str "a")]] = .ok [["a.yaml"]] :=
  selfFS_parents

/-! ## stopping the chain -/

/-- `$parent: false` / `$parent: null` are "no parent"; `$parent: true` is invalid. -/
theorem C03_stop_directive (kvs : Fields) :
    (fget kvs "$parent" = some (.bool false) → parentDirective (.map kvs) = .ok .noParent) ∧
    (fget kvs "$parent" = some .null → parentDirective (.map kvs) = .ok .noParent) ∧
    (fget kvs "$parent" = some (.bool true) → parentDirective (.map kvs) = .error .invalidParent) := by
  refine ⟨?_, ?_, ?_⟩ <;> intro h <;> rw [parentDirective_map, h] <;> rfl

/-- With a "no parent" directive (and no name directive) the file has no parents, whatever its
    name or symlink says; together with a name directive it is a conflict; an invalid directive
    anywhere is `invalidParent`. -/
theorem C03_stop (fs : FS) (cfg : RootCfg) (path : Comps) (docs : List Val) :
    (∀ dirs, docs.mapM parentDirective = .ok dirs → hasNoParent dirs = true →
      parentNames dirs = [] → fileParents fs cfg path docs = .ok []) ∧
    (∀ dirs, docs.mapM parentDirective = .ok dirs → hasNoParent dirs = true →
      parentNames dirs ≠ [] → fileParents fs cfg path docs = .error .conflictingParent) ∧
    (∀ d e, d ∈ docs → parentDirective d = .error e →
      fileParents fs cfg path docs = .error .invalidParent) := by
  refine ⟨?_, ?_, ?_⟩
  · intro dirs hd hnp hn
    rw [fileParents_eq, hd]
    simp [hnp, hn]
  · intro dirs hd hnp hn
    rw [fileParents_eq, hd]
    have : (parentNames dirs).isEmpty = false := by
      cases h : parentNames dirs with
      | nil => exact absurd h hn
      | cons a l => rfl
    simp [hnp, this]
  · intro d e hmem he
    obtain ⟨e', he'⟩ := mapM_error_of_mem parentDirective docs hmem he
    have : e' = .invalidParent := by
      obtain ⟨l1, a, l2, _, _, ha⟩ := (mapM_eq_error_iff _ _ _).1 he'
      exact parentDirective_error a e' ha
    subst this
    rw [fileParents_eq, he']

example : [Val.map [("$parent", .bool false)]].mapM parentDirective = .ok [.noParent] ∧
    hasNoParent [.noParent] = true ∧ parentNames [.noParent] = [] := by
  refine ⟨?_, rfl, rfl⟩
  rw [mapM_cons, mapM_nil]; rfl

example : [Val.map [("$parent", .bool false)], .map [("$parent", .str "a")]].mapM parentDirective =
      .ok [.noParent, .names ["a"]] ∧
    hasNoParent [.noParent, .names ["a"]] = true ∧ parentNames [.noParent, .names ["a"]] ≠ [] := by
  refine ⟨?_, rfl, by simp [parentNames]⟩
  rw [mapM_cons, mapM_cons, mapM_nil]; rfl

example : Val.map [("$parent", .bool true)] ∈ [Val.map [("x", .int 1)], .map [("$parent", .bool true)]] ∧
    parentDirective (.map [("$parent", .bool true)]) = .error .invalidParent :=
  ⟨by simp, rfl⟩

/-- single-document instances -/
theorem C03_stop_single (fs : FS) (cfg : RootCfg) (path : Comps) (kvs : Fields) :
    (fget kvs "$parent" = some (.bool false) → fileParents fs cfg path [.map kvs] = .ok []) ∧
    (fget kvs "$parent" = some .null → fileParents fs cfg path [.map kvs] = .ok []) ∧
    (fget kvs "$parent" = some (.bool true) →
      fileParents fs cfg path [.map kvs] = .error .invalidParent) ∧
    (∀ kvs' x, fget kvs "$parent" = some (.bool false) → fget kvs' "$parent" = some (.str x) →
      fileParents fs cfg path [.map kvs, .map kvs'] = .error .conflictingParent) := by
  have hs := C03_stop_directive kvs
  refine ⟨?_, ?_, ?_, ?_⟩
  · intro h
    have hd : [Val.map kvs].mapM parentDirective = .ok [.noParent] := by
      rw [mapM_cons, mapM_nil, hs.1 h]
    exact (C03_stop fs cfg path _).1 _ hd rfl rfl
  · intro h
    have hd : [Val.map kvs].mapM parentDirective = .ok [.noParent] := by
      rw [mapM_cons, mapM_nil, hs.2.1 h]
    exact (C03_stop fs cfg path _).1 _ hd rfl rfl
  · intro h
    exact (C03_stop fs cfg path _).2.2 _ _ List.mem_cons_self (hs.2.2 h)
  · intro kvs' x h h'
    have hd : [Val.map kvs, Val.map kvs'].mapM parentDirective = .ok [.noParent, .names [x]] := by
      rw [mapM_cons, mapM_cons, mapM_nil, hs.1 h, parentDirective_map kvs', h']
    exact (C03_stop fs cfg path _).2.1 _ hd rfl (by simp [parentNames])

example : fget [("$parent", Val.bool false), ("x", .int 1)] "$parent" = some (.bool false) ∧
    fget [("$parent", Val.null)] "$parent" = some .null ∧
    fget [("$parent", Val.bool true)] "$parent" = some (.bool true) := by decide

/-! ## wildcards do not cross dots -/

/-- Everything `globFiles root target` returns lies beneath the root and has, relative to the
    root, the shape of the pattern `target.*`: as many components, exactly as many dots in
    total as the pattern (so no `*` ever matched across a dot), a supported extension, and a
    base name that matches `base.*`.  When the directory part of the pattern holds no wildcard
    the match is `dir/n` in the target's own directory, with exactly the pattern's number of
    dots in `n`. -/
theorem C03_wildcard_no_dot (fs : FS) (root target : Comps) :
    ∀ f ∈ fs.globFiles root target,
      let pat := relTo root (dirOf target ++ [baseOf target ++ ".*"])
      root <+: f ∧
      ((relTo root f).map countDots).sum = (pat.map countDots).sum ∧
      (relTo root f).length = pat.length ∧
      supportedExts.contains (extOf (baseOf f)) = true ∧
      globMatch (baseOf target ++ ".*").toList (baseOf f).toList
        ((baseOf target ++ ".*").length + (baseOf f).length + 1) = true ∧
      ((dirOf pat).any hasMeta = false →
        dirOf f = dirOf target ∧ countDots (baseOf f) = countDots (baseOf target ++ ".*")) := by
  intro f hf
  obtain ⟨dpat, m, n, hpat, hroot, rfl, hlen, hnm, _, hmatch, hsum, hext⟩ := mem_globFiles_spec hf
  simp only []
  rw [hpat, baseOf_snoc, List.append_assoc, relTo_append, dirOf_snoc]
  refine ⟨List.prefix_append _ _, hsum, by simp [hlen], hext, hmatch, ?_⟩
  intro hm
  have := hnm hm
  subst this
  rw [← List.append_assoc, dirOf_snoc]
  refine ⟨hroot, ?_⟩
  simp only [List.map_append, List.sum_append, List.map_cons, List.map_nil, List.sum_cons,
    List.sum_nil, Nat.add_zero] at hsum
  omega

example : ["a.yaml"] ∈ selfFS.globFiles [] ([] ++ ["a"]) := by
  have h : selfFS.globFiles [] ([] ++ ["a"]) = [["a.yaml"]] :=
    globFiles_short (root := []) (d := []) (real := []) (by decide) (by decide) (by decide)
      (by decide) selfFS_glob (Nat.le_refl 1)
  rw [h]
  exact List.mem_cons_self

/-! ## inputs left to right, `-P` -/

/-- `cliRun` is: set the root, run the input loop `cliMerge` from the empty parser state, then
    output. -/
theorem C03_cliRun_is_loop (fs : FS) (cwd : Comps) (env : Vars) (opts : CliOpts) :
    cliRun fs cwd env opts =
      match cliCfg fs cwd opts with
      | .error e => .error e
      | .ok cfg =>
        match cliMerge fs cwd cfg opts.skipParent (PState.empty, none) opts.inputs with
        | .error e => .error e
        | .ok acc => cliOutput env opts acc :=
  cliRun_eq fs cwd env opts

/-- Two inputs: the second is layered on the parser state the first produced; the output
    format defaults to the first input's. -/
theorem C03_inputs_left_to_right (fs : FS) (cwd : Comps) (cfg : RootCfg) (i₁ i₂ : String)
    (r₁ r₂ : Comps) (f₁ f₂ : String) (st₁ st₂ : PState)
    (h₁ : fileMatch fs cwd i₁ = .ok (r₁, f₁)) (h₂ : fileMatch fs cwd i₂ = .ok (r₂, f₂))
    (m₁ : mergeFileLayers fs cfg PState.empty r₁ = .ok st₁)
    (m₂ : mergeFileLayers fs cfg st₁ r₂ = .ok st₂) :
    cliMerge fs cwd cfg false (PState.empty, none) [i₁, i₂] = .ok (st₂, some f₁) := by
  simp [cliMerge, cliStep, h₁, h₂, m₁, m₂]

/-- non-vacuity: `bkl a.yaml a.json` in /w of the sample file system (both name `/w/a.yaml`) -/
example : fileMatch chainFS ["w"] "a.yaml" = .ok (["w", "a.yaml"], "yaml") ∧
    fileMatch chainFS ["w"] "a.json" = .ok (["w", "a.yaml"], "json") ∧
    mergeFileLayers chainFS ⟨[], ["w"]⟩ PState.empty ["w", "a.yaml"] =
      .ok ⟨[("/w/a.yaml|doc0", .map [("x", .int 1)])], [("/w/a.yaml|doc0", [])]⟩ ∧
    mergeFileLayers chainFS ⟨[], ["w"]⟩
        ⟨[("/w/a.yaml|doc0", .map [("x", .int 1)])], [("/w/a.yaml|doc0", [])]⟩ ["w", "a.yaml"] =
      .ok ⟨[("/w/a.yaml|doc0", .map [("x", .int 1)]), ("/w/a.yaml|doc0", .map [("x", .int 1)])],
        [("/w/a.yaml|doc0", [])]⟩ := by
  refine ⟨chainFS_match_a, chainFS_match_a_json, ?_, ?_⟩
  · rw [chainFS_layers_a]; rfl
  · rw [chainFS_layers_a]; rfl

/-- In general the loop is a left fold: running `l₁ ++ l₂` is running `l₁`, then `l₂` from
    the state reached. -/
theorem C03_inputs_append (fs : FS) (cwd : Comps) (cfg : RootCfg) (sp : Bool)
    (l₁ l₂ : List String) (acc : PState × Option String) :
    cliMerge fs cwd cfg sp acc (l₁ ++ l₂) =
      match cliMerge fs cwd cfg sp acc l₁ with
      | .error e => .error e
      | .ok acc' => cliMerge fs cwd cfg sp acc' l₂ :=
  cliMerge_append fs cwd cfg sp l₁ l₂ acc

/-- `-P`: every input is merged alone — its own documents only, `$parent` stripped, no parent
    links — so `fileParents` is never consulted: the result depends on the file system only
    through `loadFile` of that one path. -/
theorem C03_skip_parent (fs : FS) (cwd : Comps) (cfg : RootCfg) (st : PState) (p : Comps) :
    mergeFileAlone fs cfg st p =
      (match loadFile fs cfg p (pathStr p) with
        | .error e => .error e
        | .ok raw => runMerges st (aloneDocs p raw)) ∧
    (∀ raw, ∀ d ∈ aloneDocs p raw, d.parents = [] ∧ ∃ v ∈ raw, d.data = stripParent v) ∧
    (∀ fs', loadFile fs' cfg p (pathStr p) = loadFile fs cfg p (pathStr p) →
      mergeFileAlone fs' cfg st p = mergeFileAlone fs cfg st p) ∧
    (∀ (acc : PState × Option String) (inp : String) (real : Comps) (f : String),
      fileMatch fs cwd inp = .ok (real, f) →
      cliStep fs cwd cfg true acc inp =
        match mergeFileAlone fs cfg acc.1 real with
        | .error e => .error e
        | .ok st' => .ok (st', if acc.2.isNone then some f else acc.2)) := by
  refine ⟨mergeFileAlone_eq fs cfg st p, ?_, ?_, ?_⟩
  · intro raw d hd
    unfold aloneDocs at hd
    obtain ⟨⟨v, i⟩, hvi, rfl⟩ := List.mem_map.1 hd
    refine ⟨rfl, ?_⟩
    have : v ∈ raw.map stripParent := (List.mem_zipIdx hvi).2.2 ▸ List.getElem_mem _
    obtain ⟨w, hw, rfl⟩ := List.mem_map.1 this
    exact ⟨w, hw, rfl⟩
  · intro fs' h
    rw [mergeFileAlone_eq, mergeFileAlone_eq, h]
  · intro acc inp real f h
    unfold cliStep
    rw [h]
    simp only [if_true]
    cases mergeFileAlone fs cfg acc.1 real <;> rfl

example : fileMatch chainFS ["w"] "a.yaml" = .ok (["w", "a.yaml"], "yaml") :=
  chainFS_match_a

/-! ## renaming -/

/-- **Partial** (see `C03_rename_counterexample`): content-only dependence of the merge on the
    loaded files.  If `files₂` has the documents of `files₁` with every id (document ids and
    parent links) renamed by `ρ`, where `ρ` is injective on a set `S` of ids that contains all
    ids in use and is closed under — and commutes with — the `|matchnull` suffix the parser
    appends for `$match: null`, then merging `files₂` gives the renamed state of merging
    `files₁`: same success/error, same data in the same order.  (File ids and paths may differ
    arbitrarily.) -/
theorem C03_rename_partial (ρ : String → String) (S : String → Prop) (h : RenOK ρ S)
    (files₁ files₂ : List LFile)
    (hin : ∀ f ∈ files₁, ∀ d ∈ f.docs, DocIn S d)
    (hshape : files₂.map (·.docs) = files₁.map fun f => f.docs.map (renDoc ρ)) :
    mergeFiles PState.empty files₂ = rmap (renState ρ) (mergeFiles PState.empty files₁) ∧
    (∀ st₁, mergeFiles PState.empty files₁ = .ok st₁ →
      ∃ st₂, mergeFiles PState.empty files₂ = .ok st₂ ∧
        st₂.docs.map (·.2) = st₁.docs.map (·.2)) ∧
    (∀ st₂, mergeFiles PState.empty files₂ = .ok st₂ →
      ∃ st₁, mergeFiles PState.empty files₁ = .ok st₁ ∧
        st₂.docs.map (·.2) = st₁.docs.map (·.2)) ∧
    (∀ e, mergeFiles PState.empty files₁ = .error e ↔ mergeFiles PState.empty files₂ = .error e) := by
  have key := mergeFiles_ren h files₁ files₂ hin hshape
  refine ⟨key, ?_, ?_, ?_⟩
  · intro st₁ h1
    rw [h1] at key
    exact ⟨renState ρ st₁, key, renState_data st₁⟩
  · intro st₂ h2
    cases h1 : mergeFiles PState.empty files₁ with
    | error e => rw [h1, h2] at key; cases key
    | ok st₁ =>
      rw [h1, h2] at key
      cases key
      exact ⟨st₁, rfl, renState_data st₁⟩
  · intro e
    cases h1 : mergeFiles PState.empty files₁ with
    | error e' =>
      rw [h1] at key
      rw [key]
      constructor <;> intro h' <;> cases h' <;> rfl
    | ok st₁ =>
      rw [h1] at key
      rw [key]
      constructor <;> intro h' <;> cases h'

/-- Special case: prefixing every id with a fixed string. -/
theorem C03_rename_prefix (pre : String) (files₁ files₂ : List LFile)
    (hshape : files₂.map (·.docs) = files₁.map fun f => f.docs.map (renDoc (pre ++ ·))) :
    (∀ st₁, mergeFiles PState.empty files₁ = .ok st₁ →
      ∃ st₂, mergeFiles PState.empty files₂ = .ok st₂ ∧
        st₂.docs.map (·.2) = st₁.docs.map (·.2)) ∧
    (∀ st₂, mergeFiles PState.empty files₂ = .ok st₂ →
      ∃ st₁, mergeFiles PState.empty files₁ = .ok st₁ ∧
        st₂.docs.map (·.2) = st₁.docs.map (·.2)) ∧
    (∀ e, mergeFiles PState.empty files₁ = .error e ↔ mergeFiles PState.empty files₂ = .error e) :=
  (C03_rename_partial (pre ++ ·) (fun _ => True) (renOK_prefix pre) files₁ files₂
    (fun _ _ _ _ => ⟨trivial, fun _ _ => trivial⟩) hshape).2

/-- non-vacuity of the hypotheses of `C03_rename_partial` / `C03_rename_prefix` -/
example : RenOK (fun s => "x/" ++ s) (fun _ => True) ∧
    (cexA.map fun f => ({ f with docs := f.docs.map (renDoc ("x/" ++ ·)) } : LFile)).map (·.docs) =
      cexA.map fun f => f.docs.map (renDoc ("x/" ++ ·)) :=
  ⟨renOK_prefix "x/", rfl⟩

/-- The unrestricted statement ("any injective renaming of the ids") is FALSE for the model:
    `swapId` is a bijection on strings, `cexB` is `cexA` renamed by it, both merges succeed, and
    the data differ.  The reason is the id `patch.id ++ "|matchnull"` that `mergeDocument`
    invents for `$match: null`: in `cexA` it collides with the id of an existing document (so
    a later layer targets both), after the renaming it does not.  (Ids produced by
    `loadFileAndParents` end in `|doc<n>`, so real loads do not collide like this; the
    hypothesis of `C03_rename_partial` is what makes that precise.) -/
theorem C03_rename_counterexample :
    (∀ a b, swapId a = swapId b → a = b) ∧
    cexB.map (·.docs) = cexA.map (fun f => f.docs.map (renDoc swapId)) ∧
    (∃ st₁, mergeFiles PState.empty cexA = .ok st₁ ∧ st₁.docs.map (·.2) = [.int 5, .int 5]) ∧
    (∃ st₂, mergeFiles PState.empty cexB = .ok st₂ ∧ st₂.docs.map (·.2) = [.int 5, .map []]) :=
  ⟨swapId_injective, rfl, cexA_run, cexB_run⟩

/-! ## cycles -/

/-- non-vacuity of `C03_cycle_is_error` (Lemmas/FilesLoad.lean): a path that is on the chain of children -/
example : (["a.yaml"] : Comps) ∈ [["a.yaml"]] := List.mem_cons_self

/-- A file whose `$parent` names itself is rejected: `/a.yaml` containing `$parent: a`. -/
theorem C03_self_parent_rejected :
    loadFileAndParents selfFS ⟨[], []⟩ loadFuel ["a.yaml"] none [] [] = .error .circularRef ∧
    mergeFileLayers selfFS ⟨[], []⟩ PState.empty ["a.yaml"] = .error .circularRef := by
  refine ⟨selfFS_cycle, ?_⟩
  rw [mergeFileLayers_eq, selfFS_cycle]

/-! ## chains of arbitrary depth

  Notation (definitions in `BklProofs/Lemmas/FilesChain.lean`): a chain is a base-first list of
  `CLayer`s `⟨name, ext, docs⟩` (the layer's own name component `aₖ`, the extension of the one
  file that provides the layer, that file's documents); `layerName ns = ".".intercalate ns`;
  `prefixPath d pre (P ++ [x]) = d/<pre.P-names.x.name>.<x.ext>` (`prefixPath_snoc`);
  `PlainName c` (`Lemmas/FilesPath.lean`) = non-empty and without dots; `chainFiles d pre c R` is the explicit list of
  loaded files for the top-first chain `R` (child id `c`), `plainDocs` (`Lemmas/FilesLoad.lean`) its
  documents. -/

/-- **Partial** (`n ≤ loadFuel = 64`, see `C03_chain_order_n_false`): generalises
    `C03_chain_order` to a chain `a₁, a₁.a₂, …, a₁.….aₙ` (`L = P ++ [x]`, so `n ≥ 1`) of plain
    names in a link-free directory `d`, each layer provided by exactly one file (any supported
    extension, any number of documents, none with `$parent`).  Loading the top file returns
    exactly the `n` files **base first**: their paths are the files of `a₁`, `a₁.a₂`, … in this
    order, their documents are the layers' documents, the top file's id is its path, each lower
    file's id is the next upper file's id extended by `|<own path>`, the base documents have no
    parents and the documents of every other file point at exactly the documents of the file
    below; `mergeFileLayers` merges all documents in this order. -/
theorem C03_chain_order_n_partial (fs : FS) (d cwd : Comps) (P : List CLayer) (x : CLayer)
    (hd : PlainDir fs d) (hn : (P ++ [x]).length ≤ loadFuel)
    (hpl : ∀ y ∈ P ++ [x], PlainName y.name)
    (hok : ∀ P' y, P' ++ [y] <+: P ++ [x] →
      LayerFile fs d (layerName ([] ++ (P' ++ [y]).map (·.name))) y.ext (.ok y.docs) ∧
        ∀ v ∈ y.docs, parentDirective v = .ok .absent) :
    let L := P ++ [x]
    ∃ files ids,
      loadFileAndParents fs ⟨[], cwd⟩ loadFuel (prefixPath d [] L) none [] [] = .ok (files, ids) ∧
      files = chainFiles d [] none L.reverse ∧
      files.map (·.path) = (List.range L.length).map (fun k => prefixPath d [] (L.take (k + 1))) ∧
      files.map (fun f => f.docs.map (·.data)) = L.map (·.docs) ∧
      files.getLast?.map (·.id) = some (pathStr (prefixPath d [] L)) ∧
      (∀ k f g, files[k]? = some f → files[k + 1]? = some g →
        f.id = g.id ++ "|" ++ pathStr f.path ∧ ∀ dd ∈ g.docs, dd.parents = f.docs.map (·.id)) ∧
      (∀ f, files.head? = some f → ∀ dd ∈ f.docs, dd.parents = []) ∧
      (∀ st, mergeFileLayers fs ⟨[], cwd⟩ st (prefixPath d [] L) =
        runMerges st (files.flatMap (·.docs))) := by
  intro L
  have hload := load_chain (cwd := cwd) hd P x hn hpl hok
  refine ⟨_, _, hload, rfl, chainFiles_paths_rev d [] L none, chainFiles_data_rev d [] L none,
    ?_, chainFiles_eq d [] L.reverse none ▸ linkFiles_link _ none,
    chainFiles_eq d [] L.reverse none ▸ linkFiles_head_parents _ none, ?_⟩
  · have hr : L.reverse = x :: P.reverse := by simp [L]
    rw [chainFiles_eq, hr, clLinks, linkFiles_getLast]
    simp only [Option.map_some, fileIdOf, prefixPath, hr]
  · exact mergeFileLayers_of_load hload

/-- The unrestricted statement ("for every `n`") is FALSE for the model: `loadFileAndParents`
    carries the recursion fuel `loadFuel = 64` (Go's recursion is unbounded) and reports
    `circularRef` when it runs out.  `deepFS [] 65` holds `/w/a.yaml`, `/w/a.a.yaml`, … up to 65
    components; all hypotheses of `C03_chain_order_n_partial` except `n ≤ loadFuel` hold and
    loading the top file fails. -/
theorem C03_chain_order_n_false :
    ∃ (fs : FS) (d cwd : Comps) (P : List CLayer) (x : CLayer),
      PlainDir fs d ∧ (P ++ [x]).length = loadFuel + 1 ∧ (∀ y ∈ P ++ [x], PlainName y.name) ∧
      ChainFilesOK fs d [] (P ++ [x]) ∧
      loadFileAndParents fs ⟨[], cwd⟩ loadFuel (prefixPath d [] (P ++ [x])) none [] [] =
        .error .circularRef := by
  obtain ⟨hpl, hok⟩ := deepFS_chain [] 64
  exact ⟨deepFS [] 65, ["w"], [], List.replicate 64 deepLayer, deepLayer, deepFS_plain [] 65,
    deep_length 64, hpl, hok,
    load_chain_nofuel (deepFS_plain [] 65) _ _ (by rw [deep_length]; decide) (fun _ h => nomatch h)
      hpl hok⟩

/-- …and this is exactly the failing class: with more than `loadFuel` layers (and otherwise
    the hypotheses of `C03_chain_order_n_partial`) the model always answers `circularRef`. -/
theorem C03_chain_order_n_fuel (fs : FS) (d cwd : Comps) (P : List CLayer) (x : CLayer)
    (hd : PlainDir fs d) (hn : loadFuel < (P ++ [x]).length)
    (hpl : ∀ y ∈ P ++ [x], PlainName y.name)
    (hok : ∀ P' y, P' ++ [y] <+: P ++ [x] →
      LayerFile fs d (layerName ([] ++ (P' ++ [y]).map (·.name))) y.ext (.ok y.docs) ∧
        ∀ v ∈ y.docs, parentDirective v = .ok .absent) :
    loadFileAndParents fs ⟨[], cwd⟩ loadFuel (prefixPath d [] (P ++ [x])) none [] [] =
      .error .circularRef :=
  load_chain_nofuel hd P x hn (fun _ h => nomatch h) hpl hok
/-- non-vacuity: `/w/a.yaml`, `/w/a.b.json`, `/w/a.b.c.toml` as the chain `exChain`; the loaded
    paths come out base first -/
example :
    exChain = [⟨"a", "yaml", [.map [("x", .int 1)]]⟩, ⟨"b", "json", [.map [("y", .int 2)]]⟩] ++
      [⟨"c", "toml", [.map [("z", .int 3)]]⟩] ∧
    PlainDir chainFS ["w"] ∧ exChain.length ≤ loadFuel ∧ (∀ y ∈ exChain, PlainName y.name) ∧
    ChainFilesOK chainFS ["w"] [] exChain ∧
    (List.range exChain.length).map (fun k => prefixPath ["w"] [] (exChain.take (k + 1))) =
      [["w", "a.yaml"], ["w", "a.b.json"], ["w", "a.b.c.toml"]] :=
  ⟨rfl, chainFS_plain, by decide, exChain_plain, exChain_ok, by decide⟩

/-- non-vacuity beyond depth 3: a chain of ten layers `a`, `a.a`, …, in `deepFS [] 10` -/
example : PlainDir (deepFS [] 10) ["w"] ∧
    (List.replicate 9 deepLayer ++ [deepLayer]).length ≤ loadFuel ∧
    (∀ y ∈ List.replicate 9 deepLayer ++ [deepLayer], PlainName y.name) ∧
    ChainFilesOK (deepFS [] 10) ["w"] [] (List.replicate 9 deepLayer ++ [deepLayer]) := by
  exact ⟨deepFS_plain _ _, by rw [deep_length]; decide, deepFS_chain [] 9⟩

/-! ## a missing layer is an error -/

/-- **Partial** (at most `loadFuel = 64` layers above the missing one; see
    `C03_missing_layer_is_error_false`): in the chain `a₁, …, aₙ` let the middle layer
    `a₁.….aₖ` (`pre`, `1 ≤ k`) be provided by no file (the rooted `findFile` of `fileParents` finds none — `findRooted`, no root set: no supported
    extension exists — see the second example below for the `lstat` form), while the layers
    `k+1 … n` (`P ++ [x]`, so `k < n`) are provided as in `C03_chain_order_n_partial`.  Nothing is
    assumed about the layers below `k`.  Then loading the top file — and hence
    `mergeFileLayers` from any state — fails with `missingFile`. -/
theorem C03_missing_layer_is_error_partial (fs : FS) (d cwd : Comps) (pre : List String)
    (P : List CLayer) (x : CLayer)
    (hd : PlainDir fs d) (hn : (P ++ [x]).length ≤ loadFuel)
    (hne : pre ≠ []) (hpre : ∀ n ∈ pre, PlainName n) (hpl : ∀ y ∈ P ++ [x], PlainName y.name)
    (hok : ∀ P' y, P' ++ [y] <+: P ++ [x] →
      LayerFile fs d (layerName (pre ++ (P' ++ [y]).map (·.name))) y.ext (.ok y.docs) ∧
        ∀ v ∈ y.docs, parentDirective v = .ok .absent)
    (hmiss : fs.findRooted [] d (layerName pre) = none) :
    loadFileAndParents fs ⟨[], cwd⟩ loadFuel (prefixPath d pre (P ++ [x])) none [] [] =
      .error .missingFile ∧
    ∀ st, mergeFileLayers fs ⟨[], cwd⟩ st (prefixPath d pre (P ++ [x])) = .error .missingFile := by
  have h := load_chain_missing (cwd := cwd) hd P x hn hne hpre hpl hok hmiss
  refine ⟨h, ?_⟩
  intro st
  rw [mergeFileLayers_eq, h]

/-- For **every** `n` the load never succeeds: the result is `missingFile`, or — when more than
    `loadFuel` layers lie above the missing one — the model's `circularRef`. -/
theorem C03_missing_layer_never_ok (fs : FS) (d cwd : Comps) (pre : List String)
    (P : List CLayer) (x : CLayer) (hd : PlainDir fs d)
    (hne : pre ≠ []) (hpre : ∀ n ∈ pre, PlainName n) (hpl : ∀ y ∈ P ++ [x], PlainName y.name)
    (hok : ∀ P' y, P' ++ [y] <+: P ++ [x] →
      LayerFile fs d (layerName (pre ++ (P' ++ [y]).map (·.name))) y.ext (.ok y.docs) ∧
        ∀ v ∈ y.docs, parentDirective v = .ok .absent)
    (hmiss : fs.findRooted [] d (layerName pre) = none) :
    loadFileAndParents fs ⟨[], cwd⟩ loadFuel (prefixPath d pre (P ++ [x])) none [] [] =
      .error (if (P ++ [x]).length ≤ loadFuel then .missingFile else .circularRef) ∧
    (∀ st st', mergeFileLayers fs ⟨[], cwd⟩ st (prefixPath d pre (P ++ [x])) ≠ .ok st') := by
  have key : loadFileAndParents fs ⟨[], cwd⟩ loadFuel (prefixPath d pre (P ++ [x])) none [] [] =
      .error (if (P ++ [x]).length ≤ loadFuel then .missingFile else .circularRef) := by
    by_cases hn : (P ++ [x]).length ≤ loadFuel
    · rw [if_pos hn]
      exact load_chain_missing hd P x hn hne hpre hpl hok hmiss
    · rw [if_neg hn]
      exact load_chain_nofuel hd P x (by omega) hpre hpl hok
  refine ⟨key, ?_⟩
  intro st st' h
  rw [mergeFileLayers_eq, key] at h
  cases h

/-- "fails with `missingFile` for every `n`" is FALSE for the model: in `deepFS ["z"] 65`
    (`/w/z.a.yaml`, `/w/z.a.a.yaml`, … 65 files; no `/w/z.*`) the layer `z` is missing under every
    extension, 65 > `loadFuel` layers lie above it, and the error is `circularRef`. -/
theorem C03_missing_layer_is_error_false :
    ∃ (fs : FS) (d cwd : Comps) (pre : List String) (P : List CLayer) (x : CLayer),
      PlainDir fs d ∧ pre ≠ [] ∧ (∀ n ∈ pre, PlainName n) ∧ (∀ y ∈ P ++ [x], PlainName y.name) ∧
      ChainFilesOK fs d pre (P ++ [x]) ∧
      (∀ e ∈ supportedExts, fs.lstat (d ++ [layerName pre ++ "." ++ e]) = none) ∧
      fs.findRooted [] d (layerName pre) = none ∧
      loadFileAndParents fs ⟨[], cwd⟩ loadFuel (prefixPath d pre (P ++ [x])) none [] [] =
        .error .circularRef := by
  obtain ⟨hpl, hok⟩ := deepFS_chain ["z"] 64
  have hpre : ∀ n ∈ ["z"], PlainName n := fun n hn => by
    rw [List.mem_singleton.1 hn]; exact ⟨by decide, by decide⟩
  have hm := deepFS_missing ["z"] 65 (by simp) hpre
  exact ⟨deepFS ["z"] 65, ["w"], [], ["z"], List.replicate 64 deepLayer, deepLayer,
    deepFS_plain ["z"] 65, by simp, hpre, hpl, hok, hm,
    findRooted_none_of_missing (deepFS_plain ["z"] 65) (by decide) hm,
    load_chain_nofuel (deepFS_plain ["z"] 65) _ _ (by rw [deep_length]; decide) hpre hpl hok⟩

/-- non-vacuity of `C03_missing_layer_is_error_partial`: ten layers `z.a`, …, `z.a.….a` above the
    missing layer `z` (and `findRooted` is `none` because no `z.<ext>` exists) -/
example : PlainDir (deepFS ["z"] 10) ["w"] ∧
    (List.replicate 9 deepLayer ++ [deepLayer]).length ≤ loadFuel ∧
    (∀ y ∈ List.replicate 9 deepLayer ++ [deepLayer], PlainName y.name) ∧
    ChainFilesOK (deepFS ["z"] 10) ["w"] ["z"] (List.replicate 9 deepLayer ++ [deepLayer]) ∧
    (deepFS ["z"] 10).findRooted [] ["w"] (layerName ["z"]) = none := by
  have hpre : ∀ n ∈ ["z"], PlainName n := fun n hn => by
    rw [List.mem_singleton.1 hn]; exact ⟨by decide, by decide⟩
  exact ⟨deepFS_plain _ _, by rw [deep_length]; decide, (deepFS_chain ["z"] 9).1,
    (deepFS_chain ["z"] 9).2,
    findRooted_none_of_missing (deepFS_plain ["z"] 10) (by decide)
      (deepFS_missing ["z"] 10 (by simp) hpre)⟩

/-- the `lstat` form of "no file under any supported extension" implies the `findRooted` form -/
example (fs : FS) (d : Comps) (pre : List String) (hd : PlainDir fs d) (hne : pre ≠ [])
    (hpre : ∀ n ∈ pre, PlainName n)
    (h : ∀ e ∈ supportedExts, fs.lstat (d ++ [layerName pre ++ "." ++ e]) = none) :
    fs.findRooted [] d (layerName pre) = none :=
  findRooted_none_of_missing hd (layer_length_pos _ hne (fun n hn => (hpre n hn).1)) h

/-- non-vacuity on the sample file system: `/w/orphan.x.yaml` exists, no `/w/orphan.*` does -/
example : mergeFileLayers chainFS ⟨[], []⟩ PState.empty (prefixPath ["w"] ["orphan"] ([] ++ [⟨"x", "yaml", [.map []]⟩])) =
    .error .missingFile := by
  have hpre : ∀ n ∈ ["orphan"], PlainName n := fun n hn => by
    rw [List.mem_singleton.1 hn]; exact ⟨by decide, by decide⟩
  have hx : LayerFile chainFS ["w"] (layerName (["orphan"] ++ (([] : List CLayer) ++ [CLayer.mk "x" "yaml" [.map []]]).map CLayer.name))
      "yaml" (.ok [.map []]) := by decide +kernel
  have hok := chainFilesOK_snoc (x := ⟨"x", "yaml", [.map []]⟩) (chainFilesOK_nil chainFS ["w"] ["orphan"]) hx
    (List.forall_mem_singleton.2 rfl)
  exact (C03_missing_layer_is_error_partial chainFS ["w"] [] ["orphan"] [] ⟨"x", "yaml", [.map []]⟩
    chainFS_plain (by decide) (by simp) hpre
    (fun y hy => by rw [List.mem_singleton.1 hy]; exact ⟨by decide, by decide⟩) hok
    (by decide +kernel)).2 _

/-! ## a `$parent` list with an entry that names nothing -/

/-- If any one of the names the `$parent` directives of a file contribute — at any position,
    next to any number of other names, whether or not those exist — stands for no file
    (`globName … = []`: it is not the name of an existing layer and not a wildcard matching
    something, see `C03_parent_entry_names_nothing_iff`), then the file's parents are a
    `missingFile` error, and so is loading the file (at any depth of a load) and layering it onto
    any parser state.  The dangling name is never skipped. -/
theorem C03_parent_missing_entry_is_error (fs : FS) (cfg : RootCfg) (path : Comps) (docs : List Val)
    (dirs : List ParentDir) (n : String)
    (hd : docs.mapM parentDirective = .ok dirs) (hnp : hasNoParent dirs = false)
    (hn : n ∈ parentNames dirs) (hg : globName fs cfg path n = []) :
    fileParents fs cfg path docs = .error .missingFile ∧
    (∀ fuel c ids chain, chain.contains path = false →
      loadFile fs cfg path (fileIdOf c path) = .ok docs →
      loadFileAndParents fs cfg (fuel + 1) path c ids chain = .error .missingFile) ∧
    (∀ st, loadFile fs cfg path (pathStr path) = .ok docs →
      mergeFileLayers fs cfg st path = .error .missingFile) := by
  have hp := fileParents_missing_entry fs cfg path docs dirs n hd hnp hn hg
  refine ⟨hp, ?_, ?_⟩
  · intro fuel c ids chain hc hl
    exact lfp_parents_error hc hl hp
  · intro st hl
    rw [mergeFileLayers_eq, loadFuel_succ,
      lfp_parents_error (c := []) (childId := none) (fuel := 63) (List.contains_nil) hl hp]

/-- The list form: one document whose `$parent` is a list of strings with the dangling name `n`
    anywhere in it. -/
theorem C03_parent_list_missing_entry (fs : FS) (cfg : RootCfg) (path : Comps) (kvs : Fields)
    (before after : List String) (n : String)
    (h : fget kvs "$parent" = some (.list ((before ++ n :: after).map Val.str)))
    (hg : globName fs cfg path n = []) :
    fileParents fs cfg path [.map kvs] = .error .missingFile ∧
    (∀ st, loadFile fs cfg path (pathStr path) = .ok [.map kvs] →
      mergeFileLayers fs cfg st path = .error .missingFile) := by
  have hd : [Val.map kvs].mapM parentDirective = .ok [.names (before ++ n :: after)] := by
    rw [mapM_cons, mapM_nil, parentDirective_map, h]
    simp only [toStringList_strs]
  have := C03_parent_missing_entry_is_error fs cfg path _ _ n hd rfl
    (by simp [parentNames]) hg
  exact ⟨this.1, this.2.2⟩

/-- What "`n` names nothing" means.  A pattern whose directory is not beneath the root names
    nothing.  Otherwise (the directory part, relative to the root, holding no wildcard) the
    pattern `n.*` selects no entry: the directory cannot be opened beneath the root
    (`rootOpenDir`: missing, not a directory, or the walk is refused), or none of its entries
    matches `n.*` with the same number of dots and a supported extension. -/
theorem C03_parent_entry_names_nothing_iff (fs : FS) (cfg : RootCfg) (path : Comps) (n : String) :
    let target := cleanComps (dirOf path ++ splitPath n)
    let rel := relTo cfg.root (dirOf target)
    (¬ cfg.root <+: dirOf target → globName fs cfg path n = []) ∧
    (cfg.root <+: dirOf target → rel.any hasMeta = false →
      (globName fs cfg path n = [] ↔
        (∀ rdir, fs.rootOpenDir cfg.root rel ≠ .ok rdir) ∨
        ∃ rdir, fs.rootOpenDir cfg.root rel = .ok rdir ∧
          ∀ e ∈ fs.entries, e.1 ≠ [] → e.1.dropLast = rdir →
            ¬ (globMatch (baseOf target ++ ".*").toList (baseOf e.1).toList
                  ((baseOf target ++ ".*").length + (baseOf e.1).length + 1) = true ∧
                countDots (baseOf e.1) = countDots (baseOf target ++ ".*") ∧
                supportedExts.contains (extOf (baseOf e.1)) = true))) := by
  intro target rel
  refine ⟨fun h => globFiles_outside fs cfg.root target h, ?_⟩
  intro hin hm
  unfold globName
  have hfull : cfg.root ++ rel = dirOf target := by
    obtain ⟨t, ht⟩ := hin
    simp only [rel]
    rw [← ht, relTo_append]
  have hplain : ∀ c ∈ rel, plainComp c = true := by
    intro c hc
    apply cleanComps_allPlain (dirOf path ++ splitPath n)
    apply List.dropLast_subset
    show c ∈ dirOf target
    rw [← hfull]
    exact List.mem_append_right _ hc
  rw [globFiles_congr_target fs cfg.root (t := cleanComps (dirOf path ++ splitPath n))
      (t' := cfg.root ++ rel ++ [baseOf target])
      (by rw [dirOf_snoc]; exact hfull.symm) (by rw [baseOf_snoc]),
    globFiles_eq_nil_iff fs cfg.root rel (baseOf target) hplain hm]
  constructor
  · rintro (h | ⟨r, hr, h⟩)
    · exact Or.inl h
    · exact Or.inr ⟨r, hr, (globNames_eq_nil_iff fs r _).1 h⟩
  · rintro (h | ⟨r, hr, h⟩)
    · exact Or.inl h
    · exact Or.inr ⟨r, hr, (globNames_eq_nil_iff fs r _).2 h⟩

/-- non-vacuity: the other entries exist, the middle one does not, the load fails -/
example :
    fget [("$parent", Val.list [.str "a", .str "nope", .str "a"]), ("y", .int 2)] "$parent" =
      some (.list ((["a"] ++ "nope" :: ["a"]).map Val.str)) ∧
    globName danglingFS ⟨[], []⟩ ["w", "top.yaml"] "a" = [["w", "a.yaml"]] ∧
    globName danglingFS ⟨[], []⟩ ["w", "top.yaml"] "nope" = [] ∧
    loadFile danglingFS ⟨[], []⟩ ["w", "top.yaml"] (pathStr ["w", "top.yaml"]) =
      .ok [.map [("$parent", .list [.str "a", .str "nope", .str "a"]), ("y", .int 2)]] ∧
    mergeFileLayers danglingFS ⟨[], []⟩ PState.empty ["w", "top.yaml"] = .error .missingFile := by
  have hl : loadFile danglingFS ⟨[], []⟩ ["w", "top.yaml"] (pathStr ["w", "top.yaml"]) =
      .ok [.map [("$parent", .list [.str "a", .str "nope", .str "a"]), ("y", .int 2)]] := by
    rw [show (["w", "top.yaml"] : Comps) = ["w"] ++ ["top" ++ "." ++ "yaml"] by decide +kernel]
    exact loadFile_layerFile danglingFS_plain (by decide) (by decide +kernel) [] _
  refine ⟨by decide +kernel, danglingFS_glob_a, danglingFS_glob_nope, hl, ?_⟩
  exact (C03_parent_list_missing_entry danglingFS ⟨[], []⟩ ["w", "top.yaml"] _ ["a"] ["a"] "nope"
    (by decide +kernel) danglingFS_glob_nope).2 _ hl

/-! ## filenames and `$parent` are interchangeable -/

/-- Three layers.  The filename chain `d/a.e₁`, `d/a.b.e₂`, `d/a.b.c.e₃` and, anywhere else
    (`d'`), three files `x.f₁`, `y.f₂`, `z.f₃` with unrelated names (`x` plain; `y`, `z`
    arbitrary, even dotted) holding the same documents, where `y` says `$parent: n₁` and `z` says
    `$parent: n₂` with `n₁` standing for exactly `x.f₁` and `n₂` for exactly `y.f₂`
    (`globName … = […]`).  The filename files hold the documents as the loader sees them after
    stripping `$parent`.  Then both loads succeed with three files holding the same document
    contents in the same base-first order, so `mergeFileLayers` (from the empty state) gives the
    same result up to an admissible renaming of document ids (`RenOK`, the id-independence of
    `C03_rename_partial`): same success/error, same documents in the same order, and the same
    `outputDocuments` for every environment. -/
theorem C03_directive_equiv (fs : FS) (d d' cwd : Comps) (e₁ e₂ e₃ x y z f₁ f₂ f₃ n₁ n₂ : String)
    (v₁ : Val) (k₂ k₃ : Fields)
    (hd : PlainDir fs d) (hd' : PlainDir fs d')
    (h₁ : LayerFile fs d "a" e₁ (.ok [v₁]))
    (h₂ : LayerFile fs d "a.b" e₂ (.ok [stripParent (.map k₂)]))
    (h₃ : LayerFile fs d "a.b.c" e₃ (.ok [stripParent (.map k₃)]))
    (a₁ : parentDirective v₁ = .ok .absent)
    (hx : 0 < x.length) (hxd : '.' ∉ x.toList) (hy : 0 < y.length) (hz : 0 < z.length)
    (g₁ : LayerFile fs d' x f₁ (.ok [v₁])) (g₂ : LayerFile fs d' y f₂ (.ok [.map k₂]))
    (g₃ : LayerFile fs d' z f₃ (.ok [.map k₃]))
    (p₂ : fget k₂ "$parent" = some (.str n₁)) (p₃ : fget k₃ "$parent" = some (.str n₂))
    (gl₂ : globName fs ⟨[], cwd⟩ (d' ++ [y ++ "." ++ f₂]) n₁ = [d' ++ [x ++ "." ++ f₁]])
    (gl₃ : globName fs ⟨[], cwd⟩ (d' ++ [z ++ "." ++ f₃]) n₂ = [d' ++ [y ++ "." ++ f₂]]) :
    let pA := d ++ ["a.b.c" ++ "." ++ e₃]
    let pB := d' ++ [z ++ "." ++ f₃]
    (∃ filesA idsA filesB idsB,
      loadFileAndParents fs ⟨[], cwd⟩ loadFuel pA none [] [] = .ok (filesA, idsA) ∧
      loadFileAndParents fs ⟨[], cwd⟩ loadFuel pB none [] [] = .ok (filesB, idsB) ∧
      filesA.map (·.path) = [d ++ ["a" ++ "." ++ e₁], d ++ ["a.b" ++ "." ++ e₂], pA] ∧
      filesB.map (·.path) = [d' ++ [x ++ "." ++ f₁], d' ++ [y ++ "." ++ f₂], pB] ∧
      filesA.map (fun f => f.docs.map (·.data)) =
        [[v₁], [stripParent (.map k₂)], [stripParent (.map k₃)]] ∧
      filesB.map (fun f => f.docs.map (·.data)) = filesA.map (fun f => f.docs.map (·.data))) ∧
    (∃ ρ S, RenOK ρ S ∧ mergeFileLayers fs ⟨[], cwd⟩ PState.empty pB =
      rmap (renState ρ) (mergeFileLayers fs ⟨[], cwd⟩ PState.empty pA)) ∧
    rmap (fun st => st.docs.map (·.2)) (mergeFileLayers fs ⟨[], cwd⟩ PState.empty pB) =
      rmap (fun st => st.docs.map (·.2)) (mergeFileLayers fs ⟨[], cwd⟩ PState.empty pA) ∧
    ∀ env, (mergeFileLayers fs ⟨[], cwd⟩ PState.empty pB >>= fun st =>
        outputDocuments (st.docs.map (·.2)) env) =
      (mergeFileLayers fs ⟨[], cwd⟩ PState.empty pA >>= fun st =>
        outputDocuments (st.docs.map (·.2)) env) := by
  intro pA pB
  have hlA := linked_clLinks (cwd := cwd) (pre := []) hd
    [⟨"c", e₃, [stripParent (.map k₃)]⟩, ⟨"b", e₂, [stripParent (.map k₂)]⟩, ⟨"a", e₁, [v₁]⟩]
    (show ∀ n ∈ ["a", "b", "c"], PlainName n by decide)
    ⟨h₃, List.forall_mem_singleton.2 (parentDirective_stripParent (.map k₃)), h₂,
      List.forall_mem_singleton.2 (parentDirective_stripParent (.map k₂)), h₁, List.forall_mem_singleton.2 a₁, trivial⟩
  have hlB : Linked fs ⟨[], cwd⟩ (.ok []) [(pB, [.map k₃]), (d' ++ [y ++ "." ++ f₂], [.map k₂]),
      (d' ++ [x ++ "." ++ f₁], [v₁])] :=
    ⟨fun fid => loadFile_layerFile hd' hz g₃ cwd fid, fileParents_str_single fs _ _ _ k₃ n₂ p₃ gl₃,
      linked_parent2 hd' hx hxd hy g₁ g₂ a₁ p₂ gl₂⟩
  obtain ⟨⟨eA, eB⟩, heq⟩ := linked_layers_equiv
    (xA := (pA, stripParent (.map k₃)))
    (lA := [(d ++ ["a.b" ++ "." ++ e₂], stripParent (.map k₂)), (d ++ ["a" ++ "." ++ e₁], v₁)])
    (xB := (pB, .map k₃)) (lB := [(d' ++ [y ++ "." ++ f₂], .map k₂), (d' ++ [x ++ "." ++ f₁], v₁)])
    hlA hlB (by decide : 2 < loadFuel)
    (by simp only [List.map_cons, List.map_nil, stripParent_idem])
  refine ⟨⟨_, _, _, _, eA, eB, linkFiles_paths _ _, linkFiles_paths _ _, ?_, ?_⟩, heq⟩
  · simp only [linkFiles_data, stripDocs, oneLinks, List.map_cons, List.map_nil, List.reverse_cons,
      List.reverse_nil, List.nil_append, List.cons_append, stripParent_idem,
      stripParent_of_absent v₁ a₁]
  · simp only [linkFiles_data, stripDocs, oneLinks, List.map_cons, List.map_nil, stripParent_idem]

/-- Two layers: `d/a.e₁`, `d/a.b.e₂` against `d'/x.f₁`, `d'/y.f₂` with `$parent: n₁` in `y`. -/
theorem C03_directive_equiv_2 (fs : FS) (d d' cwd : Comps) (e₁ e₂ x y f₁ f₂ n₁ : String)
    (v₁ : Val) (k₂ : Fields)
    (hd : PlainDir fs d) (hd' : PlainDir fs d')
    (h₁ : LayerFile fs d "a" e₁ (.ok [v₁]))
    (h₂ : LayerFile fs d "a.b" e₂ (.ok [stripParent (.map k₂)]))
    (a₁ : parentDirective v₁ = .ok .absent)
    (hx : 0 < x.length) (hxd : '.' ∉ x.toList) (hy : 0 < y.length)
    (g₁ : LayerFile fs d' x f₁ (.ok [v₁])) (g₂ : LayerFile fs d' y f₂ (.ok [.map k₂]))
    (p₂ : fget k₂ "$parent" = some (.str n₁))
    (gl₂ : globName fs ⟨[], cwd⟩ (d' ++ [y ++ "." ++ f₂]) n₁ = [d' ++ [x ++ "." ++ f₁]]) :
    let pA := d ++ ["a.b" ++ "." ++ e₂]
    let pB := d' ++ [y ++ "." ++ f₂]
    (∃ filesA idsA filesB idsB,
      loadFileAndParents fs ⟨[], cwd⟩ loadFuel pA none [] [] = .ok (filesA, idsA) ∧
      loadFileAndParents fs ⟨[], cwd⟩ loadFuel pB none [] [] = .ok (filesB, idsB) ∧
      filesA.map (·.path) = [d ++ ["a" ++ "." ++ e₁], pA] ∧
      filesB.map (·.path) = [d' ++ [x ++ "." ++ f₁], pB] ∧
      filesA.map (fun f => f.docs.map (·.data)) = [[v₁], [stripParent (.map k₂)]] ∧
      filesB.map (fun f => f.docs.map (·.data)) = filesA.map (fun f => f.docs.map (·.data))) ∧
    (∃ ρ S, RenOK ρ S ∧ mergeFileLayers fs ⟨[], cwd⟩ PState.empty pB =
      rmap (renState ρ) (mergeFileLayers fs ⟨[], cwd⟩ PState.empty pA)) ∧
    rmap (fun st => st.docs.map (·.2)) (mergeFileLayers fs ⟨[], cwd⟩ PState.empty pB) =
      rmap (fun st => st.docs.map (·.2)) (mergeFileLayers fs ⟨[], cwd⟩ PState.empty pA) ∧
    ∀ env, (mergeFileLayers fs ⟨[], cwd⟩ PState.empty pB >>= fun st =>
        outputDocuments (st.docs.map (·.2)) env) =
      (mergeFileLayers fs ⟨[], cwd⟩ PState.empty pA >>= fun st =>
        outputDocuments (st.docs.map (·.2)) env) := by
  intro pA pB
  have hlA := linked_clLinks (cwd := cwd) (pre := []) hd
    [⟨"b", e₂, [stripParent (.map k₂)]⟩, ⟨"a", e₁, [v₁]⟩]
    (show ∀ n ∈ ["a", "b"], PlainName n by decide)
    ⟨h₂, List.forall_mem_singleton.2 (parentDirective_stripParent (.map k₂)), h₁, List.forall_mem_singleton.2 a₁, trivial⟩
  obtain ⟨⟨eA, eB⟩, heq⟩ := linked_layers_equiv
    (xA := (pA, stripParent (.map k₂))) (lA := [(d ++ ["a" ++ "." ++ e₁], v₁)])
    (xB := (pB, .map k₂)) (lB := [(d' ++ [x ++ "." ++ f₁], v₁)])
    hlA (linked_parent2 hd' hx hxd hy g₁ g₂ a₁ p₂ gl₂) (by decide : 1 < loadFuel)
    (by simp only [List.map_cons, List.map_nil, stripParent_idem])
  refine ⟨⟨_, _, _, _, eA, eB, linkFiles_paths _ _, linkFiles_paths _ _, ?_, ?_⟩, heq⟩
  · simp only [linkFiles_data, stripDocs, oneLinks, List.map_cons, List.map_nil, List.reverse_cons,
      List.reverse_nil, List.nil_append, List.cons_append, stripParent_idem,
      stripParent_of_absent v₁ a₁]
  · simp only [linkFiles_data, stripDocs, oneLinks, List.map_cons, List.map_nil, stripParent_idem]

/-- non-vacuity of `C03_directive_equiv` (and, dropping the third layer, of
    `C03_directive_equiv_2`) -/
example : PlainDir dirFS ["w"] ∧ PlainDir dirFS ["v"] ∧
    LayerFile dirFS ["w"] "a" "yaml" (.ok [.map [("x", .int 1)]]) ∧
    LayerFile dirFS ["w"] "a.b" "json" (.ok [stripParent (.map [("$parent", .str "base"), ("y", .int 2)])]) ∧
    LayerFile dirFS ["w"] "a.b.c" "toml" (.ok [stripParent (.map [("$parent", .str "mid"), ("z", .int 3)])]) ∧
    parentDirective (.map [("x", .int 1)]) = .ok .absent ∧
    0 < "base".length ∧ '.' ∉ "base".toList ∧ 0 < "mid".length ∧ 0 < "top".length ∧
    LayerFile dirFS ["v"] "base" "yaml" (.ok [.map [("x", .int 1)]]) ∧
    LayerFile dirFS ["v"] "mid" "yaml" (.ok [.map [("$parent", .str "base"), ("y", .int 2)]]) ∧
    LayerFile dirFS ["v"] "top" "json" (.ok [.map [("$parent", .str "mid"), ("z", .int 3)]]) ∧
    fget [("$parent", Val.str "base"), ("y", .int 2)] "$parent" = some (.str "base") ∧
    fget [("$parent", Val.str "mid"), ("z", .int 3)] "$parent" = some (.str "mid") ∧
    globName dirFS ⟨[], []⟩ (["v"] ++ ["mid" ++ "." ++ "yaml"]) "base" =
      [["v"] ++ ["base" ++ "." ++ "yaml"]] ∧
    globName dirFS ⟨[], []⟩ (["v"] ++ ["top" ++ "." ++ "json"]) "mid" =
      [["v"] ++ ["mid" ++ "." ++ "yaml"]] :=
  ⟨dirFS_w, dirFS_v, dirFS_a, dirFS_ab, dirFS_abc, rfl, by decide, by decide, by decide, by decide,
    dirFS_base, dirFS_mid, dirFS_top, by decide, by decide, dirFS_glob_base, dirFS_glob_mid⟩

/-- The same stated on files only: in a file system that lists no path twice, with `x`, `y`
    plain names (non-empty, no dots, wildcards or slashes), `y.f₂` saying `$parent: x` and `z.f₃`
    saying `$parent: y`, in a directory `d'` whose own path holds no glob metacharacter (the
    rooted glob expands wildcards in directory components too), the `$parent`-linked files
    evaluate exactly like the filename chain
    `a`, `a.b`, `a.b.c` holding the same (stripped) documents. -/
theorem C03_directive_equiv_files (fs : FS) (d d' cwd : Comps) (e₁ e₂ e₃ x y z f₁ f₂ f₃ : String)
    (v₁ : Val) (k₂ k₃ : Fields)
    (hnd : (fs.entries.map (·.1)).Nodup)
    (hd : PlainDir fs d) (hd' : PlainDir fs d')
    (hdir' : fs.lstat d' = some .dir) (hmeta' : d'.any hasMeta = false)
    (h₁ : LayerFile fs d "a" e₁ (.ok [v₁]))
    (h₂ : LayerFile fs d "a.b" e₂ (.ok [stripParent (.map k₂)]))
    (h₃ : LayerFile fs d "a.b.c" e₃ (.ok [stripParent (.map k₃)]))
    (a₁ : parentDirective v₁ = .ok .absent)
    (px : PlainName x) (wx : ∀ ch ∈ x.toList, ch ≠ '*' ∧ ch ≠ '?' ∧ ch ≠ '/')
    (py : PlainName y) (wy : ∀ ch ∈ y.toList, ch ≠ '*' ∧ ch ≠ '?' ∧ ch ≠ '/')
    (hz : 0 < z.length)
    (g₁ : LayerFile fs d' x f₁ (.ok [v₁])) (g₂ : LayerFile fs d' y f₂ (.ok [.map k₂]))
    (g₃ : LayerFile fs d' z f₃ (.ok [.map k₃]))
    (p₂ : fget k₂ "$parent" = some (.str x)) (p₃ : fget k₃ "$parent" = some (.str y)) :
    let pA := d ++ ["a.b.c" ++ "." ++ e₃]
    let pB := d' ++ [z ++ "." ++ f₃]
    (∃ filesA idsA filesB idsB,
      loadFileAndParents fs ⟨[], cwd⟩ loadFuel pA none [] [] = .ok (filesA, idsA) ∧
      loadFileAndParents fs ⟨[], cwd⟩ loadFuel pB none [] [] = .ok (filesB, idsB) ∧
      filesA.map (·.path) = [d ++ ["a" ++ "." ++ e₁], d ++ ["a.b" ++ "." ++ e₂], pA] ∧
      filesB.map (·.path) = [d' ++ [x ++ "." ++ f₁], d' ++ [y ++ "." ++ f₂], pB] ∧
      filesA.map (fun f => f.docs.map (·.data)) =
        [[v₁], [stripParent (.map k₂)], [stripParent (.map k₃)]] ∧
      filesB.map (fun f => f.docs.map (·.data)) = filesA.map (fun f => f.docs.map (·.data))) ∧
    (∃ ρ S, RenOK ρ S ∧ mergeFileLayers fs ⟨[], cwd⟩ PState.empty pB =
      rmap (renState ρ) (mergeFileLayers fs ⟨[], cwd⟩ PState.empty pA)) ∧
    rmap (fun st => st.docs.map (·.2)) (mergeFileLayers fs ⟨[], cwd⟩ PState.empty pB) =
      rmap (fun st => st.docs.map (·.2)) (mergeFileLayers fs ⟨[], cwd⟩ PState.empty pA) ∧
    ∀ env, (mergeFileLayers fs ⟨[], cwd⟩ PState.empty pB >>= fun st =>
        outputDocuments (st.docs.map (·.2)) env) =
      (mergeFileLayers fs ⟨[], cwd⟩ PState.empty pA >>= fun st =>
        outputDocuments (st.docs.map (·.2)) env) :=
  have lenpos : ∀ {s : String}, PlainName s → 0 < s.length := fun h =>
    Nat.pos_of_ne_zero (fun h0 => h.1 (String.length_eq_zero_iff.1 h0))
  C03_directive_equiv fs d d' cwd e₁ e₂ e₃ x y z f₁ f₂ f₃ x y v₁ k₂ k₃ hd hd' h₁ h₂ h₃ a₁
    (lenpos px) px.2 (lenpos py) hz g₁ g₂ g₃ p₂ p₃
    (globName_plain cwd hd' hdir' hmeta' px wx g₁ hnd) (globName_plain cwd hd' hdir' hmeta' py wy g₂ hnd)

/-- non-vacuity: `dirFS` lists no path twice; `/v` is a directory whose name holds no glob
    metacharacter; `base`, `mid` are plain names -/
example : (dirFS.entries.map (·.1)).Nodup ∧ dirFS.lstat ["v"] = some .dir ∧
    ["v"].any hasMeta = false ∧ PlainName "base" ∧ PlainName "mid" ∧
    (∀ ch ∈ "base".toList, ch ≠ '*' ∧ ch ≠ '?' ∧ ch ≠ '/') ∧
    (∀ ch ∈ "mid".toList, ch ≠ '*' ∧ ch ≠ '?' ∧ ch ≠ '/') :=
  ⟨by decide, by decide, by decide, ⟨by decide, by decide⟩, ⟨by decide, by decide⟩, by decide,
    by decide⟩

/-- Two layers, stated on files only. -/
theorem C03_directive_equiv_2_files (fs : FS) (d d' cwd : Comps) (e₁ e₂ x y f₁ f₂ : String)
    (v₁ : Val) (k₂ : Fields)
    (hnd : (fs.entries.map (·.1)).Nodup)
    (hd : PlainDir fs d) (hd' : PlainDir fs d')
    (hdir' : fs.lstat d' = some .dir) (hmeta' : d'.any hasMeta = false)
    (h₁ : LayerFile fs d "a" e₁ (.ok [v₁]))
    (h₂ : LayerFile fs d "a.b" e₂ (.ok [stripParent (.map k₂)]))
    (a₁ : parentDirective v₁ = .ok .absent)
    (px : PlainName x) (wx : ∀ ch ∈ x.toList, ch ≠ '*' ∧ ch ≠ '?' ∧ ch ≠ '/')
    (hy : 0 < y.length)
    (g₁ : LayerFile fs d' x f₁ (.ok [v₁])) (g₂ : LayerFile fs d' y f₂ (.ok [.map k₂]))
    (p₂ : fget k₂ "$parent" = some (.str x)) :
    let pA := d ++ ["a.b" ++ "." ++ e₂]
    let pB := d' ++ [y ++ "." ++ f₂]
    (∃ filesA idsA filesB idsB,
      loadFileAndParents fs ⟨[], cwd⟩ loadFuel pA none [] [] = .ok (filesA, idsA) ∧
      loadFileAndParents fs ⟨[], cwd⟩ loadFuel pB none [] [] = .ok (filesB, idsB) ∧
      filesA.map (·.path) = [d ++ ["a" ++ "." ++ e₁], pA] ∧
      filesB.map (·.path) = [d' ++ [x ++ "." ++ f₁], pB] ∧
      filesA.map (fun f => f.docs.map (·.data)) = [[v₁], [stripParent (.map k₂)]] ∧
      filesB.map (fun f => f.docs.map (·.data)) = filesA.map (fun f => f.docs.map (·.data))) ∧
    (∃ ρ S, RenOK ρ S ∧ mergeFileLayers fs ⟨[], cwd⟩ PState.empty pB =
      rmap (renState ρ) (mergeFileLayers fs ⟨[], cwd⟩ PState.empty pA)) ∧
    rmap (fun st => st.docs.map (·.2)) (mergeFileLayers fs ⟨[], cwd⟩ PState.empty pB) =
      rmap (fun st => st.docs.map (·.2)) (mergeFileLayers fs ⟨[], cwd⟩ PState.empty pA) ∧
    ∀ env, (mergeFileLayers fs ⟨[], cwd⟩ PState.empty pB >>= fun st =>
        outputDocuments (st.docs.map (·.2)) env) =
      (mergeFileLayers fs ⟨[], cwd⟩ PState.empty pA >>= fun st =>
        outputDocuments (st.docs.map (·.2)) env) :=
  C03_directive_equiv_2 fs d d' cwd e₁ e₂ x y f₁ f₂ x v₁ k₂ hd hd' h₁ h₂ a₁
    (Nat.pos_of_ne_zero (fun h0 => px.1 (String.length_eq_zero_iff.1 h0))) px.2 hy g₁ g₂ p₂
    (globName_plain cwd hd' hdir' hmeta' px wx g₁ hnd)

/-! ## symlinks inherit from the target's name -/

/-- A symlink `d/c -> t` (relative, one component `l.e` in the same link-free directory, `e`
    supported, the target exists and is not itself a link), whose documents carry no `$parent`:
    its parents are decided by the **target's** name `l.e`; the link's own name `c` — any plain
    component, dotted or not — is not consulted.
    * target a base layer (`l` without dots): no parents, and (with a supported extension on the
      link so that it can be decoded) loading the link returns the single file `d/c` holding the
      target's documents;
    * target name dotted, `l = l₀.b`: the parent is the file found for `l₀` (an error if there
      is none), and loading the link puts that parent's files first. -/
theorem C03_symlink_uses_target_name (fs : FS) (d cwd : Comps) (c t l e : String)
    (raw : List Val) (hd : PlainDir fs d) (hlen : d.length + 3 ≤ linkFuel)
    (hc : plainComp c = true)
    (hl : fs.lstat (d ++ [c]) = some (.link t)) (ha : isAbsPath t = false)
    (hs : splitPath t = [l ++ "." ++ e]) (hll : 0 < l.length) (he : e ∈ supportedExts)
    (hl' : fs.lstat (d ++ [l ++ "." ++ e]) = some (.file (.ok raw)))
    (hraw : ∀ v ∈ raw, parentDirective v = .ok .absent) :
    fs.evalSymlinks (d ++ [c]) = some (d ++ [l ++ "." ++ e]) ∧
    fileParents fs ⟨[], cwd⟩ (d ++ [c]) raw = fromName fs ⟨[], cwd⟩ (d ++ [l ++ "." ++ e]) ∧
    ('.' ∉ l.toList →
      fileParents fs ⟨[], cwd⟩ (d ++ [c]) raw = .ok [] ∧
      (supportedExts.contains (extOf c) = true → ∀ fuel,
        loadFileAndParents fs ⟨[], cwd⟩ (fuel + 1) (d ++ [c]) none [] [] =
          .ok ([{ id := pathStr (d ++ [c]), path := d ++ [c],
                  docs := plainDocs (pathStr (d ++ [c])) [] raw }],
            docIdsOf (pathStr (d ++ [c])) raw.length))) ∧
    (∀ l₀ b, l = l₀ ++ "." ++ b → '.' ∉ b.toList →
      fileParents fs ⟨[], cwd⟩ (d ++ [c]) raw =
        (match fs.findRooted [] d l₀ with
          | some f => .ok [f]
          | none => .error .missingFile) ∧
      (supportedExts.contains (extOf c) = true → ∀ fuel f sub ids,
        fs.findRooted [] d l₀ = some f →
        loadFileAndParents fs ⟨[], cwd⟩ fuel f (some (pathStr (d ++ [c])))
          (docIdsOf (pathStr (d ++ [c])) raw.length) [d ++ [c]] = .ok (sub, ids) →
        loadFileAndParents fs ⟨[], cwd⟩ (fuel + 1) (d ++ [c]) none [] [] =
          .ok (sub ++ [{ id := pathStr (d ++ [c]), path := d ++ [c],
                         docs := plainDocs (pathStr (d ++ [c]))
                           ((sub.filter (fun g => g.id == pathStr (d ++ [c]) ++ "|" ++ pathStr f)).flatMap
                             (fun g => g.docs.map (·.id))) raw }],
            docIdsOf (pathStr (d ++ [c])) raw.length))) := by
  have hpl := plainComp_layer l e hll (supportedExt_length_pos e he)
  have hev := evalSymlinks_link hd hlen hc hl ha hs hpl hl' rfl
  have hfp := fileParents_link (docs := raw) ⟨[], cwd⟩ hd hlen hc hl ha hs hll he hl' rfl hraw
  have hload : supportedExts.contains (extOf c) = true → ∀ fid,
      loadFile fs ⟨[], cwd⟩ (d ++ [c]) fid = .ok raw :=
    fun hce fid => loadFile_link hd hlen hc hce hl ha hs hll he hl' fid
  refine ⟨hev, ?_, ?_, ?_⟩
  · rw [fileParents_no_directive fs _ _ raw hraw, hev]
  · intro hdot
    have hp : fileParents fs ⟨[], cwd⟩ (d ++ [c]) raw = .ok [] := by
      rw [hfp, splitOn_dot_none l hdot]; rfl
    refine ⟨hp, ?_⟩
    intro hce fuel
    rw [lfp_leaf (List.contains_nil) (hload hce _) hp, mineOf_plain _ _ _ _ _ hraw]
    rfl
  · intro l₀ b hlb hb
    have hp : fileParents fs ⟨[], cwd⟩ (d ++ [c]) raw =
        (match fs.findRooted [] d l₀ with
          | some f => .ok [f]
          | none => .error .missingFile) := by
      rw [hfp, hlb, if_neg (parent_layer_snoc l₀ b hb).1, (parent_layer_snoc l₀ b hb).2]
      rfl
    refine ⟨hp, ?_⟩
    intro hce fuel f sub ids hf hq
    rw [hf] at hp
    rw [lfp_single (List.contains_nil) (hload hce _) hp hq, mineOf_plain _ _ _ _ _ hraw]
    simp only [fileIdOf, List.any_cons, List.any_nil, Bool.or_false]

/-- non-vacuity (base target): `/w/p.q.yaml -> a.yaml`.  By its own name the link would need the
    missing layer `p`; by its target's name it has no parents and loads alone. -/
example :
    PlainDir symFS ["w"] ∧ plainComp "p.q.yaml" = true ∧
    symFS.lstat (["w"] ++ ["p.q.yaml"]) = some (.link "a.yaml") ∧ isAbsPath "a.yaml" = false ∧
    splitPath "a.yaml" = ["a" ++ "." ++ "yaml"] ∧
    symFS.lstat (["w"] ++ ["a" ++ "." ++ "yaml"]) = some (.file (.ok [.map [("x", .int 1)]])) ∧
    '.' ∉ "a".toList ∧ supportedExts.contains (extOf "p.q.yaml") = true ∧
    fromName symFS ⟨[], []⟩ (["w"] ++ ["p.q.yaml"]) = .error .missingFile ∧
    loadFileAndParents symFS ⟨[], []⟩ loadFuel (["w"] ++ ["p.q.yaml"]) none [] [] =
      .ok ([{ id := "/w/p.q.yaml", path := ["w", "p.q.yaml"],
              docs := [{ id := "/w/p.q.yaml|doc0", parents := [], data := .map [("x", .int 1)] }] }],
        ["/w/p.q.yaml|doc0"]) := by
  have hsp : splitPath "a.yaml" = ["a" ++ "." ++ "yaml"] := splitPath_lit _ _ (by decide +kernel)
  have hext : supportedExts.contains (extOf "p.q.yaml") = true := by rw [extOf_eq]; decide +kernel
  have hown : fromName symFS ⟨[], []⟩ (["w"] ++ ["p.q.yaml"]) = .error .missingFile := by
    simp only [fromName, splitOn_dot]
    decide +kernel
  have hia : isAbsPath "a.yaml" = false := by simp [isAbsPath]
  refine ⟨symFS_plain, by decide +kernel, by decide +kernel, hia, hsp, by decide +kernel,
    by decide +kernel, hext, hown, ?_⟩
  have h := (C03_symlink_uses_target_name symFS ["w"] [] "p.q.yaml" "a.yaml" "a" "yaml"
    [.map [("x", .int 1)]] symFS_plain (by decide +kernel) (by decide +kernel) (by decide +kernel)
    hia hsp (by decide +kernel) (by decide +kernel) (by decide +kernel)
    (List.forall_mem_singleton.2 rfl)).2.2.1 (by decide +kernel)
  rw [loadFuel_succ, h.2 hext 63]
  rfl

/-- non-vacuity (dotted target): `/w/x.y.z.yaml -> a.b.json` inherits the parent `a` of its
    target's name `a.b`; its own name (`x.y`) is not consulted. -/
example :
    symFS.lstat (["w"] ++ ["x.y.z.yaml"]) = some (.link "a.b.json") ∧
    splitPath "a.b.json" = ["a.b" ++ "." ++ "json"] ∧ "a.b" = "a" ++ "." ++ "b" ∧
    symFS.findRooted [] ["w"] "a" = some (["w"] ++ ["a" ++ "." ++ "yaml"]) ∧
    fileParents symFS ⟨[], []⟩ (["w"] ++ ["x.y.z.yaml"]) [.map [("y", .int 2)]] = .ok [["w", "a.yaml"]] ∧
    loadFileAndParents symFS ⟨[], []⟩ loadFuel (["w"] ++ ["x.y.z.yaml"]) none [] [] =
      .ok ([{ id := "/w/x.y.z.yaml|/w/a.yaml", path := ["w", "a.yaml"],
              docs := [{ id := "/w/x.y.z.yaml|/w/a.yaml|doc0", parents := [],
                         data := .map [("x", .int 1)] }] },
            { id := "/w/x.y.z.yaml", path := ["w", "x.y.z.yaml"],
              docs := [{ id := "/w/x.y.z.yaml|doc0", parents := ["/w/x.y.z.yaml|/w/a.yaml|doc0"],
                         data := .map [("y", .int 2)] }] }],
        ["/w/x.y.z.yaml|doc0"]) := by
  have hsp : splitPath "a.b.json" = ["a.b" ++ "." ++ "json"] := splitPath_lit _ _ (by decide +kernel)
  have hext : supportedExts.contains (extOf "x.y.z.yaml") = true := by rw [extOf_eq]; decide +kernel
  have hfind : symFS.findRooted [] ["w"] "a" = some (["w"] ++ ["a" ++ "." ++ "yaml"]) := by
    decide +kernel
  have h := (C03_symlink_uses_target_name symFS ["w"] [] "x.y.z.yaml" "a.b.json" "a.b" "json"
    [.map [("y", .int 2)]] symFS_plain (by decide +kernel) (by decide +kernel) (by decide +kernel)
    (by simp [isAbsPath]) hsp (by decide +kernel) (by decide +kernel) (by decide +kernel)
    (List.forall_mem_singleton.2 rfl)).2.2.2 "a" "b" (by decide +kernel)
    (by decide +kernel)
  refine ⟨by decide +kernel, hsp, by decide +kernel, hfind, ?_, ?_⟩
  · rw [h.1, hfind]; rfl
  · have hq := lfp_clChain (cwd := []) symFS_plain ⟨"a", "yaml", [.map [("x", .int 1)]]⟩ []
      (show ∀ n ∈ ["a"], PlainName n by decide) ⟨symFS_a, List.forall_mem_singleton.2 rfl, trivial⟩ 62
      (some (pathStr (["w"] ++ ["x.y.z.yaml"])))
      (docIdsOf (pathStr (["w"] ++ ["x.y.z.yaml"])) [Val.map [("y", .int 2)]].length)
      [["w"] ++ ["x.y.z.yaml"]]
      (fun p hp => by rw [List.mem_singleton.1 hp]; decide +kernel)
    rw [loadFuel_succ, h.2 hext 63 _ _ _ hfind hq]
    rfl

/-! ## the symbolic-link budget of `os.Root`

  `os.Root` follows at most `rootMaxSymlinks = 8` symbolic links in one operation; the ninth is
  `ELOOP`.  The rooted walk counts the links it has followed (`links`; every `rootOpen`,
  `rootOpenDir`, `rootExists`, `rootReadDir` starts at 0).  Helper definitions
  (`BklProofs/Lemmas/C03Links.lean`): `c03l_Name t` — `t` is a plain single-component name
  (`plainComp t`, `isAbsPath t = false`, `splitPath t = [t]`); `c03l_LinkChain fs d l k` — the
  names `l 0, …, l k` are such names and, in the directory `d`, `l (i+1)` is a symbolic link to
  `l i` for every `i < k` (the chain `l k → l (k-1) → … → l 1 → l 0`).  The two theorems about
  such chains, `C03_symlink_limit_ok` and `C03_symlink_limit_exceeded_chain`, stand next to
  these definitions. -/

/-- non-vacuity: `/r/l8 → l7 → … → l1 → f.yaml`, eight links from `links = 0` -/
example : c03l_LinkChain c03l_fs ["r"] c03l_names 8 ∧
    c03l_fs.lstat (["r"] ++ [c03l_names 0]) = some (.file (.ok [.map [("x", .int 1)]])) ∧
    (FNode.file (.ok [.map [("x", .int 1)]])).isLink = false ∧ 0 + 8 ≤ rootMaxSymlinks ∧
    c03l_fs.rootWalk ["r"] (0 + 8 + 2) 0 ["r"] ["l8"] = .ok ["r", "f.yaml"] :=
  ⟨c03l_chain_le (by decide), c03l_end, rfl, by decide,
    C03_symlink_limit_ok c03l_fs ["r"] ["r"] c03l_names 8 _ (c03l_chain_le (by decide)) c03l_end rfl
      0 0 (by decide)⟩

/-- Once `rootMaxSymlinks` links have been followed, stepping onto one more symbolic link is
    refused (whatever its target). -/
theorem C03_symlink_limit_exceeded (fs : FS) (root cur : Comps) (fuel : Nat) (c t : String)
    (rest : List String) (hc : plainComp c = true)
    (hl : fs.lstat (cur ++ [c]) = some (.link t)) :
    fs.rootWalk root (fuel + 1) rootMaxSymlinks cur (c :: rest) = .error .other :=
  rootWalk_step_link_limit hc hl (Nat.le_refl _)

example : plainComp "l1" = true ∧ c03l_fs.lstat (["r"] ++ ["l1"]) = some (.link "f.yaml") :=
  ⟨by decide, by decide⟩

/-- non-vacuity: `/r/l9 → l8 → … → l1 → f.yaml`, nine links from `links = 0`, fails … -/
example : c03l_LinkChain c03l_fs ["r"] c03l_names (8 + 1) ∧ rootMaxSymlinks < 0 + (8 + 1) ∧
    c03l_fs.rootWalk ["r"] linkFuel 0 ["r"] ["l9"] = .error .other :=
  ⟨c03l_chain9, by decide,
    C03_symlink_limit_exceeded_chain c03l_fs ["r"] ["r"] c03l_names 8 c03l_chain9 _ 0 [] (by decide)⟩

/-- … although the unrooted `EvalSymlinks` (255 links in Go, `linkFuel` steps here) resolves it -/
example : c03l_fs.resolve 12 [] ["r", "l9"] = some ["r", "f.yaml"] := by
  have step : ∀ i, i < 9 → ∀ fuel, c03l_fs.resolve (fuel + 1) ["r"] [c03l_names (i + 1)] =
      c03l_fs.resolve fuel ["r"] [c03l_names i] := fun i hi fuel =>
    resolve_step_link (c03l_names_name (i + 1) (by omega)).1 (c03l_names_link i hi)
      (c03l_names_name i (by omega)).2.1 (c03l_names_name i (by omega)).2.2
  rw [resolve_step_plain (n := .dir) (by decide) (by decide) rfl]
  show c03l_fs.resolve (10 + 1) ["r"] [c03l_names (8 + 1)] = _
  rw [step 8 (by decide), step 7 (by decide), step 6 (by decide), step 5 (by decide),
    step 4 (by decide), step 3 (by decide), step 2 (by decide), step 1 (by decide),
    step 0 (by decide)]
  decide

/-- At the level of `p.root.Open`: the file at the end of a chain of `k` links beneath the root
    directory itself is read exactly when `k ≤ rootMaxSymlinks`. -/
theorem C03_symlink_limit_open (fs : FS) (root : Comps) (l : Nat → String) (k : Nat)
    (docs : R (List Val)) (hch : c03l_LinkChain fs root l k)
    (hl : fs.lstat (root ++ [l 0]) = some (.file docs)) :
    (k ≤ rootMaxSymlinks → fs.rootOpen root [l k] = docs) ∧
    (rootMaxSymlinks < k → fs.rootOpen root [l k] = .error .other) := by
  constructor
  · intro hk
    have hk' : k ≤ 8 := hk
    rw [rootOpen_eq, show linkFuel = (4094 - k) + k + 2 by simp only [linkFuel]; omega,
      C03_symlink_limit_ok fs root root l k _ hch hl rfl (4094 - k) 0 (by omega)]
    simp only [hl]
  · intro hk
    obtain ⟨j, rfl⟩ : ∃ j, k = j + 1 := ⟨k - 1, by omega⟩
    rw [rootOpen_eq, C03_symlink_limit_exceeded_chain fs root root l j hch linkFuel 0 [] (by omega)]

/-- non-vacuity: eight links are read, nine are not -/
example : c03l_fs.rootOpen ["r"] ["l8"] = .ok [.map [("x", .int 1)]] ∧
    c03l_fs.rootOpen ["r"] ["l9"] = .error .other :=
  ⟨(C03_symlink_limit_open c03l_fs ["r"] c03l_names 8 _ (c03l_chain_le (by decide)) c03l_end).1
      (by decide),
    (C03_symlink_limit_open c03l_fs ["r"] c03l_names 9 _ c03l_chain9 c03l_end).2 (by decide)⟩

/-! ## a `$parent` list: depth first, left to right, whatever the depth of each entry's own chain -/

/-- two entries: `$parent: [p, q]` resolves to (layers of `p`) ++ (layers of `q`) ++ [the file], also when `q`'s chain is
    longer than `p`'s -/
theorem C03_parent_pair_order (fs : FS) (cfg : RootCfg) (fuel : Nat) (path p q : Comps)
    (childId : Option String) (c : List String) (chain : List Comps) (raw : List Val)
    (Fp Fq : List LFile) (ip iq : List String) (hpq : p ≠ q)
    (hch : chain.contains path = false)
    (hload : loadFile fs cfg path (fileIdOf childId path) = .ok raw)
    (hpar : fileParents fs cfg path raw = .ok [p, q])
    (hp : loadFileAndParents fs cfg fuel p (some (fileIdOf childId path))
        (docIdsOf (fileIdOf childId path) raw.length) (path :: chain) = .ok (Fp, ip))
    (hq : loadFileAndParents fs cfg fuel q (some (fileIdOf childId path))
        (docIdsOf (fileIdOf childId path) raw.length) (path :: chain) = .ok (Fq, iq)) :
    ∃ mine, mine.path = path ∧
      loadFileAndParents fs cfg (fuel + 1) path childId c chain =
        .ok (Fp ++ Fq ++ [mine], docIdsOf (fileIdOf childId path) raw.length) := by
  have hsub : ∀ x ∈ [p, q], ∃ ids, loadFileAndParents fs cfg fuel x (some (fileIdOf childId path))
      (docIdsOf (fileIdOf childId path) raw.length) (path :: chain) =
        .ok ((fun x => if x = p then Fp else Fq) x, ids) := by
    intro x hx
    simp only [List.mem_cons, List.not_mem_nil, or_false] at hx
    rcases hx with rfl | rfl
    · exact ⟨ip, by simpa using hp⟩
    · exact ⟨iq, by simp only [Ne.symm hpq, if_false]; exact hq⟩
  have h := C03_parent_list_depth_first fs cfg fuel path childId c chain raw [p, q]
    (fun x => if x = p then Fp else Fq) hch hload hpar hsub
  refine ⟨mineOf (fileIdOf childId path) path raw [p, q] (Fp ++ Fq), rfl, ?_⟩
  rw [h]
  simp [List.flatMap_cons, Ne.symm hpq]


/-- a concrete tree for the statement above: `top.yaml` with `$parent: [y, x.one]`, where the SECOND entry has the longer chain -/
def c03_plFS : FS := ⟨[(["y.yaml"], .file (.ok [.map [("y", .int 1)]])), (["x.yaml"], .file (.ok [.map [("x", .int 1)]])),
  (["x.one.yaml"], .file (.ok [.map [("one", .int 1)]])),
  (["top.yaml"], .file (.ok [.map [("$parent", .list [.str "y", .str "x.one"]), ("t", .int 1)]]))]⟩

/- a TEST, evaluated by the compiler (not a kernel proof; `decide` does not reduce the string functions): on this tree the
   hypotheses of `C03_parent_pair_order` hold with `Fp = [y]`, `Fq = [x, x.one]`, and the resolved order is y, x, x.one, top -/
#guard (loadFileAndParents c03_plFS ⟨[], []⟩ loadFuel ["top.yaml"] none [] []).toOption.map (fun r => r.1.map (·.path))
    == some [["y.yaml"], ["x.yaml"], ["x.one.yaml"], ["top.yaml"]]
#guard (fileParents c03_plFS ⟨[], []⟩ ["top.yaml"] [.map [("$parent", .list [.str "y", .str "x.one"]), ("t", .int 1)]]).toOption
    == some [["y.yaml"], ["x.one.yaml"]]


end Bkl
