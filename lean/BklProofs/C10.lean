/-
  C10 — "`$merge` and `$replace` behave as if the referenced subtree were written inline."

  One-step laws for `process1` (process1.go, phase 3), the laws of reference resolution
  (`get`, `getCrossDoc`, `getPath`), the frame property of the threaded document root, the
  cycle check, and the end-to-end "inline" statements (host at a top-level key, at any depth,
  with references apart from the host's path).  Helper lemmas: `BklProofs/Lemmas/Process1.lean`
  for the laws; the lemma file of each end-to-end section is named there.
-/
import BklProofs.Lemmas.C10NestedPaths
set_option linter.unusedVariables false
namespace Bkl

/-! ## `$replace` on a map -/

/-- A map carrying `$replace: ref` (and no `$merge`) evaluates to the evaluation of the referenced
    value (as a copy: `loc = none`); the local content is discarded; the root is not touched by
    this step. -/
theorem C10_replace_map {fuel : Nat} {docs : List Val} {root : Val} {loc : Loc} {kvs : Fields}
    {ref : Val} (h0 : fget kvs "$merge" = none) (h : fget kvs "$replace" = some ref) :
    process1 (fuel + 1) docs root loc (.map kvs) =
      (get root docs ref >>= fun next => process1 fuel docs root none next) :=
  process1_map_replace h0 h

example : fget [("$replace", Val.str "a"), ("x", .int 1)] "$merge" = none ∧
    fget [("$replace", Val.str "a"), ("x", .int 1)] "$replace" = some (.str "a") := by decide

/-! ## `$merge` on a map -/

/-- `mergeFields` is exactly the loop of `merge (.map d) (.map s)` when `s` has no
    `$replace: true`. -/
theorem C10_merge_is_mergeFields {d s next : Fields} (hr : fhasBool s "$replace" true = false) :
    merge (.map d) (.map s) = .ok (.map next) ↔ mergeFields d s = .ok next := by
  rw [merge_map_map_noreplace hr, R_map_ok_iff]
  exact ⟨fun ⟨_, h, e⟩ => Val.map.inj e ▸ h, fun h => ⟨_, h, rfl⟩⟩

example : fhasBool [("x", Val.int 1)] "$replace" true = false := by decide

/-- Map-level `$merge: ref` where the reference resolves to a map `s` without `$replace: true`:
    the host becomes `merge local s` (ordinary merge rules, the referenced value layered onto
    the local content), written back in place, and is evaluated again at the same location. -/
theorem C10_merge_map {fuel : Nat} {docs : List Val} {root : Val} {loc : Loc} {kvs s : Fields}
    {ref : Val} (hm : fget kvs "$merge" = some ref)
    (hg : get (setLoc root loc (.map (fdel kvs "$merge"))) docs ref = .ok (.map s))
    (hr : fhasBool s "$replace" true = false) :
    process1 (fuel + 1) docs root loc (.map kvs) =
      (merge (.map (fdel kvs "$merge")) (.map s) >>= fun nv =>
        process1 fuel docs (setLoc (setLoc root loc (.map (fdel kvs "$merge"))) loc nv) loc nv) := by
  rw [process1_merge_eq hm, hg, ok_bind]
  simp only [mergesInPlace, hr, Bool.not_false, if_true]

/-- Same law with the merge result named. -/
theorem C10_merge_map_ok {fuel : Nat} {docs : List Val} {root : Val} {loc : Loc}
    {kvs s next : Fields} {ref : Val} (hm : fget kvs "$merge" = some ref)
    (hg : get (setLoc root loc (.map (fdel kvs "$merge"))) docs ref = .ok (.map s))
    (hr : fhasBool s "$replace" true = false)
    (hn : merge (.map (fdel kvs "$merge")) (.map s) = .ok (.map next)) :
    process1 (fuel + 1) docs root loc (.map kvs) =
      process1 fuel docs
        (setLoc (setLoc root loc (.map (fdel kvs "$merge"))) loc (.map next)) loc (.map next) := by
  rw [C10_merge_map hm hg hr, hn]; rfl

/-- An ordinary merge conflict between the local content and the referenced map is reported. -/
theorem C10_merge_map_conflict {fuel : Nat} {docs : List Val} {root : Val} {loc : Loc}
    {kvs s : Fields} {ref : Val} {e : Err} (hm : fget kvs "$merge" = some ref)
    (hg : get (setLoc root loc (.map (fdel kvs "$merge"))) docs ref = .ok (.map s))
    (hr : fhasBool s "$replace" true = false)
    (hn : merge (.map (fdel kvs "$merge")) (.map s) = .error e) :
    process1 (fuel + 1) docs root loc (.map kvs) = .error e := by
  rw [C10_merge_map hm hg hr, hn]; rfl

-- non-vacuity: host `{$merge: [b], x: 1}` inside root `{a: host, b: {y: 2}}`
example :
    let kvs : Fields := [("$merge", .list [.str "b"]), ("x", .int 1)]
    let root : Val := .map [("a", .map kvs), ("b", .map [("y", .int 2)])]
    fget kvs "$merge" = some (.list [.str "b"]) ∧
    get (setLoc root (some [.key "a"]) (.map (fdel kvs "$merge"))) [] (.list [.str "b"])
      = .ok (.map [("y", .int 2)]) ∧
    fhasBool [("y", Val.int 2)] "$replace" true = false ∧
    merge (.map (fdel kvs "$merge")) (.map [("y", .int 2)])
      = .ok (.map [("x", .int 1), ("y", .int 2)]) := by
  exact ⟨by decide, get_list_strs _ _ "b" [], by decide, merge_x_y⟩

-- non-vacuity of the conflict law: `x: 1` merged with `x: 1` is a useless override
example :
    merge (.map [("x", .int 1)]) (.map [("x", .int 1)]) = .error .uselessOverride := merge_x_x

/-- referenced value `null`: the local content alone (evaluated again in place) -/
theorem C10_merge_map_null {fuel : Nat} {docs : List Val} {root : Val} {loc : Loc} {kvs : Fields}
    {ref : Val} (hm : fget kvs "$merge" = some ref)
    (hg : get (setLoc root loc (.map (fdel kvs "$merge"))) docs ref = .ok .null) :
    process1 (fuel + 1) docs root loc (.map kvs) =
      process1 fuel docs (setLoc root loc (.map (fdel kvs "$merge"))) loc
        (.map (fdel kvs "$merge")) := by
  rw [process1_merge_eq hm, hg, ok_bind, merge_map_null, ok_bind, setLoc_setLoc]; rfl

example :
    let kvs : Fields := [("$merge", .list [.str "b"]), ("x", .int 1)]
    let root : Val := .map [("a", .map kvs), ("b", .null)]
    get (setLoc root (some [.key "a"]) (.map (fdel kvs "$merge"))) [] (.list [.str "b"])
      = .ok .null := get_list_strs _ _ "b" []

/-- referenced scalar / list, empty local content: the referenced value (a copy) -/
theorem C10_merge_map_other_empty {fuel : Nat} {docs : List Val} {root : Val} {loc : Loc}
    {kvs : Fields} {ref other : Val} (hm : fget kvs "$merge" = some ref)
    (hg : get (setLoc root loc (.map (fdel kvs "$merge"))) docs ref = .ok other)
    (h1 : other.isMap = false) (h2 : other.isNull = false)
    (he : (fdel kvs "$merge").isEmpty = true) :
    process1 (fuel + 1) docs root loc (.map kvs) =
      process1 fuel docs (setLoc root loc (.map (fdel kvs "$merge"))) none other := by
  rw [process1_merge_eq hm, hg, ok_bind, merge_map_other _ _ h1 h2, he, mergesInPlace_other h1 h2]
  rfl

example :
    let kvs : Fields := [("$merge", .list [.str "b"])]
    let root : Val := .map [("a", .map kvs), ("b", .list [.int 1])]
    get (setLoc root (some [.key "a"]) (.map (fdel kvs "$merge"))) [] (.list [.str "b"])
      = .ok (.list [.int 1]) ∧ (fdel kvs "$merge").isEmpty = true :=
  ⟨get_list_strs _ _ "b" [], by decide⟩

/-- referenced scalar / list, non-empty local content: a type error (as `merge` reports) -/
theorem C10_merge_map_other_nonempty {fuel : Nat} {docs : List Val} {root : Val} {loc : Loc}
    {kvs : Fields} {ref other : Val} (hm : fget kvs "$merge" = some ref)
    (hg : get (setLoc root loc (.map (fdel kvs "$merge"))) docs ref = .ok other)
    (h1 : other.isMap = false) (h2 : other.isNull = false)
    (he : (fdel kvs "$merge").isEmpty = false) :
    process1 (fuel + 1) docs root loc (.map kvs) = .error .invalidType := by
  rw [process1_merge_eq hm, hg, ok_bind, merge_map_other _ _ h1 h2, he]
  rfl

example :
    let kvs : Fields := [("$merge", .list [.str "b"]), ("x", .int 1)]
    let root : Val := .map [("a", .map kvs), ("b", .list [.int 1])]
    get (setLoc root (some [.key "a"]) (.map (fdel kvs "$merge"))) [] (.list [.str "b"])
      = .ok (.list [.int 1]) ∧ (fdel kvs "$merge").isEmpty = false :=
  ⟨get_list_strs _ _ "b" [], by decide⟩

/-- referenced map carrying `$replace: true`: that map minus the marker (a copy); the host
    keeps only the deletion of its `$merge` key -/
theorem C10_merge_map_replace_true {fuel : Nat} {docs : List Val} {root : Val} {loc : Loc}
    {kvs s : Fields} {ref : Val} (hm : fget kvs "$merge" = some ref)
    (hg : get (setLoc root loc (.map (fdel kvs "$merge"))) docs ref = .ok (.map s))
    (hr : fhasBool s "$replace" true = true) :
    process1 (fuel + 1) docs root loc (.map kvs) =
      process1 fuel docs (setLoc root loc (.map (fdel kvs "$merge"))) none
        (.map (fdel s "$replace")) := by
  rw [process1_merge_eq hm, hg, ok_bind, merge_map_map, mergeMapMap_replace hr, ok_bind]
  simp only [mergesInPlace, hr, Bool.not_true, Bool.false_eq_true, if_false]

example :
    let kvs : Fields := [("$merge", .list [.str "b"]), ("x", .int 1)]
    let root : Val := .map [("a", .map kvs), ("b", .map [("$replace", .bool true), ("y", .int 2)])]
    get (setLoc root (some [.key "a"]) (.map (fdel kvs "$merge"))) [] (.list [.str "b"])
      = .ok (.map [("$replace", .bool true), ("y", .int 2)]) ∧
    fhasBool [("$replace", Val.bool true), ("y", .int 2)] "$replace" true = true :=
  ⟨get_list_strs _ _ "b" [], by decide⟩

/-- In every sub-case the value that is evaluated next is `merge local referenced`. -/
theorem C10_merge_map_value {fuel : Nat} {docs : List Val} {root : Val} {loc : Loc} {kvs : Fields}
    {ref inp : Val} (hm : fget kvs "$merge" = some ref)
    (hg : get (setLoc root loc (.map (fdel kvs "$merge"))) docs ref = .ok inp) :
    ∃ loc' : Loc, ∃ root' : Val → Val,
      process1 (fuel + 1) docs root loc (.map kvs) =
        (merge (.map (fdel kvs "$merge")) inp >>= fun nv => process1 fuel docs (root' nv) loc' nv) := by
  rw [process1_merge_eq hm, hg, ok_bind]
  cases mergesInPlace inp
  · exact ⟨none, fun _ => _, rfl⟩
  · exact ⟨loc, fun nv => setLoc _ loc nv, rfl⟩

/-! ## string forms -/

/-- `"$merge:<path>"` evaluates to the evaluation of the referenced value. -/
theorem C10_string_merge {fuel : Nat} {docs : List Val} {root : Val} {loc : Loc} {s p : String}
    (h : stripPrefix s "$merge:" = some p) :
    process1 (fuel + 1) docs root loc (.str s) =
      (get root docs (.str p) >>= process1 fuel docs root none) :=
  process1_str_merge h

example : stripPrefix "$merge:a" "$merge:" = some "a" := stripPrefix_merge_a

/-- `"$replace:<path>"` likewise. -/
theorem C10_string_replace {fuel : Nat} {docs : List Val} {root : Val} {loc : Loc} {s p : String}
    (h0 : stripPrefix s "$merge:" = none) (h : stripPrefix s "$replace:" = some p) :
    process1 (fuel + 1) docs root loc (.str s) =
      (get root docs (.str p) >>= process1 fuel docs root none) :=
  process1_str_replace h0 h

example : stripPrefix "$replace:a" "$merge:" = none ∧
    stripPrefix "$replace:a" "$replace:" = some "a" :=
  ⟨stripPrefix_replace_a_merge, stripPrefix_replace_a⟩

/-- A string with neither prefix is returned unchanged, and so is the root. -/
theorem C10_string_plain {fuel : Nat} {docs : List Val} {root : Val} {loc : Loc} {s : String}
    (h0 : stripPrefix s "$merge:" = none) (h : stripPrefix s "$replace:" = none) :
    process1 (fuel + 1) docs root loc (.str s) = .ok (.str s, root) :=
  process1_str_plain h0 h

example : stripPrefix "hello" "$merge:" = none ∧ stripPrefix "hello" "$replace:" = none :=
  ⟨stripPrefix_hello_merge, stripPrefix_hello_replace⟩

/-- Non-reference scalars are returned unchanged, and so is the root. -/
theorem C10_scalar_plain (fuel : Nat) (docs : List Val) (root : Val) (loc : Loc) :
    process1 (fuel + 1) docs root loc .null = .ok (.null, root) ∧
    (∀ b, process1 (fuel + 1) docs root loc (.bool b) = .ok (.bool b, root)) ∧
    (∀ i, process1 (fuel + 1) docs root loc (.int i) = .ok (.int i, root)) ∧
    (∀ r, process1 (fuel + 1) docs root loc (.flt r) = .ok (.flt r, root)) :=
  ⟨process1_null _ _ _ _, process1_bool _ _ _ _, process1_int _ _ _ _, process1_flt _ _ _ _⟩

/-! ## list forms -/

/-- A list whose only `{$merge: ref}` entry refers to `ref`: the remaining entries (tagged with
    their positions) are merged with the referenced list by `mergeListTagged`, then the list is
    finished as usual (`listFinish`: `{$replace: _}` entry lookup, then entry-wise evaluation). -/
theorem C10_merge_list {fuel : Nat} {docs : List Val} {root : Val} {loc : Loc} {xs : List Val}
    {ref : Val} (h : listMerges xs = [ref]) :
    process1 (fuel + 1) docs root loc (.list xs) =
      ((get root docs ref >>= fun inp =>
          match inp with
          | .list s => mergeListTagged (listObj0 xs) s
          | .null => pure (listObj0 xs)
          | _ => throw Err.invalidType) >>=
        listFinish fuel docs root loc) := by
  rw [process1_list, h, foldlM_cons]
  change _ = (mergeRefStep root docs (listObj0 xs) ref >>= listFinish fuel docs root loc)
  cases mergeRefStep root docs (listObj0 xs) ref <;> rfl

-- `pre ++ [{$merge: ref}] ++ post` without other `{$merge: _}` entries is such a list
example (ref : Val) :
    listMerges ([.int 1] ++ [.map [("$merge", ref)]] ++ [.str "x"]) = [ref] :=
  listMerges_single ref (by decide)

/-- `mergeListTagged` is `mergeListList` (the ordinary list merge) on the untagged entries:
    same result when it succeeds, same error when it fails — except that a `$match` entry in the
    referenced list is reported as `unmodelled` (it would merge into a host entry in place). -/
theorem C10_mergeListTagged_is_mergeListList (d : Tagged) (s : List Val) :
    match mergeListTagged d s with
    | .ok t => mergeListList (d.map (·.1)) s = .ok (.list (t.map (·.1)))
    | .error e => e = .unmodelled ∨ mergeListList (d.map (·.1)) s = .error e :=
  mergeListTagged_agrees d s

/-- A referenced list of plain entries (no `$delete` / `$match` / `$replace` directives) is
    appended, as copies, to the host entries (minus `$required` markers). -/
theorem C10_mergeListTagged_plain (d : Tagged) {s : List Val} (h : s.all plainEntry = true) :
    mergeListTagged d s =
      .ok (d.filter (fun x => !(x.1 == .str "$required")) ++ s.map (·, none)) :=
  mergeListTagged_plain d h

example : [Val.int 1, .map [("x", .int 2)]].all plainEntry = true := by decide

/-- Simplest instance: the list is just `[{$merge: ref}]` and the referenced list consists of
    plain entries, none of which is a `{$replace: _}` entry: the result is the evaluation of the
    entries of the referenced list in order (as copies, nulls dropped); the root is unchanged. -/
theorem C10_merge_list_single {fuel : Nat} {docs : List Val} {root : Val} {loc : Loc}
    {ref : Val} {s : List Val} (hg : get root docs ref = .ok (.list s))
    (hs : s.all plainEntry = true) (hr : ∀ v ∈ s, notReplaceEntry v = true) :
    process1 (fuel + 1) docs root loc (.list [.map [("$merge", ref)]]) =
      (evalCopies fuel docs root s >>= fun vs => pure (.list vs, root)) := by
  rw [C10_merge_list (listMerges_merge_entry ref), hg, ok_bind, listObj0_merge_entry]
  simp only [mergeListTagged_plain [] hs, List.filter_nil, List.nil_append, ok_bind]
  have hpop : popListMapValue ((s.map (·, (none : Option Nat))).map (·.1)) "$replace" =
      .ok (.null, s) := by
    rw [map_fst_fresh]; exact popListMapValue_no_replace hr
  have hfil : (s.map (·, (none : Option Nat))).filter (fun x => notReplaceEntry x.1) =
      s.map (·, none) := by
    rw [List.filter_eq_self]
    intro a ha
    obtain ⟨v, hv, rfl⟩ := List.mem_map.1 ha
    exact hr v hv
  rw [listFinish_entries hpop rfl, hfil, foldlM_entryStep_copies]
  unfold evalCopies
  cases s.mapM (fun v => process1 fuel docs root none v) <;> rfl

example :
    let root : Val := .map [("l", .list [.int 1, .str "x"])]
    get root [] (.list [.str "l"]) = .ok (.list [.int 1, .str "x"]) ∧
    [Val.int 1, .str "x"].all plainEntry = true ∧
    ∀ v ∈ [Val.int 1, .str "x"], notReplaceEntry v = true :=
  ⟨get_list_strs _ _ "l" [], by decide, by decide⟩

/-- `plainEntry` alone is not enough for `C10_merge_list_single`: a referenced list containing a
    `{$replace: ref2}` entry is replaced by the evaluation of `ref2`. -/
theorem C10_merge_list_single_needs_no_replace_entry :
    let root : Val := .map [("l", .list [.map [("$replace", .list [.str "z"])]]), ("z", .int 7)]
    [Val.map [("$replace", .list [.str "z"])]].all plainEntry = true ∧
    process1 2 [] root none (.list [.map [("$merge", .list [.str "l"])]]) = .ok (.int 7, root) := by
  intro root
  refine ⟨by decide, ?_⟩
  have hg : get root [] (.list [.str "l"]) = .ok (.list [.map [("$replace", .list [.str "z"])]]) :=
    get_list_strs _ _ "l" []
  have hz : get root [] (.list [.str "z"]) = .ok (.int 7) := get_list_strs _ _ "z" []
  rw [C10_merge_list (listMerges_merge_entry _), hg, ok_bind, listObj0_merge_entry]
  simp only [mergeListTagged_plain [] (by decide : [Val.map [("$replace", .list [.str "z"])]].all plainEntry = true),
    List.filter_nil, List.nil_append, ok_bind]
  have hpop : popListMapValue
      (([Val.map [("$replace", .list [.str "z"])]].map (·, (none : Option Nat))).map (·.1))
      "$replace" = .ok (.list [.str "z"], []) :=
    popListMapValue_one_replace (pre := []) (post := []) (.list [.str "z"]) (by simp)
  rw [listFinish_replace hpop rfl, hz, ok_bind]
  exact process1_int _ _ _ _ _

/-- the referenced value is `null`: nothing is merged in -/
theorem C10_merge_list_single_null {fuel : Nat} {docs : List Val} {root : Val} {loc : Loc}
    {ref : Val} (hg : get root docs ref = .ok .null) :
    process1 (fuel + 1) docs root loc (.list [.map [("$merge", ref)]]) = .ok (.list [], root) := by
  rw [C10_merge_list (listMerges_merge_entry ref), hg, ok_bind, listObj0_merge_entry]
  rfl

example : get (.map [("l", .null)]) [] (.list [.str "l"]) = .ok .null := get_list_strs _ _ "l" []

/-- the referenced value is neither a list nor `null`: a type error -/
theorem C10_merge_list_nonlist {fuel : Nat} {docs : List Val} {root : Val} {loc : Loc}
    {xs : List Val} {ref inp : Val} (h : listMerges xs = [ref]) (hg : get root docs ref = .ok inp)
    (h1 : inp.isList = false) (h2 : inp.isNull = false) :
    process1 (fuel + 1) docs root loc (.list xs) = .error .invalidType := by
  rw [C10_merge_list h, hg, ok_bind]
  cases inp <;> simp [Val.isList, Val.isNull] at h1 h2 <;> rfl

example : get (.map [("l", .int 3)]) [] (.list [.str "l"]) = .ok (.int 3) :=
  get_list_strs _ _ "l" []

/-- A list whose only directive entry is one `{$replace: ref}` (non-null `ref`) evaluates to the
    evaluation of the referenced value; all other entries are discarded. -/
theorem C10_replace_list {fuel : Nat} {docs : List Val} {root : Val} {loc : Loc}
    {pre post : List Val} {ref : Val} (h : ∀ v ∈ pre ++ post, listDirective v = false)
    (hn : ref.isNull = false) :
    process1 (fuel + 1) docs root loc (.list (pre ++ [.map [("$replace", ref)]] ++ post)) =
      (get root docs ref >>= process1 fuel docs root none) :=
  forwards_list_replace h hn fuel docs root loc

example : (∀ v ∈ [Val.int 1] ++ [Val.str "x"], listDirective v = false) ∧
    (Val.str "a").isNull = false := by decide

/-- Simplest instance: `[{$replace: ref}]`. -/
theorem C10_replace_list_single {fuel : Nat} {docs : List Val} {root : Val} {loc : Loc}
    {ref : Val} (hn : ref.isNull = false) :
    process1 (fuel + 1) docs root loc (.list [.map [("$replace", ref)]]) =
      (get root docs ref >>= process1 fuel docs root none) :=
  C10_replace_list (pre := []) (post := []) (by simp) hn

/-! ## a dangling reference is an error, never silently dropped -/

theorem C10_dangling_is_error_map_merge {fuel : Nat} {docs : List Val} {root : Val} {loc : Loc}
    {kvs : Fields} {ref : Val} {e : Err} (hm : fget kvs "$merge" = some ref)
    (hg : get (setLoc root loc (.map (fdel kvs "$merge"))) docs ref = .error e) :
    process1 (fuel + 1) docs root loc (.map kvs) = .error e := by
  rw [process1_merge_eq hm, hg]; rfl

theorem C10_dangling_is_error_map_replace {fuel : Nat} {docs : List Val} {root : Val} {loc : Loc}
    {kvs : Fields} {ref : Val} {e : Err} (h0 : fget kvs "$merge" = none)
    (h : fget kvs "$replace" = some ref) (hg : get root docs ref = .error e) :
    process1 (fuel + 1) docs root loc (.map kvs) = .error e := by
  rw [process1_map_replace h0 h, hg]; rfl

theorem C10_dangling_is_error_string_merge {fuel : Nat} {docs : List Val} {root : Val} {loc : Loc}
    {s p : String} {e : Err} (h : stripPrefix s "$merge:" = some p)
    (hg : get root docs (.str p) = .error e) :
    process1 (fuel + 1) docs root loc (.str s) = .error e := by
  rw [process1_str_merge h, hg]; rfl

theorem C10_dangling_is_error_string_replace {fuel : Nat} {docs : List Val} {root : Val}
    {loc : Loc} {s p : String} {e : Err} (h0 : stripPrefix s "$merge:" = none)
    (h : stripPrefix s "$replace:" = some p) (hg : get root docs (.str p) = .error e) :
    process1 (fuel + 1) docs root loc (.str s) = .error e := by
  rw [process1_str_replace h0 h, hg]; rfl

/-- list form: the first `{$merge: ref}` entry of the list dangles -/
theorem C10_dangling_is_error_list_merge {fuel : Nat} {docs : List Val} {root : Val} {loc : Loc}
    {xs : List Val} {ref : Val} {rest : List Val} {e : Err} (h : listMerges xs = ref :: rest)
    (hg : get root docs ref = .error e) :
    process1 (fuel + 1) docs root loc (.list xs) = .error e := by
  rw [process1_list, h, foldlM_cons]
  simp only [mergeRefStep, hg]; rfl

theorem C10_dangling_is_error_list_replace {fuel : Nat} {docs : List Val} {root : Val} {loc : Loc}
    {pre post : List Val} {ref : Val} {e : Err} (h : ∀ v ∈ pre ++ post, listDirective v = false)
    (hn : ref.isNull = false) (hg : get root docs ref = .error e) :
    process1 (fuel + 1) docs root loc (.list (pre ++ [.map [("$replace", ref)]] ++ post)) =
      .error e := by
  rw [C10_replace_list h hn, hg]; rfl

-- non-vacuity: a path that does not exist in the document, and a string reference to it
example : get (.map [("a", .int 1)]) [] (.list [.str "zz"]) = .error .refNotFound :=
  get_list_strs _ _ "zz" []
example : get (.map [("b", .int 1)]) [] (.str "a") = .error .refNotFound := by
  rw [get_str]; simp only [getPathFromString, parseRef_a, splitOn_a]; rfl
example (ref : Val) :
    listMerges ([.int 1] ++ [.map [("$merge", ref)]] ++ [.str "x"]) = ref :: [] :=
  listMerges_single ref (by decide)

/-! ## reference resolution: `get`, cross-document references, `getPath` -/

/-- map form of a cross-document reference -/
theorem C10_cross_doc_map (root : Val) (docs : List Val) (pat path : Val) :
    get root docs (.map [("$match", pat), ("$path", path)]) =
      (getCrossDoc docs pat >>= fun d => get d docs path) := by
  rw [get_map]
  simp [fget]

/-- map form without `$path`: the whole matched document -/
theorem C10_cross_doc_map_nopath (root : Val) (docs : List Val) (pat : Val) :
    get root docs (.map [("$match", pat)]) = getCrossDoc docs pat := by
  rw [get_map]
  simp only [fget, if_true]
  have : ("$match" = "$path") = False := by decide
  simp only [this, if_false]
  cases getCrossDoc docs pat <;> rfl

/-- list form of a cross-document reference: first entry a map or list pattern -/
theorem C10_cross_doc_list (root : Val) (docs : List Val) (pat : Val) (rest : List Val)
    (hp : pat.isMap = true ∨ pat.isList = true) :
    get root docs (.list (pat :: rest)) =
      (getCrossDoc docs pat >>= fun d => toStringList rest >>= getPath d) := by
  rw [get_list]
  cases pat <;> simp [Val.isMap, Val.isList] at hp <;> rfl

example : (Val.map [("kind", .str "x")]).isMap = true ∨ (Val.map [("kind", .str "x")]).isList = true :=
  Or.inl rfl

/-- the two forms agree for string paths -/
theorem C10_cross_doc_forms_agree (root : Val) (docs : List Val) (p : Fields) (ps : List String) :
    get root docs (.list (.map p :: ps.map .str)) =
      get root docs (.map [("$match", .map p), ("$path", .list (ps.map .str))]) := by
  rw [C10_cross_doc_map, C10_cross_doc_list _ _ _ _ (Or.inl rfl), toStringList_strs]
  congr 1
  funext d
  cases ps with
  | nil => rw [get_list]; rfl
  | cons a tl => exact (get_list_strs d docs a tl).symm

/-- exactly one document of the stream must match -/
theorem C10_cross_zero_or_many_is_error (docs : List Val) (pat : Val) :
    (docs.filter (fun d => matchV d pat) = [] → getCrossDoc docs pat = .error .noMatchFound) ∧
    (∀ d, docs.filter (fun d => matchV d pat) = [d] → getCrossDoc docs pat = .ok d) ∧
    (2 ≤ (docs.filter (fun d => matchV d pat)).length → getCrossDoc docs pat = .error .multiMatch) := by
  unfold getCrossDoc
  refine ⟨fun h => by rw [h]; rfl, fun d h => by rw [h]; rfl, fun h => ?_⟩
  match hf : docs.filter (fun d => matchV d pat), h with
  | [], h => simp at h
  | [_], h => simp at h
  | _ :: _ :: _, _ => rfl

example : [Val.map [("k", .int 1)], .map [("k", .int 2)]].filter
    (fun d => matchV d (.map [("k", .int 1)])) = [.map [("k", .int 1)]] := by decide
example : [Val.map [("k", .int 1)], .map [("k", .int 2)]].filter
    (fun d => matchV d (.map [("k", .int 3)])) = [] := by decide
example : 2 ≤ ([Val.map [("k", .int 1)], .map [("k", .int 1)]].filter
    (fun d => matchV d (.map [("k", .int 1)]))).length := by decide

/-- a map reference without `$match` is an error -/
theorem C10_missing_match_is_error (root : Val) (docs : List Val) (conf : Fields)
    (h : fget conf "$match" = none) : get root docs (.map conf) = .error .missingMatch := by
  rw [get_map, h]

example : fget [("$path", Val.str "a")] "$match" = none := by decide

/-- A single-key `{$merge|$replace|$encode: _}` map (an unexpanded placeholder) never matches a
    map pattern (without `$invert: true`). -/
theorem C10_placeholder_never_matches (k : String) (v : Val) (pat : Fields)
    (hk : k = "$merge" ∨ k = "$replace" ∨ k = "$encode")
    (hi : fhasBool pat "$invert" true = false) :
    matchV (.map [(k, v)]) (.map pat) = false := by
  have hp : isPlaceholder [(k, v)] = true := by
    rcases hk with rfl | rfl | rfl <;> simp [isPlaceholder]
  simp [matchV, hp, hi]

example : fhasBool ([] : Fields) "$invert" true = false := by decide

/-- … and with `$invert: true` the pattern therefore always matches it. -/
theorem C10_placeholder_invert_matches (k : String) (v : Val) (pat : Fields)
    (hk : k = "$merge" ∨ k = "$replace" ∨ k = "$encode")
    (hi : fhasBool pat "$invert" true = true) :
    matchV (.map [(k, v)]) (.map pat) = true := by
  have hp : isPlaceholder [(k, v)] = true := by
    rcases hk with rfl | rfl | rfl <;> simp [isPlaceholder]
  simp [matchV, hp, hi]

example : fhasBool [("$invert", Val.bool true)] "$invert" true = true := by decide

theorem C10_getPath_spec :
    (∀ obj : Val, getPath obj [] = .ok obj) ∧
    (∀ (kvs : Fields) (p : String) (ps : List String),
      getPath (.map kvs) (p :: ps) =
        (fget kvs p).elim (.error .refNotFound) (fun v => getPath v ps)) ∧
    (∀ (obj : Val) (p : String) (ps : List String), obj.isMap = false →
      getPath obj (p :: ps) = .error .refNotFound) := by
  refine ⟨fun _ => rfl, fun kvs p ps => ?_, fun obj p ps h => ?_⟩
  · simp only [getPath]
    cases fget kvs p <;> rfl
  · cases obj <;> simp [Val.isMap] at h <;> rfl

/-! ## the referenced subtree (and everything else outside the host) is left unchanged -/

/-- Copies never write to the root. -/
theorem C10_copies_never_write_root {fuel : Nat} {docs : List Val} {root obj v root' : Val}
    (h : process1 fuel docs root none obj = .ok (v, root')) : root' = root :=
  process1_frame fuel docs root none obj v root' h

/-- Frame property: evaluating the value at location `p` changes the root at most below `p`;
    every location `q` disjoint from `p` (neither a prefix of the other) keeps its content. -/
theorem C10_target_unchanged {fuel : Nat} {docs : List Val} {root obj v root' : Val}
    {p q : List PathElem} (h : process1 fuel docs root (some p) obj = .ok (v, root'))
    (h1 : ¬ p <+: q) (h2 : ¬ q <+: p) : getLoc root' q = getLoc root q :=
  process1_frame fuel docs root (some p) obj v root' h q ⟨h1, h2⟩

/-- In particular a reference path that is disjoint from the host resolves to the same value
    (or the same `refNotFound`) before and after. -/
theorem C10_target_unchanged_getPath {fuel : Nat} {docs : List Val} {root obj v root' : Val}
    {p : List PathElem} {ks : List String}
    (h : process1 fuel docs root (some p) obj = .ok (v, root'))
    (h1 : ¬ p <+: ks.map .key) (h2 : ¬ ks.map .key <+: p) : getPath root' ks = getPath root ks := by
  rw [getPath_eq_getLoc, getPath_eq_getLoc, C10_target_unchanged h h1 h2]

-- non-vacuity: host `a: {$merge: [b], x: 1}`, target `b: {y: 2}`; evaluating the host at
-- location `a` expands it in place and leaves `b` alone
example :
    process1 3 []
      (.map [("a", .map [("$merge", .list [.str "b"]), ("x", .int 1)]), ("b", .map [("y", .int 2)])])
      (some [.key "a"]) (.map [("$merge", .list [.str "b"]), ("x", .int 1)]) =
      .ok (.map [("x", .int 1), ("y", .int 2)],
           .map [("a", .map [("x", .int 1), ("y", .int 2)]), ("b", .map [("y", .int 2)])]) ∧
    ¬ [PathElem.key "a"] <+: ["b"].map .key ∧ ¬ ["b"].map PathElem.key <+: [.key "a"] := by
  refine ⟨?_, by decide, by decide⟩
  rw [C10_merge_map_ok (kvs := [("$merge", .list [.str "b"]), ("x", .int 1)])
    (s := [("y", .int 2)]) (next := [("x", .int 1), ("y", .int 2)]) (ref := .list [.str "b"])
    (by decide) (get_list_strs _ _ "b" []) (by decide)
    (show merge (.map (fdel [("$merge", .list [.str "b"]), ("x", .int 1)] "$merge"))
      (.map [("y", .int 2)]) = _ from merge_x_y)]
  have hroot : setLoc (setLoc
      (.map [("a", .map [("$merge", .list [.str "b"]), ("x", .int 1)]), ("b", .map [("y", .int 2)])])
      (some [.key "a"]) (.map (fdel [("$merge", .list [.str "b"]), ("x", .int 1)] "$merge")))
      (some [.key "a"]) (.map [("x", .int 1), ("y", .int 2)]) =
      .map [("a", .map [("x", .int 1), ("y", .int 2)]), ("b", .map [("y", .int 2)])] := by
    decide
  rw [hroot]
  exact process1_x_y 0 _ _ _

/-! ## cycles -/

/-- A reference cycle of length 1 is reported, whatever the fuel. -/
theorem C10_self_reference_is_error (fuel : Nat) :
    process1 fuel [] (.map [("a", .str "$merge:a")]) (some [])
      (.map [("a", .str "$merge:a")]) = .error .circularRef :=
  refClosed_doc_error (kvs := [("a", .str "$merge:a")])
    (fun p hp => by
      obtain rfl := List.mem_singleton.1 hp
      exact ⟨"a", _, (forwards_str_merge "a").nextRef _, simpleKey_a, rfl⟩)
    (by decide) rfl rfl fuel [] (some [])

/-- A reference cycle of length 2 is reported, whatever the fuel. -/
theorem C10_two_cycle_is_error (fuel : Nat) :
    process1 fuel [] (.map [("a", .str "$merge:b"), ("b", .str "$merge:a")]) (some [])
      (.map [("a", .str "$merge:b"), ("b", .str "$merge:a")]) = .error .circularRef :=
  refClosed_doc_error (kvs := [("a", .str "$merge:b"), ("b", .str "$merge:a")])
    (fun p hp => by
      simp only [List.mem_cons, List.not_mem_nil, or_false] at hp
      rcases hp with rfl | rfl
      · exact ⟨"b", _, (forwards_str_merge "b").nextRef _, simpleKey_b, rfl⟩
      · exact ⟨"a", _, (forwards_str_merge "a").nextRef _, simpleKey_a, rfl⟩)
    (by decide) rfl rfl fuel [] (some [])

/-- At the depth limit used by `processDoc`, both cycles are therefore `circularRef`. -/
theorem C10_self_reference_processDoc (env : Vars) :
    processDoc [] env (.map [("a", .str "$merge:a")]) = .error .circularRef :=
  processDoc_error (C10_self_reference_is_error _)

/-! ## end to end: "as if the referenced subtree were written inline"

  Setting.  The document root is `.map kvs` (keys strictly increasing); the host is the entry
  at the top-level key `h`; the reference denotes the key path `ks` of the document
  (`PathRef ref ks`: a dotted string `a.b.c` — `pathRef_str` —, or a list `[a, b, c]` —
  `pathRef_list`), which resolves to the subtree `t`.  "Written inline" is the document
  `.map (fset kvs h t)` (Go: `doc[h] = t`).  Only the evaluated VALUE is compared
  (`Except.map Prod.fst`; `processDoc` discards the threaded root).

  With arbitrary other entries, and up to the depth limit, the statements are FALSE:
  * another entry may read the *raw* host: `a: {$merge: b, x: 1}` merges the map
    `{$replace: c}` itself into `a` (`C10_inline_replace_false`), `a: {$replace: [b, $merge]}`
    reads the `$merge` key of the host `b` (`C10_inline_merge_false`);
  * following the reference costs one level of the depth guard, so a subtree of depth
    `depthLimit - 2` evaluates when written inline and is `circularRef` when referenced
    (`C10_inline_replace_depth_false`).
  The `_partial` theorems exclude these classes:
  * the entries other than the host never read the host: `SafeFields h (fdel kvs h)` — they
    contain no map-level `$merge` key, and every reference in them (the value of a `$replace`
    key, a `$merge:` / `$replace:` string, leaf or key) is a string or list path into the
    document whose first key is not `h`; they may freely refer to each other and to the target
    (every reference-free entry is safe: `refFreeFields_safe`);
  * the inlined value evaluates with two levels of the depth guard to spare.
  Helper lemmas: `BklProofs/Lemmas/C10Inline.lean`; the statements for a host at a top-level key
  (`inline_replace_top`, `inline_merge_top`) are the case `ρ = []` of those of
  `BklProofs/Lemmas/C10NestedPaths.lean`. -/

/-- **`$replace`, general form.**  `hostv` forwards to `ref` (`Forwards`: the map form
    `{$replace: ref, …}`, the string forms `"$replace:p"` / `"$merge:p"`), `ref` denotes the path
    `ks`, which holds the reference-free subtree `t`; no other entry reads the host.
    Unless `t` needs the last two levels of the depth guard, the document evaluates to the same
    value as the document with `t` written in place of the host.  (Host and target need not even
    be disjoint: if `t` lies inside the host the statement still holds.) -/
theorem C10_inline_replace_partial {fuel : Nat} {docs : List Val} {kvs : Fields} {h : String}
    {hostv ref t : Val} {ks : List String}
    (hs : Fields.SortedKeys kvs) (hh : fget kvs h = some hostv) (hhk : refKey h = false)
    (hfw : Forwards hostv ref) (hp : PathRef ref ks) (ht : getPath (.map kvs) ks = .ok t)
    (htf : refFree t = true) (ho : SafeFields h (fdel kvs h) = true)
    (h1 : fget kvs "$replace" = none)
    (hfuel : process1 fuel [] .null none t ≠ .error .circularRef) :
    Except.map Prod.fst (process1 (fuel + 2) docs (.map kvs) (some []) (.map kvs)) =
      Except.map Prod.fst
        (process1 (fuel + 2) docs (.map (fset kvs h t)) (some []) (.map (fset kvs h t))) :=
  inline_replace_top hs hh hhk hfw hp ht htf ho hfuel

/-- the map form `h: {$replace: "a.b.c", …}` with a dotted path of plain keys -/
theorem C10_inline_replace_map_partial {fuel : Nat} {docs : List Val} {kvs m : Fields}
    {h p : String} {t : Val} {ks : List String}
    (hs : Fields.SortedKeys kvs) (hh : fget kvs h = some (.map m)) (hhk : refKey h = false)
    (h0 : fget m "$merge" = none) (hr : fget m "$replace" = some (.str p))
    (hp1 : parseRef p = some (.str p)) (hp2 : p.splitOn "." = ks)
    (ht : getPath (.map kvs) ks = .ok t)
    (htf : refFree t = true) (ho : SafeFields h (fdel kvs h) = true)
    (h1 : fget kvs "$replace" = none) (hd : depth t < fuel) :
    Except.map Prod.fst (process1 (fuel + 2) docs (.map kvs) (some []) (.map kvs)) =
      Except.map Prod.fst
        (process1 (fuel + 2) docs (.map (fset kvs h t)) (some []) (.map (fset kvs h t))) :=
  inline_replace_top hs hh hhk (forwards_map_replace h0 hr) (pathRef_str hp1 hp2) ht htf ho
    (refFree_ne_circ htf hd [] .null none)

/-- the string form `h: "$replace:a.b.c"` -/
theorem C10_inline_replace_string_partial {fuel : Nat} {docs : List Val} {kvs : Fields}
    {h p : String} {t : Val} {ks : List String}
    (hs : Fields.SortedKeys kvs) (hh : fget kvs h = some (.str ("$replace:" ++ p)))
    (hhk : refKey h = false)
    (hp1 : parseRef p = some (.str p)) (hp2 : p.splitOn "." = ks)
    (ht : getPath (.map kvs) ks = .ok t)
    (htf : refFree t = true) (ho : SafeFields h (fdel kvs h) = true)
    (h1 : fget kvs "$replace" = none) (hd : depth t < fuel) :
    Except.map Prod.fst (process1 (fuel + 2) docs (.map kvs) (some []) (.map kvs)) =
      Except.map Prod.fst
        (process1 (fuel + 2) docs (.map (fset kvs h t)) (some []) (.map (fset kvs h t))) :=
  inline_replace_top hs hh hhk (forwards_str_replace p) (pathRef_str hp1 hp2) ht htf ho
    (refFree_ne_circ htf hd [] .null none)

/-- the special case where the other entries are reference-free -/
theorem C10_inline_replace_refFree_partial {fuel : Nat} {docs : List Val} {kvs : Fields}
    {h : String} {hostv ref t : Val} {ks : List String}
    (hs : Fields.SortedKeys kvs) (hh : fget kvs h = some hostv) (hhk : refKey h = false)
    (hfw : Forwards hostv ref) (hp : PathRef ref ks) (ht : getPath (.map kvs) ks = .ok t)
    (htf : refFree t = true) (ho : refFreeFields (fdel kvs h) = true)
    (hfuel : process1 fuel [] .null none t ≠ .error .circularRef) :
    Except.map Prod.fst (process1 (fuel + 2) docs (.map kvs) (some []) (.map kvs)) =
      Except.map Prod.fst
        (process1 (fuel + 2) docs (.map (fset kvs h t)) (some []) (.map (fset kvs h t))) :=
  inline_replace_top hs hh hhk hfw hp ht htf (refFreeFields_safe h _ ho) hfuel

/-- At the level of `processDoc` / `outputDocument` (fuel = the depth guard of process1.go): the
    referencing document and the document with the subtree written inline produce the same
    output documents, or the same error. -/
theorem C10_inline_replace_output_partial {docs : List Val} {env : Vars} {kvs : Fields}
    {h : String} {hostv ref t : Val} {ks : List String}
    (hs : Fields.SortedKeys kvs) (hh : fget kvs h = some hostv) (hhk : refKey h = false)
    (hfw : Forwards hostv ref) (hp : PathRef ref ks) (ht : getPath (.map kvs) ks = .ok t)
    (htf : refFree t = true) (ho : SafeFields h (fdel kvs h) = true)
    (h1 : fget kvs "$replace" = none) (hd : depth t + 2 < depthLimit) :
    processDoc docs env (.map kvs) = processDoc docs env (.map (fset kvs h t)) ∧
    outputDocument docs env (.map kvs) = outputDocument docs env (.map (fset kvs h t)) := by
  have hfuel : process1 (depthLimit - 2) [] .null none t ≠ .error .circularRef :=
    refFree_ne_circ htf (by omega) [] .null none
  have hdl : depthLimit - 2 + 2 = depthLimit := rfl
  have := inline_replace_top (docs := docs) hs hh hhk hfw hp ht htf ho hfuel
  rw [hdl] at this
  exact ⟨processDoc_congr this, outputDocument_congr (processDoc_congr this)⟩

-- non-vacuity: `a: {x: 1}, b: {$replace: a}, c: "$replace:a", d: {$replace: a}` — the entries
-- `c` and `d` refer to the target, not to the host `b`
example :
    let kvs : Fields := [("a", .map [("x", .int 1)]), ("b", .map [("$replace", .str "a")]),
      ("c", .str ("$replace:" ++ "a")), ("d", .map [("$replace", .str "a")])]
    Fields.SortedKeys kvs ∧ fget kvs "b" = some (.map [("$replace", .str "a")]) ∧
    refKey "b" = false ∧ Forwards (.map [("$replace", .str "a")]) (.str "a") ∧
    PathRef (.str "a") ["a"] ∧ getPath (.map kvs) ["a"] = .ok (.map [("x", .int 1)]) ∧
    refFree (.map [("x", .int 1)]) = true ∧ SafeFields "b" (fdel kvs "b") = true ∧
    fget kvs "$replace" = none ∧ depth (.map [("x", .int 1)]) + 2 < depthLimit := by
  refine ⟨by decide, by decide, refKey_b,
    forwards_map_replace (by decide) (by decide), pathRef_simpleKey simpleKey_a, rfl,
    refFree_int_entry refKey_x 1, ?_, by decide, by decide⟩
  have hfd : fdel [("a", Val.map [("x", .int 1)]), ("b", .map [("$replace", .str "a")]),
      ("c", .str ("$replace:" ++ "a")), ("d", .map [("$replace", .str "a")])] "b" =
      [("a", .map [("x", .int 1)]), ("c", .str ("$replace:" ++ "a")),
       ("d", .map [("$replace", .str "a")])] := by decide
  rw [hfd]
  have hsa := safeStrRef_a "b" (by decide)
  exact safeFields_cons refKey_a (refFree_safe "b" _ (refFree_int_entry refKey_x 1))
    (safeFields_cons refKey_c (safe_str_replace hsa)
      (safeFields_cons refKey_d (safe_map_replace hsa (refStr_of_refKey refKey_a)) rfl))

-- non-vacuity of the reference-free special case: `a: {x: 1}, b: {$replace: a}`
example :
    let kvs : Fields := [("a", .map [("x", .int 1)]), ("b", .map [("$replace", .str "a")])]
    refFreeFields (fdel kvs "b") = true ∧
    fset kvs "b" (.map [("x", .int 1)]) = [("a", .map [("x", .int 1)]), ("b", .map [("x", .int 1)])] :=
  ⟨by decide +kernel, by decide +kernel⟩

-- non-vacuity of the dotted-path and string forms: `a: {c: {x: 1}}, b: {$replace: a.c}` and
-- `a: {c: {x: 1}}, b: "$replace:a.c"`
example :
    let kvs : Fields := [("a", .map [("c", .map [("x", .int 1)])]),
      ("b", .map [("$replace", .str "a.c")])]
    Fields.SortedKeys kvs ∧ fget kvs "b" = some (.map [("$replace", .str "a.c")]) ∧
    refKey "b" = false ∧ fget [("$replace", Val.str "a.c")] "$merge" = none ∧
    fget [("$replace", Val.str "a.c")] "$replace" = some (.str "a.c") ∧
    parseRef "a.c" = some (.str "a.c") ∧ "a.c".splitOn "." = ["a", "c"] ∧
    getPath (.map kvs) ["a", "c"] = .ok (.map [("x", .int 1)]) ∧
    refFree (.map [("x", .int 1)]) = true ∧ SafeFields "b" (fdel kvs "b") = true ∧
    fget kvs "$replace" = none ∧ depth (.map [("x", .int 1)]) < 5 :=
  ⟨by decide +kernel, by decide +kernel, refKey_b, by decide +kernel, by decide +kernel, parseRef_a_c,
   splitOn_a_c, rfl, refFree_int_entry refKey_x 1, refFreeFields_safe "b" _ (by decide +kernel),
   by decide +kernel, by decide +kernel⟩

example :
    let kvs : Fields := [("a", .map [("c", .map [("x", .int 1)])]),
      ("b", .str ("$replace:" ++ "a.c"))]
    Fields.SortedKeys kvs ∧ fget kvs "b" = some (.str ("$replace:" ++ "a.c")) ∧
    getPath (.map kvs) ["a", "c"] = .ok (.map [("x", .int 1)]) ∧
    SafeFields "b" (fdel kvs "b") = true ∧ fget kvs "$replace" = none ∧
    ("$replace:" ++ "a.c" : String) = "$replace:a.c" :=
  ⟨by decide +kernel, by decide +kernel, rfl, refFreeFields_safe "b" _ (by decide +kernel),
   by decide +kernel, by decide +kernel⟩

/-- **FALSE without the restriction on the other entries.**  In
    `a: {$merge: b, x: 1}, b: {$replace: c}, c: {x: 1}` the host `b` satisfies every hypothesis
    about host and target (the target `c` is reference-free, host and target are disjoint), but
    the entry `a` merges the raw host map `{$replace: c}` into itself and becomes a `$replace`
    host: the document evaluates to `{a: {x: 1}, b: {x: 1}, c: {x: 1}}`, whereas with `{x: 1}`
    written inline at `b` the entry `a` is the conflicting merge of `{x: 1}` with `{x: 1}`.
    (For every fuel ≥ 5, in particular the depth limit.) -/
theorem C10_inline_replace_false (fuel : Nat) (docs : List Val) :
    Fields.SortedKeys cexHostMerged ∧ Val.WF (.map cexHostMerged) ∧
    fget cexHostMerged "b" = some (.map [("$replace", .str "c")]) ∧
    PathRef (.str "c") ["c"] ∧ getPath (.map cexHostMerged) ["c"] = .ok (.map [("x", .int 1)]) ∧
    refFree (.map [("x", .int 1)]) = true ∧
    Except.map Prod.fst
      (process1 (fuel + 5) docs (.map cexHostMerged) (some []) (.map cexHostMerged)) =
      .ok (.map [("a", .map [("x", .int 1)]), ("b", .map [("x", .int 1)]),
                 ("c", .map [("x", .int 1)])]) ∧
    Except.map Prod.fst
      (process1 (fuel + 5) docs (.map (fset cexHostMerged "b" (.map [("x", .int 1)]))) (some [])
        (.map (fset cexHostMerged "b" (.map [("x", .int 1)])))) = .error .uselessOverride :=
  ⟨by decide +kernel, by decide +kernel, by decide +kernel, pathRef_simpleKey simpleKey_c, rfl,
   by decide +kernel, cexHostMerged_ref fuel docs, by rw [cexHostMerged_inline (fuel + 2) docs]; rfl⟩

/-- the same at the level of `processDoc`: the inline document is an error, the referencing
    document is not that error -/
theorem C10_inline_replace_false_processDoc (docs : List Val) (env : Vars) :
    processDoc docs env (.map (fset cexHostMerged "b" (.map [("x", .int 1)]))) =
      .error .uselessOverride ∧
    processDoc docs env (.map cexHostMerged) ≠ .error .uselessOverride := by
  constructor
  · exact processDoc_error (cexHostMerged_inline 997 docs)
  · intro h
    obtain ⟨r', hr'⟩ := ok_of_map_fst (cexHostMerged_ref 995 docs)
    rw [processDoc_single hr' rfl,
      e_process2_plain depthLimit docs _ env _ (by decide +kernel) (by decide +kernel)
        (by decide +kernel)] at h
    cases h

/-- **FALSE at the depth limit.**  Following the reference costs one level of the depth guard:
    with `a: nest n` (`n` nested singleton lists) and `b: {$replace: a}`, fuel `n + 2` evaluates
    the inline document but reports `circularRef` for the referencing one.  With `n = 998` the
    fuel is the depth guard of process1.go (`depthLimit`). -/
theorem C10_inline_replace_depth_false (n : Nat) (docs : List Val) :
    refFree (nest n) = true ∧ depth (nest n) = n ∧
    getPath (.map (cexDeep n)) ["a"] = .ok (nest n) ∧
    process1 (n + 2) docs (.map (cexDeep n)) (some []) (.map (cexDeep n)) = .error .circularRef ∧
    process1 (n + 2) docs (.map (fset (cexDeep n) "b" (nest n))) (some [])
      (.map (fset (cexDeep n) "b" (nest n))) =
      .ok (.map [("a", nest n), ("b", nest n)], .map [("a", nest n), ("b", nest n)]) :=
  ⟨nest_refFree n, (e_nest_props n).2.2.1, rfl, cexDeep_ref n docs, cexDeep_inline n docs⟩

theorem C10_inline_replace_depth_false_processDoc (docs : List Val) (env : Vars) :
    processDoc docs env (.map (cexDeep 998)) = .error .circularRef ∧
    ∃ r, process1 depthLimit docs (.map (fset (cexDeep 998) "b" (nest 998))) (some [])
      (.map (fset (cexDeep 998) "b" (nest 998))) = .ok r :=
  ⟨processDoc_error (cexDeep_ref 998 docs), _, cexDeep_inline 998 docs⟩

/-! ### `$merge` -/

/-- **`$merge`.**  The host is `h: {$merge: ref, …local…}`; `ref` denotes the path `k :: ks`
    (`k ≠ h`: the target does not lie inside the host) which holds the reference-free `t`; no
    other entry reads the host.  If the ordinary merge of the local content with `t`
    (`merge local t`: the referenced value layered onto the local content, the direction of
    `C10_merge_map`) succeeds with `nv`, the document evaluates to the same value as the
    document with `nv` written in place of the host — unless the evaluation of `nv` needs the
    last two levels of the depth guard.  `t` may be a map (merged key by key), `null` (the local
    content alone) or, when there is no local content, a scalar or a list. -/
theorem C10_inline_merge_partial {fuel : Nat} {docs : List Val} {kvs m : Fields} {h k : String}
    {ref t nv : Val} {ks : List String}
    (hs : Fields.SortedKeys kvs) (hh : fget kvs h = some (.map m)) (hhk : refKey h = false)
    (hm : fget m "$merge" = some ref) (hp : PathRef ref (k :: ks)) (hk : k ≠ h)
    (ht : getPath (.map kvs) (k :: ks) = .ok t) (htf : refFree t = true)
    (ho : SafeFields h (fdel kvs h) = true) (h1 : fget kvs "$replace" = none)
    (hn : merge (.map (fdel m "$merge")) t = .ok nv)
    (hfuel : process1 fuel docs (.map (fset kvs h nv)) (some [.key h]) nv ≠ .error .circularRef) :
    Except.map Prod.fst (process1 (fuel + 2) docs (.map kvs) (some []) (.map kvs)) =
      Except.map Prod.fst
        (process1 (fuel + 2) docs (.map (fset kvs h nv)) (some []) (.map (fset kvs h nv))) :=
  inline_merge_top hs hh hhk hm hp hk ht (Or.inr (Or.inr htf)) ho hn hfuel

/-- When the referenced value is a map (without the `$replace: true` marker) it need not be
    reference-free, and neither need the local content: the merged map is evaluated in place of
    the host in both documents. -/
theorem C10_inline_merge_map_partial {fuel : Nat} {docs : List Val} {kvs m s : Fields}
    {h k : String} {ref nv : Val} {ks : List String}
    (hs : Fields.SortedKeys kvs) (hh : fget kvs h = some (.map m)) (hhk : refKey h = false)
    (hm : fget m "$merge" = some ref) (hp : PathRef ref (k :: ks)) (hk : k ≠ h)
    (ht : getPath (.map kvs) (k :: ks) = .ok (.map s)) (hr : fhasBool s "$replace" true = false)
    (ho : SafeFields h (fdel kvs h) = true) (h1 : fget kvs "$replace" = none)
    (hn : merge (.map (fdel m "$merge")) (.map s) = .ok nv)
    (hfuel : process1 fuel docs (.map (fset kvs h nv)) (some [.key h]) nv ≠ .error .circularRef) :
    Except.map Prod.fst (process1 (fuel + 2) docs (.map kvs) (some []) (.map kvs)) =
      Except.map Prod.fst
        (process1 (fuel + 2) docs (.map (fset kvs h nv)) (some []) (.map (fset kvs h nv))) :=
  inline_merge_top hs hh hhk hm hp hk ht (Or.inl ⟨s, rfl, hr⟩) ho hn hfuel

/-- … and when the ordinary merge fails, the document fails (with that error, unless an entry
    before the host has failed already). -/
theorem C10_inline_merge_conflict_safe_partial {fuel : Nat} {docs : List Val} {kvs m : Fields}
    {h k : String} {ref t : Val} {ks : List String} {e : Err}
    (hs : Fields.SortedKeys kvs) (hh : fget kvs h = some (.map m)) (hhk : refKey h = false)
    (hm : fget m "$merge" = some ref) (hp : PathRef ref (k :: ks)) (hk : k ≠ h)
    (ht : getPath (.map kvs) (k :: ks) = .ok t) (htf : refFree t = true)
    (ho : SafeFields h (fdel kvs h) = true) (h1 : fget kvs "$replace" = none)
    (hn : merge (.map (fdel m "$merge")) t = .error e) :
    ∃ e', process1 (fuel + 2) docs (.map kvs) (some []) (.map kvs) = .error e' :=
  inline_merge_error_safe_core hs hh hhk hm hp hk ht ho h1 hn

/-- With reference-free other entries within the depth guard the error is exactly the error of
    the merge. -/
theorem C10_inline_merge_conflict_partial {fuel : Nat} {docs : List Val} {kvs m : Fields}
    {h k : String} {ref t : Val} {ks : List String} {e : Err}
    (hs : Fields.SortedKeys kvs) (hh : fget kvs h = some (.map m)) (hhk : refKey h = false)
    (hm : fget m "$merge" = some ref) (hp : PathRef ref (k :: ks)) (hk : k ≠ h)
    (ht : getPath (.map kvs) (k :: ks) = .ok t) (htf : refFree t = true)
    (ho : refFreeFields (fdel kvs h) = true)
    (hd : ∀ p ∈ fdel kvs h, depth p.2 < fuel + 1)
    (hn : merge (.map (fdel m "$merge")) t = .error e) :
    process1 (fuel + 2) docs (.map kvs) (some []) (.map kvs) = .error e :=
  inline_merge_error_core hs hh hhk hm hp hk ht ho hd hn

/-- the same at the level of `processDoc` / `outputDocument` -/
theorem C10_inline_merge_output_partial {docs : List Val} {env : Vars} {kvs m : Fields}
    {h k : String} {ref t nv : Val} {ks : List String}
    (hs : Fields.SortedKeys kvs) (hh : fget kvs h = some (.map m)) (hhk : refKey h = false)
    (hm : fget m "$merge" = some ref) (hp : PathRef ref (k :: ks)) (hk : k ≠ h)
    (ht : getPath (.map kvs) (k :: ks) = .ok t) (htf : refFree t = true)
    (ho : SafeFields h (fdel kvs h) = true) (h1 : fget kvs "$replace" = none)
    (hn : merge (.map (fdel m "$merge")) t = .ok nv)
    (hfuel : process1 (depthLimit - 2) docs (.map (fset kvs h nv)) (some [.key h]) nv ≠
      .error .circularRef) :
    processDoc docs env (.map kvs) = processDoc docs env (.map (fset kvs h nv)) ∧
    outputDocument docs env (.map kvs) = outputDocument docs env (.map (fset kvs h nv)) := by
  have hdl : depthLimit - 2 + 2 = depthLimit := rfl
  have := inline_merge_top hs hh hhk hm hp hk ht (Or.inr (Or.inr htf)) ho hn hfuel
  rw [hdl] at this
  exact ⟨processDoc_congr this, outputDocument_congr (processDoc_congr this)⟩

theorem C10_inline_merge_conflict_output_partial {docs : List Val} {env : Vars} {kvs m : Fields}
    {h k : String} {ref t : Val} {ks : List String} {e : Err}
    (hs : Fields.SortedKeys kvs) (hh : fget kvs h = some (.map m)) (hhk : refKey h = false)
    (hm : fget m "$merge" = some ref) (hp : PathRef ref (k :: ks)) (hk : k ≠ h)
    (ht : getPath (.map kvs) (k :: ks) = .ok t) (htf : refFree t = true)
    (ho : refFreeFields (fdel kvs h) = true)
    (hd : ∀ p ∈ fdel kvs h, depth p.2 + 1 < depthLimit)
    (hn : merge (.map (fdel m "$merge")) t = .error e) :
    processDoc docs env (.map kvs) = .error e ∧ outputDocument docs env (.map kvs) = .error e := by
  have hdl : depthLimit - 2 + 2 = depthLimit := rfl
  have := inline_merge_error_core (fuel := depthLimit - 2) (docs := docs) hs hh hhk hm hp hk ht
    ho (fun p hp => by have := hd p hp; omega) hn
  rw [hdl] at this
  exact ⟨processDoc_error this, by rw [outputDocument_eq, processDoc_error this]; rfl⟩

-- non-vacuity: `a: {y: 2}, b: {$merge: a, x: 1}`; inline document `a: {y: 2}, b: {x: 1, y: 2}`
example (fuel : Nat) (docs : List Val) :
    let kvs : Fields := [("a", .map [("y", .int 2)]),
      ("b", .map [("$merge", .str "a"), ("x", .int 1)])]
    let nv : Val := .map [("x", .int 1), ("y", .int 2)]
    Fields.SortedKeys kvs ∧ fget kvs "b" = some (.map [("$merge", .str "a"), ("x", .int 1)]) ∧
    refKey "b" = false ∧ fget [("$merge", Val.str "a"), ("x", .int 1)] "$merge" = some (.str "a") ∧
    PathRef (.str "a") ["a"] ∧ "a" ≠ "b" ∧ getPath (.map kvs) ["a"] = .ok (.map [("y", .int 2)]) ∧
    refFree (.map [("y", .int 2)]) = true ∧ SafeFields "b" (fdel kvs "b") = true ∧
    fget kvs "$replace" = none ∧
    merge (.map (fdel [("$merge", Val.str "a"), ("x", .int 1)] "$merge")) (.map [("y", .int 2)]) =
      .ok nv ∧
    process1 (fuel + 2) docs (.map (fset kvs "b" nv)) (some [.key "b"]) nv ≠ .error .circularRef ∧
    fset kvs "b" nv = [("a", .map [("y", .int 2)]), ("b", nv)] :=
  ⟨by decide +kernel, by decide +kernel, refKey_b, by decide +kernel, pathRef_simpleKey simpleKey_a,
   by decide +kernel, rfl, refFree_int_entry refKey_y 2, refFreeFields_safe "b" _ (by decide +kernel),
   by decide +kernel, merge_x_y, (by rw [process1_x_y]; intro h; cases h), by decide +kernel⟩

-- non-vacuity of the conflict law: `a: {x: 1}, b: {$merge: a, x: 1}`
example :
    let kvs : Fields := [("a", .map [("x", .int 1)]),
      ("b", .map [("$merge", .str "a"), ("x", .int 1)])]
    Fields.SortedKeys kvs ∧ getPath (.map kvs) ["a"] = .ok (.map [("x", .int 1)]) ∧
    refFreeFields (fdel kvs "b") = true ∧ (∀ p ∈ fdel kvs "b", depth p.2 + 1 < depthLimit) ∧
    merge (.map (fdel [("$merge", Val.str "a"), ("x", .int 1)] "$merge")) (.map [("x", .int 1)]) =
      .error .uselessOverride :=
  ⟨by decide +kernel, rfl, by decide +kernel, by decide +kernel, merge_x_x⟩

/-- **FALSE without the restriction on the other entries** (the `$merge` analogue).  In
    `a: {$replace: [b, $merge]}, b: {$merge: c, x: 1}, c: {y: 2}` the entry `a` reads the raw
    `$merge` key of the host `b` and evaluates to the string `c`; with the merged map
    `{x: 1, y: 2}` written inline at `b` that path does not exist. -/
theorem C10_inline_merge_false (fuel : Nat) (docs : List Val) :
    Fields.SortedKeys cexHostRead ∧ Val.WF (.map cexHostRead) ∧
    fget cexHostRead "b" = some (.map [("$merge", .str "c"), ("x", .int 1)]) ∧
    PathRef (.str "c") ["c"] ∧ getPath (.map cexHostRead) ["c"] = .ok (.map [("y", .int 2)]) ∧
    refFree (.map [("y", .int 2)]) = true ∧
    merge (.map (fdel [("$merge", Val.str "c"), ("x", .int 1)] "$merge")) (.map [("y", .int 2)]) =
      .ok (.map [("x", .int 1), ("y", .int 2)]) ∧
    Except.map Prod.fst
      (process1 (fuel + 4) docs (.map cexHostRead) (some []) (.map cexHostRead)) =
      .ok (.map [("a", .str "c"), ("b", .map [("x", .int 1), ("y", .int 2)]),
                 ("c", .map [("y", .int 2)])]) ∧
    Except.map Prod.fst
      (process1 (fuel + 4) docs
        (.map (fset cexHostRead "b" (.map [("x", .int 1), ("y", .int 2)]))) (some [])
        (.map (fset cexHostRead "b" (.map [("x", .int 1), ("y", .int 2)])))) =
      .error .refNotFound :=
  ⟨by decide +kernel, by decide +kernel, by decide +kernel, pathRef_simpleKey simpleKey_c, rfl,
   by decide +kernel, merge_x_y, cexHostRead_ref fuel docs, by rw [cexHostRead_inline (fuel + 2) docs]; rfl⟩

/-! ### chains of references -/

/-- **Chain.**  `a₁: "$replace:a₂"`, …, `aₖ₋₁: "$replace:aₖ"`, `aₖ: t` (`chainLinks`, every `aᵢ`
    a simple key; `t` arbitrary): the reference to `aᵢ` evaluates to exactly what (a copy of) `t`
    evaluates to, each link costing one unit of fuel. -/
theorem C10_chain {kvs : Fields} {t : Val} (pre : List String) (a : String) (rest : List String)
    (hc : chainLinks kvs t (pre ++ a :: rest)) (fuel : Nat) (docs : List Val) (loc : Loc) :
    process1 (fuel + rest.length + 1) docs (.map kvs) loc (.str ("$replace:" ++ a)) =
      process1 fuel docs (.map kvs) none t :=
  chain_ref rest a (chainLinks_suffix pre hc) fuel docs loc

/-- The value stored at `aᵢ` itself (for a reference-free `t`): what `t` evaluates to, whatever
    the stream, the location and the position in the chain; the root is not touched. -/
theorem C10_chain_values {kvs : Fields} {t : Val} (pre : List String) (a : String)
    (rest : List String) (hc : chainLinks kvs t (pre ++ a :: rest)) (htf : refFree t = true) :
    ∃ v, fget kvs a = some v ∧ ∀ (fuel : Nat) (docs : List Val) (loc : Loc),
      process1 (fuel + rest.length) docs (.map kvs) loc v =
        Except.map (fun r => (r.1, Val.map kvs)) (process1 fuel [] .null none t) :=
  chain_value (chainLinks_suffix pre hc) htf

/-- At the level of the document: if the document consists of the chain and of reference-free
    entries, every `aᵢ` of the evaluated document holds the evaluation `tv` of `t` (nothing, if
    `tv` is `null`), and the document root is unchanged. -/
theorem C10_chain_document {fuel : Nat} {docs : List Val} {kvs : Fields} {t tv v r' : Val}
    {as : List String}
    (hs : Fields.SortedKeys kvs) (hc : chainLinks kvs t as) (htf : refFree t = true)
    (hkeys : ∀ p ∈ kvs, refKey p.1 = false)
    (ho : ∀ p ∈ kvs, p.1 ∉ as → refFree p.2 = true)
    (htv : process1 fuel [] .null none t = .ok (tv, .null))
    (hrun : process1 (fuel + as.length + 1) docs (.map kvs) (some []) (.map kvs) = .ok (v, r')) :
    r' = .map kvs ∧ ∀ a ∈ as,
      getPath v [a] = if tv.isNull then .error .refNotFound else .ok tv :=
  chain_document_core hs hc htf hkeys ho htv hrun

-- non-vacuity: `a: "$replace:b", b: "$replace:c", c: {x: 1}`
example :
    let kvs : Fields := [("a", .str ("$replace:" ++ "b")), ("b", .str ("$replace:" ++ "c")),
      ("c", .map [("x", .int 1)])]
    chainLinks kvs (.map [("x", .int 1)]) ([] ++ "a" :: ["b", "c"]) ∧
    chainLinks kvs (.map [("x", .int 1)]) (["a"] ++ "b" :: ["c"]) ∧
    chainLinks kvs (.map [("x", .int 1)]) (["a", "b"] ++ "c" :: []) ∧
    Fields.SortedKeys kvs ∧ refFree (.map [("x", .int 1)]) = true ∧
    (∀ p ∈ kvs, refKey p.1 = false) ∧ (∀ p ∈ kvs, p.1 ∉ ["a", "b", "c"] → refFree p.2 = true) ∧
    process1 2 [] .null none (.map [("x", .int 1)]) = .ok (.map [("x", .int 1)], .null) := by
  have hc : chainLinks [("a", .str ("$replace:" ++ "b")), ("b", .str ("$replace:" ++ "c")),
      ("c", .map [("x", .int 1)])] (.map [("x", .int 1)]) ["a", "b", "c"] :=
    ⟨simpleKey_a, by decide, simpleKey_b, by decide, simpleKey_c, by decide⟩
  exact ⟨hc, hc, hc, by decide, refFree_int_entry refKey_x 1,
    by simp only [List.forall_mem_cons, refKey_a, refKey_b, refKey_c, List.not_mem_nil,
      false_imp_iff, implies_true, and_self],
    by decide, process1_int_entry refKey_x 1 0 _ _ _⟩

/-- … and such a document does evaluate (the other entries are within the depth guard): the
    complete statement, without the hypothesis that the evaluation succeeds. -/
theorem C10_chain_document_ok {fuel : Nat} {docs : List Val} {kvs : Fields} {t tv : Val}
    {as : List String}
    (hs : Fields.SortedKeys kvs) (hc : chainLinks kvs t as) (htf : refFree t = true)
    (hkeys : ∀ p ∈ kvs, refKey p.1 = false)
    (ho : ∀ p ∈ kvs, p.1 ∉ as → refFree p.2 = true ∧ depth p.2 < fuel + as.length)
    (htv : process1 fuel [] .null none t = .ok (tv, .null)) :
    ∃ v, process1 (fuel + as.length + 1) docs (.map kvs) (some []) (.map kvs) =
        .ok (v, .map kvs) ∧
      ∀ a ∈ as, getPath v [a] = if tv.isNull then .error .refNotFound else .ok tv := by
  obtain ⟨v, hv⟩ := chain_document_ok (docs := docs) hs hc htf hkeys ho htv
  exact ⟨v, hv, (chain_document_core hs hc htf hkeys (fun p hp hm => (ho p hp hm).1) htv hv).2⟩

example :
    let kvs : Fields := [("a", .str ("$replace:" ++ "b")), ("b", .str ("$replace:" ++ "c")),
      ("c", .map [("x", .int 1)]), ("d", .int 7)]
    ∀ p ∈ kvs, p.1 ∉ ["a", "b", "c"] → refFree p.2 = true ∧ depth p.2 < 2 + 3 := by decide

/-! ### the referenced subtree is left unchanged -/

/-- **`$replace`: the referenced subtree in the result.**  In the setting of
    `C10_inline_replace_refFree_partial` (reference-free other entries), with a well-formed
    document and the target outside the host (`k ≠ h`): if the document evaluates to `(v, r')`
    then the threaded root is unchanged (`r' = root`; in particular the path still holds `t`),
    and in the evaluated document both the
    path `k :: ks` and the host key `h` hold the evaluation `tv` of `t` (both are absent when `tv`
    is `null`): expansion at the host did not alter the target. -/
theorem C10_referenced_unchanged_output {fuel : Nat} {docs : List Val} {kvs : Fields}
    {h k : String} {hostv ref t v r' : Val} {ks : List String}
    (hw : Val.WF (.map kvs)) (hh : fget kvs h = some hostv) (hhk : refKey h = false)
    (hfw : Forwards hostv ref) (hp : PathRef ref (k :: ks)) (hk : k ≠ h)
    (ht : getPath (.map kvs) (k :: ks) = .ok t)
    (htf : refFree t = true) (ho : refFreeFields (fdel kvs h) = true)
    (hrun : process1 (fuel + 2) docs (.map kvs) (some []) (.map kvs) = .ok (v, r')) :
    r' = .map kvs ∧ getPath r' (k :: ks) = .ok t ∧
    ∃ tv, process1 (fuel + 1) [] .null none t = .ok (tv, .null) ∧
      getPath v (k :: ks) = (if tv.isNull then .error .refNotFound else .ok tv) ∧
      getPath v [h] = (if tv.isNull then .error .refNotFound else .ok tv) := by
  obtain ⟨h1, h2⟩ := replace_unchanged_core hw hh hhk hfw hp hk ht htf ho hrun
  exact ⟨h1, by rw [h1]; exact ht, h2⟩

/-- **`$merge`: the referenced subtree in the result.**  In the setting of
    `C10_inline_merge_partial` with reference-free other entries (whatever the host does with the
    referenced value): if the document
    evaluates to `(v, r')` then the threaded root — in which the host has been expanded in place —
    still holds `t` at the path, and the evaluated document holds the evaluation of `t` there.
    (Connects `C10_target_unchanged` to the final result.) -/
theorem C10_referenced_unchanged_output_merge {fuel : Nat} {docs : List Val} {kvs m : Fields}
    {h k : String} {t v r' : Val} {ks : List String}
    (hw : Val.WF (.map kvs)) (hh : fget kvs h = some (.map m)) (hhk : refKey h = false)
    (hk : k ≠ h) (ht : getPath (.map kvs) (k :: ks) = .ok t)
    (ho : refFreeFields (fdel kvs h) = true)
    (hrun : process1 (fuel + 2) docs (.map kvs) (some []) (.map kvs) = .ok (v, r')) :
    getPath r' (k :: ks) = .ok t ∧
    ∃ tv, process1 (fuel + 1) [] .null none t = .ok (tv, .null) ∧
      getPath v (k :: ks) = (if tv.isNull then .error .refNotFound else .ok tv) :=
  merge_unchanged_core hw hhk hk ht ho hrun

-- non-vacuity: the two example documents do evaluate
example (fuel : Nat) (docs : List Val) :
    let kvs : Fields := [("a", .map [("x", .int 1)]), ("b", .map [("$replace", .str "a")])]
    Val.WF (.map kvs) ∧ "a" ≠ "b" ∧
    ∃ r', process1 (fuel + 2 + 2) docs (.map kvs) (some []) (.map kvs) =
      .ok (.map [("a", .map [("x", .int 1)]), ("b", .map [("x", .int 1)])], r') :=
  ⟨by decide +kernel, by decide +kernel, _,
    process1_pair refKey_a refKey_b lt_a_b (process1_int_entry refKey_x 1 _ _ _ _)
      (((forwards_replace_only _).to_path (pathRef_simpleKey simpleKey_a) rfl _ _ _).trans
        (process1_int_entry refKey_x 1 _ _ _ _)) rfl rfl⟩

example (fuel : Nat) (docs : List Val) :
    let kvs : Fields := [("a", .map [("y", .int 2)]),
      ("b", .map [("$merge", .str "a"), ("x", .int 1)])]
    Val.WF (.map kvs) ∧
    ∃ r', process1 (fuel + 2 + 2) docs (.map kvs) (some []) (.map kvs) =
      .ok (.map [("a", .map [("y", .int 2)]), ("b", .map [("x", .int 1), ("y", .int 2)])], r') := by
  refine ⟨by decide +kernel,
    .map [("a", .map [("y", .int 2)]), ("b", .map [("x", .int 1), ("y", .int 2)])], ?_⟩
  -- the host `b` is expanded in place: the root handed back holds the merged map
  have hb := host_eval (fuel := fuel + 2) (docs := docs) (h := "b")
    (rk := [("a", .map [("y", .int 2)]), ("b", .map [("$merge", .str "a"), ("x", .int 1)])])
    (m := [("$merge", .str "a"), ("x", .int 1)]) (s := [("y", .int 2)]) simpleKey_a (by decide)
    (by decide) (by decide) (by decide) (by decide) mergeFields_x_y (process1_x_y _ _ _ _)
  rw [process1_map_plain (by decide) (by decide), foldlM_cons,
    mapStep_ok (loc := some []) refKey_a (process1_int_entry refKey_y 2 _ _ _ _) rfl]
  simp only []
  rw [foldlM_cons, mapStep_ok (loc := some []) refKey_b hb rfl]
  rfl

/-! ## end to end, host at ARBITRARY DEPTH inside nested maps

  Setting.  The document root is `.map kvs`; the host sits at the NON-EMPTY key path
  `π = h :: ρ` through nested maps (`getPath (.map kvs) (h :: ρ) = .ok hostv`): `h` is the
  top-level key of the entry that contains the host, `ρ` the rest of the path (`ρ = []` is the
  top-level case of the theorems above).  "Written inline" is the document
  `c10n_setKeys (.map kvs) (h :: ρ) t`, i.e. the model's own `setPath` along the keys of the path
  (`c10n_setKeys root π x = setPath root (π.map .key) x`; `c10n_getPath_setKeys`: afterwards the
  path holds `x`; at `ρ = []` it is `.map (fset kvs h t)`).

  Hypothesis on the rest of the document — `c10n_around h (.map kvs) (h :: ρ) = true`:
  at EVERY level along the path (the document itself, the entry `h`, …, the map that holds the
  host) the map is sorted, the key of the path is not a reference key (`refKey k = false`), and
  the SIBLINGS of the path are `SafeFields h`: they contain no map-level `$merge` key and every
  reference in them (value of a `$replace` key, `$merge:` / `$replace:` string, leaf or key) is a
  string or list path into the document whose FIRST key is not `h = π.head` — so no reference
  outside the host is a prefix of `π`, extends `π`, or even enters the top-level entry that
  contains the host.  Siblings may freely refer to other top-level entries and to the target.
  (`c10n_aroundFree`, reference-free siblings, is the `decide`-able special case:
  `c10n_around_of_free`.)  Maps on the way to the host may even carry a `$replace` key of their
  own (then neither document ever evaluates the host).

  Depth margin: one level of the depth guard per level of the path, plus the level that following
  the reference costs: `depth t + π.length + 1 < fuel` (tight at `π.length = 1`:
  `C10_inline_replace_depth_false`).
  Helper lemmas: `BklProofs/Lemmas/C10NestedPaths.lean` (writing at a key path, `c10n_around`; the simulation,
  the context of the host, `c10n_inline_*_core`). -/

/-- **`$replace`, host at depth.**  `hostv` — the value at the key path `h :: ρ` — forwards to
    `ref`, which denotes the path `ks` holding the reference-free subtree `t`; nothing outside the
    host reads the top-level entry `h` (`c10n_around`).  Unless `t` needs the last
    `ρ.length + 2` levels of the depth guard, the document evaluates to the same value (or the
    same error) as the document with `t` written at `h :: ρ`. -/
theorem C10_inline_replace_nested_partial {fuel : Nat} {docs : List Val} {kvs : Fields}
    {h : String} {ρ : List String} {hostv ref t : Val} {ks : List String}
    (hhost : getPath (.map kvs) (h :: ρ) = .ok hostv)
    (har : c10n_around h (.map kvs) (h :: ρ) = true)
    (hfw : Forwards hostv ref) (hp : PathRef ref ks) (ht : getPath (.map kvs) ks = .ok t)
    (htf : refFree t = true)
    (hfuel : process1 fuel [] .null none t ≠ .error .circularRef) :
    Except.map Prod.fst
        (process1 (fuel + ρ.length + 2) docs (.map kvs) (some []) (.map kvs)) =
      Except.map Prod.fst
        (process1 (fuel + ρ.length + 2) docs (c10n_setKeys (.map kvs) (h :: ρ) t) (some [])
          (c10n_setKeys (.map kvs) (h :: ρ) t)) :=
  c10n_inline_replace_core hhost har hfw hp ht htf hfuel

/-- the same for an arbitrary non-empty key path `π` (`π.head` in place of `h`), with the depth
    margin spelled out: `depth t + π.length + 1 < fuel'` -/
theorem C10_inline_replace_nested_path_partial {fuel' : Nat} {docs : List Val} {kvs : Fields}
    {π : List String} {hostv ref t : Val} {ks : List String} (hne : π ≠ [])
    (hhost : getPath (.map kvs) π = .ok hostv)
    (har : c10n_around (π.head hne) (.map kvs) π = true)
    (hfw : Forwards hostv ref) (hp : PathRef ref ks) (ht : getPath (.map kvs) ks = .ok t)
    (htf : refFree t = true) (hd : depth t + π.length + 1 < fuel') :
    Except.map Prod.fst (process1 fuel' docs (.map kvs) (some []) (.map kvs)) =
      Except.map Prod.fst
        (process1 fuel' docs (c10n_setKeys (.map kvs) π t) (some [])
          (c10n_setKeys (.map kvs) π t)) := by
  cases π with
  | nil => exact absurd rfl hne
  | cons h ρ =>
    simp only [List.head_cons] at har
    simp only [List.length_cons] at hd
    have hfuel : process1 (fuel' - ρ.length - 2) [] .null none t ≠ .error .circularRef :=
      refFree_ne_circ htf (by omega) [] .null none
    have hf : fuel' - ρ.length - 2 + ρ.length + 2 = fuel' := by omega
    have := c10n_inline_replace_core (docs := docs) hhost har hfw hp ht htf hfuel
    rw [hf] at this
    exact this

/-- **Sanity: the top-level theorem is the special case `π = [h]`.**  From the hypotheses of
    `C10_inline_replace_partial` (its `h1` is not even needed), by the nested theorem at
    `ρ = []` (`inline_replace_top`). -/
theorem C10_inline_replace_nested_top {fuel : Nat} {docs : List Val} {kvs : Fields} {h : String}
    {hostv ref t : Val} {ks : List String}
    (hs : Fields.SortedKeys kvs) (hh : fget kvs h = some hostv) (hhk : refKey h = false)
    (hfw : Forwards hostv ref) (hp : PathRef ref ks) (ht : getPath (.map kvs) ks = .ok t)
    (htf : refFree t = true) (ho : SafeFields h (fdel kvs h) = true)
    (hfuel : process1 fuel [] .null none t ≠ .error .circularRef) :
    Except.map Prod.fst (process1 (fuel + 2) docs (.map kvs) (some []) (.map kvs)) =
      Except.map Prod.fst
        (process1 (fuel + 2) docs (.map (fset kvs h t)) (some []) (.map (fset kvs h t))) :=
  inline_replace_top hs hh hhk hfw hp ht htf ho hfuel

/-- the special case where the siblings at every level are reference-free -/
theorem C10_inline_replace_nested_refFree_partial {fuel : Nat} {docs : List Val} {kvs : Fields}
    {h : String} {ρ : List String} {hostv ref t : Val} {ks : List String}
    (hhost : getPath (.map kvs) (h :: ρ) = .ok hostv)
    (har : c10n_aroundFree (.map kvs) (h :: ρ) = true)
    (hfw : Forwards hostv ref) (hp : PathRef ref ks) (ht : getPath (.map kvs) ks = .ok t)
    (htf : refFree t = true)
    (hfuel : process1 fuel [] .null none t ≠ .error .circularRef) :
    Except.map Prod.fst
        (process1 (fuel + ρ.length + 2) docs (.map kvs) (some []) (.map kvs)) =
      Except.map Prod.fst
        (process1 (fuel + ρ.length + 2) docs (c10n_setKeys (.map kvs) (h :: ρ) t) (some [])
          (c10n_setKeys (.map kvs) (h :: ρ) t)) :=
  c10n_inline_replace_core hhost (c10n_around_of_free h _ _ har) hfw hp ht htf hfuel

/-- At the level of `processDoc` / `outputDocument` (fuel = the depth guard of process1.go): the
    referencing document and the document with the subtree written at the host's path produce
    the same output documents, or the same error. -/
theorem C10_inline_replace_nested_output_partial {docs : List Val} {env : Vars} {kvs : Fields}
    {h : String} {ρ : List String} {hostv ref t : Val} {ks : List String}
    (hhost : getPath (.map kvs) (h :: ρ) = .ok hostv)
    (har : c10n_around h (.map kvs) (h :: ρ) = true)
    (hfw : Forwards hostv ref) (hp : PathRef ref ks) (ht : getPath (.map kvs) ks = .ok t)
    (htf : refFree t = true) (hd : depth t + ρ.length + 2 < depthLimit) :
    processDoc docs env (.map kvs) =
      processDoc docs env (c10n_setKeys (.map kvs) (h :: ρ) t) ∧
    outputDocument docs env (.map kvs) =
      outputDocument docs env (c10n_setKeys (.map kvs) (h :: ρ) t) := by
  have := C10_inline_replace_nested_path_partial (fuel' := depthLimit) (docs := docs)
    (π := h :: ρ) (List.cons_ne_nil h ρ) hhost har hfw hp ht htf
    (by simp only [List.length_cons]; omega)
  exact ⟨processDoc_congr this, outputDocument_congr (processDoc_congr this)⟩

-- non-vacuity: `a: {x: 1}`, `p: {q: {h: {$replace: a}, s: 2}}` — the host is three levels deep
-- (`π = [p, q, h]`); every hypothesis holds, the inline document is
-- `a: {x: 1}, p: {q: {h: {x: 1}, s: 2}}`, and both documents evaluate to it
example (fuel : Nat) (docs : List Val) :
    let kvs : Fields := [("a", .map [("x", .int 1)]),
      ("p", .map [("q", .map [("h", .map [("$replace", .str "a")]), ("s", .int 2)])])]
    let out : Val := .map [("a", .map [("x", .int 1)]),
      ("p", .map [("q", .map [("h", .map [("x", .int 1)]), ("s", .int 2)])])]
    getPath (.map kvs) ["p", "q", "h"] = .ok (.map [("$replace", .str "a")]) ∧
    c10n_aroundFree (.map kvs) ["p", "q", "h"] = true ∧
    c10n_around "p" (.map kvs) ["p", "q", "h"] = true ∧
    Forwards (.map [("$replace", .str "a")]) (.str "a") ∧ PathRef (.str "a") ["a"] ∧
    getPath (.map kvs) ["a"] = .ok (.map [("x", .int 1)]) ∧
    refFree (.map [("x", .int 1)]) = true ∧
    depth (.map [("x", .int 1)]) + ["q", "h"].length + 2 < depthLimit ∧
    c10n_setKeys (.map kvs) ["p", "q", "h"] (.map [("x", .int 1)]) = out ∧
    Except.map Prod.fst
      (process1 (fuel + 2 + 2 + 2) docs (.map kvs) (some []) (.map kvs)) = .ok out ∧
    Except.map Prod.fst (process1 (fuel + 2 + 2 + 2) docs out (some []) out) = .ok out := by
  intro kvs out
  have hfree : c10n_aroundFree (.map kvs) ["p", "q", "h"] = true := by decide +kernel
  have hset : c10n_setKeys (.map kvs) ["p", "q", "h"] (.map [("x", .int 1)]) = out := by decide +kernel
  have hout : Except.map Prod.fst (process1 (fuel + 2 + 2 + 2) docs out (some []) out) =
      .ok out := by
    rw [process1_pair refKey_a refKey_p (by decide +kernel) (process1_int_entry refKey_x 1 _ _ _ _)
      (process1_single refKey_q (process1_pair refKey_h refKey_s (by decide +kernel)
        (process1_int_entry refKey_x 1 _ _ _ _) (process1_int _ _ _ _ _) rfl rfl) rfl) rfl rfl]
    rfl
  refine ⟨rfl, hfree, c10n_around_of_free "p" _ _ hfree,
    forwards_map_replace (by decide +kernel) (by decide +kernel), pathRef_simpleKey simpleKey_a, rfl,
    refFree_int_entry refKey_x 1, by decide +kernel, hset, ?_, hout⟩
  have key := C10_inline_replace_nested_partial (docs := docs) (fuel := fuel + 2) (h := "p")
    (ρ := ["q", "h"]) (kvs := kvs)
    (t := .map [("x", .int 1)]) (hostv := .map [("$replace", .str "a")]) (ref := .str "a")
    rfl (c10n_around_of_free "p" _ _ hfree)
    (forwards_map_replace (by decide +kernel) (by decide +kernel))
    (pathRef_simpleKey simpleKey_a) rfl (refFree_int_entry refKey_x 1)
    (by rw [process1_int_entry refKey_x 1]; intro h; cases h)
  rw [hset] at key
  exact key.trans hout

-- non-vacuity of the sibling condition beyond reference-free siblings:
-- `a: {x: 1}`, `p: {q: {h: {$replace: a}, s: "$replace:a"}}`, `r: {$replace: a}` — the sibling
-- `s` of the host and the top-level entry `r` refer to the target `a`, not into the entry `p`
example :
    let kvs : Fields := [("a", .map [("x", .int 1)]),
      ("p", .map [("q", .map [("h", .map [("$replace", .str "a")]),
                              ("s", .str ("$replace:" ++ "a"))])]),
      ("r", .map [("$replace", .str "a")])]
    getPath (.map kvs) ["p", "q", "h"] = .ok (.map [("$replace", .str "a")]) ∧
    c10n_around "p" (.map kvs) ["p", "q", "h"] = true := by
  intro kvs
  refine ⟨rfl, ?_⟩
  have hsa := safeStrRef_a "p" (by decide)
  refine c10n_around_cons.2 ⟨by decide, refKey_p, ?_, .map [("q", .map [("h", .map
      [("$replace", .str "a")]), ("s", .str ("$replace:" ++ "a"))])], by decide, ?_⟩
  · have hfd : fdel kvs "p" =
        [("a", .map [("x", .int 1)]), ("r", .map [("$replace", .str "a")])] := by decide
    rw [hfd]
    exact safeFields_cons refKey_a (refFree_safe "p" _ (refFree_int_entry refKey_x 1))
      (safeFields_cons refKey_r (safe_map_replace hsa (refStr_of_refKey refKey_a)) rfl)
  · refine c10n_around_cons.2 ⟨by decide, refKey_q, ?_,
      .map [("h", .map [("$replace", .str "a")]), ("s", .str ("$replace:" ++ "a"))],
      by decide, ?_⟩
    · have hfd : fdel [("q", Val.map [("h", .map [("$replace", .str "a")]),
          ("s", .str ("$replace:" ++ "a"))])] "q" = [] := by decide
      rw [hfd]; rfl
    · refine c10n_around_cons.2 ⟨by decide, refKey_h, ?_, .map [("$replace", .str "a")],
        by decide, c10n_around_nil _ _⟩
      have hfd : fdel [("h", Val.map [("$replace", .str "a")]),
          ("s", .str ("$replace:" ++ "a"))] "h" = [("s", .str ("$replace:" ++ "a"))] := by
        decide
      rw [hfd]
      exact safeFields_cons refKey_s (safe_str_replace hsa) rfl

/-! ### `$merge`, host at depth -/

/-- **`$merge`, host at depth.**  The host at the key path `h :: ρ` is `{$merge: ref, …local…}`;
    `ref` denotes the path `k :: ks` with `k ≠ h` (the target lies outside the top-level entry
    that contains the host) holding the reference-free `t`; nothing outside the host reads the
    top-level entry `h` (`c10n_around`).  If `merge local t` succeeds with `nv`, the document
    evaluates to the same value (or error) as the document with `nv` written at `h :: ρ` — unless
    the in-place evaluation of `nv` needs the last `ρ.length + 2` levels of the depth guard. -/
theorem C10_inline_merge_nested_partial {fuel : Nat} {docs : List Val} {kvs m : Fields}
    {h k : String} {ρ : List String} {ref t nv : Val} {ks : List String}
    (hhost : getPath (.map kvs) (h :: ρ) = .ok (.map m))
    (har : c10n_around h (.map kvs) (h :: ρ) = true)
    (hm : fget m "$merge" = some ref) (hp : PathRef ref (k :: ks)) (hk : k ≠ h)
    (ht : getPath (.map kvs) (k :: ks) = .ok t) (htf : refFree t = true)
    (hn : merge (.map (fdel m "$merge")) t = .ok nv)
    (hfuel : process1 fuel docs (c10n_setKeys (.map kvs) (h :: ρ) nv)
      (some ((h :: ρ).map PathElem.key)) nv ≠ .error .circularRef) :
    Except.map Prod.fst
        (process1 (fuel + ρ.length + 2) docs (.map kvs) (some []) (.map kvs)) =
      Except.map Prod.fst
        (process1 (fuel + ρ.length + 2) docs (c10n_setKeys (.map kvs) (h :: ρ) nv) (some [])
          (c10n_setKeys (.map kvs) (h :: ρ) nv)) :=
  c10n_inline_merge_core hhost har hm hp hk ht (Or.inr (Or.inr htf)) hn hfuel

/-- When the referenced value is a map (without the `$replace: true` marker) it need not be
    reference-free, and neither need the local content: the merged map is evaluated in place of
    the host in both documents. -/
theorem C10_inline_merge_nested_map_partial {fuel : Nat} {docs : List Val} {kvs m s : Fields}
    {h k : String} {ρ : List String} {ref nv : Val} {ks : List String}
    (hhost : getPath (.map kvs) (h :: ρ) = .ok (.map m))
    (har : c10n_around h (.map kvs) (h :: ρ) = true)
    (hm : fget m "$merge" = some ref) (hp : PathRef ref (k :: ks)) (hk : k ≠ h)
    (ht : getPath (.map kvs) (k :: ks) = .ok (.map s)) (hr : fhasBool s "$replace" true = false)
    (hn : merge (.map (fdel m "$merge")) (.map s) = .ok nv)
    (hfuel : process1 fuel docs (c10n_setKeys (.map kvs) (h :: ρ) nv)
      (some ((h :: ρ).map PathElem.key)) nv ≠ .error .circularRef) :
    Except.map Prod.fst
        (process1 (fuel + ρ.length + 2) docs (.map kvs) (some []) (.map kvs)) =
      Except.map Prod.fst
        (process1 (fuel + ρ.length + 2) docs (c10n_setKeys (.map kvs) (h :: ρ) nv) (some [])
          (c10n_setKeys (.map kvs) (h :: ρ) nv)) :=
  c10n_inline_merge_core hhost har hm hp hk ht (Or.inl ⟨s, rfl, hr⟩) hn hfuel

/-- **Sanity: `C10_inline_merge_partial` is the special case `π = [h]`** (its `h1` is not
    needed). -/
theorem C10_inline_merge_nested_top {fuel : Nat} {docs : List Val} {kvs m : Fields} {h k : String}
    {ref t nv : Val} {ks : List String}
    (hs : Fields.SortedKeys kvs) (hh : fget kvs h = some (.map m)) (hhk : refKey h = false)
    (hm : fget m "$merge" = some ref) (hp : PathRef ref (k :: ks)) (hk : k ≠ h)
    (ht : getPath (.map kvs) (k :: ks) = .ok t) (htf : refFree t = true)
    (ho : SafeFields h (fdel kvs h) = true)
    (hn : merge (.map (fdel m "$merge")) t = .ok nv)
    (hfuel : process1 fuel docs (.map (fset kvs h nv)) (some [.key h]) nv ≠ .error .circularRef) :
    Except.map Prod.fst (process1 (fuel + 2) docs (.map kvs) (some []) (.map kvs)) =
      Except.map Prod.fst
        (process1 (fuel + 2) docs (.map (fset kvs h nv)) (some []) (.map (fset kvs h nv))) :=
  inline_merge_top hs hh hhk hm hp hk ht (Or.inr (Or.inr htf)) ho hn hfuel

/-- the same at the level of `processDoc` / `outputDocument` -/
theorem C10_inline_merge_nested_output_partial {docs : List Val} {env : Vars} {kvs m : Fields}
    {h k : String} {ρ : List String} {ref t nv : Val} {ks : List String}
    (hhost : getPath (.map kvs) (h :: ρ) = .ok (.map m))
    (har : c10n_around h (.map kvs) (h :: ρ) = true)
    (hm : fget m "$merge" = some ref) (hp : PathRef ref (k :: ks)) (hk : k ≠ h)
    (ht : getPath (.map kvs) (k :: ks) = .ok t) (htf : refFree t = true)
    (hn : merge (.map (fdel m "$merge")) t = .ok nv) (hlen : ρ.length + 2 ≤ depthLimit)
    (hfuel : process1 (depthLimit - ρ.length - 2) docs (c10n_setKeys (.map kvs) (h :: ρ) nv)
      (some ((h :: ρ).map PathElem.key)) nv ≠ .error .circularRef) :
    processDoc docs env (.map kvs) =
      processDoc docs env (c10n_setKeys (.map kvs) (h :: ρ) nv) ∧
    outputDocument docs env (.map kvs) =
      outputDocument docs env (c10n_setKeys (.map kvs) (h :: ρ) nv) := by
  have hdl : depthLimit - ρ.length - 2 + ρ.length + 2 = depthLimit := by omega
  have := C10_inline_merge_nested_partial (docs := docs) hhost har hm hp hk ht htf hn hfuel
  rw [hdl] at this
  exact ⟨processDoc_congr this, outputDocument_congr (processDoc_congr this)⟩

-- non-vacuity: `a: {y: 2}`, `p: {q: {h: {$merge: a, x: 1}, s: 2}}`; inline document
-- `a: {y: 2}, p: {q: {h: {x: 1, y: 2}, s: 2}}`; both evaluate to the latter
example (fuel : Nat) (docs : List Val) :
    let kvs : Fields := [("a", .map [("y", .int 2)]),
      ("p", .map [("q", .map [("h", .map [("$merge", .str "a"), ("x", .int 1)]),
                              ("s", .int 2)])])]
    let nv : Val := .map [("x", .int 1), ("y", .int 2)]
    let out : Val := .map [("a", .map [("y", .int 2)]),
      ("p", .map [("q", .map [("h", nv), ("s", .int 2)])])]
    getPath (.map kvs) ["p", "q", "h"] = .ok (.map [("$merge", .str "a"), ("x", .int 1)]) ∧
    c10n_around "p" (.map kvs) ["p", "q", "h"] = true ∧
    fget [("$merge", Val.str "a"), ("x", .int 1)] "$merge" = some (.str "a") ∧
    PathRef (.str "a") ["a"] ∧ "a" ≠ "p" ∧ getPath (.map kvs) ["a"] = .ok (.map [("y", .int 2)]) ∧
    refFree (.map [("y", .int 2)]) = true ∧
    merge (.map (fdel [("$merge", Val.str "a"), ("x", .int 1)] "$merge")) (.map [("y", .int 2)]) =
      .ok nv ∧
    c10n_setKeys (.map kvs) ["p", "q", "h"] nv = out ∧
    process1 (fuel + 2) docs out (some (["p", "q", "h"].map PathElem.key)) nv ≠
      .error .circularRef ∧
    Except.map Prod.fst
      (process1 (fuel + 2 + 2 + 2) docs (.map kvs) (some []) (.map kvs)) = .ok out ∧
    Except.map Prod.fst (process1 (fuel + 2 + 2 + 2) docs out (some []) out) = .ok out := by
  intro kvs nv out
  have hfree : c10n_aroundFree (.map kvs) ["p", "q", "h"] = true := by decide
  have hset : c10n_setKeys (.map kvs) ["p", "q", "h"] nv = out := by decide
  have hne : process1 (fuel + 2) docs out (some (["p", "q", "h"].map PathElem.key)) nv ≠
      .error .circularRef := by rw [process1_x_y]; intro h; cases h
  have hout : Except.map Prod.fst (process1 (fuel + 2 + 2 + 2) docs out (some []) out) =
      .ok out := by
    rw [process1_pair refKey_a refKey_p (by decide) (process1_int_entry refKey_y 2 _ _ _ _)
      (process1_single refKey_q (process1_pair refKey_h refKey_s (by decide)
        (process1_x_y _ _ _ _) (process1_int _ _ _ _ _) rfl rfl) rfl) rfl rfl]
    rfl
  refine ⟨rfl, c10n_around_of_free "p" _ _ hfree, by decide, pathRef_simpleKey simpleKey_a,
    by decide, rfl, refFree_int_entry refKey_y 2, merge_x_y, hset, hne, ?_, hout⟩
  have key := C10_inline_merge_nested_partial (docs := docs) (fuel := fuel + 2) (h := "p")
    (k := "a") (ks := []) (kvs := kvs)
    (ρ := ["q", "h"]) (t := .map [("y", .int 2)]) (nv := nv)
    (m := [("$merge", .str "a"), ("x", .int 1)]) (ref := .str "a")
    rfl (c10n_around_of_free "p" _ _ hfree) (by decide) (pathRef_simpleKey simpleKey_a)
    (by decide) rfl (refFree_int_entry refKey_y 2) merge_x_y (by rw [hset]; exact hne)
  rw [hset] at key
  exact key.trans hout

/-! ### the weakest sibling condition: references APART from the host's path

  `c10n_paround π root π = true`: at every level along the host's path `π` the map is sorted, the
  key of the path is not a reference key, and the siblings of the path are `c10n_pSafeF π`: no
  map-level `$merge` key, and every reference in them is a string or list key path `p` into the
  document with `c10n_apart p π` — `p` and `π` differ at some common position, i.e. `p` is
  neither a prefix of `π` (which would read the host or one of its ancestors) nor an extension of
  `π` (which would read inside the host).  Unlike `c10n_around`, such a reference MAY enter the
  top-level entry that contains the host (a sibling `p.q.s` of the host `p.q.h`).
  `c10n_paround_of_around`: the first-key condition of the theorems above is a special case.
  The root may be any value and `π` may be empty (the document itself is the host).
  Helper lemmas: `BklProofs/Lemmas/C10NestedPaths.lean`. -/

/-- **`$replace`, host at depth, references apart from the host's path.** -/
theorem C10_inline_replace_nested_apart_partial {fuel : Nat} {docs : List Val} {root : Val}
    {π : List String} {hostv ref t : Val} {ks : List String}
    (hhost : getPath root π = .ok hostv)
    (har : c10n_paround π root π = true)
    (hfw : Forwards hostv ref) (hp : PathRef ref ks) (ht : getPath root ks = .ok t)
    (htf : refFree t = true)
    (hfuel : process1 fuel [] .null none t ≠ .error .circularRef) :
    Except.map Prod.fst (process1 (fuel + π.length + 1) docs root (some []) root) =
      Except.map Prod.fst
        (process1 (fuel + π.length + 1) docs (c10n_setKeys root π t) (some [])
          (c10n_setKeys root π t)) :=
  c10n_inline_replace_apart_core hhost har hfw hp ht htf hfuel

/-- … at the level of `processDoc` / `outputDocument`, depth margin
    `depth t + π.length + 1 < depthLimit` -/
theorem C10_inline_replace_nested_apart_output_partial {docs : List Val} {env : Vars}
    {root : Val} {π : List String} {hostv ref t : Val} {ks : List String}
    (hhost : getPath root π = .ok hostv)
    (har : c10n_paround π root π = true)
    (hfw : Forwards hostv ref) (hp : PathRef ref ks) (ht : getPath root ks = .ok t)
    (htf : refFree t = true) (hd : depth t + π.length + 1 < depthLimit) :
    processDoc docs env root = processDoc docs env (c10n_setKeys root π t) ∧
    outputDocument docs env root = outputDocument docs env (c10n_setKeys root π t) := by
  have hfuel : process1 (depthLimit - π.length - 1) [] .null none t ≠ .error .circularRef :=
    refFree_ne_circ htf (by omega) [] .null none
  have hf : depthLimit - π.length - 1 + π.length + 1 = depthLimit := by omega
  have := c10n_inline_replace_apart_core (docs := docs) hhost har hfw hp ht htf hfuel
  rw [hf] at this
  exact ⟨processDoc_congr this, outputDocument_congr (processDoc_congr this)⟩

/-- **Sanity: the first-key theorem is a special case of the apart theorem.**  The statement of
    `C10_inline_replace_nested_partial`, proved from `C10_inline_replace_nested_apart_partial`. -/
theorem C10_inline_replace_nested_apart_generalises {fuel : Nat} {docs : List Val} {kvs : Fields}
    {h : String} {ρ : List String} {hostv ref t : Val} {ks : List String}
    (hhost : getPath (.map kvs) (h :: ρ) = .ok hostv)
    (har : c10n_around h (.map kvs) (h :: ρ) = true)
    (hfw : Forwards hostv ref) (hp : PathRef ref ks) (ht : getPath (.map kvs) ks = .ok t)
    (htf : refFree t = true)
    (hfuel : process1 fuel [] .null none t ≠ .error .circularRef) :
    Except.map Prod.fst
        (process1 (fuel + ρ.length + 2) docs (.map kvs) (some []) (.map kvs)) =
      Except.map Prod.fst
        (process1 (fuel + ρ.length + 2) docs (c10n_setKeys (.map kvs) (h :: ρ) t) (some [])
          (c10n_setKeys (.map kvs) (h :: ρ) t)) :=
  C10_inline_replace_nested_apart_partial hhost (c10n_paround_of_around h ρ _ _ har) hfw hp ht
    htf hfuel

/-- **`$merge`, host at depth, references apart from the host's path.**  The target path `ks`
    itself is apart from `π` (the target lies neither above nor inside the host); `t` is
    reference-free. -/
theorem C10_inline_merge_nested_apart_partial {fuel : Nat} {docs : List Val} {root : Val}
    {m : Fields} {π : List String} {ref t nv : Val} {ks : List String}
    (hhost : getPath root π = .ok (.map m))
    (har : c10n_paround π root π = true)
    (hm : fget m "$merge" = some ref) (hp : PathRef ref ks) (hk : c10n_apart ks π = true)
    (ht : getPath root ks = .ok t) (htf : refFree t = true)
    (hn : merge (.map (fdel m "$merge")) t = .ok nv)
    (hfuel : process1 fuel docs (c10n_setKeys root π nv)
      (some (π.map PathElem.key)) nv ≠ .error .circularRef) :
    Except.map Prod.fst (process1 (fuel + π.length + 1) docs root (some []) root) =
      Except.map Prod.fst
        (process1 (fuel + π.length + 1) docs (c10n_setKeys root π nv) (some [])
          (c10n_setKeys root π nv)) :=
  c10n_inline_merge_apart_core hhost har hm hp hk ht (Or.inr (Or.inr htf)) hn hfuel

/-- … when the referenced value is a map without the `$replace: true` marker it need not be
    reference-free -/
theorem C10_inline_merge_nested_apart_map_partial {fuel : Nat} {docs : List Val} {root : Val}
    {m s : Fields} {π : List String} {ref nv : Val} {ks : List String}
    (hhost : getPath root π = .ok (.map m))
    (har : c10n_paround π root π = true)
    (hm : fget m "$merge" = some ref) (hp : PathRef ref ks) (hk : c10n_apart ks π = true)
    (ht : getPath root ks = .ok (.map s)) (hr : fhasBool s "$replace" true = false)
    (hn : merge (.map (fdel m "$merge")) (.map s) = .ok nv)
    (hfuel : process1 fuel docs (c10n_setKeys root π nv)
      (some (π.map PathElem.key)) nv ≠ .error .circularRef) :
    Except.map Prod.fst (process1 (fuel + π.length + 1) docs root (some []) root) =
      Except.map Prod.fst
        (process1 (fuel + π.length + 1) docs (c10n_setKeys root π nv) (some [])
          (c10n_setKeys root π nv)) :=
  c10n_inline_merge_apart_core hhost har hm hp hk ht (Or.inl ⟨s, rfl, hr⟩) hn hfuel

/-- … at the level of `processDoc` / `outputDocument` -/
theorem C10_inline_merge_nested_apart_output_partial {docs : List Val} {env : Vars} {root : Val}
    {m : Fields} {π : List String} {ref t nv : Val} {ks : List String}
    (hhost : getPath root π = .ok (.map m))
    (har : c10n_paround π root π = true)
    (hm : fget m "$merge" = some ref) (hp : PathRef ref ks) (hk : c10n_apart ks π = true)
    (ht : getPath root ks = .ok t) (htf : refFree t = true)
    (hn : merge (.map (fdel m "$merge")) t = .ok nv) (hlen : π.length + 1 ≤ depthLimit)
    (hfuel : process1 (depthLimit - π.length - 1) docs (c10n_setKeys root π nv)
      (some (π.map PathElem.key)) nv ≠ .error .circularRef) :
    processDoc docs env root = processDoc docs env (c10n_setKeys root π nv) ∧
    outputDocument docs env root = outputDocument docs env (c10n_setKeys root π nv) := by
  have hf : depthLimit - π.length - 1 + π.length + 1 = depthLimit := by omega
  have := c10n_inline_merge_apart_core (docs := docs) hhost har hm hp hk ht
    (Or.inr (Or.inr htf)) hn hfuel
  rw [hf] at this
  exact ⟨processDoc_congr this, outputDocument_congr (processDoc_congr this)⟩

-- non-vacuity: `a: {x: 1}`, `p: {q: {h: {$replace: a}, s: 2}, u: {$replace: [p, q, s]}}` — the
-- entry `u` INSIDE the top-level entry `p` refers to the sibling `p.q.s` of the host `p.q.h`
-- (first key `p`: excluded by `c10n_around`, admitted by `c10n_paround`)
example :
    let root : Val := .map [("a", .map [("x", .int 1)]),
      ("p", .map [("q", .map [("h", .map [("$replace", .str "a")]), ("s", .int 2)]),
                  ("u", .map [("$replace", .list [.str "p", .str "q", .str "s"])])])]
    getPath root ["p", "q", "h"] = .ok (.map [("$replace", .str "a")]) ∧
    c10n_paround ["p", "q", "h"] root ["p", "q", "h"] = true ∧
    c10n_apart ["p", "q", "s"] ["p", "q", "h"] = true ∧
    c10n_apart ["a"] ["p", "q", "h"] = true ∧
    c10n_apart ["p", "q"] ["p", "q", "h"] = false ∧
    c10n_apart ["p", "q", "h", "$replace"] ["p", "q", "h"] = false ∧
    Forwards (.map [("$replace", .str "a")]) (.str "a") ∧ PathRef (.str "a") ["a"] ∧
    getPath root ["a"] = .ok (.map [("x", .int 1)]) ∧ refFree (.map [("x", .int 1)]) = true ∧
    depth (.map [("x", .int 1)]) + ["p", "q", "h"].length + 1 < depthLimit ∧
    c10n_setKeys root ["p", "q", "h"] (.map [("x", .int 1)]) =
      .map [("a", .map [("x", .int 1)]),
        ("p", .map [("q", .map [("h", .map [("x", .int 1)]), ("s", .int 2)]),
                    ("u", .map [("$replace", .list [.str "p", .str "q", .str "s"])])])] := by
  intro root
  refine ⟨rfl, ?_, by decide, by decide, by decide, by decide,
    forwards_map_replace (by decide) (by decide), pathRef_simpleKey simpleKey_a, rfl,
    refFree_int_entry refKey_x 1, by decide, by decide⟩
  refine c10n_paround_cons.2 ⟨by decide, refKey_p, ?_,
    .map [("q", .map [("h", .map [("$replace", .str "a")]), ("s", .int 2)]),
          ("u", .map [("$replace", .list [.str "p", .str "q", .str "s"])])], by decide, ?_⟩
  · exact c10n_refFreeFields_pSafe _ _ (by decide)
  · refine c10n_paround_cons.2 ⟨by decide, refKey_q, ?_,
      .map [("h", .map [("$replace", .str "a")]), ("s", .int 2)], by decide, ?_⟩
    · have hfd : fdel [("q", Val.map [("h", .map [("$replace", .str "a")]), ("s", .int 2)]),
          ("u", .map [("$replace", .list [.str "p", .str "q", .str "s"])])] "q" =
          [("u", .map [("$replace", .list [.str "p", .str "q", .str "s"])])] := by decide
      rw [hfd]
      exact c10n_pSafeF_cons refKey_u (c10n_pSafe_map_replace_list (k := "p") (ks := ["q", "s"])
        (by decide) (by decide)) rfl
    · refine c10n_paround_cons.2 ⟨by decide, refKey_h, ?_, .map [("$replace", .str "a")],
        by decide, c10n_paround_nil _ _⟩
      exact c10n_refFreeFields_pSafe _ _ (by decide)

/-- **FALSE without the condition on the siblings INSIDE the top-level entry of the host.**  In
    `a: {x: 1}`, `p: {h: {$replace: a}, u: {$replace: [p, h, $replace]}}` the host `p.h` and the
    target `a` satisfy every hypothesis about host and target, and the other top-level entry is
    reference-free; but the sibling `u` of the host reads the raw `$replace` key of the host — its
    path `p.h.$replace` extends the host's path, `c10n_apart` fails — and evaluates to the string
    `a`; with `{x: 1}` written at `p.h` that path does not exist.  (Every fuel ≥ 5.) -/
theorem C10_inline_replace_nested_false (fuel : Nat) (docs : List Val) :
    Val.WF (.map c10n_cexRead) ∧
    getPath (.map c10n_cexRead) ["p", "h"] = .ok (.map [("$replace", .str "a")]) ∧
    Forwards (.map [("$replace", .str "a")]) (.str "a") ∧ PathRef (.str "a") ["a"] ∧
    getPath (.map c10n_cexRead) ["a"] = .ok (.map [("x", .int 1)]) ∧
    refFree (.map [("x", .int 1)]) = true ∧
    c10n_apart ["p", "h", "$replace"] ["p", "h"] = false ∧
    c10n_setKeys (.map c10n_cexRead) ["p", "h"] (.map [("x", .int 1)]) =
      .map [("a", .map [("x", .int 1)]),
        ("p", .map [("h", .map [("x", .int 1)]),
                    ("u", .map [("$replace", .list [.str "p", .str "h", .str "$replace"])])])] ∧
    Except.map Prod.fst
      (process1 (fuel + 5) docs (.map c10n_cexRead) (some []) (.map c10n_cexRead)) =
      .ok (.map [("a", .map [("x", .int 1)]),
                 ("p", .map [("h", .map [("x", .int 1)]), ("u", .str "a")])]) ∧
    Except.map Prod.fst
      (process1 (fuel + 5) docs
        (c10n_setKeys (.map c10n_cexRead) ["p", "h"] (.map [("x", .int 1)])) (some [])
        (c10n_setKeys (.map c10n_cexRead) ["p", "h"] (.map [("x", .int 1)]))) =
      .error .refNotFound :=
  ⟨by decide +kernel, rfl, forwards_map_replace (by decide +kernel) (by decide +kernel),
   pathRef_simpleKey simpleKey_a, rfl, by decide +kernel, by decide +kernel, by decide +kernel, c10n_cexRead_ref fuel docs,
   by rw [c10n_cexRead_inline (fuel + 1) docs]; rfl⟩

end Bkl
