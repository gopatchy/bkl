/-
  C05 — "Output round-trips in every format: what bkl writes reads back unchanged."

  The three third-party single-document codecs (yaml.v3, go-toml, encoding/json) are a
  *parameter* `c : Codec` of the model (Bkl/Stream.lean).  What is proved here is that the
  multi-document framing bkl puts around them (json.go / yaml.go / toml.go) loses nothing,
  *provided* the codec meets `CodecOK c isSep dom` (BklProofs/Lemmas/Stream.lean): on its domain
  `dom`, `c.enc v` succeeds with text that contains no separator line and at least one non-blank
  line, and `c.dec` of that text gives `v` back.  Whether the real codecs meet `CodecOK` is what
  the differential run checks.

  * `C05_splitAt_join`            the framing lemma: splitting the joined blocks gives the blocks
  * `C05_yaml_stream_rt`          YAML: a non-empty stream of non-null documents round-trips
  * `C05_yaml_stream_rt_inner_null`  … also with null documents anywhere but in first position
  * `C05_toml_stream_rt`          TOML: same (non-null documents)
  * `C05_toml_stream_rt_null`     … also with null documents when `c.dec [] = null`
  * `C05_json_stream_rt`          JSON lines: every stream (also the empty one) round-trips
  * `C05_leading_null_dropped`, `C05_leading_null_counterexample`
                                  a leading null YAML document does NOT survive the framing
  * `C05_empty_stream_counterexample`  nor does the empty stream (it reads back as one null)
  * `C05_outputs_nonnull`, `C05_outputDocuments_nonnull`
                                  … which is harmless, because `Output` never hands a null to a codec
  * `C05_format_choice*`, `C05_cli_format_supported`, `C05_cli_unknown_format`, `C05_alias`
                                  which format is written

  * `C05_json_string_escape_spec`, `C05_json_parse_encode`, `C05_json_encode_decode`,
    `C05_json_stream_roundtrip`, `C05_json_codec_ok`, `C05_json_lines_text`,
    `C05_json_big_int_not_exact`, `C05_json_big_int_counterexample`, `C05_json_fuel_adequate`
                                  JSON with the CONCRETE codec of Bkl/Json.lean (own section;
                                  `json-pretty` and duplicate keys have theirs after it)

  Helper lemmas (and the definitions `joinWith`, `CodecOK`, `blankLine`, `streamBody`,
  `toyCodec`) are in BklProofs/Lemmas/Stream.lean; `finalFormat` and what `cliRun` does after its
  input loop (`cliOutput`) in BklProofs/Lemmas/Cli.lean.
-/
import BklProofs.Lemmas.JsonPretty
import BklProofs.Lemmas.C11Spec
import BklProofs.Lemmas.Cli
import BklProofs.Lemmas.SplitOn
namespace Bkl

/-! ## the framing lemma -/

/-- For blocks `b₁ … bₙ` (n ≥ 1) none of which contains a separator line:
    `splitAt isSep (b₁ ++ [sep] ++ b₂ ++ … ++ [sep] ++ bₙ) = [b₁, …, bₙ]`. -/
theorem C05_splitAt_join (isSep : String → Bool) (sep : String) (hs : isSep sep = true)
    (blocks : List Lines) (hne : blocks ≠ [])
    (hfree : ∀ b ∈ blocks, ∀ l ∈ b, isSep l = false) :
    splitAt isSep (joinWith sep blocks) = blocks := by
  cases blocks with
  | nil => exact absurd rfl hne
  | cons b bs => exact splitAt_joinWith isSep sep hs b bs hfree

/-- non-vacuity, and what goes wrong for `n = 0`: the empty text is ONE (empty) part -/
example : splitAt sepYaml (joinWith "---" [["a: 1"], [], ["b: 2", "c: 3"]])
    = [["a: 1"], [], ["b: 2", "c: 3"]] := by decide
example : splitAt sepYaml (joinWith "---" []) = [[]] := by decide

/-- the number of parts is the number of separator lines plus one -/
theorem C05_splitAt_length (isSep : String → Bool) (t : Lines) :
    (splitAt isSep t).length = (t.filter isSep).length + 1 := splitAt_length isSep t

/-! ## YAML -/

/-- A codec that is OK for `sepYaml` on `dom`, a NON-EMPTY list of non-null values in `dom`:
    the stream is written, and reading the written text gives the values back. -/
theorem C05_yaml_stream_rt (c : Codec) (dom : Val → Prop) (ok : CodecOK c sepYaml dom)
    (vs : List Val) (hne : vs ≠ []) (hnn : ∀ v ∈ vs, v ≠ .null) (hd : ∀ v ∈ vs, dom v) :
    ∃ text, yamlMarshalStream c vs = .ok text ∧ yamlUnmarshalStream c text = .ok vs := by
  cases vs with
  | nil => exact absurd rfl hne
  | cons v vs =>
    exact yaml_rt_general c dom ok v vs (hnn v List.mem_cons_self) (fun w hw _ => hd w hw)

/-- the same as one equation in the `R` monad -/
theorem C05_yaml_stream_rt' (c : Codec) (dom : Val → Prop) (ok : CodecOK c sepYaml dom)
    (vs : List Val) (hne : vs ≠ []) (hnn : ∀ v ∈ vs, v ≠ .null) (hd : ∀ v ∈ vs, dom v) :
    (do let t ← yamlMarshalStream c vs; yamlUnmarshalStream c t) = .ok vs := by
  obtain ⟨text, h1, h2⟩ := C05_yaml_stream_rt c dom ok vs hne hnn hd
  rw [h1]; exact h2

/-- null documents are fine everywhere except in first position (they are written as a bare
    `---` and an empty part reads back as null) -/
theorem C05_yaml_stream_rt_inner_null (c : Codec) (dom : Val → Prop) (ok : CodecOK c sepYaml dom)
    (v : Val) (vs : List Val) (hv : v ≠ .null) (hd : ∀ w ∈ v :: vs, w ≠ .null → dom w) :
    ∃ text, yamlMarshalStream c (v :: vs) = .ok text ∧
      yamlUnmarshalStream c text = .ok (v :: vs) :=
  yaml_rt_general c dom ok v vs hv hd

/-- non-vacuity: the toy codec (integers as decimal text) is OK for YAML and for TOML on all
    integers -/
example : CodecOK toyCodec sepYaml toyDom := toyCodec_ok_yaml
example : CodecOK toyCodec sepToml toyDom := toyCodec_ok_toml
example : ∃ text, yamlMarshalStream toyCodec [.int 1, .int (-2)] = .ok text ∧
    yamlUnmarshalStream toyCodec text = .ok [.int 1, .int (-2)] :=
  C05_yaml_stream_rt toyCodec toyDom toyCodec_ok_yaml _ (by simp) (by simp)
    (by simp [toyDom])
example : yamlMarshalStream toyCodec [.int 1, .null, .int (-2)] = .ok ["1", "---", "---", "-2"] := by
  decide
example : ∃ text, yamlMarshalStream toyCodec [.int 1, .null, .int (-2)] = .ok text ∧
    yamlUnmarshalStream toyCodec text = .ok [.int 1, .null, .int (-2)] :=
  C05_yaml_stream_rt_inner_null toyCodec toyDom toyCodec_ok_yaml _ _ (by simp)
    (by simp [toyDom])

/-- A part of the text that holds SEVERAL documents (`--- # comment`, `--- {a: 1}` and `--- ` start
    a document without being separator lines): the reader returns all of them, in order — none is
    dropped (the defect repaired by /repo 8a5c059 returned only the first). -/
theorem C05_yaml_part_all_documents (c : Codec) (part : Lines) (ds : List Val)
    (hsep : ∀ l ∈ part, sepYaml l = false) (hb : part.all blankLine = false)
    (hd : c.decMany part = .ok ds) (hne : ds ≠ []) :
    yamlUnmarshalStream c part = .ok ds := by
  rw [yamlUnmarshalStream_eq, splitAt_block sepYaml part hsep]
  simp only [List.mapM_cons, List.mapM_nil, yamlPartDocs_eq, hb, Bool.false_eq_true, if_false, hd,
    ok_bind, R_pure]
  cases ds with
  | nil => exact absurd rfl hne
  | cons d ds => simp

/-- non-vacuity: a codec whose decoder loop finds two documents in the three-line part -/
example : yamlUnmarshalStream { toyCodec with decMany := fun _ => .ok [.int 1, .int 2] }
    ["a: 1", "--- # next", "b: 2"] = .ok [.int 1, .int 2] :=
  C05_yaml_part_all_documents _ _ _ (by decide)
    (by rw [List.all_eq_false]; exact ⟨"a: 1", by simp, by rw [blankLine_eq]; decide⟩) rfl (by simp)

/-- … and a part without any document (blank, or comments only) is one empty document -/
theorem C05_yaml_part_no_document (c : Codec) (part : Lines)
    (hsep : ∀ l ∈ part, sepYaml l = false) (hb : part.all blankLine = false)
    (hd : c.decMany part = .ok []) :
    yamlUnmarshalStream c part = .ok [.null] := by
  rw [yamlUnmarshalStream_eq, splitAt_block sepYaml part hsep]
  simp [List.mapM_cons, List.mapM_nil, yamlPartDocs_eq, hb, hd, pure, Except.pure, bind, Except.bind]

/-! ## TOML -/

theorem C05_toml_stream_rt (c : Codec) (dom : Val → Prop) (ok : CodecOK c sepToml dom)
    (vs : List Val) (hne : vs ≠ []) (hnn : ∀ v ∈ vs, v ≠ .null) (hd : ∀ v ∈ vs, dom v) :
    ∃ text, tomlMarshalStream c vs = .ok text ∧ tomlUnmarshalStream c text = .ok vs := by
  cases vs with
  | nil => exact absurd rfl hne
  | cons v vs =>
    exact toml_rt_general c dom ok v vs (fun w hw _ => hd w hw)
      (fun hm => absurd rfl (hnn _ hm))

theorem C05_toml_stream_rt' (c : Codec) (dom : Val → Prop) (ok : CodecOK c sepToml dom)
    (vs : List Val) (hne : vs ≠ []) (hnn : ∀ v ∈ vs, v ≠ .null) (hd : ∀ v ∈ vs, dom v) :
    (do let t ← tomlMarshalStream c vs; tomlUnmarshalStream c t) = .ok vs := by
  obtain ⟨text, h1, h2⟩ := C05_toml_stream_rt c dom ok vs hne hnn hd
  rw [h1]; exact h2

/-- TOML writes a null document as nothing, in every position; it reads back as null iff the
    codec decodes the empty text to null -/
theorem C05_toml_stream_rt_null (c : Codec) (dom : Val → Prop) (ok : CodecOK c sepToml dom)
    (hnull : c.dec [] = .ok .null)
    (vs : List Val) (hne : vs ≠ []) (hd : ∀ v ∈ vs, v ≠ .null → dom v) :
    ∃ text, tomlMarshalStream c vs = .ok text ∧ tomlUnmarshalStream c text = .ok vs := by
  cases vs with
  | nil => exact absurd rfl hne
  | cons v vs => exact toml_rt_general c dom ok v vs hd (fun _ => hnull)

example : toyCodec.dec [] = .ok .null := rfl
example : ∃ text, tomlMarshalStream toyCodec [.null, .int 10, .null] = .ok text ∧
    tomlUnmarshalStream toyCodec text = .ok [.null, .int 10, .null] :=
  C05_toml_stream_rt_null toyCodec toyDom toyCodec_ok_toml rfl _ (by simp) (by simp [toyDom])
example : tomlMarshalStream toyCodec [.null, .int 10, .null] = .ok ["---", "10", "---"] := by decide
example : ∃ text, tomlMarshalStream toyCodec [.int 10, .int 0] = .ok text ∧
    tomlUnmarshalStream toyCodec text = .ok [.int 10, .int 0] :=
  C05_toml_stream_rt toyCodec toyDom toyCodec_ok_toml _ (by simp) (by simp)
    (by simp [toyDom])

/-! ## JSON (compact writer: one value per line) -/

/-- a codec whose `enc v` is exactly one line `l` with `dec [l] = v`: every stream, including
    the empty one, round-trips -/
theorem C05_json_stream_rt (c : Codec) (dom : Val → Prop)
    (ok : ∀ v, dom v → ∃ l, c.enc v = .ok [l] ∧ c.dec [l] = .ok v)
    (vs : List Val) (hd : ∀ v ∈ vs, dom v) :
    (do let t ← jsonMarshalStream c vs; jsonUnmarshalLines c t) = .ok vs := by
  obtain ⟨text, h1, h2⟩ := json_rt c dom ok vs hd
  rw [h1]; exact h2

example : ∀ v, toyDom v → ∃ l, toyCodec.enc v = .ok [l] ∧ toyCodec.dec [l] = .ok v :=
  toyCodec_ok_json
example : (do let t ← jsonMarshalStream toyCodec []; jsonUnmarshalLines toyCodec t) = .ok [] :=
  C05_json_stream_rt toyCodec toyDom toyCodec_ok_json [] (by simp)

/-! ## what does NOT round-trip through the YAML framing -/

/-- a null document in front of a non-null one leaves no trace in the text -/
theorem C05_leading_null_dropped (c : Codec) (v : Val) (hv : v ≠ .null) (vs : List Val) :
    yamlMarshalStream c (.null :: v :: vs) = yamlMarshalStream c (v :: vs) :=
  yamlMarshalStream_null_cons c v hv vs

/-- … so with an OK codec the stream `[null, v]` reads back as `[v]` -/
theorem C05_leading_null_lost (c : Codec) (dom : Val → Prop) (ok : CodecOK c sepYaml dom)
    (v : Val) (hv : v ≠ .null) (hd : dom v) :
    (do let t ← yamlMarshalStream c [.null, v]; yamlUnmarshalStream c t) = .ok [v] := by
  rw [C05_leading_null_dropped c v hv []]
  exact C05_yaml_stream_rt' c dom ok [v] (by simp) (by simpa using hv) (by simpa using hd)

/-- concrete instance with the toy codec: `[null, 1]` is written as the single line `1` and
    reads back as `[1]` -/
theorem C05_leading_null_counterexample :
    yamlMarshalStream toyCodec [.null, .int 1] = .ok ["1"] ∧
    (do let t ← yamlMarshalStream toyCodec [.null, .int 1]; yamlUnmarshalStream toyCodec t)
      = .ok [.int 1] ∧
    (do let t ← yamlMarshalStream toyCodec [.null, .int 1]; yamlUnmarshalStream toyCodec t)
      ≠ .ok [.null, .int 1] := by
  have h := C05_leading_null_lost toyCodec toyDom toyCodec_ok_yaml (.int 1) (by simp) ⟨1, rfl⟩
  refine ⟨by decide, h, ?_⟩
  rw [h]
  intro e
  injection e with e
  injection e with e1 _
  cases e1

/-- the empty stream is written as the empty text, which reads back as ONE null document
    (for every codec) -/
theorem C05_empty_stream_counterexample (c : Codec) :
    (do let t ← yamlMarshalStream c []; yamlUnmarshalStream c t) = .ok [.null] := rfl

/-! ## everything `Output` hands to a codec is non-null -/

theorem C05_outputs_nonnull (ds outs : List Val) (h : emit ds = .ok outs) :
    ∀ o ∈ outs, o ≠ .null := emit_nonnull ds outs h

theorem C05_outputDocuments_nonnull (docs : List Val) (env : Vars) (outs : List Val)
    (h : outputDocuments docs env = .ok outs) : ∀ o ∈ outs, o ≠ .null :=
  outputDocuments_nonnull docs env outs h

/-- non-vacuity: a null document and a hidden one are dropped, the others are emitted -/
example : emit [.null, .map [("a", .int 1)], .map [("$output", .bool false)], .int 3]
    = .ok [.map [("a", .int 1)], .int 3] := by decide +kernel

/-- hence: the non-empty output of a successful evaluation round-trips through YAML (and TOML)
    for a codec that is OK on what was emitted -/
theorem C05_output_yaml_rt (c : Codec) (dom : Val → Prop) (ok : CodecOK c sepYaml dom)
    (docs : List Val) (env : Vars) (outs : List Val)
    (h : outputDocuments docs env = .ok outs) (hne : outs ≠ []) (hd : ∀ o ∈ outs, dom o) :
    (do let t ← yamlMarshalStream c outs; yamlUnmarshalStream c t) = .ok outs :=
  C05_yaml_stream_rt' c dom ok outs hne (C05_outputDocuments_nonnull docs env outs h) hd

/-- non-vacuity: an evaluation with two output documents -/
example : outputDocuments [.map [("a", .int 1)], .null, .int 3] []
    = .ok [.map [("a", .int 1)], .int 3] := by decide +kernel

theorem C05_output_toml_rt (c : Codec) (dom : Val → Prop) (ok : CodecOK c sepToml dom)
    (docs : List Val) (env : Vars) (outs : List Val)
    (h : outputDocuments docs env = .ok outs) (hne : outs ≠ []) (hd : ∀ o ∈ outs, dom o) :
    (do let t ← tomlMarshalStream c outs; tomlUnmarshalStream c t) = .ok outs :=
  C05_toml_stream_rt' c dom ok outs hne (C05_outputDocuments_nonnull docs env outs h) hd

/-! ## which format is written -/

/-- `-f` wins; without `-f` and `-o` it is the first input's (possibly virtual) extension;
    without `-f` and with `-o` it is the extension of the last component of the output path -/
theorem C05_format_choice (opts : CliOpts) (x : String) :
    (∀ f, opts.format = some f → chooseFormat opts x = f) ∧
    (opts.format = none → opts.outPath = none → chooseFormat opts x = x) ∧
    (∀ o, opts.format = none → opts.outPath = some o →
      chooseFormat opts x = extOf ((splitPath o).getLastD "")) := by
  refine ⟨?_, ?_, ?_⟩
  · intro f hf; simp only [chooseFormat, hf]
  · intro hf ho; simp only [chooseFormat, hf, ho]
  · intro o hf ho; simp only [chooseFormat, hf, ho]

example : chooseFormat { format := some "toml", outPath := some "x.json" } "yaml" = "toml" :=
  (C05_format_choice _ _).1 "toml" rfl
example : chooseFormat {} "yaml" = "yaml" := (C05_format_choice _ _).2.1 rfl rfl

/-- `-o out.toml` → toml -/
theorem C05_format_choice_out_toml (x : String) :
    chooseFormat { outPath := some "out.toml" } x = "toml" := by
  show extOf ((splitPath "out.toml").getLastD "") = _
  rw [splitPath_eq, extOf_eq]; decide +kernel

/-- `-o dir/out.json` → json -/
theorem C05_format_choice_dir_out_json (x : String) :
    chooseFormat { outPath := some "dir/out.json" } x = "json" := by
  show extOf ((splitPath "dir/out.json").getLastD "") = _
  rw [splitPath_eq, extOf_eq]; decide +kernel

example : chooseFormat { outPath := some "out.toml" } "yaml" = "toml" :=
  C05_format_choice_out_toml "yaml"
example : chooseFormat { outPath := some "dir/out.json" } "yaml" = "json" :=
  C05_format_choice_dir_out_json "yaml"

/-- a dot in a directory name is not an extension: `-o a.d/out` → "" (→ json-pretty) -/
theorem C05_format_choice_no_ext (x : String) :
    chooseFormat { outPath := some "a.d/out" } x = "" ∧
    finalFormat { outPath := some "a.d/out" } x = "json-pretty" := by
  have h : chooseFormat { outPath := some "a.d/out" } x = "" := by
    show extOf ((splitPath "a.d/out").getLastD "") = _
    rw [splitPath_eq, extOf_eq]; decide +kernel
  exact ⟨h, by rw [finalFormat, h]; decide⟩

/-- a successful `cliRun` reports the chosen format (`json-pretty` when that is empty), and
    that format passed the `supportedExts.contains` test -/
theorem C05_cli_format_supported (fs : FS) (cwd : Comps) (env : Vars) (opts : CliOpts)
    (res : CliResult) (h : cliRun fs cwd env opts = .ok res) :
    (∃ x, res.format = finalFormat opts x) ∧ supportedExts.contains res.format = true := by
  obtain ⟨s, hs⟩ := cliRun_ok h
  rw [cliOutput_eq] at hs
  split at hs
  · rename_i hc
    obtain ⟨outs, _, rfl⟩ := R_map_ok_iff.1 hs
    exact ⟨⟨_, rfl⟩, hc⟩
  · cases hs

/-- a format that fails the `supportedExts.contains` test is never written: no run succeeds, … -/
theorem C05_cli_unknown_format_never_ok (fs : FS) (cwd : Comps) (env : Vars) (opts : CliOpts)
    (hbad : ∀ x, supportedExts.contains (finalFormat opts x) = false) (res : CliResult) :
    cliRun fs cwd env opts ≠ .ok res := by
  intro h
  obtain ⟨⟨x, hx⟩, h2⟩ := C05_cli_format_supported fs cwd env opts res h
  rw [hx, hbad x] at h2
  cases h2

/-- … and when the inputs load (here: there are none) the error is `unknownFormat` -/
theorem C05_cli_unknown_format (fs : FS) (cwd : Comps) (env : Vars) (opts : CliOpts)
    (hr : opts.rootPath = none) (hi : opts.inputs = [])
    (hbad : supportedExts.contains (finalFormat opts "") = false) :
    cliRun fs cwd env opts = .error .unknownFormat := by
  rw [cliRun_no_inputs fs cwd env opts hr hi, cliOutput_eq]
  exact if_neg (ne_true_of_eq_false hbad)

example : supportedExts.contains (finalFormat { format := some "xml" } "") = false := by decide
example (fs : FS) (cwd : Comps) (env : Vars) :
    cliRun fs cwd env { format := some "xml" } = .error .unknownFormat :=
  C05_cli_unknown_format fs cwd env _ rfl rfl (by decide)

/-- the format table (formats.go): `yml` ≡ `yaml` and `jsonl` ≡ `json` share their codecs in Go;
    in the model all six names pass the format test and nothing else does -/
theorem C05_alias :
    supportedExts = ["json", "json-pretty", "jsonl", "toml", "yaml", "yml"] ∧
    (∀ f, supportedExts.contains f = true ↔
      f = "json" ∨ f = "json-pretty" ∨ f = "jsonl" ∨ f = "toml" ∨ f = "yaml" ∨ f = "yml") ∧
    supportedExts.contains "yml" = supportedExts.contains "yaml" ∧
    supportedExts.contains "jsonl" = supportedExts.contains "json" := by
  refine ⟨rfl, ?_, by decide, by decide⟩
  intro f
  simp [supportedExts]

/-! ## JSON: the concrete codec (Bkl/Json.lean) — without a codec hypothesis

  `jsonEncode` / `jsonEncodeStream` are the compact writer of json.go (encoding/json with
  `SetEscapeHTML(false)`), `jsonLoadStream` is json.go's `Decoder` loop (`UseNumber`) followed by
  `normalize`.  The only parameters are the two float functions `jf` (the literal written for
  the float with a given `%v` text) and `fol` (the `%v` text of the float a literal denotes), with
  the hypothesis `js_FloatOK jf fol r` at every float text `r` of the value: the literal is a JSON
  number token with a fraction or an exponent, `fol (jf r) = r`, and `r ≠ ""`.
  `js_NumsOK jf fol v`: every integer inside `v` fits int64 and every float text meets
  `js_FloatOK`; `js_Repr jf fol v := v.WF ∧ js_NumsOK jf fol v`.
  `js_DistinctKeys v = true`: no map inside `v` has two members with the same key.  The reader
  stores the members of an object into a Go map, so of two members with the same key only the
  later one survives (`C05_json_duplicate_key_last_wins` at the end of this file); the text of a
  value therefore reads back as that value only under this hypothesis.  A well-formed value meets
  it (`C05_json_wf_distinct_keys`: sorted keys are distinct), so it only shows in the parser-level
  statements, which do not assume `v.WF`.
  (Definitions and helper lemmas: BklProofs/Lemmas/Json.lean; tokens and the reader on its own:
  BklProofs/Lemmas/JsonText.lean, BklProofs/Lemmas/JsonParser.lean.) -/

/-- **String escaping** — the table of encoding/json's `appendString` (escapeHTML off), clause by
    clause, and `unescape ∘ escape = id` for every string (every code point). -/
theorem C05_json_string_escape_spec :
    jsonEscapeChar '"' = ['\\', '"'] ∧
    jsonEscapeChar '\\' = ['\\', '\\'] ∧
    jsonEscapeChar '\n' = ['\\', 'n'] ∧
    jsonEscapeChar '\r' = ['\\', 'r'] ∧
    jsonEscapeChar '\t' = ['\\', 't'] ∧
    jsonEscapeChar '\x08' = ['\\', 'b'] ∧
    jsonEscapeChar '\x0c' = ['\\', 'f'] ∧
    (∀ c : Char, c.toNat < 32 → c ≠ '\n' → c ≠ '\r' → c ≠ '\t' → c ≠ '\x08' → c ≠ '\x0c' →
      jsonEscapeChar c =
        ['\\', 'u', '0', '0', jsonHexDigit (c.toNat / 16), jsonHexDigit (c.toNat % 16)]) ∧
    (List.range 16).map jsonHexDigit =
      ['0', '1', '2', '3', '4', '5', '6', '7', '8', '9', 'a', 'b', 'c', 'd', 'e', 'f'] ∧
    jsonEscapeChar '\u2028' = ['\\', 'u', '2', '0', '2', '8'] ∧
    jsonEscapeChar '\u2029' = ['\\', 'u', '2', '0', '2', '9'] ∧
    (∀ c : Char, 32 ≤ c.toNat → c ≠ '"' → c ≠ '\\' → c ≠ '\u2028' → c ≠ '\u2029' →
      jsonEscapeChar c = [c]) ∧
    (∀ (c : Char) (cs : List Char), jsonEscape (c :: cs) = jsonEscapeChar c ++ jsonEscape cs) ∧
    jsonEscape [] = [] ∧
    (∀ cs : List Char, jsonUnescape (jsonEscape cs) = some cs) ∧
    (∀ (cs rest : List Char), jsonParseStr (jsonEscape cs ++ '"' :: rest) = some (cs, rest)) ∧
    (∀ s : String, jsonUnescapeS (jsonEscapeS s) = some s) := by
  refine ⟨by decide, by decide, by decide, by decide, by decide, by decide, by decide, ?_,
    by decide, by decide, by decide, ?_, ?_, rfl, js_unescape_escape, js_parseStr_escape, ?_⟩
  · intro c h e1 e2 e3 e4 e5; exact js_escapeChar_ctl h e1 e2 e3 e4 e5
  · intro c h h1 h2 h4 h5; exact js_escapeChar_plain h1 h2 (by omega) h4 h5
  · intro c cs; simp [jsonEscape]
  · intro s
    simp [jsonUnescapeS, jsonEscapeS, js_unescape_escape]

/-- non-vacuity of the clauses with hypotheses: U+0001 and U+001F are `\u00XX`-escaped, DEL,
    `<`, `>`, `&`, and non-ASCII code points are copied -/
example : jsonEscapeChar '\x01' = ['\\', 'u', '0', '0', '0', '1'] ∧
    jsonEscapeChar '\x1f' = ['\\', 'u', '0', '0', '1', 'f'] ∧
    jsonEscapeChar '\x7f' = ['\x7f'] ∧ jsonEscapeChar '<' = ['<'] ∧ jsonEscapeChar '>' = ['>'] ∧
    jsonEscapeChar '&' = ['&'] ∧ jsonEscapeChar 'é' = ['é'] ∧ jsonEscapeChar '😀' = ['😀'] := by
  decide +kernel

/-- the decoder's string grammar is wider than what the encoder writes: `\/`, upper-case hex,
    `\uXXXX` for any BMP code point, surrogate pairs; an unpaired surrogate becomes U+FFFD (as in
    Go); a raw control character, an unknown escape or a missing quote is an error -/
example : jsonParseStr ['\\', '/', '\\', 'u', '0', '0', 'E', '9', '\\', 'u', 'd', '8', '3', 'd',
      '\\', 'u', 'D', 'E', '0', '0', '\\', 'u', 'd', '8', '0', '0', 'x', '"', 'r']
    = some (['/', 'é', '😀', '\ufffd', 'x'], ['r']) := by decide
example : jsonParseStr ['a', '\n', '"'] = none ∧ jsonParseStr ['\\', 'x', '"'] = none ∧
    jsonParseStr ['a', 'b'] = none ∧ jsonParseStr ['\\', 'u', '1', '2', 'g', '4', '"'] = none := by
  decide

/-- **The parser on the writer's output**: the text of `v`, followed by anything that does not go
    on like a number, parses (with any fuel ≥ the text's length) to the raw form of `v` — the
    literal text of every number kept — and leaves exactly what followed; `normalize` then turns
    the raw form of a well-formed `v` into `v`.  The keys of every map inside `v` must be pairwise
    distinct (`hd`; implied by `v.WF`): the reader keeps only the last of two members with the
    same key. -/
theorem C05_json_parse_encode (jf fol : String → String) (v : Val) (hn : js_NumsOK jf fol v)
    (hd : js_DistinctKeys v = true)
    (fuel : Nat) (hf : (jsonEncodeChars jf v).length ≤ fuel) (rest : List Char)
    (hs : ∀ c t, rest = c :: t → js_numChar c = false) :
    jsonParseValue fol fuel (jsonEncodeChars jf v ++ rest) = .ok (js_rawOf jf fol v, rest) ∧
    (v.WF → normalize (js_rawOf jf fol v) = .ok v) :=
  ⟨js_parse_enc jf fol v fuel rest hn hd hf hs, fun hw => js_normalize_raw jf fol v hw hn⟩

/-- non-vacuity: the test value meets both hypotheses -/
example : js_NumsOK js_demoJf js_demoFol js_demoVal ∧ js_DistinctKeys js_demoVal = true :=
  ⟨js_demoVal_repr.2, js_distinct_of_wfB _ js_demoVal_repr.1⟩
example : jsonParseValue js_demoFol 200 (jsonEncodeChars js_demoJf js_demoVal ++ [',', '1'])
    = .ok (js_rawOf js_demoJf js_demoFol js_demoVal, [',', '1']) :=
  (C05_json_parse_encode js_demoJf js_demoFol js_demoVal js_demoVal_repr.2
    (js_distinct_of_wfB _ js_demoVal_repr.1) 200
    (by decide +kernel) _ (by intro c t e; cases e; decide)).1
/-- the hypothesis `hd` is needed: the text of a (not well-formed) map with the key `a` twice reads
    back with one member only, the later one -/
example : jsonParseValue js_demoFol 20
      (jsonEncodeChars js_demoJf (.map [("a", .int 1), ("a", .int 2)]))
    = .ok (.map [("a", .jnum "2" "2")], []) ∧
    js_DistinctKeys (.map [("a", .int 1), ("a", .int 2)]) = false := ⟨rfl, by decide⟩

/-- **C05_json_encode_decode**: for every well-formed value whose integers fit int64 and whose
    float texts meet the float hypothesis — ALL strings (every code point), nested lists, maps —
    loading the compact text gives the value back (with or without the newline the stream
    writer adds). -/
theorem C05_json_encode_decode (jf fol : String → String) (v : Val) (hw : v.WF)
    (hn : js_NumsOK jf fol v) :
    jsonLoad fol (jsonEncode jf v) = .ok v ∧ jsonLoad fol (jsonEncodeStream jf [v]) = .ok v :=
  ⟨js_load_encode jf fol v ⟨hw, hn⟩, js_load_encodeStream_one jf fol v ⟨hw, hn⟩⟩

/-- non-vacuity: the value of the labelled test (all escape classes, five floats, nesting) meets
    the hypotheses for the concrete float functions `js_demoJf` / `js_demoFol` -/
example : js_demoVal.WF ∧ js_NumsOK js_demoJf js_demoFol js_demoVal := js_demoVal_repr
example : js_FloatOK js_demoJf js_demoFol "1e-07" ∧ js_demoJf "1e-07" = "1e-7" ∧
    js_FloatOK js_demoJf js_demoFol "2" ∧ js_demoJf "2" = "2.0" :=
  ⟨js_demo_floatOK _ (by simp), by decide, js_demo_floatOK _ (by simp), by decide⟩

/-- **C05_json_stream_roundtrip**: what `jsonMarshalStream` writes for any list of such values
    (also the empty list; null documents too) is read back by `jsonUnmarshalStream` + `normalize`
    as the same list. -/
theorem C05_json_stream_roundtrip (jf fol : String → String) (vs : List Val)
    (h : ∀ v ∈ vs, v.WF ∧ js_NumsOK jf fol v) :
    jsonLoadStream fol (jsonEncodeStream jf vs) = .ok vs :=
  js_loadStream_encodeStream jf fol vs h

example : jsonLoadStream js_demoFol (jsonEncodeStream js_demoJf [js_demoVal, .null, .int (-5)])
    = .ok [js_demoVal, .null, .int (-5)] :=
  C05_json_stream_roundtrip _ _ _ (by
    intro v hv
    simp only [List.mem_cons, List.mem_nil_iff, or_false] at hv
    rcases hv with rfl | rfl | rfl
    · exact js_demoVal_repr
    · exact ⟨by decide, by simp [js_NumsOK]⟩
    · exact ⟨by decide, by simp only [js_NumsOK]; decide⟩)
example : jsonLoadStream js_demoFol (jsonEncodeStream js_demoJf []) = .ok [] :=
  C05_json_stream_roundtrip _ _ [] (by simp)

/-- The int64 hypothesis is needed: an integer outside int64 is written in full, but
    `json.Number.Int64` fails on it and `normalize` falls back to `Float64` — it comes back as
    the float `fol` makes of its literal (or as an error when that is out of range). -/
theorem C05_json_big_int_not_exact (jf fol : String → String) (i : Int)
    (h : ¬ (int64Min ≤ i ∧ i ≤ int64Max)) :
    jsonLoad fol (jsonEncode jf (.int i)) =
      (if (fol (toString i)).isEmpty then .error .other else .ok (.flt (fol (toString i)))) ∧
    jsonLoad fol (jsonEncode jf (.int i)) ≠ .ok (.int i) := by
  have := js_load_big_int jf fol i h
  refine ⟨this, ?_⟩
  rw [this]
  split
  · intro e; cases e
  · intro e; injection e with e; cases e

theorem C05_json_big_int_counterexample :
    jsonEncode js_demoJf (.int 9223372036854775808) = "9223372036854775808" ∧
    jsonLoad js_demoFol (jsonEncode js_demoJf (.int 9223372036854775808))
      = .ok (.flt "9223372036854775808") := by
  refine ⟨by decide, ?_⟩
  rw [(C05_json_big_int_not_exact js_demoJf js_demoFol 9223372036854775808 (by decide)).1]
  decide +kernel

/-- **C05_json_codec_ok**: the concrete `jsonCodec jf fol : Codec` (one value = one line) meets
    the hypothesis of `json_rt` / `C05_json_stream_rt` on every representable value, so the
    lines-level stream theorem holds for JSON without a codec hypothesis. -/
theorem C05_json_codec_ok (jf fol : String → String) :
    (∀ v, js_Repr jf fol v →
      ∃ l, (jsonCodec jf fol).enc v = .ok [l] ∧ (jsonCodec jf fol).dec [l] = .ok v) ∧
    (∀ vs : List Val, (∀ v ∈ vs, js_Repr jf fol v) →
      (do let t ← jsonMarshalStream (jsonCodec jf fol) vs
          jsonUnmarshalLines (jsonCodec jf fol) t) = .ok vs) :=
  ⟨js_codec_ok jf fol,
    fun vs h => C05_json_stream_rt (jsonCodec jf fol) (js_Repr jf fol) (js_codec_ok jf fol) vs h⟩

example : (do let t ← jsonMarshalStream (jsonCodec js_demoJf js_demoFol) [js_demoVal, js_demoVal]
              jsonUnmarshalLines (jsonCodec js_demoJf js_demoFol) t)
    = .ok [js_demoVal, js_demoVal] :=
  (C05_json_codec_ok js_demoJf js_demoFol).2 _ (by
    intro v hv
    simp only [List.mem_cons, List.mem_nil_iff, or_false] at hv
    rcases hv with rfl | rfl <;> exact js_demoVal_repr)

/-- The lines of the `Codec` view are the lines of the text: the codec writes one line per value,
    that line contains no newline (newlines inside strings are escaped), and the stream text is
    these lines, each followed by a newline. -/
theorem C05_json_lines_text (jf fol : String → String) (vs : List Val)
    (h : ∀ v ∈ vs, js_NumsOK jf fol v) :
    jsonMarshalStream (jsonCodec jf fol) vs = .ok (vs.map (jsonEncode jf)) ∧
    (∀ v ∈ vs, '\n' ∉ (jsonEncode jf v).toList) ∧
    (jsonEncodeStream jf vs).toList =
      (vs.map fun v => (jsonEncode jf v).toList ++ ['\n']).flatten := by
  refine ⟨?_, ?_, ?_⟩
  · rw [jsonMarshalStream]
    rw [mapM_ok_of_forall (jsonCodec jf fol).enc (fun v => [jsonEncode jf v]) vs fun _ _ => rfl]
    simp only [ok_bind, R_pure]
    congr 1
    clear h
    induction vs with
    | nil => rfl
    | cons v vs ih => simp [ih]
  · intro v hv
    rw [jsonEncode, String.toList_ofList]
    exact js_enc_no_nl jf fol v (h v hv)
  · rw [jsonEncodeStream, String.toList_ofList, js_stream_eq_lines]
    simp [jsonEncode, String.toList_ofList]

example : jsonMarshalStream (jsonCodec js_demoJf js_demoFol) [js_demoVal, .null]
    = .ok [js_demoText, "null"] := by
  rw [(C05_json_lines_text js_demoJf js_demoFol [js_demoVal, .null] (by
    intro v hv
    simp only [List.mem_cons, List.mem_nil_iff, or_false] at hv
    rcases hv with rfl | rfl
    · exact js_demoVal_repr.2
    · simp [js_NumsOK])).1, List.map_cons, List.map_cons, List.map_nil, js_demoText_eq]
  rfl

/-! ### labelled tests -/

/-- the exact text Go's encoder was observed to write for this value -/
example : jsonEncode js_demoJf js_demoVal = js_demoText := js_demoText_eq
example : js_demoText =
    "{\"\":\"x\",\"k\\n\":[1,1.5,1e+21,1e-7,0.00001,true,null,{},[]],\"s\":\"a\\\"b\\\\c\\n\\r\\t\\b\\f\\u0001\\u001f<>&\\u2028\\u2029é日😀\"}" := rfl
/-- … and it reads back -/
example : jsonLoad js_demoFol js_demoText = .ok js_demoVal := by
  rw [← js_demoText_eq]
  exact (C05_json_encode_decode _ _ _ js_demoVal_repr.1 js_demoVal_repr.2).1
example : jsonEncode js_demoJf (.list [.int 0, .int (-12), .flt "2", .str "", .map [("a", .list [])]])
    = "[0,-12,2.0,\"\",{\"a\":[]}]" := congrArg String.ofList (by decide +kernel)
example : jsonEncodeStream js_demoJf [.map [("a", .int 1)], .null, .list []]
    = "{\"a\":1}\nnull\n[]\n" := congrArg String.ofList (by decide +kernel)

/-- decoder, beyond what the writer produces: whitespace between tokens, a document stream
    separated by whitespace only, `\\/`; of two members with the same key the parser keeps the LATER
    one only (`Decoder.Decode` stores into a Go map) … -/
example : jsonDecodeDocs js_demoFol 40
    ['{', '"', 'a', '"', ':', ' ', '[', '1', ',', ' ', '2', '.', '0', ']', ' ', ',', ' ', '"', 'a',
      '"', ' ', ':', '{', '"', 'b', '"', ':', '"', '\\', '/', '"', '}', '}', '\n', ' ', '7', ' ']
    = .ok [.map [("a", .map [("b", .str "/")])], .jnum "7" "7"] := rfl
/-- … `normalize` on its own also lets the later one win (`fofList`); an int64 literal becomes an
    int -/
example : normalizeList
      [Raw.map [("a", .list [.jnum "1" "1", .jnum "2.0" "2"]), ("a", .map [("b", .str "/")])],
        .jnum "7" "7"]
    = .ok [.map [("a", .map [("b", .str "/")])], .int 7] := by
  have h1 : parseInt64 "1" = some 1 := parseInt64_toString 1 (by decide) (by decide)
  have h7 : parseInt64 "7" = some 7 := parseInt64_toString 7 (by decide) (by decide)
  have h2 : parseInt64 "2.0" = none :=
    parseInt64_none_of_bad "2.0" (by decide)
  simp [normalizeList, normalize, normalizeFields, h1, h2, h7, fofList, fsetAll, fset, pure,
    Except.pure, bind, Except.bind]
/-- malformed input is an error: trailing comma, leading zero inside an array, a bare word, an
    unterminated array, a raw newline inside a string -/
example : (jsonDecodeDocs js_demoFol 9 ['[', '1', ',', ']']).toOption.isNone = true ∧
    (jsonDecodeDocs js_demoFol 9 ['[', '0', '1', ']']).toOption.isNone = true ∧
    (jsonDecodeDocs js_demoFol 9 ['n', 'u', 'l']).toOption.isNone = true ∧
    (jsonDecodeDocs js_demoFol 9 ['[', '1']).toOption.isNone = true ∧
    (jsonDecodeDocs js_demoFol 9 ['"', '\n', '"']).toOption.isNone = true := by decide +kernel
/-- concatenated top-level values need no separator (`json.Decoder` semantics) -/
example : jsonDecodeDocs js_demoFol 9 ['t', 'r', 'u', 'e', '[', ']', '0', '1']
    = .ok [.bool true, .list [], .jnum "0" "0", .jnum "1" "1"] := rfl

/-- **Fuel is never the reason for a failure.**  The parser is defined by recursion on a fuel
    argument; the top-level functions supply `2·length + 1` per document (`jsonDecodeDocs`) and
    `length + 1` for the document loop (`jsonDecodeStream`).  More fuel never changes a result —
    so an `.error` of `jsonLoadStream` is a syntax (or `normalize`) error, never exhaustion —
    and a parsed value has consumed at least one character. -/
theorem C05_json_fuel_adequate (fol : String → String) (cs : List Char) :
    (∀ fuel, 2 * cs.length < fuel →
      jsonParseValue fol fuel cs = jsonParseValue fol (2 * cs.length + 1) cs) ∧
    (∀ fuel, cs.length < fuel →
      jsonDecodeDocs fol fuel cs = jsonDecodeDocs fol (cs.length + 1) cs) ∧
    (∀ fuel x r, jsonParseValue fol fuel cs = .ok (x, r) → r.length < cs.length) :=
  ⟨js_parseValue_fuel fol cs, js_decodeDocs_fuel fol cs,
    fun fuel x r h => (js_parse_length fol fuel).1 cs x r h⟩

end Bkl

/-!
  ## The indented writer (`json-pretty`: `Encoder.SetIndent("", "  ")`)

  `jsonPrettyChars jf lvl v` is the text of `v` written at nesting level `lvl`; `jsonPrettyStream`
  is json.go's `jsonMarshalStreamPretty`.  The layout the writer adds (line breaks, indentation,
  the space after `:`) is JSON whitespace in places where the reader skips whitespace, so the
  indented text reads back exactly like the compact one.  Helper lemmas:
  BklProofs/Lemmas/JsonPretty.lean (prefix `jsp_`).
-/
namespace Bkl

/-- **The layout is whitespace between tokens**: a line break with its indentation is skipped down
    to the next token whenever that token does not start with whitespace, and the first character
    of a value's text — indented or compact — never is whitespace (it is `-`, a digit, `"`, `[`,
    `{`, `n`, `t` or `f`; for floats this is where the number hypothesis enters), nor are the
    other tokens that follow a line break (`"` of a key, `]`, `}`). -/
theorem C05_json_pretty_layout_is_whitespace (jf fol : String → String) :
    (∀ (lvl : Nat) (c : Char) (t : List Char), jsonIsWs c = false →
      jsonSkipWs (jsonNewline lvl ++ c :: t) = c :: t) ∧
    (∀ (lvl : Nat) (cs : List Char), jsonSkipWs (jsonNewline lvl ++ cs) = jsonSkipWs cs) ∧
    (∀ (v : Val) (lvl : Nat), js_NumsOK jf fol v →
      (∃ c t, jsonPrettyChars jf lvl v = c :: t ∧ js_valueStart c ∧ jsonIsWs c = false) ∧
      (∃ c t, jsonEncodeChars jf v = c :: t ∧ js_valueStart c ∧ jsonIsWs c = false)) ∧
    (∀ (v : Val) (lvl : Nat), (jsonPrettyChars jf lvl v).head? = (jsonEncodeChars jf v).head?) ∧
    jsonIsWs '"' = false ∧ jsonIsWs ']' = false ∧ jsonIsWs '}' = false := by
  refine ⟨fun lvl c t h => jsp_skipWs_newline_cons lvl h t, jsp_skipWs_newline, ?_, ?_,
    by decide, by decide, by decide⟩
  · intro v lvl hv
    obtain ⟨c, t, e, hc⟩ := jsp_pretty_head jf fol lvl v hv
    obtain ⟨c', t', e', hc'⟩ := js_enc_head jf fol v hv
    exact ⟨⟨c, t, e, hc, (js_valueStart_facts hc).1⟩, ⟨c', t', e', hc', (js_valueStart_facts hc').1⟩⟩
  · intro v lvl; exact jsp_head_eq jf lvl v

example : jsonSkipWs (jsonNewline 3 ++ ['"', 'k', '"']) = ['"', 'k', '"'] :=
  (C05_json_pretty_layout_is_whitespace js_demoJf js_demoFol).1 3 '"' _ (by decide)
example : jsonNewline 2 = ['\n', ' ', ' ', ' ', ' '] := by decide

/-- **C05_json_pretty_parse** — the parser on the indented writer's output, for EVERY level: the
    indented text of `v`, followed by anything that does not go on like a number, parses (with any
    fuel ≥ the text's length) to the raw form of `v` — the same raw form the compact text gives —
    and leaves exactly what followed; `normalize` then turns it into `v`. -/
theorem C05_json_pretty_parse (jf fol : String → String) (v : Val) (hn : js_NumsOK jf fol v)
    (hd : js_DistinctKeys v = true) (lvl fuel : Nat) (hf : (jsonPrettyChars jf lvl v).length ≤ fuel) (rest : List Char)
    (hs : ∀ c t, rest = c :: t → js_numChar c = false) :
    jsonParseValue fol fuel (jsonPrettyChars jf lvl v ++ rest) = .ok (js_rawOf jf fol v, rest) ∧
    (v.WF → normalize (js_rawOf jf fol v) = .ok v) :=
  ⟨jsp_parse_pretty' jf fol v lvl fuel rest hn hd hf hs,
    fun hw => js_normalize_raw jf fol v hw hn⟩

/-- … and the fuel the compact text needs is already enough (the indented text is never shorter,
    and the extra characters are skipped without spending fuel). -/
theorem C05_json_pretty_parse_compact_fuel (jf fol : String → String) (v : Val)
    (hn : js_NumsOK jf fol v) (hd : js_DistinctKeys v = true) (lvl fuel : Nat)
    (hf : (jsonEncodeChars jf v).length ≤ fuel)
    (rest : List Char) (hs : ∀ c t, rest = c :: t → js_numChar c = false) :
    jsonParseValue fol fuel (jsonPrettyChars jf lvl v ++ rest) = .ok (js_rawOf jf fol v, rest) ∧
    (jsonEncodeChars jf v).length ≤ (jsonPrettyChars jf lvl v).length :=
  ⟨jsp_parse_pretty jf fol v lvl fuel rest hn hd hf hs, jsp_enc_le_pretty jf v lvl⟩

/-- non-vacuity: the test values meet the hypothesis; level 1, something after the text -/
example : js_NumsOK js_demoJf js_demoFol jsp_demoVal2 ∧ js_DistinctKeys jsp_demoVal2 = true :=
  ⟨jsp_demoVal2_repr.2, js_distinct_of_wfB _ jsp_demoVal2_repr.1⟩
example : jsonParseValue js_demoFol 110 (jsonPrettyChars js_demoJf 1 jsp_demoVal2 ++ [',', '1'])
    = .ok (js_rawOf js_demoJf js_demoFol jsp_demoVal2, [',', '1']) :=
  (C05_json_pretty_parse js_demoJf js_demoFol jsp_demoVal2 jsp_demoVal2_repr.2
    (js_distinct_of_wfB _ jsp_demoVal2_repr.1) 1 110
    (by decide +kernel) _ (by intro c t e; cases e; decide)).1
example : (jsonEncodeChars js_demoJf jsp_demoVal2).length = 39 ∧
    (jsonPrettyChars js_demoJf 1 jsp_demoVal2).length = 104 := by decide +kernel
example : jsonParseValue js_demoFol 39 (jsonPrettyChars js_demoJf 1 jsp_demoVal2)
    = .ok (js_rawOf js_demoJf js_demoFol jsp_demoVal2, []) := by
  have := (C05_json_pretty_parse_compact_fuel js_demoJf js_demoFol jsp_demoVal2
    jsp_demoVal2_repr.2 (js_distinct_of_wfB _ jsp_demoVal2_repr.1) 1 39 (by decide +kernel) [] (by intro c t e; cases e)).1
  rwa [List.append_nil] at this

/-- **C05_json_pretty_decode**: for every well-formed value whose integers fit int64 and whose
    float texts meet the float hypothesis, loading the indented text gives the value back —
    written at level 0 as bkl does (or at any other level), with or without the newline the
    stream writer adds. -/
theorem C05_json_pretty_decode (jf fol : String → String) (v : Val) (hw : v.WF)
    (hn : js_NumsOK jf fol v) :
    jsonLoad fol (String.ofList (jsonPrettyChars jf 0 v)) = .ok v ∧
    jsonLoad fol (jsonPrettyStream jf [v]) = .ok v ∧
    (∀ lvl, jsonLoad fol (String.ofList (jsonPrettyChars jf lvl v)) = .ok v) :=
  ⟨jsp_load_pretty jf fol v 0 ⟨hw, hn⟩, jsp_load_prettyStream_one jf fol v ⟨hw, hn⟩,
    fun lvl => jsp_load_pretty jf fol v lvl ⟨hw, hn⟩⟩

example : jsp_demoVal.WF ∧ js_NumsOK js_demoJf js_demoFol jsp_demoVal := jsp_demoVal_repr
example : jsonLoad js_demoFol (String.ofList (jsonPrettyChars js_demoJf 0 js_demoVal))
    = .ok js_demoVal :=
  (C05_json_pretty_decode _ _ _ js_demoVal_repr.1 js_demoVal_repr.2).1

/-- **C05_json_pretty_stream_roundtrip**: what `jsonMarshalStreamPretty` writes for any list of
    such values (also the empty list; null documents too) is read back by `jsonUnmarshalStream` +
    `normalize` as the same list. -/
theorem C05_json_pretty_stream_roundtrip (jf fol : String → String) (vs : List Val)
    (h : ∀ v ∈ vs, v.WF ∧ js_NumsOK jf fol v) :
    jsonLoadStream fol (jsonPrettyStream jf vs) = .ok vs :=
  jsp_loadStream_prettyStream jf fol vs h

example : jsonLoadStream js_demoFol
      (jsonPrettyStream js_demoJf [js_demoVal, .null, jsp_demoVal, .int (-5), jsp_demoVal2])
    = .ok [js_demoVal, .null, jsp_demoVal, .int (-5), jsp_demoVal2] :=
  C05_json_pretty_stream_roundtrip _ _ _ (by
    intro v hv
    simp only [List.mem_cons, List.mem_nil_iff, or_false] at hv
    rcases hv with rfl | rfl | rfl | rfl | rfl
    · exact js_demoVal_repr
    · exact ⟨by decide, by simp [js_NumsOK]⟩
    · exact jsp_demoVal_repr
    · exact ⟨by decide, by simp only [js_NumsOK]; decide⟩
    · exact jsp_demoVal2_repr)
example : jsonLoadStream js_demoFol (jsonPrettyStream js_demoJf []) = .ok [] :=
  C05_json_pretty_stream_roundtrip _ _ [] (by simp)

/-- **C05_json_pretty_same_value_as_compact**: both writers denote the same value — the reader
    cannot tell which of the two wrote a stream (or a single document, at any level). -/
theorem C05_json_pretty_same_value_as_compact (jf fol : String → String) :
    (∀ vs : List Val, (∀ v ∈ vs, v.WF ∧ js_NumsOK jf fol v) →
      jsonLoadStream fol (jsonPrettyStream jf vs) = jsonLoadStream fol (jsonEncodeStream jf vs)) ∧
    (∀ (v : Val) (lvl : Nat), v.WF → js_NumsOK jf fol v →
      jsonLoad fol (String.ofList (jsonPrettyChars jf lvl v)) = jsonLoad fol (jsonEncode jf v)) ∧
    (∀ (v : Val) (lvl fuel : Nat) (rest : List Char), js_NumsOK jf fol v →
      js_DistinctKeys v = true →
      (jsonEncodeChars jf v).length ≤ fuel → (∀ c t, rest = c :: t → js_numChar c = false) →
      jsonParseValue fol fuel (jsonPrettyChars jf lvl v ++ rest) =
        jsonParseValue fol fuel (jsonEncodeChars jf v ++ rest)) := by
  refine ⟨?_, ?_, ?_⟩
  · intro vs h
    rw [C05_json_pretty_stream_roundtrip jf fol vs h, C05_json_stream_roundtrip jf fol vs h]
  · intro v lvl hw hn
    rw [jsp_load_pretty jf fol v lvl ⟨hw, hn⟩, js_load_encode jf fol v ⟨hw, hn⟩]
  · intro v lvl fuel rest hn hd hf hs
    rw [jsp_parse_pretty jf fol v lvl fuel rest hn hd hf hs,
      js_parse_enc jf fol v fuel rest hn hd hf hs]

example : jsonLoadStream js_demoFol (jsonPrettyStream js_demoJf [jsp_demoVal, jsp_demoVal2]) =
    jsonLoadStream js_demoFol (jsonEncodeStream js_demoJf [jsp_demoVal, jsp_demoVal2]) :=
  (C05_json_pretty_same_value_as_compact js_demoJf js_demoFol).1 _ (by
    intro v hv
    simp only [List.mem_cons, List.mem_nil_iff, or_false] at hv
    rcases hv with rfl | rfl
    · exact jsp_demoVal_repr
    · exact jsp_demoVal2_repr)

/-- **Both writers are one writer with two layouts** (no hypothesis on numbers, strings or
    well-formedness): `jsp_layout nl sp` writes `nl lvl` wherever the indented writer breaks the
    line at level `lvl` and `sp` after the `:` of a member; with `jsonNewline` and one space it IS
    the indented writer, with nothing in both places it IS the compact writer.  So the indented
    text is the compact text plus the characters of `jsonNewline …` and the spaces after `:`. -/
theorem C05_json_pretty_layout (jf : String → String) (v : Val) (lvl : Nat) :
    jsp_layout jsonNewline [' '] jf lvl v = jsonPrettyChars jf lvl v ∧
    jsp_layout (fun _ => []) [] jf lvl v = jsonEncodeChars jf v :=
  ⟨jsp_layout_pretty jf v lvl, jsp_layout_compact jf v lvl⟩

/-- The same on the TEXT, with `jspStrip` (drop every whitespace character outside a string
    literal, copy the rest): without a hypothesis on the float parameter this is FALSE — `jf` may
    write anything for a float, e.g. a blank, which the stripper removes. -/
theorem C05_json_pretty_strip_false :
    ¬ (∀ (jf : String → String) (v : Val) (lvl : Nat),
        jspStrip (jsonPrettyChars jf lvl v) = jsonEncodeChars jf v) := by
  intro h
  exact absurd (h (fun _ => " ") (.flt "1.5") 0) (by decide)

/-- **C05_json_pretty_strip_partial** — the strongest true variant: when no float literal of the
    value contains whitespace or a quote (`jsp_PlainNums`; implied by `js_NumsOK`, number tokens
    being made of digits, `-`, `+`, `.`, `e`, `E`), removing the whitespace outside string literals
    from the indented text (any level) gives the compact text, and the compact text has none to
    remove.  Strings are arbitrary: blanks, newlines (escaped by the writer), quotes and
    backslashes inside them are untouched.  On streams the stripper also drops the newline after
    each document. -/
theorem C05_json_pretty_strip_partial (jf : String → String) :
    (∀ (v : Val) (lvl : Nat), jsp_PlainNums jf v →
      jspStrip (jsonPrettyChars jf lvl v) = jsonEncodeChars jf v ∧
      jspStrip (jsonEncodeChars jf v) = jsonEncodeChars jf v) ∧
    (∀ (fol : String → String) (v : Val), js_NumsOK jf fol v → jsp_PlainNums jf v) ∧
    (∀ vs : List Val, (∀ v ∈ vs, jsp_PlainNums jf v) →
      jspStrip (jsonPrettyStreamChars jf vs) = (vs.map (jsonEncodeChars jf)).flatten) := by
  refine ⟨fun v lvl h => ⟨jsp_strip_pretty_eq jf v lvl h, jsp_strip_enc_eq jf v h⟩,
    fun fol v h => jsp_plain_of_numsOK jf fol v h, ?_⟩
  exact fun vs h => jsp_strip_stream jf vs
    ((forall_of_eqns (jsp_PlainNumsList.eq_1 jf) (jsp_PlainNumsList.eq_2 jf)).2 h)

example : jsp_PlainNums js_demoJf js_demoVal :=
  (C05_json_pretty_strip_partial js_demoJf).2.1 js_demoFol _ js_demoVal_repr.2
example : jspStrip (jsonPrettyChars js_demoJf 2 js_demoVal) = jsonEncodeChars js_demoJf js_demoVal :=
  ((C05_json_pretty_strip_partial js_demoJf).1 js_demoVal 2
    ((C05_json_pretty_strip_partial js_demoJf).2.1 js_demoFol _ js_demoVal_repr.2)).1
example : jspStrip jsp_demoText.toList = (jsonEncode js_demoJf jsp_demoVal).toList := by
  rw [← jsp_demoText_eq, String.toList_ofList, jsonEncode, String.toList_ofList]
  decide +kernel
example : jspStrip ['[', ' ', '"', ' ', '\\', '"', ' ', '"', ' ', ',', '\n', '1', ']'] =
    ['[', '"', ' ', '\\', '"', ' ', '"', ',', '1', ']'] := by decide

/-! ### labelled tests for the indented writer -/

/-- `{"a": [1, {"b": []}], "c": {}}` laid out as Go does -/
example : String.ofList (jsonPrettyChars js_demoJf 0 jsp_demoVal) = jsp_demoText := jsp_demoText_eq
example : jsp_demoText =
    "{\n  \"a\": [\n    1,\n    {\n      \"b\": []\n    }\n  ],\n  \"c\": {}\n}" := rfl
example : jsonEncode js_demoJf jsp_demoVal = "{\"a\":[1,{\"b\":[]}],\"c\":{}}" :=
  congrArg String.ofList (by decide +kernel)
/-- … and it reads back -/
example : jsonLoad js_demoFol jsp_demoText = .ok jsp_demoVal := by
  rw [← jsp_demoText_eq]
  exact (C05_json_pretty_decode _ _ _ jsp_demoVal_repr.1 jsp_demoVal_repr.2).1
/-- floats (`1e-07` is written `1e-7`), an escaped key, a string with a blank and a quote -/
example : String.ofList (jsonPrettyChars js_demoJf 0 jsp_demoVal2) = jsp_demoText2 :=
  jsp_demoText2_eq
example : jsonLoad js_demoFol jsp_demoText2 = .ok jsp_demoVal2 := by
  rw [← jsp_demoText2_eq]
  exact (C05_json_pretty_decode _ _ _ jsp_demoVal2_repr.1 jsp_demoVal2_repr.2).1
/-- a stream: every document indented from level 0 and followed by a newline; scalars and empty
    containers are written as in the compact form -/
example : jsonPrettyStream js_demoJf [.map [("a", .int 1)], .null, .list [], .map [], .list [.list []]]
    = "{\n  \"a\": 1\n}\nnull\n[]\n{}\n[\n  []\n]\n" :=
  congrArg String.ofList (by decide +kernel)
/-- the reader alone, on a literal indented text (no theorem involved) -/
example : jsonDecodeDocs js_demoFol 20
      ['[', '\n', ' ', ' ', '1', ',', '\n', ' ', ' ', '{', '}', '\n', ']', '\n']
    = .ok [.list [.jnum "1" "1", .map []]] := rfl

end Bkl

/-!
  ## Duplicate keys: the later member wins

  `Decoder.Decode` stores the members of an object into a Go map, so a later member with the same
  key REPLACES an earlier one, and the earlier value is never looked at again — not even by
  `normalize`: `{"k": -1e400, "k": {}}` loads, although `-1e400` alone does not (no float64 holds
  it).  `jsonParseMembers` models this; what it returns has pairwise distinct keys, the last
  occurrence of each key surviving.  Helper lemmas: BklProofs/Lemmas/JsonParser.lean (`js_parse_distinct`,
  `js_parseMembers_step`).
-/
namespace Bkl

/-- float parameter of the duplicate-key tests: no float64 holds `-1e400` (`""` = ParseFloat
    failed); every other literal stands for itself -/
def js_dupFol (l : String) : String := if l = "-1e400" then "" else l

/-- `{"k":-1e400,"k":{}}` -/
def js_dupText1 : List Char :=
  ['{', '"', 'k', '"', ':', '-', '1', 'e', '4', '0', '0', ',', '"', 'k', '"', ':', '{', '}', '}']
/-- `{"k":-1e400}` -/
def js_dupText2 : List Char := ['{', '"', 'k', '"', ':', '-', '1', 'e', '4', '0', '0', '}']
/-- `{"a":1,"b":2,"a":3}` -/
def js_dupText3 : List Char :=
  ['{', '"', 'a', '"', ':', '1', ',', '"', 'b', '"', ':', '2', ',', '"', 'a', '"', ':', '3', '}']

/-- a well-formed value has pairwise distinct keys in every map (strictly sorted keys are
    distinct) — which is why the round-trip theorems that assume `v.WF` need no further
    hypothesis; and the Bool predicate on one map says that its key list has no duplicates -/
theorem C05_json_wf_distinct_keys :
    (∀ v : Val, v.WF → js_DistinctKeys v = true) ∧
    (∀ m : Fields, js_keysDistinct m = true ↔ (m.map (·.1)).Nodup) ∧
    (∀ m : Fields, js_DistinctKeys (.map m) = true ↔
      (m.map (·.1)).Nodup ∧ ∀ p ∈ m, js_DistinctKeys p.2 = true) := by
  refine ⟨js_distinct_of_wfB, js_keysDistinct_iff_nodup, ?_⟩
  intro m
  rw [js_DistinctKeys, Bool.and_eq_true, js_keysDistinct_iff_nodup, js_distinctFields_iff]

example : js_demoVal.WF ∧ js_DistinctKeys js_demoVal = true :=
  ⟨js_demoVal_repr.1, C05_json_wf_distinct_keys.1 _ js_demoVal_repr.1⟩
/-- distinct keys is weaker than well-formed: unsorted keys are fine -/
example : js_DistinctKeys (.map [("b", .int 1), ("a", .int 2)]) = true ∧
    ¬ (Val.map [("b", .int 1), ("a", .int 2)]).WF := by decide

/-- **C05_json_duplicate_key_last_wins.**
    (a) Whatever the input, the members `jsonParseMembers` returns have pairwise distinct keys.
    (b) One step of the reader, in general: a member `"k": <text of x>` in front of `,` and more
        members that parse to `kvs` — if `kvs` already has the key `k`, the result is `kvs` alone,
        WHATEVER `x` is (`x` does not occur in the result, so `normalize` never sees it);
        otherwise it is `(k, x) :: kvs`.
    (c) Labelled tests (`js_dupFol`: no float64 for the literal `-1e400`):
        `{"k":-1e400,"k":{}}` loads to `{k: {}}`, while `{"k":-1e400}` alone is an error;
        `{"a":1,"b":2,"a":3}` loads to `{a: 3, b: 2}`. -/
theorem C05_json_duplicate_key_last_wins :
    (∀ (fol : String → String) (fuel : Nat) (cs : List Char) (kvs : List (String × Raw))
        (r : List Char),
      jsonParseMembers fol fuel cs = .ok (kvs, r) → (kvs.map (·.1)).Nodup) ∧
    (∀ (fol : String → String) (fuel : Nat) (k txt more : List Char) (x : Raw)
        (kvs : List (String × Raw)) (r : List Char),
      jsonParseValue fol fuel txt = .ok (x, ',' :: more) →
      jsonParseMembers fol fuel more = .ok (kvs, r) →
      ((kvs.any fun e => e.1 == String.ofList k) = true →
        jsonParseMembers fol (fuel + 1) (jsonQuote k ++ ':' :: txt) = .ok (kvs, r)) ∧
      ((kvs.any fun e => e.1 == String.ofList k) = false →
        jsonParseMembers fol (fuel + 1) (jsonQuote k ++ ':' :: txt) =
          .ok ((String.ofList k, x) :: kvs, r))) ∧
    (js_dupFol "-1e400" = "" ∧
      String.ofList js_dupText1 = "{\"k\":-1e400,\"k\":{}}" ∧
      jsonDecodeStream js_dupFol (String.ofList js_dupText1) = .ok [.map [("k", .map [])]] ∧
      jsonLoad js_dupFol (String.ofList js_dupText1) = .ok (.map [("k", .map [])]) ∧
      String.ofList js_dupText2 = "{\"k\":-1e400}" ∧
      jsonDecodeStream js_dupFol (String.ofList js_dupText2)
        = .ok [.map [("k", .jnum "-1e400" "")]] ∧
      jsonLoad js_dupFol (String.ofList js_dupText2) = .error .other ∧
      String.ofList js_dupText3 = "{\"a\":1,\"b\":2,\"a\":3}" ∧
      jsonDecodeStream js_dupFol (String.ofList js_dupText3)
        = .ok [.map [("b", .jnum "2" "2"), ("a", .jnum "3" "3")]] ∧
      jsonLoad js_dupFol (String.ofList js_dupText3)
        = .ok (.map [("a", .int 3), ("b", .int 2)])) := by
  refine ⟨js_parseMembers_nodup, ?_, ?_⟩
  · intro fol fuel k txt more x kvs r hv hm
    have := js_parseMembers_step k hv (js_skipWs_cons (by decide) more) hm
    refine ⟨fun h => ?_, fun h => ?_⟩
    · rw [this, if_pos h]
    · rw [this, if_neg (by rw [h]; decide)]
  · have hp : parseInt64 "-1e400" = none :=
      parseInt64_none_of_bad "-1e400" (by decide)
    have h2 : parseInt64 "2" = some 2 := parseInt64_toString 2 (by decide) (by decide)
    have h3 : parseInt64 "3" = some 3 := parseInt64_toString 3 (by decide) (by decide)
    have d1 : jsonDecodeStream js_dupFol (String.ofList js_dupText1)
        = .ok [.map [("k", .map [])]] := by
      rw [jsonDecodeStream, String.toList_ofList]; rfl
    have d2 : jsonDecodeStream js_dupFol (String.ofList js_dupText2)
        = .ok [.map [("k", .jnum "-1e400" "")]] := by
      rw [jsonDecodeStream, String.toList_ofList]; rfl
    have d3 : jsonDecodeStream js_dupFol (String.ofList js_dupText3)
        = .ok [.map [("b", .jnum "2" "2"), ("a", .jnum "3" "3")]] := by
      rw [jsonDecodeStream, String.toList_ofList]; rfl
    refine ⟨by decide +kernel, by decide +kernel, d1, ?_, by decide +kernel, d2, ?_, by decide +kernel, d3, ?_⟩
    · rw [jsonLoad, jsonLoadStream, d1]; rfl
    · rw [jsonLoad, jsonLoadStream, d2]
      simp [normalizeList, normalize_map, normalizeFields_cons, normalize_jnum, hp, bind,
        Except.bind]
    · rw [jsonLoad, jsonLoadStream, d3]
      simp [normalizeList, normalize_map, normalizeFields_cons, normalizeFields_nil,
        normalize_jnum, h2, h3, bind, Except.bind, pure, Except.pure, fofList, fsetAll, fset]

/-- non-vacuity of (a): a successful run with a repeated key in the input -/
example : jsonParseMembers js_dupFol 9 js_dupText3.tail
    = .ok ([("b", .jnum "2" "2"), ("a", .jnum "3" "3")], []) := rfl
/-- non-vacuity of (b), first case: `"k":-1e400` in front of `,"k":{}}` — the number is dropped -/
example : jsonParseValue js_dupFol 5
      ['-', '1', 'e', '4', '0', '0', ',', '"', 'k', '"', ':', '{', '}', '}']
    = .ok (.jnum "-1e400" "", ',' :: ['"', 'k', '"', ':', '{', '}', '}']) ∧
    jsonParseMembers js_dupFol 5 ['"', 'k', '"', ':', '{', '}', '}'] = .ok ([("k", .map [])], []) ∧
    ([("k", Raw.map [])].any fun e => e.1 == String.ofList ['k']) = true :=
  ⟨rfl, rfl, by decide⟩
example : jsonParseMembers js_dupFol 6 (jsonQuote ['k'] ++ ':' ::
      ['-', '1', 'e', '4', '0', '0', ',', '"', 'k', '"', ':', '{', '}', '}'])
    = .ok ([("k", .map [])], []) :=
  (C05_json_duplicate_key_last_wins.2.1 js_dupFol 5 ['k'] _ ['"', 'k', '"', ':', '{', '}', '}']
    (.jnum "-1e400" "") [("k", .map [])] [] rfl rfl).1 (by decide)
/-- … second case: `"j":-1e400` in front of the same — the member is kept (and `normalize` of the
    result would fail on it) -/
example : jsonParseMembers js_dupFol 6 (jsonQuote ['j'] ++ ':' ::
      ['-', '1', 'e', '4', '0', '0', ',', '"', 'k', '"', ':', '{', '}', '}'])
    = .ok ([("j", .jnum "-1e400" ""), ("k", .map [])], []) :=
  (C05_json_duplicate_key_last_wins.2.1 js_dupFol 5 ['j'] _ ['"', 'k', '"', ':', '{', '}', '}']
    (.jnum "-1e400" "") [("k", .map [])] [] rfl rfl).2 (by decide)

/-- **C05_json_reader_output_distinct**: in every `Raw` the reader returns — one value, the
    documents of a stream, on characters or on a `String` — the keys of every map are pairwise
    distinct, at every depth (`js_RawDistinct`). -/
theorem C05_json_reader_output_distinct (fol : String → String) :
    (∀ (fuel : Nat) (cs : List Char) (x : Raw) (r : List Char),
      jsonParseValue fol fuel cs = .ok (x, r) → js_RawDistinct x = true) ∧
    (∀ (fuel : Nat) (cs : List Char) (xs : List Raw),
      jsonDecodeDocs fol fuel cs = .ok xs → js_RawDistinctList xs = true) ∧
    (∀ (s : String) (xs : List Raw),
      jsonDecodeStream fol s = .ok xs → ∀ x ∈ xs, js_RawDistinct x = true) := by
  refine ⟨fun fuel cs x r h => (js_parse_distinct fol fuel).1 cs x r h,
    js_decodeDocs_distinct fol, ?_⟩
  exact fun s xs h => (all_of_eqns js_RawDistinctList.eq_1 js_RawDistinctList.eq_2).1
    (js_decodeDocs_distinct fol _ _ _ h)

/-- non-vacuity: a nested object with repeated keys at two depths -/
example : jsonParseValue js_dupFol 20
      ['{', '"', 'a', '"', ':', '{', '"', 'b', '"', ':', '1', ',', '"', 'b', '"', ':', '2', '}',
        ',', '"', 'a', '"', ':', '[', '{', '"', 'c', '"', ':', '1', ',', '"', 'c', '"', ':', '2',
        '}', ']', '}']
    = .ok (.map [("a", .list [.map [("c", .jnum "2" "2")]])], []) := rfl
example : js_RawDistinct (.map [("a", .list [.map [("c", .jnum "2" "2")]])]) = true ∧
    js_RawDistinct (.map [("a", .null), ("a", .null)]) = false := by decide

end Bkl
