/-
  C02 — "Stream layering targets the right documents and treats each independently".

  The specification of the selection, the proof that `mergeDocument` implements it and what one
  step does to each document are in `Lemmas/C02Selection.lean`.  Here: no document's new data
  depends on another document (`C02_local`, `C02_singleton_stream`, `C02_noninterference`), a
  failing merge fails the step, and the same for layers that are files with several documents
  (`Lemmas/C02Files.lean`).
-/
import BklProofs.Lemmas.C02Files
namespace Bkl

/-! ## C02_local: the new data of a document depends on its own data and the patch only -/

/-- The new document at position `i` is a function of the old document at position `i`, the
    selected ids and the patch body — no other document's data occurs in it. -/
theorem C02_local {st st' : PState} {patch : Doc} {targets : List String} {body : Val}
    (hm : mergeDocument st patch = .ok st') (hs : selectionOf st patch = .merge targets body)
    {i : Nat} {id : String} {d : Val} (hi : st.docs[i]? = some (id, d)) :
    st'.docs[i]? = some (id, if id ∈ targets then
        (match merge d body with | .ok v => v | .error _ => d) else d) := by
  rw [C02_getElem? hm hi, hs]
  rfl

example : mergeDocument C02_mst C02_mpatch = .ok C02_mst' ∧
    selectionOf C02_mst C02_mpatch = .merge ["a"] (.map [("y", .int 2)]) ∧
    C02_mst.docs[1]? = some ("b", .map [("x", .int 2)]) :=
  ⟨C02_mrun_example, C02_msel_example, rfl⟩

/-- Two streams of the same length for which the patch makes the same selection, and which
    hold the same document at position `i`: after the step they still hold the same document
    at position `i` — whatever the *other* documents are. -/
theorem C02_noninterference_step {st₁ st₂ st₁' st₂' : PState} {patch : Doc}
    (hlen : st₁.docs.length = st₂.docs.length)
    (hsel : selectionOf st₁ patch = selectionOf st₂ patch)
    (h₁ : mergeDocument st₁ patch = .ok st₁') (h₂ : mergeDocument st₂ patch = .ok st₂')
    {i : Nat} (hi : st₁.docs[i]? = st₂.docs[i]?) : st₁'.docs[i]? = st₂'.docs[i]? := by
  rw [C02_docs h₁, C02_docs h₂, hsel, List.getElem?_append, List.getElem?_append, List.length_map,
    List.length_map, hlen, List.getElem?_map, List.getElem?_map, hi]

/-- the same patch on a stream whose *other* document differs: same selection, same `a` -/
example :
    let st₂ : PState := { docs := [("a", .int 1), ("b", .int 7)], known := [("a", []), ("b", [])] }
    C02_st.docs.length = st₂.docs.length ∧
    selectionOf C02_st C02_patch = selectionOf st₂ C02_patch ∧
    C02_st.docs[0]? = st₂.docs[0]? ∧ C02_st.docs[1]? ≠ st₂.docs[1]? := by decide

/-- a selected document (ids pairwise distinct) is also what the patch selects in the stream
    that holds this document alone: every test `selectionOf` makes on a document looks at that
    document and at the recorded parents only -/
theorem C02_selection_singleton {st : PState} {patch : Doc} {targets : List String} {body : Val}
    (hs : selectionOf st patch = .merge targets body) (hnd : (st.docs.map (·.1)).Nodup)
    {id : String} {d : Val} (hmem : (id, d) ∈ st.docs) (ht : id ∈ targets) :
    selectionOf { docs := [(id, d)], known := st.known } patch = .merge [id] body := by
  have key : ∀ q : String → Val → Bool, id ∈ idsWhere (registered st patch) q → q id d = true :=
    fun q => (mem_idsWhere_of_nodup (st := registered st patch) hnd hmem).1
  have single : ∀ q : String → Val → Bool, q id d = true →
      idsWhere (registered { docs := [(id, d)], known := st.known } patch) q = [id] :=
    fun q hq => (idsWhere_single id d _ q).trans (if_pos hq)
  have hanc : isAncestorOf (registered { docs := [(id, d)], known := st.known } patch) patch =
      isAncestorOf (registered st patch) patch := rfl
  obtain ⟨_, rfl, q, rfl, hq⟩ := selectionOf_eq_merge hs
  rcases hq with ⟨hmd, rfl⟩ | ⟨pat, hmd, hp, rfl | ⟨rfl, _⟩⟩
  · rw [selectionOf_noMatch hmd, fl_body_noMatch hmd,
      show parentsOf (registered { docs := [(id, d)], known := st.known } patch) patch.parents =
        [id] from single _ (key _ ht)]
    rfl
  · rw [selectionOf_match hmd, if_neg hp, hanc, single _ (key _ ht)]
    rfl
  · -- the document matches; alone in the stream it is found among the ancestors or anywhere
    have hm : matchV d pat = true := key _ ht
    rw [selectionOf_match hmd, if_neg hp, hanc, single (fun _ d => matchV d pat) hm]
    cases ha : isAncestorOf (registered st patch) patch id
    · rw [idsWhere_eq_nil fun p hp => by rw [List.mem_singleton.1 hp, ha]; rfl]
      rfl
    · rw [single _ (by rw [ha, hm]; rfl)]
      rfl

/-- Literally "the result it would receive if it were the only document in the stream"
    (ids pairwise distinct): running the same patch on the one-document stream `[(id, d)]`
    (same recorded parents) succeeds, selects that document, and yields exactly the data `d'`
    that document `id` has after the step on the full stream. -/
theorem C02_singleton_stream {st st' : PState} {patch : Doc} {targets : List String} {body : Val}
    (hm : mergeDocument st patch = .ok st') (hs : selectionOf st patch = .merge targets body)
    (hnd : (st.docs.map (·.1)).Nodup)
    {i : Nat} {id : String} {d : Val} (hi : st.docs[i]? = some (id, d)) (ht : id ∈ targets) :
    ∃ d' known', mergeDocument { docs := [(id, d)], known := st.known } patch =
        .ok { docs := [(id, d')], known := known' } ∧ st'.docs[i]? = some (id, d') := by
  obtain ⟨d', hd', hi'⟩ := C02_singleton hm hs hi ht
  refine ⟨d', addParents (registered st patch).known patch.id [id], ?_, hi'⟩
  rw [C02_selection_merge (C02_selection_singleton hs hnd (List.mem_of_getElem? hi) ht),
    mergeInto_ok_iff]
  exact ⟨.cons ⟨rfl, by rw [if_pos (List.mem_singleton.2 rfl)]; exact hd'⟩ .nil, rfl⟩

example : mergeDocument C02_st C02_patch = .ok C02_st' ∧
    selectionOf C02_st C02_patch = .merge ["a"] (.int 5) ∧ (C02_st.docs.map (·.1)).Nodup ∧
    C02_st.docs[0]? = some ("a", .int 1) ∧ "a" ∈ ["a"] :=
  ⟨C02_run_example, C02_sel_example, by decide, rfl, by decide⟩

/-- Why `C02_singleton_stream` asks for distinct ids: the model (like `Parser.parents`)
    identifies documents by id, so in a state with a duplicated id a `$match` hit on one copy
    selects the other copy too.  (`C02_ids_unique_preserved`: such states do not arise from
    fresh patch ids.) -/
theorem C02_duplicate_ids_select_by_id :
    let st : PState := { docs := [("a", .map [("x", .int 1)]), ("a", .map [("x", .int 2)])],
                         known := [("a", [])] }
    selectionOf st C02_mpatch = .merge ["a"] (.map [("y", .int 2)]) ∧
    st.docs[1]? = some ("a", .map [("x", .int 2)]) ∧
    matchV (.map [("x", .int 2)]) (.map [("x", .int 1)]) = false := by decide

/-! ## C02_merge_error_propagates: no silent skip -/

/-- If the merge into some selected document fails, the whole step fails. -/
theorem C02_merge_error_propagates {st : PState} {patch : Doc} {targets : List String}
    {body : Val} (hs : selectionOf st patch = .merge targets body)
    {id : String} {d : Val} {e : Err} (hd : (id, d) ∈ st.docs) (ht : id ∈ targets)
    (he : merge d body = .error e) : ∃ e', mergeDocument st patch = .error e' := by
  cases hm : mergeDocument st patch with
  | error e' => exact ⟨e', rfl⟩
  | ok st' =>
    obtain ⟨v, hv⟩ := (C02_targets_ok_iff hs).1 ⟨st', hm⟩ (id, d) hd ht
    rw [he] at hv; cases hv

/-- … and the error reported is that of the first selected document (in document order) whose
    merge fails. -/
theorem C02_merge_error_first {st : PState} {patch : Doc} {targets : List String}
    {body : Val} (hs : selectionOf st patch = .merge targets body) (e : Err) :
    mergeDocument st patch = .error e ↔
      ∃ before p after, st.docs = before ++ p :: after ∧
        (∀ q ∈ before, q.1 ∈ targets → ∃ v, merge q.2 body = .ok v) ∧
        p.1 ∈ targets ∧ merge p.2 body = .error e := by
  rw [C02_selection_merge hs, mergeInto_error_iff, mapM_eq_error_iff]
  simp only [mergeStep_isOk_iff, mergeStep_error_iff]
  rfl

/-- a stream where the patch `x: 1` cannot be layered onto `a` (`x: 1` already there) -/
example :
    let patch : Doc := { id := "c", parents := ["a"], data := .map [("x", .int 1)] }
    selectionOf C02_mst patch = .merge ["a"] (.map [("x", .int 1)]) ∧
    ("a", Val.map [("x", .int 1)]) ∈ C02_mst.docs ∧ "a" ∈ ["a"] ∧
    merge (.map [("x", .int 1)]) (.map [("x", .int 1)]) = .error .uselessOverride :=
  ⟨by decide, by decide, by decide, merge_x_x⟩

/-! ## C02_noninterference: whole streams -/

/-- Two runs of the same patch list (`runMerges` is defined in `Lemmas/Parser.lean` as
    `ps.foldlM mergeDocument st`) from streams of the same length, in which every patch makes
    the same selection: if the streams start with the same document at position `i`, they end
    with the same document at position `i`.  The data of the *other* documents is unconstrained,
    so it cannot influence document `i`. -/
theorem C02_noninterference {ps : List Doc} : ∀ {st₁ st₂ f₁ f₂ : PState},
    SameSelections st₁ st₂ ps → st₁.docs.length = st₂.docs.length →
    runMerges st₁ ps = .ok f₁ → runMerges st₂ ps = .ok f₂ →
    ∀ {i : Nat}, st₁.docs[i]? = st₂.docs[i]? → f₁.docs[i]? = f₂.docs[i]? := by
  induction ps with
  | nil =>
    intro st₁ st₂ f₁ f₂ _ _ h₁ h₂ i hi
    rw [runMerges_nil] at h₁ h₂
    cases h₁; cases h₂; exact hi
  | cons p ps ih =>
    intro st₁ st₂ f₁ f₂ hsel hlen h₁ h₂ i hi
    rw [runMerges_cons] at h₁ h₂
    cases hm₁ : mergeDocument st₁ p with
    | error e => rw [hm₁] at h₁; cases h₁
    | ok s₁ =>
      cases hm₂ : mergeDocument st₂ p with
      | error e => rw [hm₂] at h₂; cases h₂
      | ok s₂ =>
        rw [hm₁] at h₁; rw [hm₂] at h₂
        have hlen' : s₁.docs.length = s₂.docs.length := by
          rw [C02_length hm₁, C02_length hm₂, hsel.1, hlen]
        exact ih (hsel.2 s₁ s₂ hm₁ hm₂) hlen' h₁ h₂
          (C02_noninterference_step hlen hsel.1 hm₁ hm₂ hi)

/-- Without `$match` the selection is by ancestry only: it depends on the ids and on the
    recorded parents, not on any document's data. -/
theorem C02_selection_nomatch_congr {st₁ st₂ : PState} {patch : Doc}
    (hnm : matchDirective patch.data = none)
    (hids : st₁.docs.map (·.1) = st₂.docs.map (·.1)) (hk : st₁.known = st₂.known) :
    selectionOf st₁ patch = selectionOf st₂ patch := by
  rw [selectionOf_noMatch hnm, selectionOf_noMatch hnm, parentsOf_eq_filter_ids,
    parentsOf_eq_filter_ids]
  simp only [registered, hids, hk]
  rfl

theorem C02_sameSelections_nomatch {ps : List Doc} : ∀ {st₁ st₂ : PState},
    (∀ p ∈ ps, matchDirective p.data = none) →
    st₁.docs.map (·.1) = st₂.docs.map (·.1) → st₁.known = st₂.known →
    SameSelections st₁ st₂ ps := by
  induction ps with
  | nil => intro _ _ _ _ _; trivial
  | cons p ps ih =>
    intro st₁ st₂ hnm hids hk
    have hsel := C02_selection_nomatch_congr (hnm p List.mem_cons_self) hids hk
    refine ⟨hsel, ?_⟩
    intro s₁ s₂ hm₁ hm₂
    refine ih (fun q hq => hnm q (List.mem_cons_of_mem _ hq)) ?_ ?_
    · rw [C02_ids hm₁, C02_ids hm₂, hsel, hids]
    · rw [C02_known hm₁, C02_known hm₂, hsel, hk]

/-- `$match`-free streams: the final data of document `i` is a function of its initial data and
    the patch list (given the ids and the parent table) — two runs that start with the same ids,
    the same recorded parents and the same document at position `i` end with the same document
    at position `i`, whatever the other documents hold. -/
theorem C02_noninterference_nomatch {ps : List Doc} {st₁ st₂ f₁ f₂ : PState}
    (hnm : ∀ p ∈ ps, matchDirective p.data = none)
    (hids : st₁.docs.map (·.1) = st₂.docs.map (·.1)) (hk : st₁.known = st₂.known)
    (h₁ : runMerges st₁ ps = .ok f₁) (h₂ : runMerges st₂ ps = .ok f₂)
    {i : Nat} (hi : st₁.docs[i]? = st₂.docs[i]?) : f₁.docs[i]? = f₂.docs[i]? :=
  C02_noninterference (C02_sameSelections_nomatch hnm hids hk)
    (by simpa only [List.length_map] using congrArg List.length hids) h₁ h₂ hi

/-- witnesses: a second stream that differs from `C02_st` in the *other* document `b` -/
def C02_st₂ : PState :=
  { docs := [("a", .int 1), ("b", .int 7)], known := [("a", []), ("b", [])] }
def C02_st₂' : PState :=
  { docs := [("a", .int 5), ("b", .int 7)], known := [("a", []), ("b", []), ("c", ["a", "a"])] }

theorem C02_run_example₂ : mergeDocument C02_st₂ C02_patch = .ok C02_st₂' := by
  rw [C02_selection_merge (show selectionOf C02_st₂ C02_patch = .merge ["a"] (.int 5) by decide),
    mergeInto_ok_iff]
  refine ⟨Pointwise.cons ⟨rfl, ?_⟩ (Pointwise.cons ⟨rfl, ?_⟩ Pointwise.nil), by decide⟩
  · rw [if_pos (by decide)]
    show Bkl.merge (.int 1) (.int 5) = .ok (.int 5)
    rw [merge_scalar _ _ rfl]; rfl
  · rw [if_neg (by decide)]

example : (∀ p ∈ [C02_patch], matchDirective p.data = none) ∧
    C02_st.docs.map (·.1) = C02_st₂.docs.map (·.1) ∧ C02_st.known = C02_st₂.known ∧
    runMerges C02_st [C02_patch] = .ok C02_st' ∧ runMerges C02_st₂ [C02_patch] = .ok C02_st₂' ∧
    C02_st.docs[0]? = C02_st₂.docs[0]? ∧ C02_st.docs[1]? ≠ C02_st₂.docs[1]? := by
  refine ⟨by decide, by decide, by decide, ?_, ?_, by decide, by decide⟩
  · rw [runMerges_cons, C02_run_example]; rfl
  · rw [runMerges_cons, C02_run_example₂]; rfl

example : SameSelections C02_st C02_st₂ [C02_patch] ∧
    C02_st.docs.length = C02_st₂.docs.length :=
  ⟨⟨by decide, fun _ _ _ _ => trivial⟩, rfl⟩

/-! ## C02 and the file loader: layers that are files with several documents -/

/-- **C02_file_layer_targets.**  Parent file `d/a.e₁` with documents `ps` (`p₁ … pₘ`, none with
    `$match`), child file `d/a.b.e₂` with documents `cs` (`c₁ … cₖ`), no `$parent`, plain names,
    link-free directory (`fl_Chain2`).  `mergeFileLayers` of the child from the empty state:

    1. the parent's documents are appended as `m` documents, in order, with ids
       `<child path>|<parent path>|doc<i>` and no recorded parents (state `stP`);
    2. then the child's documents are merged one after the other by `mergeDocument`
       (`runMerges`), document `k` carrying the id `<child path>|doc<k>` and the direct parents
       `pids` = the ids of **all** `m` parent documents;
    3. in every state `st` this run passes through, the ancestors of the next child document
       `c` are exactly `pids`, and the selection (`C02_selection`) is:
       * no `$match`: `c` is merged into all `m` parent documents (appended if `m = 0`);
       * `$match: null`: appended as `c.id|matchnull`;
       * `$match: pat`: merged into the parent documents whose *current* data matches; if none
         does, into all documents that match (these can only be documents appended for earlier
         children: `$match: null` ones, or, if `m = 0`, `$match`-free ones); if none,
         `noMatchFound`. -/
theorem C02_file_layer_targets {fs : FS} {d : Comps} {a b e₁ e₂ : String} {ps cs : List Val}
    (h : fl_Chain2 fs d a b e₁ e₂ ps cs) (cwd : Comps)
    (hnp : ∀ p ∈ ps, matchDirective p = none) :
    let fidB := pathStr (fl_pathB d a b e₂)
    let fidA := fidB ++ "|" ++ pathStr (fl_pathA d a e₁)
    let pids := docIdsOf fidA ps.length
    let stP : PState := ⟨pids.zip ps, pids.map fun i => (i, [])⟩
    let cdocs := plainDocs fidB pids cs
    runMerges PState.empty (plainDocs fidA [] ps) = .ok stP ∧
    mergeFileLayers fs ⟨[], cwd⟩ PState.empty (fl_pathB d a b e₂) = runMerges stP cdocs ∧
    (∀ (k : Nat) (c : Doc), cdocs[k]? = some c →
      c.id = fidB ++ "|doc" ++ toString k ∧ c.parents = pids ∧ cs[k]? = some c.data) ∧
    ∀ (k : Nat) (st : PState) (c : Doc), runMerges stP (cdocs.take k) = .ok st → cdocs[k]? = some c →
      (∀ id, isAncestorOf (registered st c) c id = pids.contains id) ∧
      selectionOf st c =
        match matchDirective c.data with
        | none => if ps = [] then .append c.id c.data else .merge pids c.data
        | some (pat, body) =>
          if pat = .null then .append (c.id ++ "|matchnull") body
          else
            let among := idsWhere st fun id v => pids.contains id && matchV v pat
            let anywhere := idsWhere st fun _ v => matchV v pat
            if among ≠ [] then .merge among body
            else if anywhere ≠ [] then .merge anywhere body
            else .noMatch := by
  intro fidB fidA pids stP cdocs
  have hb : Below fidB fidA := below_bar_path fidB _
  have hpar : runMerges PState.empty (plainDocs fidA [] ps) = .ok stP := fl_parent_run ps hnp
  refine ⟨hpar, fl_stream2_child h cwd hnp, fun k c hc => fl_plainDocs_getElem? _ _ _ k c hc, ?_⟩
  · intro k st c hrun hc
    have hI := fl_childInv_reach hb ps cs hrun
    obtain ⟨hcp, hcid⟩ := fl_child_docs_ok hb ps cs c (List.mem_of_getElem? hc)
    refine ⟨fun id => congrFun (fl_childInv_anc hI hcp hcid) id, ?_⟩
    cases hmd : matchDirective c.data with
    | none =>
      have hiff : pids = [] ↔ ps = [] :=
        ⟨fun e => List.eq_nil_of_length_eq_zero
            (by rw [← docIdsOf_length fidA ps.length]; exact congrArg List.length e),
          fun e => by rw [show pids = docIdsOf fidA ps.length from rfl, e]; rfl⟩
      rw [fl_childInv_sel_noMatch hI hcp hcid hmd]
      by_cases hps : ps = []
      · rw [if_pos hps, if_pos (hiff.2 hps)]
      · rw [if_neg hps, if_neg (fun e => hps (hiff.1 e))]
    | some pb => exact fl_childInv_sel_match hI hcp hcid hmd


/-- **C02_file_layer_targets, the `$match`-free case, explicitly.**  In the setting of
    `C02_file_layer_targets` with `m ≥ 1` parent documents and no `$match` in the child either:
    the result has exactly the `m` parent documents (same ids, same order) and

      document `i` = `merge (… (merge (merge pᵢ c₁) c₂) …) cₖ`  (`cs.foldlM merge pᵢ`).

    * `mergeFileLayers` is *equal* (errors included) to the row-wise computation `fl_layerAll`
      (each child document is merged into every parent document before the next one is read);
    * it succeeds exactly when every column `cs.foldlM merge pᵢ` succeeds, and then the documents
      are these columns.
    The parent table records, for every child document, its parents `pids` twice (once as its
    direct parents, once as the documents it was layered onto). -/
theorem C02_file_layer_docs {fs : FS} {d : Comps} {a b e₁ e₂ : String} {ps cs : List Val}
    (h : fl_Chain2 fs d a b e₁ e₂ ps cs) (cwd : Comps) (hne : ps ≠ [])
    (hnp : ∀ p ∈ ps, matchDirective p = none) (hnc : ∀ c ∈ cs, matchDirective c = none) :
    let fidB := pathStr (fl_pathB d a b e₂)
    let fidA := fidB ++ "|" ++ pathStr (fl_pathA d a e₁)
    let pids := docIdsOf fidA ps.length
    let final (vs : List Val) : PState :=
      ⟨pids.zip vs,
        (pids.map fun i => (i, [])) ++ (docIdsOf fidB cs.length).map fun i => (i, pids ++ pids)⟩
    mergeFileLayers fs ⟨[], cwd⟩ PState.empty (fl_pathB d a b e₂) =
      (match fl_layerAll ps cs with
       | .error e => .error e
       | .ok vs => .ok (final vs)) ∧
    (∀ vs, ps.mapM (fun p => cs.foldlM merge p) = .ok vs →
      mergeFileLayers fs ⟨[], cwd⟩ PState.empty (fl_pathB d a b e₂) = .ok (final vs)) ∧
    (∀ st, mergeFileLayers fs ⟨[], cwd⟩ PState.empty (fl_pathB d a b e₂) = .ok st →
      ∃ vs, ps.mapM (fun p => cs.foldlM merge p) = .ok vs ∧ st = final vs) := by
  intro fidB fidA pids final
  have hb : Below fidB fidA := below_bar_path fidB _
  have hrow : mergeFileLayers fs ⟨[], cwd⟩ PState.empty (fl_pathB d a b e₂) =
      (match fl_layerAll ps cs with
       | .error e => .error e
       | .ok vs => .ok (final vs)) := by
    rw [fl_stream2 h cwd]
    exact fl_two_layer_all hb ps cs hne hnp hnc
  have hres := fl_layerAll_result (final := final) (fun e he => hrow.trans (by rw [he]))
    (fun vs hv => hrow.trans (by rw [hv]))
  exact ⟨hrow, fun vs hvs => (hres _).2 ⟨vs, hvs, rfl⟩, fun st hst => (hres st).1 hst⟩

/-- The remaining case of `C02_file_layer_docs`: a parent file with **no** documents.  The child's
    documents then have no parents at all and (without `$match`) are appended as they are. -/
theorem C02_file_layer_docs_empty_parent {fs : FS} {d : Comps} {a b e₁ e₂ : String} {cs : List Val}
    (h : fl_Chain2 fs d a b e₁ e₂ [] cs) (cwd : Comps)
    (hnc : ∀ c ∈ cs, matchDirective c = none) :
    let cids := docIdsOf (pathStr (fl_pathB d a b e₂)) cs.length
    mergeFileLayers fs ⟨[], cwd⟩ PState.empty (fl_pathB d a b e₂) =
      .ok ⟨cids.zip cs, cids.map fun i => (i, [])⟩ := by
  intro cids
  rw [fl_stream2 h cwd]
  exact fl_parent_run cs hnc

/-- **C02_file_layer_independent.**  In the setting of `C02_file_layer_targets` (the child's
    documents may carry `$match`): when the run succeeds, document `i` of the result has the id
    of `pᵢ` and its data is `pᵢ` taken through `c₁ … cₖ` by `fl_layerStep` — at each `cⱼ`:
    `merge · cⱼ` if `cⱼ` has no `$match`; unchanged if `$match: null`; `merge · body` if the
    document's current data matches the `$match` pattern and unchanged otherwise.  This is a
    function of `pᵢ` and `c₁ … cₖ` alone: no other parent document occurs in it. -/
theorem C02_file_layer_independent {fs : FS} {d : Comps} {a b e₁ e₂ : String} {ps cs : List Val}
    (h : fl_Chain2 fs d a b e₁ e₂ ps cs) (cwd : Comps)
    (hnp : ∀ p ∈ ps, matchDirective p = none) {st : PState}
    (hm : mergeFileLayers fs ⟨[], cwd⟩ PState.empty (fl_pathB d a b e₂) = .ok st)
    (i : Nat) (hi : i < ps.length) :
    ∃ v, cs.foldlM fl_layerStep ps[i] = .ok v ∧
      st.docs[i]? = some (pathStr (fl_pathB d a b e₂) ++ "|" ++ pathStr (fl_pathA d a e₁) ++
        "|doc" ++ toString i, v) := by
  rw [fl_stream2 h cwd] at hm
  exact fl_two_layer_doc (below_bar_path _ _) ps cs hnp hm i hi

/-- …so two parent files that hold the same document (at positions `i` and `i'`), under the
    same child documents, end with the same data in that document — whatever their other
    documents are, and even if the child uses `$match` (both runs succeeding). -/
theorem C02_file_layer_noninterference {fs fs' : FS} {d d' : Comps} {a b e₁ e₂ a' b' e₁' e₂' : String}
    {ps ps' cs : List Val}
    (h : fl_Chain2 fs d a b e₁ e₂ ps cs) (h' : fl_Chain2 fs' d' a' b' e₁' e₂' ps' cs)
    (cwd cwd' : Comps)
    (hnp : ∀ p ∈ ps, matchDirective p = none) (hnp' : ∀ p ∈ ps', matchDirective p = none)
    {st st' : PState}
    (hm : mergeFileLayers fs ⟨[], cwd⟩ PState.empty (fl_pathB d a b e₂) = .ok st)
    (hm' : mergeFileLayers fs' ⟨[], cwd'⟩ PState.empty (fl_pathB d' a' b' e₂') = .ok st')
    (i i' : Nat) (hi : i < ps.length) (hi' : i' < ps'.length) (he : ps[i] = ps'[i']) :
    st.docs[i]?.map (·.2) = st'.docs[i']?.map (·.2) := by
  obtain ⟨v, hv, hs⟩ := C02_file_layer_independent h cwd hnp hm i hi
  obtain ⟨v', hv', hs'⟩ := C02_file_layer_independent h' cwd' hnp' hm' i' hi'
  rw [he, hv'] at hv
  cases hv
  rw [hs, hs']
  rfl

/-- **Partial** (no child document with a non-null `$match`; with one the statement is false,
    see `C02_file_layer_singleton_false`): document `i` of the result is what the
    single-document parent file `[pᵢ]` would give under the same child.  That run succeeds too
    and its first document (the only one that is not an appended `…|matchnull` document) holds
    the data of document `i` of the full run. -/
theorem C02_file_layer_singleton_partial {fs fs' : FS} {d d' : Comps}
    {a b e₁ e₂ a' b' e₁' e₂' : String} {ps cs : List Val} (i : Nat) (hi : i < ps.length)
    (h : fl_Chain2 fs d a b e₁ e₂ ps cs) (h' : fl_Chain2 fs' d' a' b' e₁' e₂' [ps[i]] cs)
    (cwd cwd' : Comps)
    (hnp : ∀ p ∈ ps, matchDirective p = none)
    (hnc : ∀ c ∈ cs, matchDirective c = none ∨ ∃ body, matchDirective c = some (.null, body))
    {st : PState}
    (hm : mergeFileLayers fs ⟨[], cwd⟩ PState.empty (fl_pathB d a b e₂) = .ok st) :
    ∃ st' v, mergeFileLayers fs' ⟨[], cwd'⟩ PState.empty (fl_pathB d' a' b' e₂') = .ok st' ∧
      cs.foldlM fl_layerStep ps[i] = .ok v ∧
      st'.docs[0]?.map (·.2) = some v ∧ st.docs[i]?.map (·.2) = some v := by
  obtain ⟨v, hv, hs⟩ := C02_file_layer_independent h cwd hnp hm i hi
  have hnp1 : ∀ p ∈ [ps[i]], matchDirective p = none := by
    intro p hp
    rw [List.mem_singleton.1 hp]
    exact hnp _ (List.getElem_mem hi)
  obtain ⟨st', hst'⟩ := fl_single_layer_ok
    (fidA := pathStr (fl_pathB d' a' b' e₂') ++ "|" ++ pathStr (fl_pathA d' a' e₁'))
    (below_bar_path (pathStr (fl_pathB d' a' b' e₂')) _) cs ps[i] hnc ⟨v, hv⟩
  have hm' : mergeFileLayers fs' ⟨[], cwd'⟩ PState.empty (fl_pathB d' a' b' e₂') = .ok st' := by
    rw [fl_stream2_child h' cwd' hnp1]
    exact hst'
  obtain ⟨v', hv', hs'⟩ := C02_file_layer_independent h' cwd' hnp1 hm' 0 Nat.one_pos
  have : v' = v := Except.ok.inj (hv'.symm.trans hv)
  subst this
  exact ⟨st', v', hm', hv, by rw [hs']; rfl, by rw [hs]; rfl⟩

/-- The `$match`-free instance of `C02_file_layer_singleton_partial`, with the whole result of
    the single-document run: it has exactly one document, `cs.foldlM merge pᵢ`, which is the
    data of document `i` of the full run. -/
theorem C02_file_layer_singleton_nomatch {fs fs' : FS} {d d' : Comps}
    {a b e₁ e₂ a' b' e₁' e₂' : String} {ps cs : List Val} (i : Nat) (hi : i < ps.length)
    (h : fl_Chain2 fs d a b e₁ e₂ ps cs) (h' : fl_Chain2 fs' d' a' b' e₁' e₂' [ps[i]] cs)
    (cwd cwd' : Comps)
    (hnp : ∀ p ∈ ps, matchDirective p = none) (hnc : ∀ c ∈ cs, matchDirective c = none)
    {st : PState}
    (hm : mergeFileLayers fs ⟨[], cwd⟩ PState.empty (fl_pathB d a b e₂) = .ok st) :
    ∃ st' v, mergeFileLayers fs' ⟨[], cwd'⟩ PState.empty (fl_pathB d' a' b' e₂') = .ok st' ∧
      cs.foldlM merge ps[i] = .ok v ∧
      st'.docs.map (·.2) = [v] ∧ st.docs[i]?.map (·.2) = some v := by
  obtain ⟨v, hv, hs⟩ := C02_file_layer_independent h cwd hnp hm i hi
  rw [fl_foldlM_layerStep_noMatch cs _ hnc] at hv
  have hcol : [ps[i]].mapM (fun p => cs.foldlM merge p) = .ok [v] := by
    rw [mapM_cons, mapM_nil, hv]
  have hnp1 : ∀ p ∈ [ps[i]], matchDirective p = none := by
    intro p hp
    rw [List.mem_singleton.1 hp]
    exact hnp _ (List.getElem_mem hi)
  have := (C02_file_layer_docs h' cwd' (by simp) hnp1 hnc).2.1 [v] hcol
  refine ⟨_, v, this, hv, ?_, by rw [hs]; rfl⟩
  exact List.map_snd_zip (Nat.le_of_eq (docIdsOf_length _ _).symm)


/-- **C02_three_layers_after_append.**  Base file `d/a.e₁` (documents `ps`, no `$match`), middle
    file `d/a.b.e₂` all of whose documents `ms` (at least one) say `$match: null`, top file
    `d/a.b.c.e₃` (documents `ts`, no `$match`).

    * After the first two files the stream holds the `m` base documents followed by one
      *appended* document per middle document, with id `<middle doc id>|matchnull` and the
      patch minus `$match` as data (`fl_body`); the parent table `fl_knownM` records for every
      middle document its direct parents `pids` **and** the document appended for it.
    * A document `t` of the top file has the middle file's documents `mids` as direct parents.
      None of these is in the stream; but through the recorded links every document of the
      stream is an ancestor of `t`: the appended documents (`mid → mid|matchnull`) and the base
      documents (`mid → pids`).  So `t` is merged into **all `m + |ms|` documents**: the base
      documents and the appended ones (`selectionOf st t = .merge (pids ++ appended) t.data`, in
      every state the top file's run passes through).
    * Hence the result: `m + |ms|` documents, document `j` = `ts.foldlM merge` of the `j`-th of
      `ps ++ bodies`. -/
theorem C02_three_layers_after_append {fs : FS} {d : Comps} {a b c e₁ e₂ e₃ : String}
    {ps ms ts : List Val} (h : fl_Chain3 fs d a b c e₁ e₂ e₃ ps ms ts) (cwd : Comps)
    (hne : ms ≠ []) (hnp : ∀ p ∈ ps, matchDirective p = none)
    (hmn : ∀ v ∈ ms, ∃ body, matchDirective v = some (.null, body))
    (hnt : ∀ t ∈ ts, matchDirective t = none) :
    let fidC := pathStr (fl_pathC d a b c e₃)
    let fidB := fidC ++ "|" ++ pathStr (fl_pathB d a b e₂)
    let fidA := fidB ++ "|" ++ pathStr (fl_pathA d a e₁)
    let pids := docIdsOf fidA ps.length
    let mids := docIdsOf fidB ms.length
    let appended := mids.map (· ++ "|matchnull")
    let stM : PState := ⟨pids.zip ps ++ appended.zip (ms.map fl_body), fl_knownM pids mids⟩
    let tdocs := plainDocs fidC mids ts
    let final (vs : List Val) : PState :=
      ⟨(pids ++ appended).zip vs,
        fl_knownM pids mids ++ (docIdsOf fidC ts.length).map fun i => (i, mids ++ (pids ++ appended))⟩
    runMerges PState.empty (plainDocs fidA [] ps ++ plainDocs fidB pids ms) = .ok stM ∧
    mergeFileLayers fs ⟨[], cwd⟩ PState.empty (fl_pathC d a b c e₃) = runMerges stM tdocs ∧
    (∀ (k : Nat) (st : PState) (t : Doc), runMerges stM (tdocs.take k) = .ok st →
      tdocs[k]? = some t →
        t.parents = mids ∧ st.docs.map (·.1) = pids ++ appended ∧
        (∀ id ∈ pids ++ appended, isAncestorOf (registered st t) t id = true) ∧
        selectionOf st t = .merge (pids ++ appended) t.data) ∧
    mergeFileLayers fs ⟨[], cwd⟩ PState.empty (fl_pathC d a b c e₃) =
      (match fl_layerAll (ps ++ ms.map fl_body) ts with
       | .error e => .error e
       | .ok vs => .ok (final vs)) ∧
    (∀ st, mergeFileLayers fs ⟨[], cwd⟩ PState.empty (fl_pathC d a b c e₃) = .ok st ↔
      ∃ vs, (ps ++ ms.map fl_body).mapM (fun p => ts.foldlM merge p) = .ok vs ∧ st = final vs) := by
  intro fidC fidB fidA pids mids appended stM tdocs final
  have hBA : Below fidB fidA := below_bar_path fidB _
  have hCB : Below fidC fidB := below_bar_path fidC _
  have hmid : runMerges PState.empty (plainDocs fidA [] ps ++ plainDocs fidB pids ms) = .ok stM :=
    fl_three_mid hBA ps ms hnp hmn
  have hrow : mergeFileLayers fs ⟨[], cwd⟩ PState.empty (fl_pathC d a b c e₃) =
      (match fl_layerAll (ps ++ ms.map fl_body) ts with
       | .error e => .error e
       | .ok vs => .ok (final vs)) := by
    rw [fl_stream3 h cwd]
    exact fl_three_all hBA hCB ps ms ts hne hnp hmn hnt
  refine ⟨hmid, ?_, ?_, hrow, ?_⟩
  · have := runMerges_append PState.empty (plainDocs fidA [] ps ++ plainDocs fidB pids ms) tdocs
    rw [hmid] at this
    rw [fl_stream3 h cwd, ← List.append_assoc]
    exact this
  · intro k st t hrun ht
    obtain ⟨hids, hanc⟩ := fl_three_reach hBA hCB ps ms ts hne hnt hrun
    obtain ⟨_, htp, htd⟩ := fl_plainDocs_getElem? _ _ _ k t ht
    have hanc' : ∀ id ∈ pids ++ appended,
        Ancestor (registered st t).known t.parents id := by
      intro id hid
      rw [htp]
      exact Reach.mono (fun q y hy => mem_lookupParents_addParents _ _ _ _ _ hy) (hanc id hid)
    refine ⟨htp, hids, fun id hid => (C02_ancestor_iff _ _ _).2 (hanc' id hid), ?_⟩
    rw [← hids]
    exact fl_selection_all (hnt _ (List.mem_of_getElem? htd))
      (fun e => fl_appended_ne_nil (pids := pids) (fl_docIdsOf_ne_nil fidB hne) (by rw [← hids, e]; rfl))
      (fun p hp => hanc' p.1 (by rw [← hids]; exact List.mem_map_of_mem hp))
  · exact fl_layerAll_result (final := final) (fun e he => hrow.trans (by rw [he]))
      (fun vs hv => hrow.trans (by rw [hv]))

/-- the data of an appended document is the middle document minus its `$match` -/
theorem C02_three_layers_body {v body : Val} (h : matchDirective v = some (.null, body)) :
    fl_body v = body := fl_body_match h

/-- **C02_ids_unique_files.**  The document ids the loader assigns along a filename chain of
    any depth (`chainFiles`, see `C03_chain_order_n_partial`: `file|docN`, the file id prefixed
    by the chain of children it was reached from) are pairwise distinct, and none ends in
    `|matchnull`. -/
theorem C02_ids_unique_files (d : Comps) (pre : List String) (R : List CLayer) (c : Option String) :
    (((chainFiles d pre c R).flatMap (·.docs)).map (·.id)).Nodup ∧
      ∀ x ∈ ((chainFiles d pre c R).flatMap (·.docs)).map (·.id), ∀ t, x ≠ t ++ "|matchnull" :=
  ⟨fl_chainFiles_ids_nodup d pre R c, fl_chainFiles_ids_noMN d pre R c⟩

/-- …for the files `loadFileAndParents` actually returns (hypotheses of
    `C03_chain_order_n_partial`) -/
theorem C02_ids_unique_loaded (fs : FS) (d cwd : Comps) (P : List CLayer) (x : CLayer)
    (hd : PlainDir fs d) (hn : (P ++ [x]).length ≤ loadFuel)
    (hpl : ∀ y ∈ P ++ [x], PlainName y.name) (hok : ChainFilesOK fs d [] (P ++ [x]))
    {files : List LFile} {ids : List String}
    (hl : loadFileAndParents fs ⟨[], cwd⟩ loadFuel (prefixPath d [] (P ++ [x])) none [] [] =
      .ok (files, ids)) :
    ((files.flatMap (·.docs)).map (·.id)).Nodup := by
  rw [load_chain (cwd := cwd) hd P x hn hpl hok] at hl
  cases hl
  exact fl_chainFiles_ids_nodup d [] _ none

/-- **…so the `ids unique` hypotheses of the C02 theorems hold for file-loaded streams**: while
    the documents of a loaded chain are merged from the empty state, every state has pairwise
    distinct document ids (`hnd` of `C02_singleton_stream`, `C02_ids_unique_preserved`) and the
    next document's id, with or without `|matchnull`, is fresh (`hf₁`, `hf₂` of
    `C02_ids_unique_preserved`). -/
theorem C02_ids_unique_run (d : Comps) (pre : List String) (R : List CLayer) (c : Option String)
    (k : Nat) {st : PState}
    (h : runMerges PState.empty (((chainFiles d pre c R).flatMap (·.docs)).take k) = .ok st) :
    (st.docs.map (·.1)).Nodup ∧
      ∀ p, ((chainFiles d pre c R).flatMap (·.docs))[k]? = some p →
        p.id ∉ st.docs.map (·.1) ∧ p.id ++ "|matchnull" ∉ st.docs.map (·.1) :=
  fl_unique_run _ (fl_chainFiles_ids_nodup d pre R c) (fl_chainFiles_ids_noMN d pre R c) k h


/-- The unrestricted "document `i` is what the single-document parent file `[pᵢ]` would give" is
    FALSE once the child uses `$match`: parent `{x: 1}`, `{x: 2}`, child `{$match: {x: 2}, y: 1}`.
    The full run succeeds (the child is merged into the second document; the first is left
    alone), but over the single-document parent `{x: 1}` the same child matches nothing and the
    run fails with `noMatchFound`.  (`C02_file_layer_noninterference` is what remains true with
    `$match`: *if* both runs succeed, the data agree.) -/
theorem C02_file_layer_singleton_false :
    ∃ (fs fs' : FS) (d cwd : Comps) (a b e₁ e₂ : String) (ps cs : List Val) (i : Nat)
      (hi : i < ps.length),
      fl_Chain2 fs d a b e₁ e₂ ps cs ∧ fl_Chain2 fs' d a b e₁ e₂ [ps[i]] cs ∧
      (∀ p ∈ ps, matchDirective p = none) ∧
      (∃ st, mergeFileLayers fs ⟨[], cwd⟩ PState.empty (fl_pathB d a b e₂) = .ok st) ∧
      mergeFileLayers fs' ⟨[], cwd⟩ PState.empty (fl_pathB d a b e₂) = .error .noMatchFound := by
  have hnp : ∀ p ∈ [fl_p0, fl_p1], matchDirective p = none := by decide
  have hnp1 : ∀ p ∈ [fl_p0], matchDirective p = none := by decide
  refine ⟨fl_fsMatch, fl_fsOne, ["w"], [], "a", "b", "yaml", "json", [fl_p0, fl_p1], [fl_cm], 0,
    by decide, fl_fsMatch_chain, fl_fsOne_chain, hnp, ?_, ?_⟩
  · rw [fl_stream2_child fl_fsMatch_chain [] hnp]
    exact fl_cex_full_ok _ _
  · rw [fl_stream2_child fl_fsOne_chain [] hnp1]
    exact fl_cex_one_fail _ _

/-! ### non-vacuity: concrete file systems (`BklProofs/Lemmas/C02Files.lean`) -/

/-- `/w/a.yaml` = `{x: 1}`, `{x: 2}` and `/w/a.b.json` = `{y: 5}`, `{z: 6}` satisfy the hypotheses
    of `C02_file_layer_targets`, `C02_file_layer_docs`, `C02_file_layer_independent` -/
example : fl_Chain2 fl_fsPlain ["w"] "a" "b" "yaml" "json" [fl_p0, fl_p1]
      [.map [("y", .int 5)], .map [("z", .int 6)]] ∧
    [fl_p0, fl_p1] ≠ [] ∧ (∀ p ∈ [fl_p0, fl_p1], matchDirective p = none) ∧
    (∀ c ∈ [Val.map [("y", .int 5)], .map [("z", .int 6)]], matchDirective c = none) ∧
    fl_pathB ["w"] "a" "b" "json" = ["w", "a.b.json"] ∧ fl_pathA ["w"] "a" "yaml" = ["w", "a.yaml"] :=
  ⟨fl_fsPlain_chain, by decide, by decide, by decide, by decide, by decide⟩

/-- …and there the run succeeds: both columns `cs.foldlM merge pᵢ` do -/
example : [fl_p0, fl_p1].mapM (fun p => [Val.map [("y", .int 5)], .map [("z", .int 6)]].foldlM merge p) =
    .ok [.map [("x", .int 1), ("y", .int 5), ("z", .int 6)],
         .map [("x", .int 2), ("y", .int 5), ("z", .int 6)]] := fl_plain_columns

/-- the `$match` setting of `C02_file_layer_targets` / `C02_file_layer_independent` /
    `C02_file_layer_noninterference` (the child selects `x: 2`) -/
example : fl_Chain2 fl_fsMatch ["w"] "a" "b" "yaml" "json" [fl_p0, fl_p1] [fl_cm] ∧
    (∀ p ∈ [fl_p0, fl_p1], matchDirective p = none) ∧
    matchDirective fl_cm = some (.map [("x", .int 2)], .map [("y", .int 1)]) ∧
    ∃ st, mergeFileLayers fl_fsMatch ⟨[], []⟩ PState.empty (fl_pathB ["w"] "a" "b" "json") = .ok st := by
  have hnp : ∀ p ∈ [fl_p0, fl_p1], matchDirective p = none := by decide
  refine ⟨fl_fsMatch_chain, hnp, by decide, ?_⟩
  rw [fl_stream2_child fl_fsMatch_chain [] hnp]
  exact fl_cex_full_ok _ _

/-- `C02_file_layer_singleton_partial` / `C02_file_layer_singleton_nomatch`: `fl_fsPlainOne` is
    `fl_fsPlain` with the parent cut down to its document `0`; the full run succeeds -/
example : ∃ st, 0 < [fl_p0, fl_p1].length ∧
    fl_Chain2 fl_fsPlain ["w"] "a" "b" "yaml" "json" [fl_p0, fl_p1]
      [.map [("y", .int 5)], .map [("z", .int 6)]] ∧
    fl_Chain2 fl_fsPlainOne ["w"] "a" "b" "yaml" "json" [[fl_p0, fl_p1][0]]
      [.map [("y", .int 5)], .map [("z", .int 6)]] ∧
    (∀ p ∈ [fl_p0, fl_p1], matchDirective p = none) ∧
    (∀ c ∈ [Val.map [("y", .int 5)], .map [("z", .int 6)]], matchDirective c = none) ∧
    mergeFileLayers fl_fsPlain ⟨[], []⟩ PState.empty (fl_pathB ["w"] "a" "b" "json") = .ok st := by
  have hnp : ∀ p ∈ [fl_p0, fl_p1], matchDirective p = none := by decide
  have hnc : ∀ c ∈ [Val.map [("y", .int 5)], .map [("z", .int 6)]], matchDirective c = none := by
    decide
  exact ⟨_, by decide, fl_fsPlain_chain, fl_fsPlainOne_chain, hnp, hnc,
    (C02_file_layer_docs fl_fsPlain_chain [] (by decide) hnp hnc).2.1 _ fl_plain_columns⟩

/-- `C02_file_layer_noninterference`: two different parent files (`fl_fsPlain`, `fl_fsPlainOne`)
    sharing their document `0`, same child, both runs succeeding -/
example : ∃ st st', fl_Chain2 fl_fsPlain ["w"] "a" "b" "yaml" "json" [fl_p0, fl_p1]
      [.map [("y", .int 5)], .map [("z", .int 6)]] ∧
    fl_Chain2 fl_fsPlainOne ["w"] "a" "b" "yaml" "json" [fl_p0]
      [.map [("y", .int 5)], .map [("z", .int 6)]] ∧
    (∀ p ∈ [fl_p0, fl_p1], matchDirective p = none) ∧ (∀ p ∈ [fl_p0], matchDirective p = none) ∧
    mergeFileLayers fl_fsPlain ⟨[], []⟩ PState.empty (fl_pathB ["w"] "a" "b" "json") = .ok st ∧
    mergeFileLayers fl_fsPlainOne ⟨[], []⟩ PState.empty (fl_pathB ["w"] "a" "b" "json") = .ok st' ∧
    [fl_p0, fl_p1][0] = [fl_p0][0] := by
  have hnp : ∀ p ∈ [fl_p0, fl_p1], matchDirective p = none := by decide
  have hnc : ∀ c ∈ [Val.map [("y", .int 5)], .map [("z", .int 6)]], matchDirective c = none := by
    decide
  have hm := (C02_file_layer_docs fl_fsPlain_chain [] (by decide) hnp hnc).2.1 _ fl_plain_columns
  obtain ⟨st', _, hm', _⟩ := C02_file_layer_singleton_nomatch 0 (by decide) fl_fsPlain_chain
    fl_fsPlainOne_chain [] [] hnp hnc hm
  exact ⟨_, st', fl_fsPlain_chain, fl_fsPlainOne_chain, hnp, by decide, hm, hm', rfl⟩

/-- `C02_file_layer_docs_empty_parent`: nothing forbids an empty parent file -/
example : ∃ fs : FS, fl_Chain2 fs ["w"] "a" "b" "yaml" "json" [] [fl_p0] :=
  ⟨_, fl_sample_chain2 [] [fl_p0] (fun _ h => nomatch h) (fl_absent_of_mem1 rfl)⟩

/-- `C02_three_layers_after_append`: `/w/a.yaml` = `{x: 1}`, `/w/a.b.json` = `{$match: null, y: 2}`,
    `/w/a.b.c.toml` = `{z: 3}`; the result has two documents, `{x: 1, z: 3}` and `{y: 2, z: 3}` -/
example : fl_Chain3 fl_fsThree ["w"] "a" "b" "c" "yaml" "json" "toml" [fl_p0] [fl_mn]
      [.map [("z", .int 3)]] ∧
    [fl_mn] ≠ [] ∧ (∀ p ∈ [fl_p0], matchDirective p = none) ∧
    (∀ v ∈ [fl_mn], ∃ body, matchDirective v = some (.null, body)) ∧
    (∀ t ∈ [Val.map [("z", .int 3)]], matchDirective t = none) ∧
    [fl_mn].map fl_body = [.map [("y", .int 2)]] ∧
    ([fl_p0] ++ [fl_mn].map fl_body).mapM (fun p => [Val.map [("z", .int 3)]].foldlM merge p) =
      .ok [.map [("x", .int 1), ("z", .int 3)], .map [("y", .int 2), ("z", .int 3)]] := by
  refine ⟨fl_fsThree_chain, by decide, by decide, ?_, by decide, by decide, ?_⟩
  · intro v hv
    rw [List.mem_singleton.1 hv]
    exact ⟨_, rfl⟩
  · show [fl_p0, .map [("y", .int 2)]].mapM (fun p => [Val.map [("z", .int 3)]].foldlM merge p) = _
    rw [mapM_cons, mapM_cons, mapM_nil]
    simp only [foldlM_cons, foldlM_nil, fl_p0,
      merge_map_single (d := [("x", .int 1)]) (k := "z") (v := .int 3) rfl (by decide) rfl,
      merge_map_single (d := [("y", .int 2)]) (k := "z") (v := .int 3) rfl (by decide) rfl]
    rfl

/-- `C02_ids_unique_files` / `C02_ids_unique_loaded` / `C02_ids_unique_run`: the chain of
    `C03_chain_order_n_partial`'s example -/
example : PlainDir chainFS ["w"] ∧ exChain.length ≤ loadFuel ∧ (∀ y ∈ exChain, PlainName y.name) ∧
    ChainFilesOK chainFS ["w"] [] exChain :=
  ⟨chainFS_plain, by decide, exChain_plain, exChain_ok⟩

/-! ## a layer whose whole document is null -/

/-- is the value a map, a list or null (a document the merge rules extend rather than replace) -/
def c02_isContainerOrNull : Val → Bool
  | .map _ => true
  | .list _ => true
  | .null => true
  | _ => false

theorem c02_merge_null_of_container {d : Val} (h : c02_isContainerOrNull d = true) : merge d .null = .ok d := by
  cases d with
  | map kvs => exact merge_map_null kvs
  | list l => exact merge_list_null l
  | null => exact merge_null .null
  | _ => simp [c02_isContainerOrNull] at h

/-- A layer whose whole document is null (JSON `null`, YAML `~`, an empty YAML file) and that has ancestors among the documents
    CHANGES NO DOCUMENT (map-, list- and null-rooted targets; a scalar-rooted target is replaced, as by any other value), and it
    is recorded with the selected documents as its parents - so the layers above it still inherit from the layers below it. -/
theorem C02_null_layer_changes_nothing {st : PState} {patch : Doc} {targets : List String}
    (hs : selectionOf st patch = .merge targets .null)
    (hc : ∀ p ∈ st.docs, p.1 ∈ targets → c02_isContainerOrNull p.2 = true) :
    mergeDocument st patch =
      .ok { docs := st.docs, known := addParents (registered st patch).known patch.id targets } := by
  rw [C02_selection_merge hs, mergeInto_ok_iff_map]
  refine ⟨fun p hp ht => ⟨p.2, c02_merge_null_of_container (hc p hp ht)⟩, ?_⟩
  have hmap : st.docs.map (stepFun targets .null) = st.docs := by
    conv => rhs; rw [← List.map_id st.docs]
    apply List.map_congr_left
    intro p hp
    obtain ⟨i, d⟩ := p
    simp only [stepFun, id]
    by_cases ht : i ∈ targets
    · rw [if_pos ht, c02_merge_null_of_container (hc (i, d) hp ht)]
    · rw [if_neg ht]
  show PState.mk st.docs _ = PState.mk (st.docs.map (stepFun targets .null)) _
  rw [hmap]

/-- the hypotheses are met: a null document layered over a map-rooted one (over the scalar-rooted `C02_st` the second one fails,
    and there the null layer does replace the document: `merge (.int 1) .null = .ok .null`) -/
example : selectionOf C02_mst { id := "n", parents := ["a"], data := .null } = .merge ["a"] .null := by decide
example : (mergeDocument C02_mst { id := "n", parents := ["a"], data := .null }).toOption.map (·.docs) = some C02_mst.docs := by
  rw [C02_null_layer_changes_nothing (targets := ["a"]) (by decide) (by decide)]
  rfl


end Bkl
