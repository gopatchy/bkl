/-
  C04 — "Results do not depend on which format (JSON/YAML/TOML) a layer is written in."

  The three decoders hand bkl different Go representations of the same data (`Raw`,
  Bkl/Stream.lean): json.Number text, YAML `int`/`int64`/`float64` after
  yaml.go:yamlTranslateNode, go-toml `int64`, `[]map[string]any`, Go maps in random order.
  `normalize` maps all of them into the one value domain `Val`, and the theorems below say that
  the same datum gets the same `Val` whichever decoder produced it.

  * `C04_int_exact`            an int64 `n` is `.int n` via JSON, YAML and TOML
  * `C04_normalize_total`      normalisation fails only on `map[any]any` (`invalidType`) and on
                               JSON numbers that are neither int64 nor float64 (`other`)
  * `C04_float_path`           non-integers become `.flt` of the same `%v` text
  * `C04_compare_canonical`    equality of normalised integers is equality of integers,
                               whatever the source; an integer never equals a float
  * `C04_map_order_irrelevant` the order in which a decoder lists map entries is irrelevant
  * `C04_yaml_merge_key`, `C04_yaml_merge_key_list`  YAML `<<` semantics
  * `C04_toml_array_of_tables` `[]map[string]any` ≡ `[]any` of maps
  * `C04_yaml_merge_chained`, `C04_yaml_merge_expand`, `…_expand_lookup`  `<<` inside a merged
                               mapping; merge keys at any depth against their expansion
  * `C04_yaml_merge_equals_expanded`, `C04_yaml_merge_equals_json`  merge keys against the
                               hand-expanded (JSON) form
  * `C04_yaml_translate_ok_iff`, `…_total_on_plain`, `…_failures`  exactly when a YAML node tree
                               loads, and with which error it does not
  * `C04_toml_int_equals_yaml_int`, `C04_toml_float_equals_yaml_float`, `C04_three_formats_agree`
                               one datum (`ym_Logical`), three readings, one value
  (helpers for these: BklProofs/Lemmas/C04Yaml.lean, BklProofs/Lemmas/C04YamlLogical.lean)

  `hasMapAny` is in BklProofs/Lemmas/Stream.lean, `rput`, `rlookup`, `rlookupMaps` in
  BklProofs/Lemmas/C04Yaml.lean.  `(toString n).toInt? = some n` is `Int.toInt?_repr` of Lean's
  `Std.Data.String.ToInt`; no round-trip hypothesis is needed.
-/
import BklProofs.Lemmas.C04YamlLogical
namespace Bkl

/-- For every int64 `n`, the three decoders' representations of `n` all normalise to `.int n`:
    JSON (`json.Number` with text `toString n`), YAML (`!!int` scalar: `int` when it fits
    32 bits, `int64` otherwise), TOML (`int64`). -/
theorem C04_int_exact (n : Int) (fr : String) (h1 : int64Min ≤ n) (h2 : n ≤ int64Max) :
    normalize (.jnum (toString n) fr) = .ok (.int n) ∧
    (yamlScalar "!!int" (toString n) fr >>= normalize) = .ok (.int n) ∧
    normalize (.goInt64 n) = .ok (.int n) := by
  refine ⟨?_, ?_, by rw [normalize]; rfl⟩
  · rw [normalize_jnum, parseInt64_toString n h1 h2]
  · rw [yamlScalar_int_toString n fr h1 h2]
    split <;> (rw [ok_bind, normalize]; rfl)

example : int64Min ≤ (-9223372036854775808 : Int) ∧ (-9223372036854775808 : Int) ≤ int64Max := by
  decide
example : int64Min ≤ (2147483648 : Int) ∧ (2147483648 : Int) ≤ int64Max := by decide

/-- the YAML representation: Go `int` when the value fits 32 bits, `int64` otherwise -/
theorem C04_yaml_int_repr (n : Int) (fr : String) (h1 : int64Min ≤ n) (h2 : n ≤ int64Max) :
    yamlScalar "!!int" (toString n) fr =
      if -(2147483648 : Int) ≤ n ∧ n < 2147483648 then .ok (.goInt n) else .ok (.goInt64 n) :=
  yamlScalar_int_toString n fr h1 h2

/-- the key fact behind the JSON case: decimal text of an int64 parses back to it -/
theorem C04_parseInt64_toString (n : Int) (h1 : int64Min ≤ n) (h2 : n ≤ int64Max) :
    parseInt64 (toString n) = some n := parseInt64_toString n h1 h2

/-- out of the int64 range json.Number.Int64 fails and the number is a float -/
theorem C04_int_out_of_range (n : Int) (fr : String) (h : n < int64Min ∨ int64Max < n)
    (hfr : fr.isEmpty = false) :
    normalize (.jnum (toString n) fr) = .ok (.flt fr) := by
  rw [normalize_jnum, parseInt64_toString_eq, if_neg (by omega), hfr]
  rfl

example : (9223372036854775808 : Int) < int64Min ∨ int64Max < (9223372036854775808 : Int) := by
  decide

/-- Go's `strconv.ParseInt(_, 10, _)` grammar as modelled: `1_000` (accepted by Lean's own
    `String.toInt?`) and a text with any non-digit are not integers, `+7` is. -/
theorem C04_goDecInt_grammar :
    goDecInt "1_000" = none ∧ goDecInt "+7" = some 7 ∧ goDecInt "+" = none ∧ goDecInt "+-7" = none ∧
    (∀ n : Int, goDecInt (toString n) = some n) := by
  refine ⟨?_, ?_, ?_, ?_, goDecInt_toString⟩
  · unfold goDecInt
    have h : "1_000".toList = ['1', '_', '0', '0', '0'] := by decide
    rw [h]; decide
  · unfold goDecInt
    have h : "+7".toList = ['+', '7'] := by decide
    rw [h]
    have h2 : String.ofList ['7'] = toString (7 : Int) := by decide
    simp only [List.isEmpty_cons, List.all_cons, List.all_nil, Bool.false_or]
    rw [h2, int_toString_toInt]
    decide
  · unfold goDecInt
    have h : "+".toList = ['+'] := by decide
    rw [h]; decide
  · unfold goDecInt
    have h : "+-7".toList = ['+', '-', '7'] := by decide
    rw [h]; decide

/-! ## `normalize` is total except for `map[any]any` and unrepresentable numbers -/

/-- `normalize r` fails iff `r` contains a `map[any]any` or a JSON number that is neither an int64 nor
    convertible to float64 (`hasMapAny`), and then with `invalidType` resp. the conversion error -/
theorem C04_normalize_total (r : Raw) :
    ((∃ e, normalize r = .error e) ↔ hasMapAny r = true) ∧
    (∀ e, normalize r = .error e → e = .invalidType ∨ e = .other) ∧
    (hasMapAny r = false → ∃ v, normalize r = .ok v) := by
  have h := normalize_spec r
  refine ⟨?_, h.errOK, fun hf => ⟨_, ym_normalize_eq r hf⟩⟩
  rw [← ym_ok_false_iff, h.ok_eq, Bool.not_eq_false']

example : hasMapAny (.map [("a", .list [.goInt 1, .mapAny])]) = true := by decide
example : normalize (.map [("a", .list [.goInt 1, .mapAny])]) = .error .invalidType := by
  simp [normalize, normalizeFields, normalizeList, bind, Except.bind, throw, throwThe,
    MonadExceptOf.throw, pure, Except.pure]
example : hasMapAny (.map [("a", .list [.goInt 1, .goFloat "2"])]) = false := by decide

/-- JSON non-integers, YAML `!!float` and TOML floats all become `.flt` of the `%v` text -/
theorem C04_float_path (text value fr : String) (hfr : fr.isEmpty = false) :
    (parseInt64 text = none → normalize (.jnum text fr) = .ok (.flt fr)) ∧
    (yamlScalar "!!float" value fr >>= normalize) = .ok (.flt fr) ∧
    normalize (.goFloat fr) = .ok (.flt fr) := by
  refine ⟨?_, ?_, by rw [normalize]; rfl⟩
  · intro h; rw [normalize_jnum, h]; simp [hfr]
  · rw [yamlScalar_float]; simp only [hfr, Bool.false_eq_true, if_false]; rw [ok_bind, normalize]; rfl

/-- a literal no float64 can hold (`fr = ""`: `strconv.ParseFloat` / `json.Number.Float64` failed, e.g.
    `1e400`) is an error in every format, never a silently different number -/
theorem C04_float_unrepresentable_is_error (text value : String) (h : parseInt64 text = none) :
    normalize (.jnum text "") = .error .other ∧
    (yamlScalar "!!float" value "" >>= normalize) = .error .other := by
  refine ⟨?_, ?_⟩
  · rw [normalize_jnum, h]; rfl
  · rw [yamlScalar_float]; rfl

/-- non-vacuity: `1.5` is not an integer text, so JSON `1.5` is the float `1.5` -/
example : parseInt64 "1.5" = none :=
  parseInt64_none_of_bad "1.5" (by decide)
example : normalize (.jnum "1.5" "1.5") = .ok (.flt "1.5") :=
  (C04_float_path "1.5" "" "1.5" (by decide)).1
    (parseInt64_none_of_bad "1.5" (by decide))
/-- … and JSON `1e3` too (json.Number.Int64 fails on it), with `%v` text `1000` -/
example : normalize (.jnum "1e3" "1000") = .ok (.flt "1000") :=
  (C04_float_path "1e3" "" "1000" (by decide)).1
    (parseInt64_none_of_bad "1e3" (by decide))

/-! ## comparison is structural after normalisation -/

/-- Go compares scalars with `==` on interface values (dynamic type AND value).  After
    normalisation every integer is an `.int` and every float a `.flt`, so equality of normalised
    integers from any two sources is equality of the integers, and an integer never equals a
    float. -/
theorem C04_compare_canonical (a b : Int) (fr r : String)
    (ha : int64Min ≤ a ∧ a ≤ int64Max) :
    (normalize (.goInt a) = normalize (.goInt64 b) ↔ a = b) ∧
    (normalize (.goInt a) = normalize (.goInt b) ↔ a = b) ∧
    (normalize (.goInt64 a) = normalize (.goInt64 b) ↔ a = b) ∧
    (normalize (.jnum (toString a) fr) = normalize (.goInt64 b) ↔ a = b) ∧
    (normalize (.jnum (toString a) fr) = normalize (.goInt b) ↔ a = b) ∧
    ((yamlScalar "!!int" (toString a) fr >>= normalize) = normalize (.goInt64 b) ↔ a = b) ∧
    ((yamlScalar "!!int" (toString a) fr >>= normalize) = normalize (.jnum (toString a) r)) ∧
    normalize (.goInt a) ≠ normalize (.goFloat r) ∧
    normalize (.goInt64 a) ≠ normalize (.goFloat r) ∧
    normalize (.jnum (toString a) fr) ≠ normalize (.goFloat r) := by
  obtain ⟨j1, y1, _⟩ := C04_int_exact a fr ha.1 ha.2
  obtain ⟨j2, _, _⟩ := C04_int_exact a r ha.1 ha.2
  have gi : ∀ i, normalize (.goInt i) = .ok (.int i) := fun i => by rw [normalize]; rfl
  have g64 : ∀ i, normalize (.goInt64 i) = .ok (.int i) := fun i => by rw [normalize]; rfl
  have gf : normalize (.goFloat r) = .ok (.flt r) := by rw [normalize]; rfl
  have key : (Except.ok (Val.int a) : R Val) = .ok (.int b) ↔ a = b :=
    ⟨fun h => by injection h with h; injection h, fun h => by rw [h]⟩
  rw [j1, y1, j2, gi, gi, g64, g64, gf]
  have ne : (Except.ok (Val.int a) : R Val) ≠ .ok (.flt r) := by
    intro h; injection h with h; cases h
  exact ⟨key, key, key, key, key, key, rfl, ne, ne, ne⟩

example : int64Min ≤ (42 : Int) ∧ (42 : Int) ≤ int64Max := by decide

/-- Go maps are unordered and decoders list entries in different orders: for entry lists with
    distinct keys that are permutations of each other normalisation fails for both or yields the
    same map for both (which of the two possible errors is met first may depend on the order) -/
theorem C04_map_order_irrelevant (kvs' kvs : List (String × Raw)) (hp : kvs'.Perm kvs)
    (hn : (kvs.map (·.1)).Nodup) :
    (∃ e' e, normalize (.map kvs') = .error e' ∧ normalize (.map kvs) = .error e) ∨
    (∃ v, normalize (.map kvs') = .ok v ∧ normalize (.map kvs) = .ok v) :=
  normalize_map_perm hp hn

example : [("b", Raw.goInt 2), ("a", Raw.str "x")].Perm [("a", .str "x"), ("b", .goInt 2)] ∧
    ([("a", Raw.str "x"), ("b", Raw.goInt 2)].map (·.1)).Nodup := by
  refine ⟨List.Perm.swap _ _ _, by decide⟩

/-- the normalised map is key-sorted whatever the decoder's order -/
theorem C04_map_sorted (kvs : List (String × Raw)) (v : Val) (h : normalize (.map kvs) = .ok v) :
    ∃ fs, v = .map fs ∧ Fields.SortedKeys fs := by
  rw [normalize_map] at h
  obtain ⟨fs, _, h⟩ := R_bind_eq_ok.1 h
  cases h
  exact ⟨_, rfl, sorted_fofList fs⟩

example : normalize (.map [("b", .goInt 2), ("a", .str "x")])
    = .ok (.map [("a", .str "x"), ("b", .int 2)]) := by decide

/-! ## YAML merge keys -/

/-- A mapping with exactly one `<<` entry whose value is a mapping `m`, and local pairs `ls`
    (= the translated non-`<<` pairs): the result has distinct keys, and looking a key up gives
    the local value if there is one, else `m`'s. -/
theorem C04_yaml_merge_key (pre post : List (String × YNode)) (x : YNode) (m ls : RFields)
    (hpre : ∀ p ∈ pre, p.1 ≠ "<<") (hpost : ∀ p ∈ post, p.1 ≠ "<<")
    (hx : yamlTranslate x = .ok (.map m))
    (hl : yamlTranslatePairs (pre ++ post) = .ok ls) :
    ∃ res, yamlTranslate (.mapping (pre ++ ("<<", x) :: post)) = .ok (.map res) ∧
      (res.map (·.1)).Nodup ∧
      ∀ k, rlookup res k = match rlookup ls k with
        | some v => some v
        | none => rlookup m k := by
  refine ⟨_, yamlTranslate_one_merge pre post x (.map m) _ ls hpre hpost hx
    (yamlMergeInto_map [] m) hl, ?_, ?_⟩
  · exact foldl_rput_keys_nodup ls _ (foldl_rput_keys_nodup m [] List.nodup_nil)
  · intro k
    rw [rlookup_foldl_rput, rlookup_foldl_rput]
    cases rlookup ls k with
    | some v => rfl
    | none => simp only [rlookup]; cases rlookup m k <;> rfl

/-- The list form `<<: [m₁, …, mₙ]`: locals win over every `mᵢ`, and an earlier `mᵢ` wins over
    a later one (`rlookupMaps` = the first mapping that has the key). -/
theorem C04_yaml_merge_key_list (pre post : List (String × YNode)) (x : YNode)
    (ms : List RFields) (ls : RFields)
    (hpre : ∀ p ∈ pre, p.1 ≠ "<<") (hpost : ∀ p ∈ post, p.1 ≠ "<<")
    (hx : yamlTranslate x = .ok (.list (ms.map Raw.map)))
    (hl : yamlTranslatePairs (pre ++ post) = .ok ls) :
    ∃ res, yamlTranslate (.mapping (pre ++ ("<<", x) :: post)) = .ok (.map res) ∧
      (res.map (·.1)).Nodup ∧
      ∀ k, rlookup res k = match rlookup ls k with
        | some v => some v
        | none => rlookupMaps ms k := by
  refine ⟨_, yamlTranslate_one_merge pre post x _ _ ls hpre hpost hx
    (yamlMergeInto_list_maps [] ms) hl, ?_, ?_⟩
  · exact foldl_rput_keys_nodup ls _ (rmergeAll_keys_nodup ms [] List.nodup_nil)
  · intro k
    rw [rlookup_foldl_rput, rlookup_rmergeAll]
    cases rlookup ls k with
    | some v => rfl
    | none => simp only [rlookup]; cases rlookupMaps ms k <;> rfl

/-- non-vacuity of the two theorems above: `{a: 1, <<: {a: 0, b: 2}, c: 3}` and
    `{a: 1, <<: [{a: 0}, {a: 9, b: 2}], c: 3}` -/
example : ∃ res, yamlTranslate (.mapping ([("a", .scalar "!!str" "1" "")] ++
      ("<<", .mapping [("a", .scalar "!!str" "0" ""), ("b", .scalar "!!str" "2" "")]) ::
      [("c", .scalar "!!str" "3" "")])) = .ok (.map res) ∧ (res.map (·.1)).Nodup ∧
      ∀ k, rlookup res k = match rlookup [("a", .str "1"), ("c", .str "3")] k with
        | some v => some v
        | none => rlookup [("a", .str "0"), ("b", .str "2")] k :=
  C04_yaml_merge_key _ _ _ _ _ (by decide) (by decide) (by rfl) (by rfl)
example : ∃ res, yamlTranslate (.mapping ([("a", .scalar "!!str" "1" "")] ++
      ("<<", .seq [.mapping [("a", .scalar "!!str" "0" "")],
                   .mapping [("a", .scalar "!!str" "9" ""), ("b", .scalar "!!str" "2" "")]]) ::
      [("c", .scalar "!!str" "3" "")])) = .ok (.map res) ∧ (res.map (·.1)).Nodup ∧
      ∀ k, rlookup res k = match rlookup [("a", .str "1"), ("c", .str "3")] k with
        | some v => some v
        | none => rlookupMaps [[("a", .str "0")], [("a", .str "9"), ("b", .str "2")]] k :=
  C04_yaml_merge_key_list _ _ _ [[("a", .str "0")], [("a", .str "9"), ("b", .str "2")]] _
    (by decide) (by decide) (by rfl) (by rfl)

/-- a `<<` whose value is a `!!str` scalar is `invalidType` (every value that is neither a mapping
    nor a sequence of mappings: last part of `C04_yaml_translate_failures`) -/
theorem C04_yaml_merge_key_scalar (pairs : List (String × YNode)) (s : String) :
    yamlTranslate (.mapping (("<<", .scalar "!!str" s "") :: pairs)) = .error .invalidType := by
  rw [yamlTranslate_mapping, ym_TM_cons_merge, ym_T_scalar]
  rfl

/-- concrete instance (`{a: 1, <<: {a: 0, b: 2}, c: 3}` → a=1 (local wins), b=2, c=3) -/
theorem C04_yaml_merge_key_instance :
    yamlTranslate (.mapping [("a", .scalar "!!str" "1" ""),
        ("<<", .mapping [("a", .scalar "!!str" "0" ""), ("b", .scalar "!!str" "2" "")]),
        ("c", .scalar "!!str" "3" "")]) =
      .ok (.map [("b", .str "2"), ("a", .str "1"), ("c", .str "3")]) := by
  rfl

/-- concrete instance of the list form (`{<<: [{a: 1}, {a: 2, b: 2}]}` → a=1: earlier wins) -/
theorem C04_yaml_merge_key_list_instance :
    yamlMergeInto [] (.list [.map [("a", .str "1")], .map [("a", .str "2"), ("b", .str "2")]]) =
      .ok [("b", .str "2"), ("a", .str "1")] := by
  rfl

/-! ## go-toml arrays of tables -/

theorem C04_toml_array_of_tables (ms : List (List (String × Raw))) :
    normalize (.listOfMaps ms) = normalize (.list (ms.map .map)) := normalize_listOfMaps ms

/-! ## YAML merge keys, recursively (`<<` inside a merged mapping) -/

/-- A merged mapping that itself contains a `<<` entry is expanded recursively.  For
    `{pre0…, <<: {pre1…, <<: m2, post1…}, post0…}` (all other keys ordinary) the result has
    distinct keys and looking a key up gives the outer explicit value (`l0`) if there is one,
    else the inner mapping's explicit value (`l1`), else `m2`'s. -/
theorem C04_yaml_merge_chained (pre0 post0 pre1 post1 : List (String × YNode)) (m2 : YNode)
    (r2 l1 l0 : RFields)
    (hpre0 : ∀ p ∈ pre0, p.1 ≠ "<<") (hpost0 : ∀ p ∈ post0, p.1 ≠ "<<")
    (hpre1 : ∀ p ∈ pre1, p.1 ≠ "<<") (hpost1 : ∀ p ∈ post1, p.1 ≠ "<<")
    (h2 : yamlTranslate m2 = .ok (.map r2))
    (hl1 : yamlTranslatePairs (pre1 ++ post1) = .ok l1)
    (hl0 : yamlTranslatePairs (pre0 ++ post0) = .ok l0) :
    ∃ res, yamlTranslate (.mapping (pre0 ++
        ("<<", .mapping (pre1 ++ ("<<", m2) :: post1)) :: post0)) = .ok (.map res) ∧
      (res.map (·.1)).Nodup ∧
      ∀ k, rlookup res k = match rlookup l0 k with
        | some v => some v
        | none => match rlookup l1 k with
          | some v => some v
          | none => rlookup r2 k := by
  obtain ⟨res1, e1, _, k1⟩ := C04_yaml_merge_key pre1 post1 m2 r2 l1 hpre1 hpost1 h2 hl1
  obtain ⟨res, e0, n0, k0⟩ := C04_yaml_merge_key pre0 post0 _ res1 l0 hpre0 hpost0 e1 hl0
  refine ⟨res, e0, n0, fun k => ?_⟩
  rw [k0 k, k1 k]

/-- the form of the statement with the `<<` entries in front:
    `outer = {<<: {<<: m2, ls1…}, ls0…}` -/
theorem C04_yaml_merge_chained_front (ls0 ls1 : List (String × YNode)) (m2 : YNode)
    (r2 l1 l0 : RFields)
    (h0 : ∀ p ∈ ls0, p.1 ≠ "<<") (h1 : ∀ p ∈ ls1, p.1 ≠ "<<")
    (h2 : yamlTranslate m2 = .ok (.map r2))
    (hl1 : yamlTranslatePairs ls1 = .ok l1) (hl0 : yamlTranslatePairs ls0 = .ok l0) :
    ∃ res, yamlTranslate (.mapping (("<<", .mapping (("<<", m2) :: ls1)) :: ls0)) = .ok (.map res) ∧
      (res.map (·.1)).Nodup ∧
      ∀ k, rlookup res k = match rlookup l0 k with
        | some v => some v
        | none => match rlookup l1 k with
          | some v => some v
          | none => rlookup r2 k :=
  C04_yaml_merge_chained [] ls0 [] ls1 m2 r2 l1 l0 (fun _ h => nomatch h) h0
    (fun _ h => nomatch h) h1 h2 hl1 hl0

/-- non-vacuity: `{<<: {<<: {a: 0, b: 0, c: 0}, b: 1}, c: 2}` → a=0, b=1, c=2 -/
example : ∃ res, yamlTranslate (.mapping (("<<", .mapping (("<<",
      .mapping [("a", .scalar "!!str" "0" ""), ("b", .scalar "!!str" "0" ""),
        ("c", .scalar "!!str" "0" "")]) :: [("b", .scalar "!!str" "1" "")])) ::
      [("c", .scalar "!!str" "2" "")])) = .ok (.map res) ∧ (res.map (·.1)).Nodup ∧
      ∀ k, rlookup res k = match rlookup [("c", .str "2")] k with
        | some v => some v
        | none => match rlookup [("b", .str "1")] k with
          | some v => some v
          | none => rlookup [("a", .str "0"), ("b", .str "0"), ("c", .str "0")] k :=
  C04_yaml_merge_chained_front _ _ _ _ _ _ (by decide) (by decide) (by rfl) (by rfl) (by rfl)

/-- Merge keys at any nesting depth.  `ym_expand` (BklProofs/Lemmas/C04Yaml.lean) inlines every
    `<<` entry — a mapping, or a list of mappings of which earlier ones win — in front of the
    explicit keys, recursively; it is `none` exactly when some `<<` value is neither.
    * a tree that cannot be expanded is rejected by `yamlTranslate`;
    * otherwise the expansion has no `<<` key anywhere (`ym_plain`), and either both trees are
      rejected or both are loaded as the same value. -/
theorem C04_yaml_merge_expand (n : YNode) :
    (ym_expand n = none → ∃ e, yamlTranslate n = .error e) ∧
    (∀ n', ym_expand n = some n' →
      ym_plain n' = true ∧
      ((∃ e e', yamlTranslate n = .error e ∧ yamlTranslate n' = .error e') ∨
       (∃ v, (yamlTranslate n >>= normalize) = .ok v ∧
          (yamlTranslate n' >>= normalize) = .ok v))) := by
  refine ⟨ym_expand_none_fails n, fun n' h => ⟨ym_expand_plain n n' h, ?_⟩⟩
  rcases ym_expand_rel n n' h with ⟨⟨e, he⟩, ⟨e', he'⟩⟩ | ⟨r, r', h1, h2, hn⟩
  · exact Or.inl ⟨e, e', he, he'⟩
  · exact Or.inr ⟨ym_norm r, ym_T_normalize n r h1, by rw [ym_T_normalize n' r' h2, hn]⟩

/-- … key by key: when the tree is a mapping, so is its expansion, and every key holds the same
    (normalised) value in both -/
theorem C04_yaml_merge_expand_lookup (n n' : YNode) (a : RFields) (h : ym_expand n = some n')
    (ha : yamlTranslate n = .ok (.map a)) :
    ∃ b, yamlTranslate n' = .ok (.map b) ∧
      ∀ k, (rlookup a k).map ym_norm = (rlookup b k).map ym_norm := by
  rcases ym_expand_rel n n' h with ⟨⟨e, he⟩, _⟩ | ⟨r, r', h1, h2, hn⟩
  · rw [ha] at he; cases he
  · rw [ha] at h1; cases h1
    cases n with
    | mapping ps =>
      rw [ym_expand_mapping] at h
      obtain ⟨m, _, h⟩ := Option.bind_eq_some_iff.1 h
      obtain ⟨l, _, h⟩ := Option.bind_eq_some_iff.1 h
      cases h
      obtain ⟨b, rfl⟩ := ym_T_mapping_shape _ r' h2
      exact ⟨b, h2, (ym_norm_map_eq_iff a b).1 hn⟩
    | _ => cases ym_T_isMap _ _ ha

/-- `ym_expand` leaves trees without merge keys alone, and every tree `yamlTranslate` accepts
    can be expanded -/
theorem C04_yaml_expand_sanity (n : YNode) :
    (ym_plain n = true → ym_expand n = some n) ∧
    ((∃ r, yamlTranslate n = .ok r) → ∃ n', ym_expand n = some n') := by
  refine ⟨ym_expand_of_plain n, fun hr => ?_⟩
  have := ym_wt_expand n (by rw [← ym_T_ok]; exact (ym_ok_iff _).2 hr)
  cases he : ym_expand n with
  | none => rw [he] at this; cases this
  | some n' => exact ⟨n', rfl⟩

/-- non-vacuity of `C04_yaml_merge_expand`: a two-level chain and a list form, expanded -/
example : ym_expand (.mapping [("c", .scalar "!!str" "2" ""),
      ("<<", .mapping [("<<", .seq [.mapping [("a", .scalar "!!str" "0" "")],
                                    .mapping [("a", .scalar "!!str" "9" ""),
                                              ("b", .scalar "!!str" "0" "")]]),
                       ("b", .scalar "!!str" "1" "")])]) =
    some (.mapping [("a", .scalar "!!str" "9" ""), ("b", .scalar "!!str" "0" ""),
      ("a", .scalar "!!str" "0" ""), ("b", .scalar "!!str" "1" ""),
      ("c", .scalar "!!str" "2" "")]) := by
  rfl
example : ym_expand (.mapping [("<<", .scalar "!!str" "x" "")]) = none := by
  rfl

/-- Which error is reported may differ between a tree and its expansion (the elements of a
    `<<` list are translated first to last but merged last to first): here the tree fails with
    the `!!int` syntax error, its expansion with the unknown tag. -/
theorem C04_yaml_merge_expand_error_may_differ :
    ∃ n n', ym_expand n = some n' ∧ yamlTranslate n = .error .other ∧
      yamlTranslate n' = .error .invalidType := by
  refine ⟨.mapping [("<<", .seq [.mapping [("a", .scalar "!!int" "zz" "")],
      .mapping [("b", .scalar "!!frob" "" "")]])],
    .mapping [("b", .scalar "!!frob" "" ""), ("a", .scalar "!!int" "zz" "")], ?_, ?_, ?_⟩
  · rfl
  · have hz : yamlScalar "!!int" "zz" "" = .error .other :=
      ym_scalar_bad_int _ _ (parseInt64_none_of_bad "zz" (by decide))
    rw [yamlTranslate_mapping, ym_TM_cons_merge, ym_T_seq, ym_TL_cons, yamlTranslate_mapping,
      ym_TM_cons_other _ _ _ _ (by decide), ym_TM_nil, ok_bind,
      ym_TP_cons_other _ _ _ (by decide), ym_T_scalar, hz]
    rfl
  · have hb : yamlScalar "!!frob" "" "" = .error .invalidType :=
      ym_scalar_unknown_tag _ _ _ (by decide) (by decide) (by decide) (by decide) (by decide)
        (by decide)
    rw [yamlTranslate_mapping, ym_TM_cons_other _ _ _ _ (by decide),
      ym_TM_cons_other _ _ _ _ (by decide), ym_TM_nil, ok_bind,
      ym_TP_cons_other _ _ _ (by decide), ym_T_scalar, hb]
    rfl

/-! ## YAML merge keys against the expanded form -/

/-- After `normalize`, a tree with merge keys and its expansion (a tree without merge keys, which
    is what one writes by hand) are the same value. -/
theorem C04_yaml_merge_equals_expanded (n n' : YNode) (r : Raw) (h : ym_expand n = some n')
    (hr : yamlTranslate n = .ok r) :
    ym_plain n' = true ∧
    ∃ v, (yamlTranslate n >>= normalize) = .ok v ∧ (yamlTranslate n' >>= normalize) = .ok v := by
  refine ⟨ym_expand_plain n n' h, ?_⟩
  rcases ym_expand_rel n n' h with ⟨⟨e, he⟩, _⟩ | ⟨r1, r', h1, h2, hn⟩
  · rw [hr] at he; cases he
  · exact ⟨ym_norm r1, ym_T_normalize n r1 h1, by rw [ym_T_normalize n' r' h2, hn]⟩

/-- "YAML anchors / merge keys compared against their expanded JSON form": for data
    `base`, `pre`, `post` (entry lists of format-independent values, `ym_Logical`, no key being
    `<<`), the YAML mapping `{pre…, <<: base, post…}` is loaded as the same value as the JSON
    object one gets by expanding the merge by hand (`ym_handExpand`: the entries of `base` that
    are not overridden, then the explicit entries) — and that object has distinct keys when the
    explicit keys and `base`'s keys are distinct. -/
theorem C04_yaml_merge_equals_json (jf yf : Int → String) (base pre post : ym_LFields)
    (hb : ym_okFields base = true) (hpre : ym_okFields pre = true) (hpost : ym_okFields post = true) :
    (yamlTranslate (.mapping (ym_renderYamlFields yf pre ++
        ("<<", ym_renderYaml yf (.map base)) :: ym_renderYamlFields yf post)) >>= normalize) =
      normalize (ym_renderJson jf (.map (ym_handExpand base (pre ++ post)))) ∧
    normalize (ym_renderJson jf (.map (ym_handExpand base (pre ++ post)))) =
      .ok (ym_Logical.map (ym_handExpand base (pre ++ post))).val ∧
    (((pre ++ post).map (·.1)).Nodup → (base.map (·.1)).Nodup →
      ((ym_handExpand base (pre ++ post)).map (·.1)).Nodup) := by
  refine ⟨ym_merge_equals_json jf yf base pre post hb hpre hpost, ?_,
    fun he hbn => ym_handExpand_nodup base (pre ++ post) hbn he⟩
  exact (ym_three_formats jf yf _ (by
    rw [ym_Logical.ok]; exact ym_handExpand_ok _ _ hb (ym_okFields_append hpre hpost))).1

/-- non-vacuity: `{a: 1, <<: {a: 0, b: 2.5}, c: [x]}` against `{"b": 2.5, "a": 1, "c": ["x"]}` -/
example : ym_okFields [("a", .int 0), ("b", .flt "2.5" "2.5")] = true ∧
    ym_okFields [("a", .int 1)] = true ∧ ym_okFields [("c", .list [.str "x"])] = true ∧
    ym_handExpand [("a", .int 0), ("b", .flt "2.5" "2.5")] ([("a", .int 1)] ++ [("c", .list [.str "x"])])
      = [("b", .flt "2.5" "2.5"), ("a", .int 1), ("c", .list [.str "x"])] := by
  have : parseInt64 "2.5" = none :=
    parseInt64_none_of_bad "2.5" (by decide)
  refine ⟨?_, by decide, by decide, by rfl⟩
  simp [ym_okFields, ym_Logical.ok, this, int64Min, int64Max]

/-! ## exactly when a YAML document loads -/

/-- the acceptable scalars, spelled out -/
theorem C04_yaml_scalarOK_spec (t v f : String) :
    ym_scalarOK t v f = true ↔
      t = "!!str" ∨ t = "!!null" ∨ t = "!!timestamp" ∨
      (t = "!!int" ∧ ∃ i, parseInt64 v = some i) ∨
      (t = "!!float" ∧ f ≠ "") ∨
      (t = "!!bool" ∧ v ∈ ["1", "t", "T", "TRUE", "true", "True",
                            "0", "f", "F", "FALSE", "false", "False"]) := by
  unfold ym_scalarOK
  split
  · simp [ym_boolLit, or_assoc]
  · simp [Option.isSome_iff_exists]
  · simp
  · exact ⟨fun _ => Or.inr (Or.inl rfl), fun _ => rfl⟩
  · exact ⟨fun _ => Or.inl rfl, fun _ => rfl⟩
  · exact ⟨fun _ => Or.inr (Or.inr (Or.inl rfl)), fun _ => rfl⟩
  · rename_i h1 h2 h3 h4 h5 h6
    simp only [Bool.false_eq_true, false_iff, not_or, not_and]
    exact ⟨h5, h4, h6, fun h => absurd h h2, fun h => absurd h h3, fun h => absurd h h1⟩

/-- `yamlTranslate n >>= normalize` succeeds exactly on the well-typed trees (`ym_wt`): every
    scalar acceptable (`C04_yaml_scalarOK_spec`), every `<<` value a mapping or a sequence of
    mappings. -/
theorem C04_yaml_translate_ok_iff (n : YNode) :
    (∃ v, (yamlTranslate n >>= normalize) = .ok v) ↔ ym_wt n = true := by
  rw [← ym_ok_iff, (ym_load_spec n).ok_eq]

/-- On node trees built only from mappings (none of whose keys is `<<`), sequences and scalars,
    all scalars being acceptable — `!!str`, `!!null`, `!!timestamp`, `!!int` with decimal int64
    text, `!!float` with a float64 value, `!!bool` with a `strconv.ParseBool` literal — loading
    succeeds; and on such trees it succeeds only if all scalars are acceptable. -/
theorem C04_yaml_translate_total_on_plain (n : YNode) (hp : ym_plain n = true) :
    (ym_scalarsOK n = true → ∃ v, (yamlTranslate n >>= normalize) = .ok v) ∧
    ((∃ v, (yamlTranslate n >>= normalize) = .ok v) → ym_scalarsOK n = true) := by
  rw [C04_yaml_translate_ok_iff, ym_plain_wt n hp]
  exact ⟨id, id⟩

/-- Every failure, classified: any error is `invalidType` or `other`; an unknown tag is
    `invalidType`; `!!int` text outside the decimal int64 grammar, `!!float` text without a
    float64 value and a `!!bool` that is no `ParseBool` literal are `other`; a `<<` whose value
    (itself loadable, the earlier `<<` entries being fine) is neither a mapping nor a sequence of
    mappings is `invalidType`. -/
theorem C04_yaml_translate_failures :
    (∀ n e, (yamlTranslate n >>= normalize) = .error e → e = .invalidType ∨ e = .other) ∧
    (∀ t v f, t ∉ ["!!bool", "!!int", "!!float", "!!null", "!!str", "!!timestamp"] →
      yamlTranslate (.scalar t v f) = .error .invalidType) ∧
    (∀ v f, parseInt64 v = none → yamlTranslate (.scalar "!!int" v f) = .error .other) ∧
    (∀ v, yamlTranslate (.scalar "!!float" v "") = .error .other) ∧
    (∀ v f, ym_boolLit v = false → yamlTranslate (.scalar "!!bool" v f) = .error .other) ∧
    (∀ pre post v r acc, yamlTranslateMerges pre [] = .ok acc → yamlTranslate v = .ok r →
      ym_mergeable v = false →
      yamlTranslate (.mapping (pre ++ ("<<", v) :: post)) = .error .invalidType) := by
  refine ⟨fun n => (ym_load_spec n).errOK, ?_, ?_, ?_, ?_, ?_⟩
  · intro t v f h
    simp only [List.mem_cons, List.not_mem_nil, or_false, not_or] at h
    rw [ym_T_scalar]
    exact ym_scalar_unknown_tag t v f h.1 h.2.1 h.2.2.1 h.2.2.2.1 h.2.2.2.2.1 h.2.2.2.2.2
  · intro v f h; rw [ym_T_scalar]; exact ym_scalar_bad_int v f h
  · intro v; rw [ym_T_scalar]; exact ym_scalar_bad_float v
  · intro v f h; rw [ym_T_scalar]; exact ym_scalar_bad_bool v f h
  · intro pre post v r acc h1 h2 h3; exact ym_merge_bad_value pre post v r acc h1 h2 h3

/-- non-vacuity: a plain tree that loads, and one instance of each failure class -/
example : ym_plain (.mapping [("a", .seq [.scalar "!!int" "-12" "", .scalar "!!bool" "true" ""]),
      ("b", .scalar "!!null" "~" "")]) = true := by decide
example : ym_scalarsOK (.mapping [("a", .seq [.scalar "!!int" "-12" "", .scalar "!!bool" "true" ""]),
      ("b", .scalar "!!null" "~" "")]) = true := by
  have e : toString (-12 : Int) = "-12" := by decide
  have : parseInt64 "-12" = some (-12) := e ▸ parseInt64_toString (-12) (by decide) (by decide)
  simp [ym_scalarsOK, ym_scalarsOKList, ym_scalarsOKPairs, ym_scalarOK, this, ym_boolLit]
example : "!!binary" ∉ ["!!bool", "!!int", "!!float", "!!null", "!!str", "!!timestamp"] := by decide
example : parseInt64 "0x10" = none :=
  parseInt64_none_of_bad "0x10" (by decide)
example : ym_boolLit "yes" = false := by decide
example : yamlTranslateMerges [("k", .empty)] [] = .ok [] ∧ yamlTranslate (.seq [.empty]) = .ok (.list [.null]) ∧
    ym_mergeable (.seq [.empty]) = false := by
  refine ⟨?_, ?_, by decide⟩
  · rw [ym_TM_cons_other _ _ _ _ (by decide), ym_TM_nil]
  · rw [ym_T_seq, ym_TL_cons, ym_T_empty, ym_TL_nil]; rfl

/-! ## one value, three formats -/

/-- for every int64 `n` and whatever float texts the decoders carry along, the JSON
    (`json.Number`), YAML (`!!int`) and TOML (`int64`) readings are the same value -/
theorem C04_toml_int_equals_yaml_int (n : Int) (fr fr' : String)
    (h1 : int64Min ≤ n) (h2 : n ≤ int64Max) :
    normalize (.jnum (toString n) fr) = normalize (.goInt64 n) ∧
    (yamlScalar "!!int" (toString n) fr' >>= normalize) = normalize (.goInt64 n) ∧
    (yamlTranslate (.scalar "!!int" (toString n) fr') >>= normalize) = normalize (.goInt64 n) ∧
    normalize (.goInt64 n) = .ok (.int n) := by
  obtain ⟨a, _, c⟩ := C04_int_exact n fr h1 h2
  obtain ⟨_, b, _⟩ := C04_int_exact n fr' h1 h2
  exact ⟨by rw [a, c], by rw [b, c], by rw [ym_T_scalar, b, c], c⟩

/-- … and likewise the three float readings, for every float text `fr ≠ ""` -/
theorem C04_toml_float_equals_yaml_float (text value fr : String) (hfr : fr ≠ "")
    (ht : parseInt64 text = none) :
    normalize (.jnum text fr) = normalize (.goFloat fr) ∧
    (yamlTranslate (.scalar "!!float" value fr) >>= normalize) = normalize (.goFloat fr) ∧
    normalize (.goFloat fr) = .ok (.flt fr) := by
  have hfr' : fr.isEmpty = false := by simpa using hfr
  obtain ⟨a, b, c⟩ := C04_float_path text value fr hfr'
  exact ⟨by rw [a ht, c], by rw [ym_T_scalar, b, c], c⟩

example : int64Min ≤ (-9223372036854775808 : Int) ∧ (-9223372036854775808 : Int) ≤ int64Max := by
  decide
example : ("1e+21" : String) ≠ "" ∧ parseInt64 "1e21" = none :=
  ⟨by decide, parseInt64_none_of_bad "1e21" (by decide)⟩

/-- The value does not depend on the format.  For every representable datum `v`
    (`ym_Logical`: null / bool / int64 / float / string / list / map; `v.ok`: integers in the
    int64 range, floats with a non-integer literal and a float64 value, no map key `<<`) the
    JSON reading (`json.Number`s, `ym_renderJson`), the TOML reading (`int64`, `float64`,
    `[]map[string]any` for arrays of tables, `ym_renderToml`) and the YAML reading (a yaml.v3
    node tree, `ym_renderYaml`, through `yamlTranslate`) all normalise to the one value `v.val`
    — whatever float texts (`jf`, `yf`) the decoders attach to integers, and without any
    assumption on duplicate map keys (the last entry wins in all three). -/
theorem C04_three_formats_agree (jf yf : Int → String) (v : ym_Logical) (h : v.ok = true) :
    normalize (ym_renderJson jf v) = .ok v.val ∧
    normalize (ym_renderToml v) = .ok v.val ∧
    (yamlTranslate (ym_renderYaml yf v) >>= normalize) = .ok v.val :=
  ym_three_formats jf yf v h

/-- non-vacuity: `{"n": -9223372036854775808, "xs": [{"a": 1.5}, {"a": null}], "s": [true, "t"]}`;
    its TOML reading uses `[]map[string]any` for `xs` -/
example : (ym_Logical.map [("n", .int (-9223372036854775808)),
      ("xs", .list [.map [("a", .flt "1.5" "1.5")], .map [("a", .null)]]),
      ("s", .list [.bool true, .str "t"])]).ok = true := by
  have : parseInt64 "1.5" = none :=
    parseInt64_none_of_bad "1.5" (by decide)
  simp [ym_Logical.ok, ym_okFields, ym_okList, this, int64Min, int64Max]
example : ym_renderToml (.map [("xs", .list [.map [("a", .int 1)], .map [("a", .null)]])]) =
    .map [("xs", .listOfMaps [[("a", .goInt64 1)], [("a", .null)]])] := by
  rfl

end Bkl
