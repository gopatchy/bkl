/-
  C18 — "With a root directory set, nothing outside it is ever read".

  Every `open` goes through the `os.Root` walk (`FS.rootWalk` / `FS.rootOpen`), and so do the
  existence probes for parent layer files (`FS.rootExists` = `Parser.stat`, `FS.globFiles` =
  `Parser.globFiles`).  `filepath.EvalSymlinks` is not rooted, but it is only called on a path
  that has just been opened through the root; `FileMatch` (the command line argument itself)
  deliberately sees the whole file system.  The first part is about single opens; the second
  part (`C18_*_independent`, from `C18_sameInside_agree` on) shows that the WHOLE evaluation —
  parents, layering, the command line loop — depends on the inside of the root only.
-/
import BklProofs.Lemmas.C18Eval
namespace Bkl

/-- The `os.Root` walk never leaves the root. -/
theorem C18_walk_stays_inside (fs : FS) (root : Comps) (fuel links : Nat) (cur : Comps)
    (todo : List String) (real : Comps)
    (h : fs.rootWalk root fuel links cur todo = .ok real) (hp : root <+: cur) : root <+: real :=
  rootWalk_inside fs root fuel cur todo real h hp

/-- non-vacuity: a walk through a relative link inside /w/r -/
example : exFS.rootWalk ["w", "r"] 10 0 ["w", "r"] ["sub", "..", "l.yaml"] = .ok ["w", "r", "a.yaml"] ∧
    ["w", "r"] <+: ["w", "r"] := by
  refine ⟨?_, List.prefix_refl _⟩
  rw [rootWalk_step_plain (n := .dir) (by decide +kernel) (by decide +kernel) rfl,
    rootWalk_step_dotdot (by decide +kernel),
    rootWalk_step_link (t := "a.yaml") (ts := ["a.yaml"]) (by decide +kernel) (by decide +kernel)
      (by decide +kernel) (splitPath_lit _ _ (by decide +kernel))]
  decide +kernel

/-- Whatever `rootOpen` returns is the content of a file inside the root (a decoding error is
    also the content of such a file); the only other outcome is the walk's own refusal. -/
theorem C18_reads_inside_any (fs : FS) (root : Comps) (rel : List String) (r : R (List Val))
    (h : fs.rootOpen root rel = r) :
    r = .error .other ∨ ∃ real, root <+: real ∧ fs.lstat real = some (.file r) := by
  rw [rootOpen_eq] at h
  cases hw : fs.rootWalk root linkFuel 0 root rel with
  | error e =>
    rw [hw, rootWalk_error fs root _ _ _ _ e hw] at h
    exact .inl h.symm
  | ok real =>
    rw [hw] at h
    dsimp only at h
    have hin := rootWalk_inside fs root _ _ _ _ hw (List.prefix_refl _)
    split at h
    · rename_i docs hl
      exact .inr ⟨real, hin, by rw [hl, h]⟩
    · exact .inl h.symm

/-- In particular every content read is of a path inside the root. -/
theorem C18_reads_inside (fs : FS) (root : Comps) (rel : List String) (docs : List Val)
    (h : fs.rootOpen root rel = .ok docs) :
    ∃ real, root <+: real ∧ fs.lstat real = some (.file (.ok docs)) :=
  (C18_reads_inside_any fs root rel _ h).resolve_left (fun e => nomatch e)

example : exFS.rootOpen ["w", "r"] ["l.yaml"] = .ok [.map [("x", .int 1)]] := by
  have hw : exFS.rootWalk ["w", "r"] linkFuel 0 ["w", "r"] ["l.yaml"] = .ok ["w", "r", "a.yaml"] := by
    rw [show linkFuel = 4094 + 1 + 1 from rfl,
      rootWalk_step_link (t := "a.yaml") (ts := ["a.yaml"]) (by decide +kernel) (by decide +kernel)
        (by decide +kernel) (splitPath_lit _ _ (by decide +kernel))]
    decide +kernel
  rw [rootOpen_eq, hw]
  rfl

/-- `..` at the root is refused … -/
theorem C18_dotdot_escape_refused (fs : FS) (root : Comps) (fuel links : Nat)
    (rest : List String) :
    fs.rootWalk root (fuel + 1) links root (".." :: rest) = .error .other :=
  rootWalk_dotdot_at_root fs root fuel rest

/-- … also when it comes from a relative link that climbs out of the root -/
example : exFS.rootOpen ["w", "r"] ["up.yaml"] = .error .other := by
  rw [rootOpen_eq, show linkFuel = 4094 + 1 + 1 from rfl,
    rootWalk_step_link (t := "../secret.yaml") (ts := ["..", "secret.yaml"]) (by decide +kernel)
      (by decide +kernel) (by decide +kernel) (splitPath_lit _ _ (by decide +kernel))]
  decide +kernel

/-- Stepping onto a symlink with an absolute target is an error. -/
theorem C18_absolute_link_refused (fs : FS) (root cur : Comps) (fuel links : Nat) (c t : String)
    (rest : List String) (hc : plainComp c = true)
    (hl : fs.lstat (cur ++ [c]) = some (.link t)) (ha : isAbsPath t = true) :
    fs.rootWalk root (fuel + 1) links cur (c :: rest) = .error .other := by
  have hc' := (plainComp_iff c).1 hc
  rw [rootWalk_cons, hl]
  simp [hc'.1, hc'.2.1, hc'.2.2, ha]

example : plainComp "abs.yaml" = true ∧
    exFS.lstat (["w", "r"] ++ ["abs.yaml"]) = some (.link "/w/secret.yaml") ∧
    isAbsPath "/w/secret.yaml" = true := by
  decide +kernel

/-- File contents obtained with a root set are independent of everything outside the root:
    the walk, … -/
theorem C18_independent_walk (root : Comps) (fs₁ fs₂ : FS) (h : agreeInside root fs₁ fs₂)
    (fuel links : Nat) (cur : Comps) (todo : List String) (hp : root <+: cur) :
    fs₁.rootWalk root fuel links cur todo = fs₂.rootWalk root fuel links cur todo :=
  rootWalk_congr fs₁ fs₂ root h fuel cur todo hp

/-- … the open, … -/
theorem C18_independent_open (root : Comps) (fs₁ fs₂ : FS) (h : agreeInside root fs₁ fs₂)
    (rel : List String) : fs₁.rootOpen root rel = fs₂.rootOpen root rel :=
  c18e_rootOpen_congr h rel

/-- … and the loaded documents of a file. -/
theorem C18_independent (fs₁ fs₂ : FS) (cfg : RootCfg) (h : agreeInside cfg.root fs₁ fs₂)
    (p : Comps) (id : String) : loadFile fs₁ cfg p id = loadFile fs₂ cfg p id :=
  c18e_loadFile_congr h p id

/-- non-vacuity: the two sample file systems agree inside /w/r and differ outside -/
example : agreeInside ["w", "r"] exFS exFS' ∧ exFS.lstat ["w", "secret.yaml"] ≠ exFS'.lstat ["w", "secret.yaml"] :=
  ⟨c18e_exFS_same.agree, by decide⟩

/-- `filepath.Rel` of a path outside the root starts with `..` … -/
theorem C18_relTo_outside (root p : Comps) (h : ¬ root <+: p) (hr : root ≠ []) :
    (relTo root p).head? = some ".." :=
  relTo_strip_outside root p h hr

example : ¬ (["w", "r"] <+: ["w", "secret.yaml"]) ∧ (["w", "r"] : Comps) ≠ [] := by decide

/-- … so a path outside a (non-trivial) root is never opened, whatever the file system holds. -/
theorem C18_outside_never_read (fs : FS) (cfg : RootCfg) (p : Comps) (id : String)
    (h : ¬ cfg.root <+: p) (hr : cfg.root ≠ []) :
    loadFile fs cfg p id = .error .other ∨ loadFile fs cfg p id = .error .unknownFormat := by
  rw [loadFile_eq]
  split
  · left; rw [rootOpen_eq, rootWalk_relTo_outside fs h hr]
  · right; rfl

example : loadFile exFS ⟨["w", "r"], ["w", "r"]⟩ ["w", "secret.yaml"] "x" = .error .other := by
  rw [loadFile_eq, if_pos (by rw [extOf_eq]; decide +kernel), rootOpen_eq,
    rootWalk_relTo_outside exFS (by decide +kernel) (by decide +kernel)]

/-- A nested SetRoot can only narrow the root. -/
theorem C18_setRoot_nested (fs : FS) (cfg cfg' : RootCfg) (path : String)
    (h : setRoot fs cfg path = .ok cfg') : cfg.root <+: cfg'.root := by
  rw [setRoot_eq] at h
  cases hd : fs.rootOpenDir cfg.root (relTo cfg.root (absPath cfg.cwd path)) with
  | error e => rw [hd] at h; cases h
  | ok real =>
    rw [hd] at h
    cases h
    rw [rootOpenDir_eq] at hd
    cases hw : fs.rootWalk cfg.root linkFuel 0 cfg.root (relTo cfg.root (absPath cfg.cwd path)) with
    | error e => rw [hw] at hd; cases hd
    | ok r =>
      obtain ⟨s, hs⟩ := prefix_of_rootWalk_relTo hw
      show cfg.root <+: cleanComps (cfg.root ++ relTo cfg.root (absPath cfg.cwd path))
      rw [← hs, relTo_append, hs, cleanComps_of_plain _ (absPath_allPlain _ _), ← hs]
      exact List.prefix_append _ _

example : setRoot exFS ⟨["w"], ["w"]⟩ "r/sub" = .ok ⟨["w", "r", "sub"], ["w"]⟩ := by
  have h1 : absPath ["w"] "r/sub" = ["w", "r", "sub"] := by
    rw [absPath_rel (by decide +kernel) (splitPath_lit "r/sub" ["r", "sub"] (by decide +kernel))]
    decide +kernel
  rw [setRoot_eq, rootOpenDir_eq, h1]
  rfl

/-! ## the whole evaluation is independent of everything outside the root

  `fs.inside root` is the list of entries at and below `root`; `sameInside root fs₁ fs₂` says the
  two file systems have exactly the same entries there (anything may differ — contents, kinds,
  existence — outside).  `RootPlain fs root`: the root is a clean path and the root and its
  ancestors are plain directories (no symlink on the way to the root); this is what makes the
  unrooted `filepath.EvalSymlinks` of a path inside the root stay inside. -/

/-- The same entries inside the root give the same `lstat` inside the root, so all the
    single-open theorems above (`C18_independent_walk`, `C18_independent_open`,
    `C18_independent`) apply. -/
theorem C18_sameInside_agree (root : Comps) (fs₁ fs₂ : FS) (h : sameInside root fs₁ fs₂) :
    agreeInside root fs₁ fs₂ :=
  h.agree

/-- non-vacuity: the two sample file systems have the same entries inside /w/r, differ outside
    (a different secret, an extra /etc), and /w, /w/r are plain directories in both -/
example : sameInside ["w", "r"] exFS exFS' ∧ exFS.entries ≠ exFS'.entries ∧
    RootPlain exFS ["w", "r"] ∧ RootPlain exFS' ["w", "r"] :=
  ⟨c18e_exFS_same, by decide +kernel, c18e_exFS_plain, c18e_exFS'_plain⟩

/-- The rooted probes — `Parser.stat` (`rootExists`, hence the rooted `findFile`), the directory
    listing and `Parser.globFiles` — depend on the inside of the root only. -/
theorem C18_probes_independent (root : Comps) (fs₁ fs₂ : FS) (h : sameInside root fs₁ fs₂) :
    (∀ fuel links cur todo, root <+: cur →
      fs₁.rootProbe root fuel links cur todo = fs₂.rootProbe root fuel links cur todo) ∧
    (∀ rel, fs₁.rootExists root rel = fs₂.rootExists root rel) ∧
    (∀ dir layer, fs₁.findRooted root dir layer = fs₂.findRooted root dir layer) ∧
    (∀ rel, fs₁.rootReadDir root rel = fs₂.rootReadDir root rel) ∧
    (∀ patRev, fs₁.globRev root patRev = fs₂.globRev root patRev) ∧
    (∀ target, fs₁.globFiles root target = fs₂.globFiles root target) :=
  ⟨fun fuel _ cur todo hp => rootProbe_congr _ _ _ h.agree fuel cur todo hp,
    c18e_rootExists_congr h.agree, c18e_findRooted_congr h.agree, c18e_rootReadDir_congr h,
    c18e_globRev_congr h, c18e_globFiles_congr h⟩

/-- A successful rooted walk from the root is, given `RootPlain` and enough fuel, a successful
    unrooted resolution (`EvalSymlinks`) of the absolute path with the same answer: the two
    recursions differ only in the refusals. -/
theorem C18_walk_simulates_evalSymlinks (fs : FS) (root : Comps) (hp : RootPlain fs root)
    (fuel links : Nat) (rel : List String) (real : Comps)
    (hw : fs.rootWalk root fuel links root rel = .ok real) (fuel' : Nat)
    (hf : fuel + root.length ≤ fuel') :
    fs.resolve fuel' [] (root ++ rel) = some real := by
  have hpr := rootProbe_of_rootWalk hw
  rw [c18e_resolve_descend hp, resolve_eq_probe fs root fuel links root rel (ne_refused_of_found hpr),
    show fuel' - root.length = fuel + (fuel' - root.length - fuel) by omega,
    rootProbe_mono fs root fuel links root rel (ne_refused_of_found hpr), hpr]
  rfl

example : RootPlain exFS ["w", "r"] ∧
    exFS.rootWalk ["w", "r"] 10 0 ["w", "r"] ["sub", "..", "a.yaml"] = .ok ["w", "r", "a.yaml"] ∧
    10 + (["w", "r"] : Comps).length ≤ 12 :=
  ⟨c18e_exFS_plain, by decide, by decide⟩

/-- `filepath.EvalSymlinks` of a file that `loadFile` has just opened through the root gives the
    same answer in both file systems (whatever its fuel: no budget alignment is needed, both
    resolutions take the same steps because they never leave the root). -/
theorem C18_evalSymlinks_independent (fs₁ fs₂ : FS) (cfg : RootCfg)
    (h : sameInside cfg.root fs₁ fs₂) (hp₁ : RootPlain fs₁ cfg.root) (hp₂ : RootPlain fs₂ cfg.root)
    (path : Comps) (id : String) (raw : List Val) (hl : loadFile fs₁ cfg path id = .ok raw) :
    fs₁.evalSymlinks path = fs₂.evalSymlinks path :=
  c18e_evalSymlinks_loaded h hp₁ hp₂ hl

/-- The parents of a file whose `loadFile` succeeded — by directive (rooted glob), by symlink
    (`EvalSymlinks`) or by file name (rooted stat) — are the same in both file systems, for any
    documents. -/
theorem C18_fileParents_independent (fs₁ fs₂ : FS) (cfg : RootCfg)
    (h : sameInside cfg.root fs₁ fs₂) (hp₁ : RootPlain fs₁ cfg.root) (hp₂ : RootPlain fs₂ cfg.root)
    (path : Comps) (id : String) (raw : List Val) (hl : loadFile fs₁ cfg path id = .ok raw)
    (docs : List Val) :
    fileParents fs₁ cfg path docs = fileParents fs₂ cfg path docs :=
  c18e_fileParents_congr h hp₁ hp₂ hl docs

/-- non-vacuity: /w/r/a.yaml loads beneath the root /w/r -/
example : loadFile exFS ⟨["w", "r"], ["w", "r"]⟩ ["w", "r", "a.yaml"] "x" =
    .ok [.map [("x", .int 1)]] := c18e_exFS_load_a "x"

/-- Loading a file and all its parents (any fuel, any position in a load). -/
theorem C18_load_independent (fs₁ fs₂ : FS) (cfg : RootCfg)
    (h : sameInside cfg.root fs₁ fs₂) (hp₁ : RootPlain fs₁ cfg.root) (hp₂ : RootPlain fs₂ cfg.root)
    (fuel : Nat) (path : Comps) (childId : Option String) (childDocIds : List String)
    (chain : List Comps) :
    loadFileAndParents fs₁ cfg fuel path childId childDocIds chain =
      loadFileAndParents fs₂ cfg fuel path childId childDocIds chain :=
  c18e_load_congr h hp₁ hp₂ fuel path childId childDocIds chain

/-- Evaluating a file with its layers (`MergeFileLayers`) or alone (`MergeFile`, `bkl -P`): the
    resulting parser state and the success status are the same. -/
theorem C18_eval_independent (fs₁ fs₂ : FS) (cfg : RootCfg)
    (h : sameInside cfg.root fs₁ fs₂) (hp₁ : RootPlain fs₁ cfg.root) (hp₂ : RootPlain fs₂ cfg.root)
    (st : PState) (path : Comps) :
    mergeFileLayers fs₁ cfg st path = mergeFileLayers fs₂ cfg st path ∧
    mergeFileAlone fs₁ cfg st path = mergeFileAlone fs₂ cfg st path :=
  ⟨c18e_mergeFileLayers_congr h hp₁ hp₂ st path, c18e_mergeFileAlone_congr h.agree st path⟩

/-- non-vacuity, and the two sample file systems evaluated: same result although the world
    outside /w/r differs -/
example : mergeFileLayers exFS ⟨["w", "r"], ["w", "r"]⟩ PState.empty ["w", "r", "a.yaml"] =
    mergeFileLayers exFS' ⟨["w", "r"], ["w", "r"]⟩ PState.empty ["w", "r", "a.yaml"] :=
  (C18_eval_independent exFS exFS' ⟨["w", "r"], ["w", "r"]⟩ c18e_exFS_same c18e_exFS_plain
    c18e_exFS'_plain _ _).1

/-- `-r` names a clean path whose components and ancestors are plain directories: `SetRoot`
    succeeds with exactly that root (so the hypothesis of `C18_cli_independent` can be met). -/
theorem C18_setRoot_plain (fs : FS) (cwd root : Comps) (r : String) (hp : RootPlain fs root)
    (hlen : root.length + 2 ≤ linkFuel) (habs : absPath cwd r = root) :
    setRoot fs { root := [], cwd := cwd } r = .ok { root := root, cwd := cwd } := by
  have hd : PlainDir fs root := c18e_plainDir_of_rootPlain hp hlen
  have hdir : fs.lstat root = some .dir := by
    by_cases hr : root = []
    · subst hr; rfl
    · exact hp.2 root hr (List.prefix_refl _)
  rw [setRoot_eq, rootOpenDir_eq]
  simp only [habs, relTo_nil, rootWalk_plainDir hd, hdir, List.nil_append,
    cleanComps_of_plain root hp.1]

/-- The command line: with the root (if any) set alike in both file systems, the arguments
    resolving alike (`FileMatch` is deliberately unrooted), and the two file systems agreeing
    inside that root, `bkl` produces the same result — same output documents, same format,
    same success or error. -/
theorem C18_cli_independent (fs₁ fs₂ : FS) (cwd : Comps) (env : Vars) (opts : CliOpts)
    (cfg : RootCfg)
    (hcfg : match opts.rootPath with
      | some r => setRoot fs₁ { root := [], cwd := cwd } r = .ok cfg ∧
          setRoot fs₂ { root := [], cwd := cwd } r = .ok cfg
      | none => cfg = { root := [], cwd := cwd })
    (h : sameInside cfg.root fs₁ fs₂) (hp₁ : RootPlain fs₁ cfg.root) (hp₂ : RootPlain fs₂ cfg.root)
    (hm : ∀ inp ∈ opts.inputs, fileMatch fs₁ cwd inp = fileMatch fs₂ cwd inp) :
    cliRun fs₁ cwd env opts = cliRun fs₂ cwd env opts := by
  have hc : cliCfg fs₁ cwd opts = .ok cfg ∧ cliCfg fs₂ cwd opts = .ok cfg := by
    unfold cliCfg
    cases hr : opts.rootPath with
    | none => rw [hr] at hcfg; simp only [] at hcfg ⊢; rw [hcfg]; exact ⟨rfl, rfl⟩
    | some r => rw [hr] at hcfg; exact hcfg
  rw [cliRun_eq, cliRun_eq, hc.1, hc.2]
  simp only []
  rw [c18e_cliMerge_congr cwd opts.skipParent h hp₁ hp₂ opts.inputs _ hm]

/-- non-vacuity: `bkl -r /w/r a.yaml` run in /w/r on the two sample file systems -/
example :
    setRoot exFS { root := [], cwd := ["w", "r"] } "/w/r" = .ok ⟨["w", "r"], ["w", "r"]⟩ ∧
    setRoot exFS' { root := [], cwd := ["w", "r"] } "/w/r" = .ok ⟨["w", "r"], ["w", "r"]⟩ ∧
    (∀ inp ∈ ["a.yaml"], fileMatch exFS ["w", "r"] inp = fileMatch exFS' ["w", "r"] inp) := by
  have habs : absPath ["w", "r"] "/w/r" = ["w", "r"] := by
    simp only [absPath, show isAbsPath "/w/r" = true by decide +kernel,
      splitPath_lit "/w/r" ["w", "r"] (by decide +kernel)]
    decide +kernel
  refine ⟨C18_setRoot_plain _ _ _ _ c18e_exFS_plain (by decide +kernel) habs,
    C18_setRoot_plain _ _ _ _ c18e_exFS'_plain (by decide +kernel) habs, ?_⟩
  intro inp hi
  cases List.mem_singleton.1 hi
  have ha : absPath ["w", "r"] "a.yaml" = ["w", "r"] ++ ["a" ++ "." ++ "yaml"] := by
    rw [absPath_rel (by decide +kernel) (splitPath_lit "a.yaml" ["a.yaml"] (by decide +kernel))]
    decide +kernel
  rw [fileMatch_layer (e := "yaml") (e₀ := "yaml") (content := .ok [.map [("x", .int 1)]]) ha (by decide +kernel)
      (c18e_plainDir_of_rootPlain c18e_exFS_plain (by decide +kernel)) (by decide +kernel)
      ⟨by decide +kernel, by decide +kernel, by decide +kernel⟩,
    fileMatch_layer (e := "yaml") (e₀ := "yaml") (content := .ok [.map [("x", .int 1)]]) ha (by decide +kernel)
      (c18e_plainDir_of_rootPlain c18e_exFS'_plain (by decide +kernel)) (by decide +kernel)
      ⟨by decide +kernel, by decide +kernel, by decide +kernel⟩]

/-- In plain words: entries whose paths are not inside the root may be added to the file system
    — appended, or (when none of them is an ancestor of the root or the root itself, which
    could turn an ancestor into a symlink) prepended so that they even shadow existing outside
    entries — without changing the evaluation of any file. -/
theorem C18_outside_existence_irrelevant (fs : FS) (cfg : RootCfg) (extra : List (Comps × FNode))
    (hp : RootPlain fs cfg.root) (hout : ∀ e ∈ extra, ¬ cfg.root <+: e.1)
    (st : PState) (path : Comps) :
    mergeFileLayers { entries := fs.entries ++ extra } cfg st path = mergeFileLayers fs cfg st path ∧
    ((∀ e ∈ extra, ¬ e.1 <+: cfg.root) →
      mergeFileLayers { entries := extra ++ fs.entries } cfg st path =
        mergeFileLayers fs cfg st path) := by
  refine ⟨?_, ?_⟩
  · exact (c18e_mergeFileLayers_congr (c18e_sameInside_append fs cfg.root extra hout) hp
      (c18e_rootPlain_append hp extra) st path).symm
  · intro hanc
    exact (c18e_mergeFileLayers_congr (c18e_sameInside_prepend fs cfg.root extra hout) hp
      (c18e_rootPlain_prepend hp extra hanc) st path).symm

/-- non-vacuity: a new /etc/passwd and a replaced /w/secret.yaml are outside /w/r and are not
    ancestors of it -/
example : RootPlain exFS ["w", "r"] ∧
    (∀ e ∈ [((["etc", "passwd"] : Comps), FNode.file (.ok [])),
            (["w", "secret.yaml"], FNode.link "/etc/passwd")],
      ¬ (["w", "r"] : Comps) <+: e.1 ∧ ¬ e.1 <+: (["w", "r"] : Comps)) := by
  refine ⟨c18e_exFS_plain, ?_⟩
  intro e he
  simp only [List.mem_cons, List.not_mem_nil, or_false] at he
  rcases he with rfl | rfl <;> decide

end Bkl
