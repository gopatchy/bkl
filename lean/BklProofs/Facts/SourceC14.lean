/- C14 on the translated `$encode` dispatcher of process2.go (`process2EncodeString'`, `process2EncodeAny'`): the
   theorems of BklProofs/C14 composed with `T_process2EncodeString_exact` / `T_process2EncodeAny_list_eq`
   (Facts/TransEncode2). -/
import BklProofs.C14
import BklProofs.Facts.TransEncode2
namespace Bkl.Gen
open Bkl Go

/-! # C14 — `$encode`, on `process2EncodeString'` / `process2EncodeAny'`

  `ms` = Format.MarshalStream and `gf` = bkl.GetFormat are the two third-party parameters of the translated functions;
  `GetFormatSpec gf` ties `gf`'s error to the model's list of codec names (nothing is assumed of `ms`). -/

/-- a model error of `encodeString` is returned by the translated function as `(nil, that error)` — literally, unless
    the spec is a two-part `tolist:<d>` (whose failing result is an empty `[]any` next to the error) -/
theorem encodeString_err_to_source (ms : Go.Opaque → List Val → String × Option Err)
    (gf : String → Go.Opaque × Option Err) (hGF : Lib.GetFormatSpec gf)
    (fuel : Nat) (obj : Val) (mf : Go.Doc) (mfd : List Go.Doc) (spec : String) (depth : Int) (hf : 4 ≤ fuel)
    (e : Err) (h : encodeString obj spec = .err e)
    (hp : (spec.splitOn ":").headD "" ≠ "tolist" ∨ (spec.splitOn ":").length ≠ 2) :
    Lib.process2EncodeString' ms gf fuel obj mf mfd spec depth = .ok (.null, some e) := by
  rw [Lib.T_process2EncodeString_exact ms gf hGF fuel obj mf mfd spec depth hf, h]
  have he : Lib.encResToGo ms gf (.err e) = (.null, some e) := rfl
  rw [he]
  unfold Lib.tolistFix
  split
  · rename_i hc
    rcases hp with hp | hp
    · exact absurd hc.1 hp
    · exact absurd hc.2.1 hp
  · rfl

/-- commands that take no argument reject any (`C14_bad_args_noarg`): the translated function returns
    `(nil, ErrInvalidArguments)`, for every argument text `x` -/
theorem S_C14_bad_args_noarg (ms : Go.Opaque → List Val → String × Option Err)
    (gf : String → Go.Opaque × Option Err) (hGF : Lib.GetFormatSpec gf)
    (fuel : Nat) (obj : Val) (mf : Go.Doc) (mfd : List Go.Doc) (depth : Int) (hf : 4 ≤ fuel) (x : String) :
    Lib.process2EncodeString' ms gf fuel obj mf mfd ("base64:" ++ x) depth = .ok (.null, some Err.invalidArguments) ∧
    Lib.process2EncodeString' ms gf fuel obj mf mfd ("sha256:" ++ x) depth = .ok (.null, some Err.invalidArguments) ∧
    Lib.process2EncodeString' ms gf fuel obj mf mfd ("flatten:" ++ x) depth = .ok (.null, some Err.invalidArguments) ∧
    Lib.process2EncodeString' ms gf fuel obj mf mfd ("values:" ++ x) depth = .ok (.null, some Err.invalidArguments) ∧
    Lib.process2EncodeString' ms gf fuel obj mf mfd ("flags:" ++ x) depth = .ok (.null, some Err.invalidArguments) := by
  have g := C14_bad_args_noarg obj x
  have key : ∀ cmd : String, ':' ∉ cmd.toList → cmd ≠ "tolist" →
      encodeString obj (cmd ++ ":" ++ x) = .err .invalidArguments →
      Lib.process2EncodeString' ms gf fuel obj mf mfd (cmd ++ ":" ++ x) depth
        = .ok (.null, some Err.invalidArguments) := by
    intro cmd hc hne he
    refine encodeString_err_to_source ms gf hGF fuel obj mf mfd _ depth hf _ he (.inl ?_)
    obtain ⟨p, ps, hps⟩ := parts_with_arg cmd x hc
    rw [hps]
    exact hne
  refine ⟨?_, ?_, ?_, ?_, ?_⟩
  · simpa using key "base64" (by decide) (by decide) (by simpa using g.1)
  · simpa using key "sha256" (by decide) (by decide) (by simpa using g.2.1)
  · simpa using key "flatten" (by decide) (by decide) (by simpa using g.2.2.1)
  · simpa using key "values" (by decide) (by decide) (by simpa using g.2.2.2.1)
  · simpa using key "flags" (by decide) (by decide) (by simpa using g.2.2.2.2)

/-- the enumerated malformed specs (`C14_bad_args_error`): a wrong number of arguments is `(nil, ErrInvalidArguments)`,
    an unknown command `(nil, ErrUnknownFormat)` — on the translated function -/
theorem S_C14_bad_args_error (ms : Go.Opaque → List Val → String × Option Err)
    (gf : String → Go.Opaque × Option Err) (hGF : Lib.GetFormatSpec gf)
    (fuel : Nat) (obj : Val) (mf : Go.Doc) (mfd : List Go.Doc) (depth : Int) (hf : 4 ≤ fuel) :
    Lib.process2EncodeString' ms gf fuel obj mf mfd "base64:x" depth = .ok (.null, some Err.invalidArguments) ∧
    Lib.process2EncodeString' ms gf fuel obj mf mfd "sha256:1" depth = .ok (.null, some Err.invalidArguments) ∧
    Lib.process2EncodeString' ms gf fuel obj mf mfd "flatten:x" depth = .ok (.null, some Err.invalidArguments) ∧
    Lib.process2EncodeString' ms gf fuel obj mf mfd "values:x" depth = .ok (.null, some Err.invalidArguments) ∧
    Lib.process2EncodeString' ms gf fuel obj mf mfd "flags:x" depth = .ok (.null, some Err.invalidArguments) ∧
    Lib.process2EncodeString' ms gf fuel obj mf mfd "prefix" depth = .ok (.null, some Err.invalidArguments) ∧
    Lib.process2EncodeString' ms gf fuel obj mf mfd "tolist" depth = .ok (.null, some Err.invalidArguments) ∧
    Lib.process2EncodeString' ms gf fuel obj mf mfd "join:a:b" depth = .ok (.null, some Err.invalidArguments) ∧
    Lib.process2EncodeString' ms gf fuel obj mf mfd "tolist::" depth = .ok (.null, some Err.invalidArguments) ∧
    Lib.process2EncodeString' ms gf fuel obj mf mfd "nosuch" depth = .ok (.null, some Err.unknownFormat) := by
  have g1 := S_C14_bad_args_noarg ms gf hGF fuel obj mf mfd depth hf "x"
  have g2 := S_C14_bad_args_noarg ms gf hGF fuel obj mf mfd depth hf "1"
  have m := C14_bad_args_error obj
  refine ⟨by simpa using g1.1, by simpa using g2.2.1, by simpa using g1.2.2.1, by simpa using g1.2.2.2.1,
    by simpa using g1.2.2.2.2, ?_, ?_, ?_, ?_, ?_⟩
  · exact encodeString_err_to_source ms gf hGF fuel obj mf mfd _ depth hf _ m.2.2.2.2.2.1
      (.inl (by rw [splitOn_colon_none "prefix" (by decide)]; decide))
  · exact encodeString_err_to_source ms gf hGF fuel obj mf mfd _ depth hf _ m.2.2.2.2.2.2.1
      (.inr (by rw [splitOn_colon_none "tolist" (by decide)]; decide))
  · exact encodeString_err_to_source ms gf hGF fuel obj mf mfd _ depth hf _ m.2.2.2.2.2.2.2.1
      (.inl (by rw [parts_join_ab]; decide))
  · exact encodeString_err_to_source ms gf hGF fuel obj mf mfd _ depth hf _ m.2.2.2.2.2.2.2.2.1
      (.inr (by rw [parts_tolist_colon]; decide))
  · exact encodeString_err_to_source ms gf hGF fuel obj mf mfd _ depth hf _ m.2.2.2.2.2.2.2.2.2
      (.inl (by rw [splitOn_colon_none "nosuch" (by decide)]; decide))

example : Lib.GetFormatSpec Lib.gfModel := fun _ => rfl

/-- `flags` IS `tolist:=` then `prefix:--` (`C14_flags_def`), on the translated sources: process2EncodeString on the
    spec `"flags"` returns exactly what process2EncodeAny returns on the spec list `["tolist:=", "prefix:--"]`
    (both are the model's `encodeAny obj ["tolist:=", "prefix:--"]` read as a Go pair) -/
theorem S_C14_flags_def (ms : Go.Opaque → List Val → String × Option Err)
    (gf : String → Go.Opaque × Option Err) (hGF : Lib.GetFormatSpec gf)
    (fuel fuel' : Nat) (obj : Val) (mf : Go.Doc) (mfd : List Go.Doc) (depth depth' : Int)
    (hf : 4 ≤ fuel) (hf' : 6 ≤ fuel') :
    Lib.process2EncodeString' ms gf fuel obj mf mfd "flags" depth
      = Lib.process2EncodeAny' ms gf fuel' obj mf mfd (.list [.str "tolist:=", .str "prefix:--"]) depth' ∧
    Lib.process2EncodeString' ms gf fuel obj mf mfd "flags" depth
      = .ok (Lib.encResToGo ms gf (encodeAny obj (.list [.str "tolist:=", .str "prefix:--"]))) := by
  have h1 : Lib.process2EncodeString' ms gf fuel obj mf mfd "flags" depth
      = .ok (Lib.encResToGo ms gf (encodeAny obj (.list [.str "tolist:=", .str "prefix:--"]))) := by
    rw [Lib.T_process2EncodeString_exact ms gf hGF fuel obj mf mfd "flags" depth hf, splitOn_colon_none "flags" (by decide), C14_flags_def]
    simp [Lib.tolistFix]
  refine ⟨?_, h1⟩
  rw [h1, Lib.T_process2EncodeAny_list_eq ms gf hGF fuel' obj mf mfd _ depth' (by simpa [Go.depth, Go.depthList] using hf'),
    Lib.encodeAnyWith_of_noCodec ms gf _ obj (by
      intro f v; rw [← C14_flags_def]; exact Lib.encodeString_flags_noCodec obj f v)]

/-- `base64` on the translated function, and the round trip (`C14_base64_rt_string`): the result is the string
    `base64 (fmtV obj)` (`fmtV` = Go's `%v`; for a string, the string itself), and decoding it gives back the UTF-8
    bytes of the input -/
theorem S_C14_base64_rt (ms : Go.Opaque → List Val → String × Option Err)
    (gf : String → Go.Opaque × Option Err) (hGF : Lib.GetFormatSpec gf)
    (fuel : Nat) (obj : Val) (mf : Go.Doc) (mfd : List Go.Doc) (depth : Int) (hf : 4 ≤ fuel) :
    ∃ out, Lib.process2EncodeString' ms gf fuel obj mf mfd "base64" depth = .ok (.str out, none) ∧
      b64DecodeChars out.toList = some (fmtV obj).toUTF8.toList ∧
      (∀ s, obj = .str s → b64DecodeChars out.toList = some s.toUTF8.toList) := by
  refine ⟨base64 (fmtV obj), ?_, C14_base64_rt_string _, ?_⟩
  · rw [Lib.T_process2EncodeString_exact ms gf hGF fuel obj mf mfd "base64" depth hf, splitOn_colon_none "base64" (by decide)]
    have : encodeString obj "base64" = .ok (.str (base64 (fmtV obj))) :=
      encodeString_eq obj (splitOn_colon_none "base64" (by decide))
    rw [this]
    simp [Lib.tolistFix, Lib.encResToGo]
  · rintro s rfl
    exact C14_base64_rt_string s

/-- non-vacuity: `flags` on the translated function with concrete codecs -/
example : Lib.process2EncodeString' Lib.msName Lib.gfModel 4 (.map [("a", .int 1), ("v", .str "")]) default [] "flags" 0
    = .ok (.list [.str "--a=1", .str "--v"], none) := by
  rw [(S_C14_flags_def Lib.msName Lib.gfModel (fun _ => rfl) 4 6 _ default [] 0 0 (by decide) (by decide)).2,
    ← C14_flags_def]
  have : encodeString (.map [("a", .int 1), ("v", .str "")]) "flags" = .ok (.list [.str "--a=1", .str "--v"]) := by
    rw [encodeString_flags]; decide
  rw [this]; rfl


end Bkl.Gen
