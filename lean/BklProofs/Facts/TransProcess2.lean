/-
  Translation equivalence, process2.go (3): the mutual block process2 / process2Map / process2MapValue / process2Encode
  / process2Decode / process2DecodeString / process2DecodeStringMap / process2List of Generated/Trans/Process2.lean
  (regenerated from /repo's CURRENT process2.go on every run) against the model's `process2` (Bkl/Process2.lean).

  * depth budget: Go's process2 increments `depth` and fails with ErrCircularRef when the result exceeds 1000; everything
    it calls gets the incremented depth.  The model's `process2 fuel` fails at fuel 0 and recurses with `fuel - 1`.
    The exact correspondence is  model fuel = `(1000 - depth).toNat`  for process2 called with `depth` (every integer
    depth), i.e. `(1000 - d).toNat + 1` for process2Map / process2List called with the incremented `d`, and
    `(1001 - d).toNat` for process2String (TransProcess2String.lean): no off-by-one.
  * `ec : Go.Ctx` ~ `ec.vars`, `mergeFrom.data` ~ `root`, `mergeFromDocs.map (·.data)` ~ `docs`.
  * results are compared through `errNorm` (TransEncode2): next to an error the translated functions return non-nil
    values in places (`tolist`, the nil map/slice of filterMap/filterList inside an `any`; `errNorm_needed`).
  * hypotheses: `GetFormatSpec getFormat`, `ParseOK yamlUnmarshal`, documents non-nil and well-formed (`wf_needed_go`),
    and the model does not answer `Err.unmodelled` (no codec `$encode`/`$decode`, no unreadable reference is REACHED:
    `unmodelled_needed_decode`, `unmodelled_needed_ref`).  Nothing is assumed about `marshalStream`, `unmarshalStream`,
    `normalize`; the codec path of `$decode` is stated through them in T_process2DecodeStringMap_codec.  The evaluated
    object `obj` itself need NOT be well-formed.
  * translator fuel: the single-step theorems (process2Encode_step, process2Map_step, process2List_step,
    T_process2Decode…_eq) are explicit: the callee's fuel + 1/+2/+3, `2 * depth obj2 + 1` for `validate` on the EVALUATED
    object, `depth spec + 5` for the `$encode` dispatcher on the (possibly evaluated) spec.  For the whole recursion the
    bound is the explicit, computable function `p2Fuel` (T_process2_eq_fuel, T_process2Map_eq_fuel, …), which is
    computed ALONG THE MODEL'S EVALUATION and not from `Go.depth` of the input alone: process2 evaluates values that are
    themselves results of process2 (the entries produced by a nested `$repeat` are evaluated a second time by the final
    loop of process2Map; `$encode` validates the evaluated object and may get an evaluated spec), so the need depends on
    intermediate results.  T_process2_eq … state the same for all fuel above a bound that exists.
  Main theorems: T_process2_eq_fuel, T_process2_eq (+ _ok, _error), T_process2Map_eq(_fuel), T_process2List_eq(_fuel),
  T_process2Encode_eq(_fuel), T_process2MapValue_eq(_fuel), T_process2Decode_eq, T_process2DecodeString_eq,
  T_process2DecodeStringMap_eq (+ _codec).
-/
import BklProofs.Facts.TransProcess2Repeat
import BklProofs.Facts.TransProcess2String
import BklProofs.Facts.TransValidate
import BklProofs.Facts.TransFilter
namespace Bkl.Gen.Lib
open Bkl Go

section
variable (ms : Go.Opaque → List Val → String × Option Err) (us : Go.Opaque → String → List Val × Option Err)
  (gf : String → Go.Opaque × Option Err) (nz : Val → Val × Option Err) (yu : String → Val × Option Err)

/-! ## `$encode` -/

theorem encodeAny_sim (hGF : GetFormatSpec gf) (f : Nat) (obj : Val) (mf : Go.Doc) (docs : List Go.Doc) (spec : Val)
    (depth : Int) (hf : Go.depth spec + 5 ≤ f) :
    Sim Reads (process2EncodeAny' ms gf f obj mf docs spec depth)
      (match encodeAny obj spec with
       | .ok v => pure v
       | .err e => throw e
       | .codec _ _ => throw Err.unmodelled) := by
  refine sim_def.2 fun hmod => ?_
  have hnc : ∀ f v, encodeAny obj spec ≠ .codec f v := fun f' v' h => hmod (by rw [h]; rfl)
  obtain ⟨r, hr, hrn⟩ := T_process2EncodeAny_eq_model ms gf hGF f obj mf docs spec depth hf hnc
  refine ⟨r, hr, (reads_iff_errNorm _ _).2 ?_⟩
  rw [hrn]
  cases he : encodeAny obj spec with
  | ok v => rfl
  | err e => rfl
  | codec f' v' => exact absurd he (hnc f' v')

/-- process2.go:process2Encode, given the call `process2(obj, …)` it makes; fuel for `validate` on the evaluated object
    and for the dispatcher on the spec -/
theorem process2Encode_step (hGF : GetFormatSpec gf) (P : Vars → Val → R Val) (f : Nat) (obj : Val) (mf : Go.Doc)
    (docs : List Go.Doc) (ec : Go.Ctx) (spec : Val) (depth : Int)
    (hrec : CallOK (fun ec' x => process2' ms us gf nz yu f x mf docs ec' depth) P ec obj)
    (hfv : ∀ obj2, P ec.vars obj = .ok obj2 → 2 * Go.depth obj2 + 1 ≤ f)
    (hfe : Go.depth spec + 5 ≤ f)
    (hmod : encodeM P ec.vars obj spec ≠ .error Err.unmodelled) :
    ∃ q, process2Encode' ms us gf nz yu (f + 1) obj mf docs ec spec depth = .ok q ∧
      errNorm q = valRes (encodeM P ec.vars obj spec) := by
  refine sim_iff.1 ?_ hmod
  unfold process2Encode' encodeM
  refine Sim.bindV (sim_iff.2 hrec) (fun obj2 hP => ?_) fun _ _ => rfl
  refine Sim.bindErr (T_validate_eq obj2 f (hfv obj2 hP)) (fun _ => ?_) fun _ => rfl
  exact Sim.tailV (encodeAny_sim ms gf hGF f obj2 mf docs spec depth hfe)

end

/-! ## `$decode` -/

/-- the model's `$decode` on the rest of the map (`$decode` removed) and the format name: an error in every case, the
    codec formats being `unmodelled` -/
def decodeMapSpec (rest : Fields) (f : String) : R Val :=
  match fget rest "$value" with
  | none => throw Err.invalidType
  | some (.str _) =>
    if (fdel rest "$value").length != 0 then throw Err.extraKeys
    else if isCodecFormat f then throw Err.unmodelled else throw Err.unknownFormat
  | some _ => throw Err.invalidType

def decodeStringSpec (obj : Val) (f : String) : R Val :=
  match obj with
  | .map rest => decodeMapSpec rest f
  | _ => throw Err.invalidType

def decodeSpec (obj : Val) (spec : Val) : R Val :=
  match spec with
  | .str f => decodeStringSpec obj f
  | _ => throw Err.invalidType

theorem decodeM_eq (kvs : Fields) (spec : Val) : decodeM kvs spec = decodeSpec (.map (fdel kvs "$decode")) spec := by
  unfold decodeM decodeSpec decodeStringSpec decodeMapSpec
  cases spec <;> rfl

section
variable (ms : Go.Opaque → List Val → String × Option Err) (us : Go.Opaque → String → List Val × Option Err)
  (gf : String → Go.Opaque × Option Err) (nz : Val → Val × Option Err) (yu : String → Val × Option Err)

/-- process2.go:process2DecodeStringMap wherever the model does not answer `unmodelled` (no codec format) -/
theorem T_process2DecodeStringMap_eq (hGF : GetFormatSpec gf) (fuel : Nat) (hf : 1 ≤ fuel) (rest : Fields) (mf : Go.Doc)
    (docs : List Go.Doc) (ec : Go.Ctx) (fm : String) (depth : Int)
    (hmod : decodeMapSpec rest fm ≠ .error Err.unmodelled) :
    process2DecodeStringMap' ms us gf nz yu fuel rest mf docs ec fm depth = .ok (valRes (decodeMapSpec rest fm)) := by
  obtain ⟨f, rfl⟩ : ∃ f, fuel = f + 1 := ⟨fuel - 1, by omega⟩
  unfold process2DecodeStringMap'
  simp only [T_popMapValue_eq]
  unfold decodeMapSpec at hmod ⊢
  cases hv : fget rest "$value" with
  | none => simp [throw, throwThe, MonadExceptOf.throw]
  | some val =>
    rw [hv] at hmod
    cases val with
    | str s =>
      simp only [] at hmod
      cases hl : fdel rest "$value" with
      | nil =>
        have hcf : isCodecFormat fm = false := by
          cases hc : isCodecFormat fm
          · rfl
          · simp [hl, hc, throw, throwThe, MonadExceptOf.throw] at hmod
        have hg := hGF fm
        rw [hcf] at hg
        simp [Go.asStr, hcf, hg, throw, throwThe, MonadExceptOf.throw]
      | cons _ _ => rfl
    | _ => rfl

/-- process2.go:process2DecodeString -/
theorem T_process2DecodeString_eq (hGF : GetFormatSpec gf) (fuel : Nat) (hf : 2 ≤ fuel) (obj : Val) (mf : Go.Doc)
    (docs : List Go.Doc) (ec : Go.Ctx) (fm : String) (depth : Int)
    (hmod : decodeStringSpec obj fm ≠ .error Err.unmodelled) :
    process2DecodeString' ms us gf nz yu fuel obj mf docs ec fm depth = .ok (valRes (decodeStringSpec obj fm)) := by
  obtain ⟨f, rfl⟩ : ∃ f, fuel = f + 1 := ⟨fuel - 1, by omega⟩
  unfold process2DecodeString'
  cases obj with
  | map rest =>
    simp only [decodeStringSpec] at hmod ⊢
    rw [T_process2DecodeStringMap_eq ms us gf nz yu hGF f (by omega) rest mf docs ec fm depth hmod]
  | _ => rfl

/-- process2.go:process2Decode -/
theorem T_process2Decode_eq (hGF : GetFormatSpec gf) (fuel : Nat) (hf : 3 ≤ fuel) (obj : Val) (mf : Go.Doc)
    (docs : List Go.Doc) (ec : Go.Ctx) (spec : Val) (depth : Int)
    (hmod : decodeSpec obj spec ≠ .error Err.unmodelled) :
    process2Decode' ms us gf nz yu fuel obj mf docs ec spec depth = .ok (valRes (decodeSpec obj spec)) := by
  obtain ⟨f, rfl⟩ : ∃ f, fuel = f + 1 := ⟨fuel - 1, by omega⟩
  unfold process2Decode'
  cases spec with
  | str fm =>
    simp only [decodeSpec] at hmod ⊢
    rw [T_process2DecodeString_eq ms us gf nz yu hGF f (by omega) obj mf docs ec fm depth hmod]
  | _ => rfl

/-- the codec path of process2DecodeStringMap, through the parameters: a readable `$value` in a codec format is
    unmarshalled, normalized and evaluated by process2 at the same depth -/
theorem T_process2DecodeStringMap_codec (f : Nat) (rest : Fields) (mf : Go.Doc) (docs : List Go.Doc) (ec : Go.Ctx)
    (fm : String) (depth : Int) (val2 : String) (d0 dec : Val)
    (h1 : fget rest "$value" = some (.str val2)) (h2 : (fdel rest "$value").length = 0)
    (h3 : (gf fm).2 = none) (h4 : us (gf fm).1 val2 = ([d0], none)) (h5 : nz d0 = (dec, none)) :
    process2DecodeStringMap' ms us gf nz yu (f + 1) rest mf docs ec fm depth =
      process2' ms us gf nz yu f dec mf docs ec depth := by
  unfold process2DecodeStringMap'
  have h2' : fdel rest "$value" = [] := List.length_eq_zero_iff.1 h2
  simp [T_popMapValue_eq, h1, h2', h3, h4, h5, Go.asStr, Go.listAt]
  cases process2' ms us gf nz yu f dec mf docs ec depth with
  | error e => rfl
  | ok p => rfl

end

section
variable (ms : Go.Opaque → List Val → String × Option Err) (us : Go.Opaque → String → List Val × Option Err)
  (gf : String → Go.Opaque × Option Err) (nz : Val → Val × Option Err) (yu : String → Val × Option Err)

/-! ## process2List -/

theorem repeat_or_plain (v : Val) :
    (∃ m r, v = .map m ∧ fget m "$repeat" = some r) ∨ (∀ m, v = .map m → fget m "$repeat" = none) := by
  cases v with
  | map m =>
    cases h : fget m "$repeat" with
    | none => exact .inr fun _ h' => by cases h'; exact h
    | some r => exact .inl ⟨m, r, rfl, h⟩
  | _ => exact .inr fun _ h' => nomatch h'

theorem repListSpec_eq_listOut (P : Vars → Val → R Val) (ec : Vars) (m : Fields) (r : Val)
    (h : fget m "$repeat" = some r) : repListSpec P ec (fdel m "$repeat") r = listOut P ec (.map m) := by
  unfold repListSpec listOut
  simp only [h]
  cases r <;> first | rfl | (simp only []; rw [repListM_out]; rfl)

/-- the Go text that evaluates one list element that is not a nested `$repeat` -/
theorem elem_sim {P : Vars → Val → R Val} {ec : Vars} {v : Val} {go : G (Val × Option Err)} (h : Sim Reads go (P ec v)) :
    Sim (ReadsCb id ()) (match (generalizing := false) go with
      | .error e => .error e
      | .ok (r1, r2) =>
        if r2 == none then
          if r1 == Val.null then .ok ((([] : List Val), (none : Option Err)), ())
          else .ok ((([r1] : List Val), (none : Option Err)), ())
        else .ok ((([] : List Val), r2), ())) (elemOut P ec v) := by
  refine Sim.bindV h (fun v2 _ => ?_) fun _ _ => rfl
  rw [beq_null_eq_isNull]
  cases v2.isNull <;> exact Sim.pure rfl

/-- process2.go:process2List, given the recursive `process2'` calls it makes -/
theorem process2List_step (hGF : GetFormatSpec gf) (P : Vars → Val → R Val) (f : Nat) (xs : List Val) (mf : Go.Doc)
    (docs : List Go.Doc) (ec : Go.Ctx) (depth : Int)
    (h : ∀ spec rest, popListMapValue xs "$encode" = .ok (spec, rest) →
      CallOK (fun ec' x => process2' ms us gf nz yu f x mf docs ec' depth) P ec (.list rest) ∧
      (Go.depth spec + 5 ≤ f ∧ ∀ obj2, P ec.vars (.list rest) = .ok obj2 → 2 * Go.depth obj2 + 1 ≤ f) ∧
      (∀ x ∈ rest, CallOK (fun ec' x => process2' ms us gf nz yu (f + 1) x mf docs ec' depth) P ec x ∧
        ∀ m r, x = .map m → fget m "$repeat" = some r → ∀ i : Nat, i < (Go.asInt r).1.toNat →
          CallOK (fun ec' x => process2' ms us gf nz yu f x mf docs ec' depth) P
            ⟨fset ec.vars "$repeat" (.int (Int.ofNat i))⟩ (.map (fdel m "$repeat"))))
    (hmod : listBodyM P ec.vars xs ≠ .error Err.unmodelled) :
    ∃ q, process2List' ms us gf nz yu (f + 2) xs mf docs ec depth = .ok q ∧
      errNorm q = valRes (listBodyM P ec.vars xs) := by
  refine sim_iff.1 ?_ hmod
  unfold process2List' listBodyM
  rw [T_popListMapValue_eq]
  cases hp : popListMapValue xs "$encode" with
  | error e => exact fun _ => ⟨_, rfl, rfl⟩
  | ok p =>
    obtain ⟨spec, rest⟩ := p
    obtain ⟨hrE, hfE, hrL⟩ := h spec rest hp
    simp only [p2_none_beq_none, if_true, Bkl.ok_bind]
    cases hs : spec.isNull with
    | false =>
      have hs' : (spec == Val.null) = false := by rw [beq_null_eq_isNull]; exact hs
      simp only [hs', Bool.false_eq_true, if_false, Bool.not_false, if_true]
      exact Sim.tailV (sim_iff.2 (process2Encode_step ms us gf nz yu hGF P f (.list rest) mf docs ec spec depth hrE
        hfE.2 hfE.1))
    | true =>
      have hs' : (spec == Val.null) = true := by rw [beq_null_eq_isNull]; exact hs
      simp only [hs', Bool.not_true, Bool.false_eq_true, if_false, if_true]
      refine sim_def.2 fun hmod => ?_
      rw [filterList_emit (U := (· = Err.unmodelled)) (out := listOut P ec.vars) (fun x hx _ => ?_)
        (foldlM_listStepM P ec.vars rest []).symm fun _ he h' => hmod (by rw [h', he]; rfl)]
      · cases rest.foldlM (listStepM P ec.vars) [] <;> exact ⟨_, rfl, rfl⟩
      · rcases repeat_or_plain x with ⟨m, r, rfl, hr⟩ | hv'
        · rw [← repListSpec_eq_listOut P ec.vars m r hr]
          simp only [popMapValue_eq_match, hr, if_true]
          refine sim_def.2 fun hm' => ?_
          rw [T_process2RepeatObjList_eq ms us gf nz yu P f _ mf docs ec r depth
            (fun i hi => (hrL _ hx).2 m r rfl hr i hi) hm', P2_listRes_eq]
          cases repListSpec P ec.vars (fdel m "$repeat") r <;> exact ⟨_, rfl, rfl⟩
        · rw [listOut_plain P ec.vars hv']
          cases x with
          | map m =>
            simp only [popMapValue_eq_match, hv' m rfl, Bool.false_eq_true, if_false]
            exact elem_sim (sim_iff.2 (hrL _ hx).1)
          | _ => exact elem_sim (sim_iff.2 (hrL _ hx).1)


/-! ## process2Map -/

theorem repMapM_sorted (P : Vars → Val → R Val) (ec : Vars) (k : String) (body : Val) (is : List Nat) (acc r : Fields)
    (ha : Fields.SortedKeys acc) (h : repMapM P ec k body is acc = .ok r) : Fields.SortedKeys r := by
  rw [repMapM_out] at h
  obtain ⟨os, _, h⟩ := R_bind_eq_ok.1 h
  cases h
  exact sorted_fsetAll _ ha

theorem repMapSpec_eq_expandOut (P : Vars → Val → R Val) (ec : Vars) (k : String) (m : Fields) (r : Val)
    (h : fget m "$repeat" = some r) :
    repMapSpec P ec k (fdel m "$repeat") r = expandOut P ec (k, .map m) >>= fun ps => pure (fofList ps) := by
  unfold repMapSpec expandOut
  simp only [h]
  cases r <;> first | rfl | (simp only []; rw [repMapM_out, bind_assoc]; rfl)

/-- the Go text that evaluates one map entry: the value, and unless that is null the key -/
theorem entry_sim {P : Vars → Val → R Val} {ec : Vars} {k : String} {v : Val} {go1 go2 : G (Val × Option Err)}
    (h1 : Sim Reads go1 (P ec v)) (h2 : Sim Reads go2 (P ec (.str k))) :
    Sim (ReadsCb (fun (o : Option (String × Val)) => fofList o.toList) ()) (match (generalizing := false) go1 with
      | .error e => .error e
      | .ok (r1, r2) =>
        if r2 == none then
          if r1 == Val.null then .ok ((([] : Fields), (none : Option Err)), ())
          else match (generalizing := false) go2 with
            | .error e => .error e
            | .ok (r3, r4) =>
              if r4 == none then
                if (Go.asStr r3).2 then .ok (((fset ([] : Fields) (Go.asStr r3).1 r1), (none : Option Err)), ())
                else .ok ((([] : Fields), (some Err.invalidType)), ())
              else .ok ((([] : Fields), r4), ())
        else .ok ((([] : Fields), r2), ())) (entryOut P ec (k, v)) := by
  unfold entryOut
  refine Sim.bindV h1 (fun v2 _ => ?_) fun _ _ => rfl
  refine Sim.ite (beq_null_eq_isNull v2) (fun _ => Sim.pure rfl) fun _ => ?_
  refine Sim.bindV h2 (fun k2 _ => ?_) fun _ _ => rfl
  cases k2 <;> first | exact Sim.pure rfl | exact Sim.throw rfl

theorem flatMap_toList {α : Type} (os : List (Option α)) : os.flatMap Option.toList = os.filterMap id := by
  induction os with
  | nil => rfl
  | cons o os ih => cases o <;> simp [ih]

/-- process2.go:process2Map, given the recursive `process2'` calls it makes (through process2RepeatObjMap,
    process2Encode, process2MapValue at fuel `f`; directly at fuel `f + 1`) -/
theorem process2Map_step (hGF : GetFormatSpec gf) (P : Vars → Val → R Val) (f : Nat) (kvs0 : Fields) (mf : Go.Doc)
    (docs : List Go.Doc) (ec : Go.Ctx) (depth : Int) (hf2 : 2 ≤ f)
    (h1 : ∀ kv ∈ kvs0, ∀ m r, kv.2 = .map m → fget m "$repeat" = some r → ∀ i : Nat, i < (Go.asInt r).1.toNat →
      CallOK (fun ec' x => process2' ms us gf nz yu f x mf docs ec' depth) P
        ⟨fset ec.vars "$repeat" (.int (Int.ofNat i))⟩ (.map (fdel m "$repeat")) ∧
      CallOK (fun ec' x => process2' ms us gf nz yu f x mf docs ec' depth) P
        ⟨fset ec.vars "$repeat" (.int (Int.ofNat i))⟩ (.str kv.1))
    (h2 : ∀ kvs, expandM P ec.vars kvs0 = .ok kvs →
      CallOK (fun ec' x => process2' ms us gf nz yu f x mf docs ec' depth) P ec (.map (fdel kvs "$encode")) ∧
      (∀ spec, fget kvs "$encode" = some spec → Go.depth spec + 5 ≤ f ∧
        ∀ obj2, P ec.vars (.map (fdel kvs "$encode")) = .ok obj2 → 2 * Go.depth obj2 + 1 ≤ f) ∧
      (∀ v, fget kvs "$value" = some v →
        CallOK (fun ec' x => process2' ms us gf nz yu f x mf docs ec' depth) P ec v) ∧
      (∀ kv ∈ kvs, CallOK (fun ec' x => process2' ms us gf nz yu (f + 1) x mf docs ec' depth) P ec kv.2 ∧
        CallOK (fun ec' x => process2' ms us gf nz yu (f + 1) x mf docs ec' depth) P ec (.str kv.1)))
    (hmod : (expandM P ec.vars kvs0 >>= mapBodyM P ec.vars) ≠ .error Err.unmodelled) :
    ∃ q, process2Map' ms us gf nz yu (f + 2) kvs0 mf docs ec depth = .ok q ∧
      errNorm q = valRes (expandM P ec.vars kvs0 >>= mapBodyM P ec.vars) := by
  refine sim_iff.1 ?_ hmod
  clear hmod
  refine sim_def.2 fun hmod => ?_
  unfold process2Map'
  rw [filterMap_emit (U := (· = Err.unmodelled)) (view := fun ps => fofList ps) (raw := id)
    (out := expandOut P ec.vars) (M := expandM P ec.vars kvs0) (fun ha _ => fsetAll_fofList ha _) (fun kv hkv _ => ?_)
    (by rw [expandM_out]; simp only [List.flatMap_id]) fun _ he h => hmod (by rw [h, he]; rfl)]
  -- first the per-entry obligation of the expansion loop against `expandOut`, then `mapBodyM`'s four branches in the
  -- order of the Go text, one `Sim.popMapValue` each, the last loop against `entryOut`
  rotate_left
  · obtain ⟨k, v⟩ := kv
    rcases repeat_or_plain v with ⟨m, r, rfl, hr⟩ | hv'
    · refine sim_def.2 fun hm => ?_
      have hm' : repMapSpec P ec.vars k (fdel m "$repeat") r ≠ .error Err.unmodelled := fun h => by
        rw [repMapSpec_eq_expandOut P ec.vars k m r hr] at h
        cases hE : expandOut P ec.vars (k, .map m) with
        | ok ps => rw [hE] at h; cases h
        | error e => rw [hE] at h hm; exact hm h
      simp only [popMapValue_eq_match, hr, if_true]
      rw [T_process2RepeatObjMap_eq ms us gf nz yu P f _ mf docs ec k r depth
        (fun i hi => h1 (k, .map m) hkv m r rfl hr i hi) hm', P2_fieldsRes_eq,
        repMapSpec_eq_expandOut P ec.vars k m r hr]
      cases expandOut P ec.vars (k, .map m) <;> exact ⟨_, rfl, rfl⟩
    · rw [expandOut_plain P ec.vars (kv := (k, v)) hv']
      cases v with
      | map m => simp only [popMapValue_eq_match, hv' m rfl]; exact fun _ => ⟨_, rfl, rfl⟩
      | _ => exact fun _ => ⟨_, rfl, rfl⟩
  cases hE : expandM P ec.vars kvs0 with
  | error e => exact ⟨(.null, some e), rfl, rfl⟩
  | ok kvs =>
    rw [hE] at hmod
    obtain ⟨hrE, hfE, hrV, hrF⟩ := h2 kvs hE
    revert hmod
    refine sim_def.1 (?_ : Sim Reads _ (mapBodyM P ec.vars kvs))
    unfold mapBodyM
    simp only [resPair_ok, p2_none_beq_none, if_true]
    refine Sim.popMapValue (fun spec hen => ?_) fun _ => ?_
    · exact Sim.tailV (sim_iff.2 (process2Encode_step ms us gf nz yu hGF P f _ mf docs ec spec depth hrE
        (hfE spec hen).2 (hfE spec hen).1))
    refine Sim.popMapValue (fun spec _ => ?_) fun _ => ?_
    · refine Sim.tailV (sim_def.2 fun hmod => ?_)
      rw [decodeM_eq] at hmod ⊢
      rw [T_process2Decode_eq ms us gf nz yu hGF (f + 1) (by omega) _ mf docs ec spec depth hmod]
      cases decodeSpec (.map (fdel kvs "$decode")) spec <;> exact ⟨_, rfl, rfl⟩
    refine Sim.popMapValue (fun v hva => ?_) fun _ => ?_
    · cases hl : fdel kvs "$value" with
      | nil =>
        unfold process2MapValue'
        exact Sim.tailV (Sim.tailV (sim_iff.2 (hrV v hva)))
      | cons _ _ => exact fun _ => ⟨_, rfl, rfl⟩
    · refine sim_def.2 fun hmod => ?_
      rw [filterMap_emit (U := (· = Err.unmodelled)) (raw := Option.toList) (out := entryOut P ec.vars)
        (M := kvs.foldlM (entryStepM P ec.vars) []) (fun ha _ => fsetAll_fofList ha _) (fun kv hkv _ => ?_)
        (by rw [foldlM_entryStepM]; simp only [flatMap_toList]; rfl) fun _ he h' => hmod (by rw [h', he]; rfl)]
      · cases kvs.foldlM (entryStepM P ec.vars) [] <;> exact ⟨_, rfl, rfl⟩
      · exact entry_sim (sim_iff.2 (hrF kv hkv).1) (sim_iff.2 (hrF kv hkv).2)


end

/-! ## the mutual block against the model's `process2` -/

section
variable (ms : Go.Opaque → List Val → String × Option Err) (us : Go.Opaque → String → List Val × Option Err)
  (gf : String → Go.Opaque × Option Err) (nz : Val → Val × Option Err) (yu : String → Val × Option Err)

theorem process2_unfold (f : Nat) (obj : Val) (mf : Go.Doc) (docs : List Go.Doc) (ec : Go.Ctx) (depth : Int) :
    process2' ms us gf nz yu (f + 1) obj mf docs ec depth =
      if depth + 1 > 1000 then .ok (Val.null, some Err.circularRef)
      else
        (match obj with
         | .map kvs0 => process2Map' ms us gf nz yu f kvs0 mf docs ec (depth + 1)
         | .list xs => process2List' ms us gf nz yu f xs mf docs ec (depth + 1)
         | .str s => process2String' yu f s mf docs ec (depth + 1)
         | _ => .ok (obj, none)) := by
  unfold process2'
  by_cases hd' : depth + 1 > 1000
  · simp only [hd', decide_true, if_true]
  · simp only [hd', decide_false, Bool.false_eq_true, if_false]
    cases obj with
    | map kvs0 => simp only []; cases process2Map' ms us gf nz yu f kvs0 mf docs ec (depth + 1) <;> rfl
    | list xs => simp only []; cases process2List' ms us gf nz yu f xs mf docs ec (depth + 1) <;> rfl
    | str s => simp only []; cases process2String' yu f s mf docs ec (depth + 1) <;> rfl
    | _ => rfl

end

/-! ## an explicit translator-fuel bound, computed along the model's evaluation -/

def maxOver {α : Type} (l : List α) (f : α → Nat) : Nat := l.foldr (fun a acc => max (f a) acc) 0

theorem maxOver_le {α : Type} {l : List α} {f : α → Nat} {n : Nat} : maxOver l f ≤ n ↔ ∀ a ∈ l, f a ≤ n := by
  induction l with
  | nil => simp [maxOver]
  | cons x xs ih => simp only [maxOver, List.foldr_cons] at ih ⊢; simp [Nat.max_le, ih]

theorem exists_eq_add_of_le {a b g : Nat} (h : a + b ≤ g) : ∃ f, g = f + b ∧ a ≤ f :=
  ⟨g - b, by omega, by omega⟩

/-- the calls of a nested `$repeat` with `n` copies: the body, and (in a map) the key -/
def repNeed (need : Go.Ctx → Val → Nat) (ec : Go.Ctx) (body : Val) (key : Option Val) (n : Nat) : Nat :=
  maxOver (List.range n) fun i =>
    max (need ⟨fset ec.vars "$repeat" (.int (Int.ofNat i))⟩ body)
      (match key with | some k => need ⟨fset ec.vars "$repeat" (.int (Int.ofNat i))⟩ k | none => 0)

def entryRepNeed (need : Go.Ctx → Val → Nat) (ec : Go.Ctx) (key : Option Val) (v : Val) : Nat :=
  match v with
  | .map m =>
    match fget m "$repeat" with
    | some r => repNeed need ec (.map (fdel m "$repeat")) key (Go.asInt r).1.toNat
    | none => 0
  | _ => 0

/-- `$encode`: the dispatcher on the spec, `validate` on the evaluated object -/
def encNeed (P : Vars → Val → R Val) (ec : Vars) (obj spec : Val) : Nat :=
  max (Go.depth spec + 5) (match P ec obj with | .ok obj2 => 2 * Go.depth obj2 + 1 | .error _ => 0)

def mapNeed (P : Vars → Val → R Val) (need : Go.Ctx → Val → Nat) (ec : Go.Ctx) (kvs0 : Fields) : Nat :=
  max (max (maxOver kvs0 fun kv => entryRepNeed need ec (some (.str kv.1)) kv.2)
    (match expandM P ec.vars kvs0 with
     | .error _ => 0
     | .ok kvs =>
       max (max (need ec (.map (fdel kvs "$encode")))
            (match fget kvs "$encode" with
             | some spec => encNeed P ec.vars (.map (fdel kvs "$encode")) spec
             | none => 0))
         (max (match fget kvs "$value" with | some v => need ec v | none => 0)
            (maxOver kvs fun kv => max (need ec kv.2) (need ec (.str kv.1)))))) 2 + 2

def listNeedP (P : Vars → Val → R Val) (need : Go.Ctx → Val → Nat) (ec : Go.Ctx) (xs : List Val) : Nat :=
  (match popListMapValue xs "$encode" with
   | .error _ => 0
   | .ok (spec, rest) =>
     max (max (need ec (.list rest)) (encNeed P ec.vars (.list rest) spec))
       (maxOver rest fun x => max (need ec x) (entryRepNeed need ec none x))) + 2

/-- translator fuel that suffices for `process2'` at Go depth `depth` (model fuel `F`): one unit per level of the
    mutual recursion, computed along the model's evaluation (its intermediate results are evaluated again) -/
def p2Fuel (mf : Go.Doc) (docs : List Go.Doc) : Nat → Int → Go.Ctx → Val → Nat
  | 0, _, _, _ => 1
  | F + 1, depth, ec, obj =>
    match obj with
    | .map kvs0 =>
      mapNeed (process2 F (docs.map (·.data)) mf.data) (p2Fuel mf docs F (depth + 1)) ec kvs0 + 1
    | .list xs =>
      listNeedP (process2 F (docs.map (·.data)) mf.data) (p2Fuel mf docs F (depth + 1)) ec xs + 1
    | .str s => p2sFuel mf docs ec s (depth + 1) + 1
    | _ => 1

section
variable (ms : Go.Opaque → List Val → String × Option Err) (us : Go.Opaque → String → List Val × Option Err)
  (gf : String → Go.Opaque × Option Err) (nz : Val → Val × Option Err) (yu : String → Val × Option Err)

theorem repNeed_spec (P : Vars → Val → R Val) (mf : Go.Doc) (docs : List Go.Doc) (d : Int)
    (need : Go.Ctx → Val → Nat)
    (IH : ∀ (ec : Go.Ctx) (x : Val) (g : Nat), need ec x ≤ g →
      CallOK (fun ec' x => process2' ms us gf nz yu g x mf docs ec' d) P ec x)
    (ec : Go.Ctx) (body : Val) (key : Option Val) (n g : Nat) (hg : repNeed need ec body key n ≤ g) (i : Nat) (hi : i < n) :
    CallOK (fun ec' x => process2' ms us gf nz yu g x mf docs ec' d) P
        ⟨fset ec.vars "$repeat" (.int (Int.ofNat i))⟩ body ∧
    ∀ k, key = some k → CallOK (fun ec' x => process2' ms us gf nz yu g x mf docs ec' d) P
        ⟨fset ec.vars "$repeat" (.int (Int.ofNat i))⟩ k := by
  have h1 := maxOver_le.1 hg i (List.mem_range.2 hi)
  rw [Nat.max_le] at h1
  exact ⟨IH _ _ g h1.1, fun k hk => IH _ _ g (by subst hk; exact h1.2)⟩

theorem process2Map_explicit (hGF : GetFormatSpec gf) (P : Vars → Val → R Val) (mf : Go.Doc) (docs : List Go.Doc)
    (d : Int) (need : Go.Ctx → Val → Nat)
    (IH : ∀ (ec : Go.Ctx) (x : Val) (g : Nat), need ec x ≤ g →
      CallOK (fun ec' x => process2' ms us gf nz yu g x mf docs ec' d) P ec x)
    (ec : Go.Ctx) (kvs0 : Fields) (g : Nat) (hg : mapNeed P need ec kvs0 ≤ g)
    (hmod : (expandM P ec.vars kvs0 >>= mapBodyM P ec.vars) ≠ .error Err.unmodelled) :
    ∃ q, process2Map' ms us gf nz yu g kvs0 mf docs ec d = .ok q ∧
      errNorm q = valRes (expandM P ec.vars kvs0 >>= mapBodyM P ec.vars) := by
  obtain ⟨f, rfl, hle⟩ := exists_eq_add_of_le hg
  simp only [Nat.max_le, maxOver_le] at hle
  obtain ⟨⟨hrep, hbody⟩, hf2⟩ := hle
  refine process2Map_step ms us gf nz yu hGF P f kvs0 mf docs ec d hf2 ?_ ?_ hmod
  · intro kv hkv m r hm hr i hi
    have h1 := hrep kv hkv
    simp only [entryRepNeed, hm, hr] at h1
    have := repNeed_spec ms us gf nz yu P mf docs d need IH ec (.map (fdel m "$repeat")) (some (.str kv.1)) _ f
      h1 i hi
    exact ⟨this.1, this.2 _ rfl⟩
  · intro kvs hE
    rw [hE] at hbody
    simp only [Nat.max_le, maxOver_le] at hbody
    obtain ⟨⟨ha, hb⟩, hc, hd⟩ := hbody
    refine ⟨IH _ _ f ha, fun spec hs => ?_, fun v hv => ?_, fun kv hkv => ?_⟩
    · rw [hs] at hb
      simp only [encNeed, Nat.max_le] at hb
      exact ⟨hb.1, fun obj2 h2 => by rw [h2] at hb; exact hb.2⟩
    · rw [hv] at hc
      exact IH _ _ f hc
    · exact ⟨IH _ _ (f + 1) (Nat.le_succ_of_le (hd kv hkv).1), IH _ _ (f + 1) (Nat.le_succ_of_le (hd kv hkv).2)⟩

theorem process2List_explicit (hGF : GetFormatSpec gf) (P : Vars → Val → R Val) (mf : Go.Doc) (docs : List Go.Doc)
    (d : Int) (need : Go.Ctx → Val → Nat)
    (IH : ∀ (ec : Go.Ctx) (x : Val) (g : Nat), need ec x ≤ g →
      CallOK (fun ec' x => process2' ms us gf nz yu g x mf docs ec' d) P ec x)
    (ec : Go.Ctx) (xs : List Val) (g : Nat) (hg : listNeedP P need ec xs ≤ g)
    (hmod : listBodyM P ec.vars xs ≠ .error Err.unmodelled) :
    ∃ q, process2List' ms us gf nz yu g xs mf docs ec d = .ok q ∧
      errNorm q = valRes (listBodyM P ec.vars xs) := by
  obtain ⟨f, rfl, hle⟩ := exists_eq_add_of_le hg
  refine process2List_step ms us gf nz yu hGF P f xs mf docs ec d ?_ hmod
  intro spec rest hp
  rw [hp] at hle
  simp only [encNeed, Nat.max_le, maxOver_le] at hle
  obtain ⟨⟨ha, hb1, hb2⟩, hd⟩ := hle
  refine ⟨IH _ _ f ha, ⟨hb1, fun obj2 h2 => by rw [h2] at hb2; exact hb2⟩, fun x hx => ?_⟩
  refine ⟨IH _ _ (f + 1) (Nat.le_succ_of_le (hd x hx).1), fun m r hm hr i hi => ?_⟩
  have h1 := (hd x hx).2
  subst hm
  simp only [entryRepNeed, hr] at h1
  exact (repNeed_spec ms us gf nz yu P mf docs d need IH ec (.map (fdel m "$repeat")) none _ f h1 i hi).1

theorem p2Fuel_pos (mf : Go.Doc) (docs : List Go.Doc) (F : Nat) (depth : Int) (ec : Go.Ctx) (obj : Val) :
    1 ≤ p2Fuel mf docs F depth ec obj := by
  cases F with
  | zero => exact Nat.le_refl 1
  | succ F => cases obj <;> simp only [p2Fuel] <;> omega

theorem process2_explicit_aux (hGF : GetFormatSpec gf) (hyu : ParseOK yu) (mf : Go.Doc) (docs : List Go.Doc)
    (hnil : ∀ d ∈ docs, d.isNil = false) (hwf : Val.WF mf.data) (hwfs : ∀ d ∈ docs, Val.WF d.data) :
    ∀ (F : Nat) (depth : Int), (1000 - depth).toNat = F → ∀ (ec : Go.Ctx) (obj : Val) (g : Nat),
      p2Fuel mf docs F depth ec obj ≤ g →
        CallOK (fun ec' x => process2' ms us gf nz yu g x mf docs ec' depth)
          (process2 F (docs.map (·.data)) mf.data) ec obj := by
  intro F
  induction F with
  | zero =>
    intro depth hd ec obj g hg _
    obtain ⟨f, rfl⟩ : ∃ f, g = f + 1 := ⟨g - 1, by have := p2Fuel_pos mf docs 0 depth ec obj; omega⟩
    exact ⟨(.null, some Err.circularRef), (process2_unfold ms us gf nz yu f obj mf docs ec depth).trans (if_pos (by omega)), rfl⟩
  | succ F ih =>
    intro depth hd ec obj g hg hmod
    have IH := ih (depth + 1) (by omega)
    obtain ⟨f, rfl⟩ : ∃ f, g = f + 1 := ⟨g - 1, by have := p2Fuel_pos mf docs (F + 1) depth ec obj; omega⟩
    show ∃ q, process2' ms us gf nz yu (f + 1) obj mf docs ec depth = .ok q ∧ _
    rw [process2_unfold, if_neg (by omega), process2_succ]
    rw [process2_succ] at hmod
    cases obj with
    | map kvs0 =>
      exact process2Map_explicit ms us gf nz yu hGF _ mf docs (depth + 1) _ IH ec kvs0 f (Nat.le_of_succ_le_succ hg) hmod
    | list xs =>
      exact process2List_explicit ms us gf nz yu hGF _ mf docs (depth + 1) _ IH ec xs f (Nat.le_of_succ_le_succ hg) hmod
    | str s =>
      have hF : (1001 - (depth + 1)).toNat = F + 1 := by omega
      simp only [] at hmod ⊢
      rw [← hF] at hmod ⊢
      rw [T_process2String_eq yu hyu mf docs ec hnil hwf hwfs s (depth + 1) f (Nat.le_of_succ_le_succ hg) hmod]
      refine ⟨_, rfl, ?_⟩
      cases process2String (1001 - (depth + 1)).toNat (docs.map (·.data)) mf.data ec.vars s <;> rfl
    | _ => exact ⟨_, rfl, rfl⟩

/-- **process2.go:process2 with an explicit fuel bound** `p2Fuel` (computed along the model's evaluation) -/
theorem T_process2_eq_fuel (hGF : GetFormatSpec gf) (hyu : ParseOK yu) (mf : Go.Doc) (docs : List Go.Doc)
    (hnil : ∀ d ∈ docs, d.isNil = false) (hwf : Val.WF mf.data) (hwfs : ∀ d ∈ docs, Val.WF d.data)
    (ec : Go.Ctx) (obj : Val) (depth : Int) (fuel : Nat)
    (hf : p2Fuel mf docs (1000 - depth).toNat depth ec obj ≤ fuel)
    (hmod : process2 (1000 - depth).toNat (docs.map (·.data)) mf.data ec.vars obj ≠ .error Err.unmodelled) :
    ∃ q, process2' ms us gf nz yu fuel obj mf docs ec depth = .ok q ∧
      errNorm q = valRes (process2 (1000 - depth).toNat (docs.map (·.data)) mf.data ec.vars obj) :=
  process2_explicit_aux ms us gf nz yu hGF hyu mf docs hnil hwf hwfs _ depth rfl ec obj fuel hf hmod
end

section
variable (ms : Go.Opaque → List Val → String × Option Err) (us : Go.Opaque → String → List Val × Option Err)
  (gf : String → Go.Opaque × Option Err) (nz : Val → Val × Option Err) (yu : String → Val × Option Err)

/-- process2Map at the incremented Go depth `d`, explicit fuel -/
theorem T_process2Map_eq_fuel (hGF : GetFormatSpec gf) (hyu : ParseOK yu) (mf : Go.Doc) (docs : List Go.Doc)
    (hnil : ∀ d ∈ docs, d.isNil = false) (hwf : Val.WF mf.data) (hwfs : ∀ d ∈ docs, Val.WF d.data)
    (ec : Go.Ctx) (kvs0 : Fields) (d : Int) (fuel : Nat)
    (hf : mapNeed (process2 (1000 - d).toNat (docs.map (·.data)) mf.data) (p2Fuel mf docs (1000 - d).toNat d) ec kvs0
      ≤ fuel)
    (hmod : process2 ((1000 - d).toNat + 1) (docs.map (·.data)) mf.data ec.vars (.map kvs0) ≠ .error Err.unmodelled) :
    ∃ q, process2Map' ms us gf nz yu fuel kvs0 mf docs ec d = .ok q ∧
      errNorm q = valRes (process2 ((1000 - d).toNat + 1) (docs.map (·.data)) mf.data ec.vars (.map kvs0)) := by
  rw [process2_succ] at hmod ⊢
  exact process2Map_explicit ms us gf nz yu hGF _ mf docs d _
    (process2_explicit_aux ms us gf nz yu hGF hyu mf docs hnil hwf hwfs _ d rfl) ec kvs0 fuel hf hmod

/-- process2List at the incremented Go depth `d`, explicit fuel -/
theorem T_process2List_eq_fuel (hGF : GetFormatSpec gf) (hyu : ParseOK yu) (mf : Go.Doc) (docs : List Go.Doc)
    (hnil : ∀ d ∈ docs, d.isNil = false) (hwf : Val.WF mf.data) (hwfs : ∀ d ∈ docs, Val.WF d.data)
    (ec : Go.Ctx) (xs : List Val) (d : Int) (fuel : Nat)
    (hf : listNeedP (process2 (1000 - d).toNat (docs.map (·.data)) mf.data) (p2Fuel mf docs (1000 - d).toNat d) ec xs
      ≤ fuel)
    (hmod : process2 ((1000 - d).toNat + 1) (docs.map (·.data)) mf.data ec.vars (.list xs) ≠ .error Err.unmodelled) :
    ∃ q, process2List' ms us gf nz yu fuel xs mf docs ec d = .ok q ∧
      errNorm q = valRes (process2 ((1000 - d).toNat + 1) (docs.map (·.data)) mf.data ec.vars (.list xs)) := by
  rw [process2_succ] at hmod ⊢
  exact process2List_explicit ms us gf nz yu hGF _ mf docs d _
    (process2_explicit_aux ms us gf nz yu hGF hyu mf docs hnil hwf hwfs _ d rfl) ec xs fuel hf hmod

/-- process2Encode at Go depth `d`, explicit fuel -/
theorem T_process2Encode_eq_fuel (hGF : GetFormatSpec gf) (hyu : ParseOK yu) (mf : Go.Doc) (docs : List Go.Doc)
    (hnil : ∀ d ∈ docs, d.isNil = false) (hwf : Val.WF mf.data) (hwfs : ∀ d ∈ docs, Val.WF d.data)
    (ec : Go.Ctx) (obj spec : Val) (d : Int) (fuel : Nat)
    (hf : max (p2Fuel mf docs (1000 - d).toNat d ec obj)
      (encNeed (process2 (1000 - d).toNat (docs.map (·.data)) mf.data) ec.vars obj spec) + 1 ≤ fuel)
    (hmod : encodeM (process2 (1000 - d).toNat (docs.map (·.data)) mf.data) ec.vars obj spec ≠ .error Err.unmodelled) :
    ∃ q, process2Encode' ms us gf nz yu fuel obj mf docs ec spec d = .ok q ∧
      errNorm q = valRes (encodeM (process2 (1000 - d).toNat (docs.map (·.data)) mf.data) ec.vars obj spec) := by
  obtain ⟨f, rfl⟩ : ∃ f, fuel = f + 1 := ⟨fuel - 1, by omega⟩
  unfold encNeed at hf
  refine process2Encode_step ms us gf nz yu hGF _ f obj mf docs ec spec d
    (process2_explicit_aux ms us gf nz yu hGF hyu mf docs hnil hwf hwfs _ d rfl ec obj f (by omega))
    (fun obj2 h2 => ?_) (by omega) hmod
  rw [h2] at hf
  simp only [] at hf
  omega

/-- process2MapValue at Go depth `d`, explicit fuel -/
theorem T_process2MapValue_eq_fuel (hGF : GetFormatSpec gf) (hyu : ParseOK yu) (mf : Go.Doc) (docs : List Go.Doc)
    (hnil : ∀ d ∈ docs, d.isNil = false) (hwf : Val.WF mf.data) (hwfs : ∀ d ∈ docs, Val.WF d.data)
    (ec : Go.Ctx) (obj : Fields) (v : Val) (d : Int) (fuel : Nat)
    (hf : p2Fuel mf docs (1000 - d).toNat d ec v + 1 ≤ fuel)
    (hmod : process2 (1000 - d).toNat (docs.map (·.data)) mf.data ec.vars v ≠ .error Err.unmodelled) :
    ∃ q, process2MapValue' ms us gf nz yu fuel obj mf docs ec v d = .ok q ∧
      errNorm q = valRes (process2 (1000 - d).toNat (docs.map (·.data)) mf.data ec.vars v) := by
  obtain ⟨f, rfl⟩ : ∃ f, fuel = f + 1 := ⟨fuel - 1, by omega⟩
  obtain ⟨q, hq, hn⟩ := T_process2_eq_fuel ms us gf nz yu hGF hyu mf docs hnil hwf hwfs ec v d f (by omega) hmod
  refine ⟨q, ?_, hn⟩
  unfold process2MapValue'
  rw [hq]
end


/-! ## for all sufficiently large translator fuel -/

section
variable (ms : Go.Opaque → List Val → String × Option Err) (us : Go.Opaque → String → List Val × Option Err)
  (gf : String → Go.Opaque × Option Err) (nz : Val → Val × Option Err) (yu : String → Val × Option Err)

/-- **process2.go:process2** at Go depth `depth` is the model's `process2` with fuel `1000 - depth` (process2
    increments `depth` and fails when the result exceeds 1000), on well-formed documents, wherever the model does
    not answer `unmodelled` (no codec `$encode`/`$decode` and no reference outside the modelled sub-language is
    reached), for all sufficiently large translator fuel: the same error class, and without an error the same value -/
theorem T_process2_eq (hGF : GetFormatSpec gf) (hyu : ParseOK yu) (mf : Go.Doc) (docs : List Go.Doc)
    (hnil : ∀ d ∈ docs, d.isNil = false) (hwf : Val.WF mf.data) (hwfs : ∀ d ∈ docs, Val.WF d.data)
    (ec : Go.Ctx) (obj : Val) (depth : Int)
    (hmod : process2 (1000 - depth).toNat (docs.map (·.data)) mf.data ec.vars obj ≠ .error Err.unmodelled) :
    ∃ N, ∀ fuel, N ≤ fuel → ∃ q, process2' ms us gf nz yu fuel obj mf docs ec depth = .ok q ∧
      errNorm q = valRes (process2 (1000 - depth).toNat (docs.map (·.data)) mf.data ec.vars obj) :=
  ⟨_, fun fuel hf => T_process2_eq_fuel ms us gf nz yu hGF hyu mf docs hnil hwf hwfs ec obj depth fuel hf hmod⟩

/-- … a value of the model is the value of the translated function -/
theorem T_process2_eq_ok (hGF : GetFormatSpec gf) (hyu : ParseOK yu) (mf : Go.Doc) (docs : List Go.Doc)
    (hnil : ∀ d ∈ docs, d.isNil = false) (hwf : Val.WF mf.data) (hwfs : ∀ d ∈ docs, Val.WF d.data)
    (ec : Go.Ctx) (obj : Val) (depth : Int) (v : Val)
    (h : process2 (1000 - depth).toNat (docs.map (·.data)) mf.data ec.vars obj = .ok v) :
    ∃ N, ∀ fuel, N ≤ fuel → process2' ms us gf nz yu fuel obj mf docs ec depth = .ok (v, none) :=
  ⟨_, fun fuel hf =>
    (process2_explicit_aux ms us gf nz yu hGF hyu mf docs hnil hwf hwfs _ depth rfl ec obj fuel hf).ok h⟩

/-- … and an error class of the model (other than `unmodelled`) is the error class of the translated function -/
theorem T_process2_eq_error (hGF : GetFormatSpec gf) (hyu : ParseOK yu) (mf : Go.Doc) (docs : List Go.Doc)
    (hnil : ∀ d ∈ docs, d.isNil = false) (hwf : Val.WF mf.data) (hwfs : ∀ d ∈ docs, Val.WF d.data)
    (ec : Go.Ctx) (obj : Val) (depth : Int) (e : Err) (he : e ≠ Err.unmodelled)
    (h : process2 (1000 - depth).toNat (docs.map (·.data)) mf.data ec.vars obj = .error e) :
    ∃ N, ∀ fuel, N ≤ fuel → ∃ x, process2' ms us gf nz yu fuel obj mf docs ec depth = .ok (x, some e) :=
  ⟨_, fun fuel hf =>
    (process2_explicit_aux ms us gf nz yu hGF hyu mf docs hnil hwf hwfs _ depth rfl ec obj fuel hf).error h
      (β := Val) fun h' => he (by cases h'; rfl)⟩

/-- process2.go:process2Map at the (already incremented) Go depth `d` that process2 passes: the model's `process2` on
    the map with one unit of fuel more than the calls below, `(1000 - d) + 1` -/
theorem T_process2Map_eq (hGF : GetFormatSpec gf) (hyu : ParseOK yu) (mf : Go.Doc) (docs : List Go.Doc)
    (hnil : ∀ d ∈ docs, d.isNil = false) (hwf : Val.WF mf.data) (hwfs : ∀ d ∈ docs, Val.WF d.data)
    (ec : Go.Ctx) (kvs0 : Fields) (d : Int)
    (hmod : process2 ((1000 - d).toNat + 1) (docs.map (·.data)) mf.data ec.vars (.map kvs0) ≠ .error Err.unmodelled) :
    ∃ N, ∀ fuel, N ≤ fuel → ∃ q, process2Map' ms us gf nz yu fuel kvs0 mf docs ec d = .ok q ∧
      errNorm q = valRes (process2 ((1000 - d).toNat + 1) (docs.map (·.data)) mf.data ec.vars (.map kvs0)) :=
  ⟨_, fun fuel hf => T_process2Map_eq_fuel ms us gf nz yu hGF hyu mf docs hnil hwf hwfs ec kvs0 d fuel hf hmod⟩

/-- process2.go:process2List, likewise -/
theorem T_process2List_eq (hGF : GetFormatSpec gf) (hyu : ParseOK yu) (mf : Go.Doc) (docs : List Go.Doc)
    (hnil : ∀ d ∈ docs, d.isNil = false) (hwf : Val.WF mf.data) (hwfs : ∀ d ∈ docs, Val.WF d.data)
    (ec : Go.Ctx) (xs : List Val) (d : Int)
    (hmod : process2 ((1000 - d).toNat + 1) (docs.map (·.data)) mf.data ec.vars (.list xs) ≠ .error Err.unmodelled) :
    ∃ N, ∀ fuel, N ≤ fuel → ∃ q, process2List' ms us gf nz yu fuel xs mf docs ec d = .ok q ∧
      errNorm q = valRes (process2 ((1000 - d).toNat + 1) (docs.map (·.data)) mf.data ec.vars (.list xs)) :=
  ⟨_, fun fuel hf => T_process2List_eq_fuel ms us gf nz yu hGF hyu mf docs hnil hwf hwfs ec xs d fuel hf hmod⟩

/-- process2.go:process2Encode at Go depth `d`: the model's `$encode` (`encodeM`: evaluate, validate, `encodeAny`)
    over `process2` with fuel `1000 - d` -/
theorem T_process2Encode_eq (hGF : GetFormatSpec gf) (hyu : ParseOK yu) (mf : Go.Doc) (docs : List Go.Doc)
    (hnil : ∀ d ∈ docs, d.isNil = false) (hwf : Val.WF mf.data) (hwfs : ∀ d ∈ docs, Val.WF d.data)
    (ec : Go.Ctx) (obj spec : Val) (d : Int)
    (hmod : encodeM (process2 (1000 - d).toNat (docs.map (·.data)) mf.data) ec.vars obj spec ≠ .error Err.unmodelled) :
    ∃ N, ∀ fuel, N ≤ fuel → ∃ q, process2Encode' ms us gf nz yu fuel obj mf docs ec spec d = .ok q ∧
      errNorm q = valRes (encodeM (process2 (1000 - d).toNat (docs.map (·.data)) mf.data) ec.vars obj spec) :=
  ⟨_, fun fuel hf => T_process2Encode_eq_fuel ms us gf nz yu hGF hyu mf docs hnil hwf hwfs ec obj spec d fuel hf hmod⟩

/-- process2.go:process2MapValue: process2 on the value -/
theorem T_process2MapValue_eq (hGF : GetFormatSpec gf) (hyu : ParseOK yu) (mf : Go.Doc) (docs : List Go.Doc)
    (hnil : ∀ d ∈ docs, d.isNil = false) (hwf : Val.WF mf.data) (hwfs : ∀ d ∈ docs, Val.WF d.data)
    (ec : Go.Ctx) (obj : Fields) (v : Val) (d : Int)
    (hmod : process2 (1000 - d).toNat (docs.map (·.data)) mf.data ec.vars v ≠ .error Err.unmodelled) :
    ∃ N, ∀ fuel, N ≤ fuel → ∃ q, process2MapValue' ms us gf nz yu fuel obj mf docs ec v d = .ok q ∧
      errNorm q = valRes (process2 (1000 - d).toNat (docs.map (·.data)) mf.data ec.vars v) :=
  ⟨_, fun fuel hf => T_process2MapValue_eq_fuel ms us gf nz yu hGF hyu mf docs hnil hwf hwfs ec obj v d fuel hf hmod⟩
end

/-! ## instances: the hypotheses are met by real inputs, and each of them is needed -/

/-- `Val.WF` of the documents is needed: `get` deep-clones (sorts) the referenced map before `%v` prints it -/
def exUnsortedA : Go.Doc := { id := "", parents := "", data := .map [("a", .map [("b", .null), ("a", .null)])] }

theorem ib_a : interpBody "$\"{a}\"" = some ['{', 'a', '}'] := by decide
theorem segs_a : interpSegs ['{', 'a', '}'] = [Seg.ref ['a']] := by decide

theorem wf_needed_go :
    process2String' yamlModel 9 "$\"{a}\"" exUnsortedA [] ⟨[]⟩ 0 = .ok (.str "map[a:<nil> b:<nil>]", none) := by
  rw [process2String_unfold, ib_a]
  simp only []
  unfold process2StringInterp' Go.replaceAllInterp
  simp only [show ¬ (0 : Int) > 1000 by decide, decide_false, Bool.false_eq_true, if_false, interpBody_trim _ _ ib_a,
    segs_a]
  have hget : getWithVar' yamlModel 7 exUnsortedA [] ⟨[]⟩ (.str "a") =
      .ok (.map [("a", .null), ("b", .null)], none) := by
    rw [T_getWithVar_eq_norm yamlModel yamlModel_ok exUnsortedA [] ⟨[]⟩ "a" (by simp)
      (by simp [parseRef, isPlainRef_a]) 7 (by rw [exFuel_a]; decide) (by decide),
      get_simple_key _ _ _ isPlainRef_a (by decide)]
    rfl
  have htrim : Go.trimSuffix (Go.trimPrefix (String.ofList ['{', 'a', '}']) "{") "}" = "a" := by
    have := trim_braces ['a']; simpa using this
  simp [Go.replaceSegs, htrim, hget, Go.asStr]
  rfl

theorem wf_needed_model :
    process2String 1001 (([] : List Go.Doc).map (·.data)) exUnsortedA.data [] "$\"{a}\"" = .ok (.str "map[b:<nil> a:<nil>]") := by
  rw [process2String_succ _ _ _ _ _ _ ib_a, segs_a]
  simp [interpSpec, interpSeg, exUnsortedA, getWithVar_simple_key _ _ _ _ _ isPlainRef_a (by decide)
    (show fget [("a", Val.map [("b", .null), ("a", .null)])] "a" = some _ from rfl), bind, Except.bind, pure, Except.pure]
  rfl

def usNone : Go.Opaque → String → List Val × Option Err := fun _ _ => ([], none)
def usSeven : Go.Opaque → String → List Val × Option Err := fun _ _ => ([.int 7], none)
def nzId : Val → Val × Option Err := fun v => (v, none)

theorem ib_envX : interpBody "$env:X" = none := by decide
theorem ib_plain_a : interpBody "a" = none := by decide

/-- next to an error the translated process2 may return a non-nil value (here the nil map of filterMap inside an `any`),
    which is why the theorems compare results through `errNorm` -/
theorem errNorm_needed :
    process2' msName usNone gfModel nzId yamlModel 6 (.map [("a", .str "$env:X")]) exDocC [] ⟨[]⟩ 0
      = .ok (.map [], some Err.variableNotFound) ∧
    process2 (1000 - (0 : Int)).toNat (([] : List Go.Doc).map (·.data)) exDocC.data [] (.map [("a", .str "$env:X")])
      = .error Err.variableNotFound := by
  constructor
  · rfl
  · show process2 (998 + 1 + 1) _ _ _ _ = _
    simp [process2_succ, expandM, expandStepM, mapBodyM, entryStepM, fget, fset,
      process2String_noninterp _ _ _ _ _ ib_envX, getVar, bind, Except.bind, pure, Except.pure,
      throw, throwThe, MonadExceptOf.throw]

/-- the model's `unmodelled` is needed as an exclusion (1): a `$decode` of a codec format is evaluated by the Go code
    through the parameters, the model stops -/
theorem unmodelled_needed_decode :
    process2' msName usSeven gfModel nzId yamlModel 9 (.map [("$decode", .str "json"), ("$value", .str "x")])
      exDocC [] ⟨[]⟩ 0 = .ok (.int 7, none) ∧
    process2 (1000 - (0 : Int)).toNat (([] : List Go.Doc).map (·.data)) exDocC.data []
      (.map [("$decode", .str "json"), ("$value", .str "x")]) = .error Err.unmodelled := by
  constructor
  · rfl
  · show process2 (999 + 1) _ _ _ _ = _
    have h : isCodecFormat "json" = true := by decide
    simp [process2_succ, expandM, expandStepM, mapBodyM, decodeM, fget, fset, fdel, h, bind, Except.bind, pure,
      Except.pure, throw, throwThe, MonadExceptOf.throw]

theorem ib_empty_ref : interpBody "$\"{}\"" = some ['{', '}'] := by decide
theorem segs_empty_ref : interpSegs ['{', '}'] = [Seg.ref []] := by decide

/-- the model's `unmodelled` is needed as an exclusion (2): the empty reference is outside the sub-language the model
    reads; a YAML reader that satisfies `ParseOK` is free there -/
theorem unmodelled_needed_ref :
    process2String' yamlModel 9 "$\"{}\"" exDocA [] ⟨[]⟩ 0 = .ok (.null, some Err.variableNotFound) ∧
    process2String (1001 - (0 : Int)).toNat (([] : List Go.Doc).map (·.data)) exDocA.data [] "$\"{}\""
      = .error Err.unmodelled := by
  constructor
  · rfl
  · show process2String (1000 + 1) _ _ _ _ = _
    rw [process2String_succ _ _ _ _ _ _ ib_empty_ref, segs_empty_ref]
    have : getWithVar exDocA.data [] [] "" = .error Err.unmodelled :=
      (getWithVar_unmodelled_iff _ _ _ _).2 parseRef_empty
    simp [interpSpec, interpSeg, this, bind, Except.bind]

/-- the depth budget: process2 at Go depth 999 still evaluates, at 1000 it is ErrCircularRef (model fuel 1 and 0);
    process2String at Go depth 1000 still interpolates, at 1001 it is ErrCircularRef (model fuel 1 and 0) -/
example : process2' msName usNone gfModel nzId yamlModel 2 (.int 1) exDocC [] ⟨[]⟩ 999 = .ok (.int 1, none) := rfl
example : process2' msName usNone gfModel nzId yamlModel 2 (.int 1) exDocC [] ⟨[]⟩ 1000
    = .ok (.null, some Err.circularRef) := rfl
example : process2 (1000 - (999 : Int)).toNat [] exDocC.data [] (.int 1) = .ok (.int 1) := rfl
example : process2 (1000 - (1000 : Int)).toNat [] exDocC.data [] (.int 1) = .error Err.circularRef := rfl
example : process2' msName usNone gfModel nzId yamlModel 4 (.str "$\"x\"") exDocC [] ⟨[]⟩ 999
    = .ok (.str "x", none) := rfl

/-- non-vacuity of T_process2_eq: a nested `$repeat` whose body reads the index -/
def exObj : Val := .list [.map [("$repeat", .int 2), ("i", .str "$repeat")]]
theorem ib_i : interpBody "i" = none := by decide

theorem exObj_model :
    process2 (1000 - (997 : Int)).toNat (([] : List Go.Doc).map (·.data)) exDocC.data [] exObj
      = .ok (.list [.map [("i", .int 0)], .map [("i", .int 1)]]) := by
  show process2 3 _ _ _ _ = _
  simp [exObj, process2_succ, listBodyM, listStepM, repListM, expandM, expandStepM, mapBodyM, entryStepM,
    popListMapValue, fget, fdel, process2String_noninterp _ _ _ _ _ interpBody_repeat,
    process2String_noninterp _ _ _ _ _ ib_i, List.range, List.range.loop, getVar, fset, Val.isNull, bind, Except.bind,
    pure, Except.pure]

example : ∃ N, ∀ fuel, N ≤ fuel →
    process2' msName usNone gfModel nzId yamlModel fuel exObj exDocC [] ⟨[]⟩ 997
      = .ok (.list [.map [("i", .int 0)], .map [("i", .int 1)]], none) :=
  T_process2_eq_ok msName usNone gfModel nzId yamlModel (fun _ => rfl) yamlModel_ok exDocC []
    (by simp) (by decide) (by simp) ⟨[]⟩ exObj 997 _ exObj_model
/-- … and evaluated directly -/
example : process2' msName usNone gfModel nzId yamlModel 7 exObj exDocC [] ⟨[]⟩ 997
    = .ok (.list [.map [("i", .int 0)], .map [("i", .int 1)]], none) := rfl

theorem exString_model :
    process2String (1001 - (1000 : Int)).toNat (([] : List Go.Doc).map (·.data)) exDocC.data [] "$\"{a}\"" = .ok (.str "1") := by
  show process2String (0 + 1) _ _ _ _ = _
  rw [process2String_succ _ _ _ _ _ _ ib_a, segs_a]
  simp [interpSpec, interpSeg, exDocC, getWithVar_simple_key _ _ _ _ _ isPlainRef_a (by decide)
    (show fget [("a", Val.int 1)] "a" = some _ from rfl), bind, Except.bind, pure, Except.pure]
  rfl

theorem exString_fuel : p2sFuel exDocC [] ⟨[]⟩ "$\"{a}\"" 1000 = 10 := by
  have h1 : strNeed "$\"{a}\"" = 4 := by
    simp only [strNeed, ib_a, segs_a, segsNeed]
    have : String.ofList ['a'] = "a" := rfl
    rw [this, exFuel_a]; rfl
  have h2 : valNeed exDocC.data = 0 := rfl
  simp only [p2sFuel, refNeed, getNeed, h1, h2]
  rfl

/-- non-vacuity of T_process2String_eq: a reference into the document, at the last Go depth that still interpolates -/
example : process2String' yamlModel 10 "$\"{a}\"" exDocC [] ⟨[]⟩ 1000 = .ok (.str "1", none) := by
  rw [T_process2String_eq yamlModel yamlModel_ok exDocC [] ⟨[]⟩ (by simp) (by decide) (by simp) _ 1000 10
    (by rw [exString_fuel]; decide) (by rw [exString_model]; simp), exString_model]
  rfl
example : process2String' yamlModel 4 "$\"x\"" exDocC [] ⟨[]⟩ 1000 = .ok (.str "x", none) := rfl
example : process2String' yamlModel 4 "$\"x\"" exDocC [] ⟨[]⟩ 1001 = .ok (.null, some Err.circularRef) := rfl


/-- non-vacuity of T_process2_eq_fuel: the explicit bound on the example is 15 (7 units are what it really takes) -/
theorem exObj_fuel : p2Fuel exDocC [] (1000 - (997 : Int)).toNat 997 ⟨[]⟩ exObj ≤ 15 := by decide +kernel

example : process2' msName usNone gfModel nzId yamlModel 15 exObj exDocC [] ⟨[]⟩ 997
    = .ok (.list [.map [("i", .int 0)], .map [("i", .int 1)]], none) := by
  obtain ⟨q, hq, hn⟩ := T_process2_eq_fuel msName usNone gfModel nzId yamlModel (fun _ => rfl) yamlModel_ok exDocC []
    (by simp) (by decide) (by simp) ⟨[]⟩ exObj 997 15 exObj_fuel (by rw [exObj_model]; simp)
  rw [exObj_model] at hn
  rw [hq, errNorm_ok hn]
example : process2' msName usNone gfModel nzId yamlModel 6 exObj exDocC [] ⟨[]⟩ 997 = .error GErr.fuel := rfl

end Bkl.Gen.Lib
