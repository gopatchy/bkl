/-
  Translation equivalence, util.go (second part), the part that repeat.go's translation rests on: `filterList'` as the
  plain recursion `filterListRecS` (`T_filterList_rec`), stateful filters given by a model step with errors
  (`T_filterList_foldlM`), and `popListMapValue` (`T_popListMapValue_eq`).  The rest of the unit (the other shapes of
  filter, `filterMap`, the other `pop…` functions) is BklProofs/Facts/TransFilter.lean, which imports this file; the
  state-passing translation of function literals is described there.
-/
import Generated.Trans.Filter
import BklProofs.Facts.Sim
namespace Bkl.Gen.Lib
open Bkl Go

/-! ## filterList -/

/-- `filterList` as a plain recursion (`acc` = the Go variable `ret`, `s` = the variables the function literal
    assigns): the per-element results are appended and the state is threaded; the first element whose `filter` returns
    a Go error stops with `(nil, err)` and the state as `filter` left it; a failure of `filter` itself (fuel)
    propagates -/
def filterListRecS {σ : Type} (filter : Val → σ → G ((List Val × Option Err) × σ)) :
    List Val → List Val → σ → G ((List Val × Option Err) × σ)
  | [], acc, s => .ok ((acc, none), s)
  | x :: xs, acc, s =>
    match filter x s with
    | .error ge => .error ge
    | .ok ((l2, none), s') => filterListRecS filter xs (acc ++ l2) s'
    | .ok ((_, some e), s') => .ok (([], some e), s')

theorem filterListRecS_cons_ok {σ : Type} {filter : Val → σ → G ((List Val × Option Err) × σ)} {x : Val} {s s' : σ}
    {l2 : List Val} (h : filter x s = .ok ((l2, none), s')) (xs acc : List Val) :
    filterListRecS filter (x :: xs) acc s = filterListRecS filter xs (acc ++ l2) s' := by
  simp only [filterListRecS, h]

theorem filterListRecS_cons_err {σ : Type} {filter : Val → σ → G ((List Val × Option Err) × σ)} {x : Val} {s s' : σ}
    {l2 : List Val} {e : Err} (h : filter x s = .ok ((l2, some e), s')) (xs acc : List Val) :
    filterListRecS filter (x :: xs) acc s = .ok (([], some e), s') := by
  simp only [filterListRecS, h]

theorem filterListRecS_cons_error {σ : Type} {filter : Val → σ → G ((List Val × Option Err) × σ)} {x : Val} {s : σ}
    {ge : GErr} (h : filter x s = .error ge) (xs acc : List Val) :
    filterListRecS filter (x :: xs) acc s = .error ge := by
  simp only [filterListRecS, h]

theorem filterList_loop {σ : Type} (filter : Val → σ → G ((List Val × Option Err) × σ))
    (body : Val → List Val × σ → G (Loop (List Val × σ) ((List Val × Option Err) × σ)))
    (hbody : ∀ x acc s, body x (acc, s) = (match filter x s with
      | .error ge => .error ge
      | .ok ((l2, err), s') =>
        if err == none then .ok (.next (acc ++ l2, s')) else .ok (.ret (([], err), s'))))
    (l acc : List Val) (s : σ) :
    (match forRange l (acc, s) body with
      | .error ge => .error ge
      | .ok (.inr rr) => .ok rr
      | .ok (.inl (ret, s')) => .ok ((ret, none), s')) = filterListRecS filter l acc s := by
  induction l generalizing acc s with
  | nil => rfl
  | cons x xs ih =>
    have hb := hbody x acc s
    cases h : filter x s with
    | error ge =>
      rw [h] at hb
      rw [forRange_cons_error hb, filterListRecS_cons_error h]
    | ok p =>
      obtain ⟨⟨l2, o⟩, s'⟩ := p
      rw [h] at hb
      cases o with
      | none => rw [forRange_cons_next hb, filterListRecS_cons_ok h]; exact ih _ _
      | some e => rw [forRange_cons_ret hb, filterListRecS_cons_err h]

/-- util.go:filterList, for every `filter` and every initial state: the plain recursion `filterListRecS` from the
    empty list -/
theorem T_filterList_rec {σ : Type} (l : List Val) (filter : Val → σ → G ((List Val × Option Err) × σ)) (st : σ) :
    filterList' l filter st = filterListRecS filter l [] st :=
  filterList_loop filter _ (fun _ _ _ => rfl) l [] st

/-! ### a function literal with a state that implements a model step with errors -/

/-- the step of a model fold over `(state, accumulator)` (the shape of the model's `popListMapValue`) from a per-element
    function that returns the entries to append and the new state -/
def foldStepR {σ : Type} (step : Val → σ → R (List Val × σ)) (p : σ × List Val) (x : Val) : R (σ × List Val) :=
  match step x p.1 with
  | .error e => .error e
  | .ok (r, s') => .ok (s', p.2 ++ r)

theorem filterListRecS_foldlM {σ : Type} (filter : Val → σ → G ((List Val × Option Err) × σ))
    (step : Val → σ → R (List Val × σ)) (l acc : List Val) (s : σ)
    (hok : ∀ x ∈ l, ∀ s r s', step x s = .ok (r, s') → filter x s = .ok ((r, none), s'))
    (herr : ∀ x ∈ l, ∀ s e, step x s = .error e → ∃ j s', filter x s = .ok ((j, some e), s')) :
    ∃ se, filterListRecS filter l acc s = .ok (match l.foldlM (foldStepR step) (s, acc) with
      | .ok (s1, r) => ((r, none), s1)
      | .error e => (([], some e), se)) := by
  induction l generalizing acc s with
  | nil => exact ⟨s, rfl⟩
  | cons x xs ih =>
    rw [List.foldlM_cons]
    cases hg : step x s with
    | error e =>
      obtain ⟨j, s', hj⟩ := herr x List.mem_cons_self s e hg
      exact ⟨s', by rw [filterListRecS_cons_err hj, foldStepR, hg]; rfl⟩
    | ok p =>
      obtain ⟨r, s1⟩ := p
      obtain ⟨se, hse⟩ := ih (acc ++ r) s1 (fun y hy => hok y (List.mem_cons_of_mem _ hy))
        (fun y hy => herr y (List.mem_cons_of_mem _ hy))
      exact ⟨se, by rw [filterListRecS_cons_ok (hok x List.mem_cons_self s r s1 hg), hse, foldStepR, hg]; rfl⟩

/-- util.go:filterList for a stateful `filter` that implements a model step `step : Val → σ → R (List Val × σ)` (Go
    `(l, nil)` and the new state for `.ok (l, s')`, Go `(anything, err)` and any state for `.error err`): the Go pair
    and the state of the model's left fold with errors; after a Go error the state is whatever `filter` left -/
theorem T_filterList_foldlM {σ : Type} (l : List Val) (filter : Val → σ → G ((List Val × Option Err) × σ))
    (step : Val → σ → R (List Val × σ)) (st : σ)
    (hok : ∀ x ∈ l, ∀ s r s', step x s = .ok (r, s') → filter x s = .ok ((r, none), s'))
    (herr : ∀ x ∈ l, ∀ s e, step x s = .error e → ∃ j s', filter x s = .ok ((j, some e), s')) :
    ∃ se, filterList' l filter st = .ok (match l.foldlM (foldStepR step) (st, []) with
      | .ok (s1, r) => ((r, none), s1)
      | .error e => (([], some e), se)) := by
  rw [T_filterList_rec]
  exact filterListRecS_foldlM filter step l [] st hok herr

/-- … when the model fold succeeds -/
theorem T_filterList_foldlM_ok {σ : Type} (l : List Val) (filter : Val → σ → G ((List Val × Option Err) × σ))
    (step : Val → σ → R (List Val × σ)) (st s1 : σ) (r : List Val)
    (hok : ∀ x ∈ l, ∀ s r s', step x s = .ok (r, s') → filter x s = .ok ((r, none), s'))
    (herr : ∀ x ∈ l, ∀ s e, step x s = .error e → ∃ j s', filter x s = .ok ((j, some e), s'))
    (h : l.foldlM (foldStepR step) (st, []) = .ok (s1, r)) :
    filterList' l filter st = .ok ((r, none), s1) := by
  obtain ⟨se, hse⟩ := T_filterList_foldlM l filter step st hok herr
  rw [hse, h]

/-- … when the model fold fails -/
theorem T_filterList_foldlM_err {σ : Type} (l : List Val) (filter : Val → σ → G ((List Val × Option Err) × σ))
    (step : Val → σ → R (List Val × σ)) (st : σ) (e : Err)
    (hok : ∀ x ∈ l, ∀ s r s', step x s = .ok (r, s') → filter x s = .ok ((r, none), s'))
    (herr : ∀ x ∈ l, ∀ s e, step x s = .error e → ∃ j s', filter x s = .ok ((j, some e), s'))
    (h : l.foldlM (foldStepR step) (st, []) = .error e) :
    ∃ se, filterList' l filter st = .ok (([], some e), se) := by
  obtain ⟨se, hse⟩ := T_filterList_foldlM l filter step st hok herr
  exact ⟨se, by rw [hse, h]⟩

/-- Go's results of a model step run in state `s`: `(l, nil)` and the new state, or `(nil, err)` and the state as it
    was -/
def stepRes {σ : Type} (s : σ) : R (List Val × σ) → (List Val × Option Err) × σ
  | .ok (r, s') => ((r, none), s')
  | .error e => (([], some e), s)

/-- … in particular when `filter` returns Go's results of `step`; for use on a hypothesis
    `filterList' l filter st = res` (the filter need not be written out) -/
theorem filterList_foldlM_of_eq {σ : Type} {l : List Val} {filter : Val → σ → G ((List Val × Option Err) × σ)} {st : σ}
    {res : G ((List Val × Option Err) × σ)} (hR : filterList' l filter st = res) (step : Val → σ → R (List Val × σ))
    (h : ∀ x ∈ l, ∀ s, filter x s = .ok (stepRes s (step x s))) :
    ∃ se, res = .ok (match l.foldlM (foldStepR step) (st, []) with
      | .ok (s1, r) => ((r, none), s1)
      | .error e => (([], some e), se)) :=
  hR ▸ T_filterList_foldlM l filter step st (fun x hx s r s' hr => by rw [h x hx, hr]; rfl)
    (fun x hx s e he => ⟨[], s, by rw [h x hx, he]; rfl⟩)

/-! ## popListMapValue -/

/-- what one list entry does in `popListMapValue` when the value found so far is `ret`: a single-key map `{k: val}` is
    dropped and `val` becomes the value — an error if a non-null value was found before —, every other entry is kept -/
def popValueEntry (k : String) : Val → Val → R (List Val × Val)
  | .map m, ret =>
    if m.length != 1 then .ok ([.map m], ret)
    else match fget m k with
      | some val => if !ret.isNull then .error Err.extraKeys else .ok ([], val)
      | none => .ok ([.map m], ret)
  | x, ret => .ok ([x], ret)

theorem popListMapValue_eq_foldStepR (l : List Val) (k : String) :
    popListMapValue l k = l.foldlM (foldStepR (popValueEntry k)) (Val.null, []) := by
  rw [popListMapValue_eq_fold]
  congr 1
  funext p x
  cases x with
  | map m =>
    simp only [foldStepR, popValueEntry, popHit]
    cases m.length != 1
    · cases fget m k with
      | none => rfl
      | some val => cases p.1.isNull <;> simp
    · rfl
  | _ => rfl

theorem ne_null_eq_not_isNull (v : Val) : (v != Val.null) = !v.isNull := by
  cases v <;> rfl

theorem beq_null_eq_isNull (v : Val) : (v == Val.null) = v.isNull :=
  Go.beq_null_eq_isNull v

/-- util.go:popListMapValue is the model's `popListMapValue`: `(value, rest, nil)`, or `(nil, nil, err)` -/
theorem T_popListMapValue_eq (l : List Val) (k : String) :
    popListMapValue' l k = .ok (match popListMapValue l k with
      | .ok (v, rest) => (v, rest, none)
      | .error e => (.null, [], some e)) := by
  unfold popListMapValue'
  simp only []
  generalize hR : filterList' l _ Val.null = res
  refine Exists.elim (filterList_foldlM_of_eq hR (popValueEntry k) (fun x _ s => ?_)) ?_
  · cases x with
    | map m =>
      cases h1 : m.length == 1
      · simp only [asMap, if_true, int_ofNat_beq_one, popValueEntry, bne, h1, Bool.not_false, Bool.false_eq_true,
          if_false]
        rfl
      · cases h2 : fget m k with
        | none =>
          simp only [asMap, if_true, popMapValue_eq_match, int_ofNat_beq_one, popValueEntry, bne, h1, h2,
            Bool.not_true, Bool.false_eq_true, if_false]
          rfl
        | some val =>
          cases h3 : s.isNull <;>
            simp only [asMap, if_true, popMapValue_eq_match, beq_null_eq_isNull, int_ofNat_beq_one, popValueEntry,
              bne, h1, h2, h3, Bool.not_true, Bool.not_false, Bool.false_eq_true, if_false] <;> rfl
    | _ => rfl
  · rintro se rfl
    rw [popListMapValue_eq_foldStepR]
    cases List.foldlM (foldStepR (popValueEntry k)) (Val.null, []) l <;> rfl

example : popListMapValue' [.str "a", .map [("$k", .str "v")], .map [("x", .null)]] "$k"
    = .ok (.str "v", [.str "a", .map [("x", .null)]], none) := by rw [T_popListMapValue_eq]; rfl
example : popListMapValue' [.map [("$k", .str "v")], .map [("$k", .str "w")]] "$k"
    = .ok (.null, [], some Err.extraKeys) := by rw [T_popListMapValue_eq]; rfl
/-- Go uses `ret != nil` as "already found": after a first value `null` a second marker entry is accepted -/
example : popListMapValue' [.map [("$k", .null)], .map [("$k", .str "w")]] "$k"
    = .ok (.str "w", [], none) := by rw [T_popListMapValue_eq]; rfl
/-- a marker entry with other keys is not a marker entry -/
example : popListMapValue' [.map [("$k", .str "v"), ("x", .null)]] "$k"
    = .ok (.null, [.map [("$k", .str "v"), ("x", .null)]], none) := by rfl

end Bkl.Gen.Lib
