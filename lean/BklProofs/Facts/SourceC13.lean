/-
  Source-level laws for the phase-2 evaluator (process2.go): property theorems of the model (C13 interpolation and
  `$env`, C12 nested `$repeat`, C06 plain data) composed with the translation-equivalence theorems of
  TransProcess2String / TransProcess2, i.e. stated directly about the Lean functions generated from the CURRENT Go
  source (Generated/Trans/Process2.lean): `process2String'` and `process2'`.  Corollaries only.

  Conventions (see TransProcess2.lean): `ms us gf nz yu` are the third-party parameters of the translated functions
  (Format.MarshalStream, Format.UnmarshalStream, bkl.GetFormat, normalize, yaml.Unmarshal); only `GetFormatSpec gf` and
  `ParseOK yu` are assumed.  `mf` = the referencing document (`mergeFrom`), `docs` = the stream (`mergeFromDocs`), all
  non-nil and well-formed; `ec : Go.Ctx` = the evaluation context, `ec.vars` its variables.  `d : Int` is Go's `depth`
  argument: process2 at Go depth `d` is the model with fuel `1000 - d`, process2String with fuel `1001 - d`.
  For `process2'` the laws hold for all translator fuel above a bound that exists (`∃ N, ∀ fuel ≥ N`); for
  `process2String'` the bound is the explicit `p2sFuel`.
-/
import BklProofs.C12
import BklProofs.C13
import BklProofs.Facts.TransProcess2
import BklProofs.Facts.SourceC06
namespace Bkl.Gen
open Bkl Go

/-! # C13 — interpolation and `$env`, on `process2String'` / `process2'` -/

section
variable (yu : String → Val × Option Err)

theorem sc13_process2String_of_model_ok (hyu : Lib.ParseOK yu) (mf : Go.Doc) (docs : List Go.Doc) (ec : Go.Ctx)
    (hnil : ∀ d ∈ docs, d.isNil = false) (hwf : Val.WF mf.data) (hwfs : ∀ d ∈ docs, Val.WF d.data)
    (s : String) (d : Int) (fuel : Nat) (hf : Lib.p2sFuel mf docs ec s d ≤ fuel) (v : Val)
    (h : process2String (1001 - d).toNat (docs.map (·.data)) mf.data ec.vars s = .ok v) :
    Lib.process2String' yu fuel s mf docs ec d = .ok (v, none) := by
  rw [Lib.T_process2String_eq yu hyu mf docs ec hnil hwf hwfs s d fuel hf (by rw [h]; intro h'; cases h'), h]
  rfl

theorem sc13_process2String_of_model_error (hyu : Lib.ParseOK yu) (mf : Go.Doc) (docs : List Go.Doc) (ec : Go.Ctx)
    (hnil : ∀ d ∈ docs, d.isNil = false) (hwf : Val.WF mf.data) (hwfs : ∀ d ∈ docs, Val.WF d.data)
    (s : String) (d : Int) (fuel : Nat) (hf : Lib.p2sFuel mf docs ec s d ≤ fuel) (e : Err)
    (he : e ≠ Err.unmodelled)
    (h : process2String (1001 - d).toNat (docs.map (·.data)) mf.data ec.vars s = .error e) :
    Lib.process2String' yu fuel s mf docs ec d = .ok (.null, some e) := by
  rw [Lib.T_process2String_eq yu hyu mf docs ec hnil hwf hwfs s d fuel hf
    (by rw [h]; intro h'; cases h'; exact he rfl), h]
  rfl

/-- **`$env:NAME` set** (`C13_env_bound`): a whole-string `$env:NAME` evaluates to exactly the value bound to the
    variable, no error — at every Go depth (a `$env:` string is never handed to process2StringInterp) -/
theorem S_C13_env_bound (hyu : Lib.ParseOK yu) (mf : Go.Doc) (docs : List Go.Doc) (ec : Go.Ctx)
    (hnil : ∀ d ∈ docs, d.isNil = false) (hwf : Val.WF mf.data) (hwfs : ∀ d ∈ docs, Val.WF d.data)
    (name : String) (v : Val) (d : Int) (fuel : Nat)
    (hf : Lib.p2sFuel mf docs ec ("$env:" ++ name) d ≤ fuel)
    (h : fget ec.vars ("$env:" ++ name) = some v) :
    Lib.process2String' yu fuel ("$env:" ++ name) mf docs ec d = .ok (v, none) :=
  sc13_process2String_of_model_ok yu hyu mf docs ec hnil hwf hwfs _ d fuel hf v
    (C13_env_bound _ _ _ _ name v h)

/-- **`$env:NAME` unset** (`C13_env_unbound`): `(nil, ErrVariableNotFound)` — never an empty string -/
theorem S_C13_env_unbound (hyu : Lib.ParseOK yu) (mf : Go.Doc) (docs : List Go.Doc) (ec : Go.Ctx)
    (hnil : ∀ d ∈ docs, d.isNil = false) (hwf : Val.WF mf.data) (hwfs : ∀ d ∈ docs, Val.WF d.data)
    (name : String) (d : Int) (fuel : Nat)
    (hf : Lib.p2sFuel mf docs ec ("$env:" ++ name) d ≤ fuel)
    (h : fget ec.vars ("$env:" ++ name) = none) :
    Lib.process2String' yu fuel ("$env:" ++ name) mf docs ec d = .ok (.null, some Err.variableNotFound) :=
  sc13_process2String_of_model_error yu hyu mf docs ec hnil hwf hwfs _ d fuel hf _ (by decide)
    (C13_env_unbound _ _ _ _ name h)

/-- **`$env:NAME` is a string or an error** (`C13_env_is_string`): in a well-formed environment (`envWF`: every
    `$env:` variable is bound to a string, as evalcontext.go builds it) the translated process2String returns a string
    and no error, or `(nil, ErrVariableNotFound)` -/
theorem S_C13_env_is_string (hyu : Lib.ParseOK yu) (mf : Go.Doc) (docs : List Go.Doc) (ec : Go.Ctx)
    (hnil : ∀ d ∈ docs, d.isNil = false) (hwf : Val.WF mf.data) (hwfs : ∀ d ∈ docs, Val.WF d.data)
    (name : String) (d : Int) (fuel : Nat)
    (hf : Lib.p2sFuel mf docs ec ("$env:" ++ name) d ≤ fuel) (henv : envWF ec.vars) :
    (∃ s, Lib.process2String' yu fuel ("$env:" ++ name) mf docs ec d = .ok (.str s, none)) ∨
    Lib.process2String' yu fuel ("$env:" ++ name) mf docs ec d = .ok (.null, some Err.variableNotFound) := by
  rcases C13_env_is_string (1001 - d).toNat (docs.map (·.data)) mf.data ec.vars name henv with ⟨s, hs⟩ | hn
  · exact .inl ⟨s, sc13_process2String_of_model_ok yu hyu mf docs ec hnil hwf hwfs _ d fuel hf _ hs⟩
  · exact .inr (sc13_process2String_of_model_error yu hyu mf docs ec hnil hwf hwfs _ d fuel hf _ (by decide) hn)

/-- **the value of the environment entry, verbatim** (`C13_env_value_keeps_equals`): with the variables built from
    `os.Environ() = [name=value]` (`envOfEnviron`), `$env:name` evaluates to the string `value` exactly — further
    `=` signs stay, nothing is parsed -/
theorem S_C13_env_value_verbatim (hyu : Lib.ParseOK yu) (mf : Go.Doc) (docs : List Go.Doc)
    (hnil : ∀ d ∈ docs, d.isNil = false) (hwf : Val.WF mf.data) (hwfs : ∀ d ∈ docs, Val.WF d.data)
    (name value : String) (hn : '=' ∉ name.toList) (d : Int) (fuel : Nat)
    (hf : Lib.p2sFuel mf docs ⟨envOfEnviron [name ++ "=" ++ value]⟩ ("$env:" ++ name) d ≤ fuel) :
    Lib.process2String' yu fuel ("$env:" ++ name) mf docs ⟨envOfEnviron [name ++ "=" ++ value]⟩ d
      = .ok (.str value, none) :=
  sc13_process2String_of_model_ok yu hyu mf docs _ hnil hwf hwfs _ d fuel hf _
    ((C13_env_value_keeps_equals name value hn).2.2 _ _ _)

/-- **strings that are left alone** (`C13_plain_string_untouched`): not of the form `$"…"`, not `$env:…`, not
    `$repeat` -/
theorem S_C13_plain_string_untouched (hyu : Lib.ParseOK yu) (mf : Go.Doc) (docs : List Go.Doc) (ec : Go.Ctx)
    (hnil : ∀ d ∈ docs, d.isNil = false) (hwf : Val.WF mf.data) (hwfs : ∀ d ∈ docs, Val.WF d.data)
    (s : String) (d : Int) (fuel : Nat) (hf : Lib.p2sFuel mf docs ec s d ≤ fuel)
    (h1 : interpBody s = none) (h2 : s.startsWith "$env:" = false) (h3 : s ≠ "$repeat") :
    Lib.process2String' yu fuel s mf docs ec d = .ok (.str s, none) :=
  sc13_process2String_of_model_ok yu hyu mf docs ec hnil hwf hwfs _ d fuel hf _
    (C13_plain_string_untouched _ _ _ _ s h1 h2 h3)

theorem sc13_fuel_succ_of_le {d : Int} (hd : d ≤ 1000) : (1001 - d).toNat = (1000 - d).toNat + 1 := by omega

/-- **interpolation is the explicit specification** (`C13_interp_spec`): on `$"body"`, at a Go depth that still
    interpolates (`d ≤ 1000`), the translated process2String returns `interpSpec` on the scanned body — each literal
    copied, each `{r}` replaced by `%v` of the referenced value (after one more pass at depth `d + 1` when that is a
    string), concatenated; an error of the specification is returned as `(nil, error)` -/
theorem S_C13_interp_spec (hyu : Lib.ParseOK yu) (mf : Go.Doc) (docs : List Go.Doc) (ec : Go.Ctx)
    (hnil : ∀ d ∈ docs, d.isNil = false) (hwf : Val.WF mf.data) (hwfs : ∀ d ∈ docs, Val.WF d.data)
    (s : String) (body : List Char) (hb : interpBody s = some body) (d : Int) (hd : d ≤ 1000) (fuel : Nat)
    (hf : Lib.p2sFuel mf docs ec s d ≤ fuel)
    (hmod : interpSpec (1000 - d).toNat (docs.map (·.data)) mf.data ec.vars (interpSegs body)
      ≠ .error Err.unmodelled) :
    Lib.process2String' yu fuel s mf docs ec d =
      .ok (Lib.valRes (interpSpec (1000 - d).toNat (docs.map (·.data)) mf.data ec.vars (interpSegs body))) := by
  have hm := C13_interp_spec (1000 - d).toNat (docs.map (·.data)) mf.data ec.vars s body hb
  rw [← sc13_fuel_succ_of_le hd] at hm
  rw [Lib.T_process2String_eq yu hyu mf docs ec hnil hwf hwfs s d fuel hf (by rw [hm]; exact hmod), hm]

/-- **a template evaluates to the concatenation** (`C13_nested_value`): when every reference `{r}` of the template
    resolves (`getWithVar`) to a value `v` that is either not a string (then `ev r = v`, formatted as it is) or a
    string whose own evaluation one level deeper gives `ev r`, the translated process2String returns, with no error,
    the literals and the `%v` texts of the `ev r` concatenated in order — character for character -/
theorem S_C13_nested_value (hyu : Lib.ParseOK yu) (mf : Go.Doc) (docs : List Go.Doc) (ec : Go.Ctx)
    (hnil : ∀ d ∈ docs, d.isNil = false) (hwf : Val.WF mf.data) (hwfs : ∀ d ∈ docs, Val.WF d.data)
    (s : String) (body : List Char) (hb : interpBody s = some body) (d : Int) (hd : d ≤ 1000) (fuel : Nat)
    (hf : Lib.p2sFuel mf docs ec s d ≤ fuel) (ev : List Char → Val)
    (h : ∀ r, Seg.ref r ∈ interpSegs body →
      ∃ v, getWithVar mf.data (docs.map (·.data)) ec.vars (String.ofList r) = .ok v ∧
        (((∀ s2, v ≠ .str s2) ∧ ev r = v) ∨
          ∃ s2, v = .str s2 ∧
            process2String (1000 - d).toNat (docs.map (·.data)) mf.data ec.vars s2 = .ok (ev r))) :
    Lib.process2String' yu fuel s mf docs ec d =
      .ok (.str (String.join ((interpSegs body).map (cx_substSeg ev))), none) ∧
    (String.join ((interpSegs body).map (cx_substSeg ev))).toList =
      (interpSegs body).flatMap (substSegChars ev) := by
  obtain ⟨h1, h2⟩ := C13_nested_value (1000 - d).toNat (docs.map (·.data)) mf.data ec.vars s body hb ev h
  rw [← sc13_fuel_succ_of_le hd] at h1
  exact ⟨sc13_process2String_of_model_ok yu hyu mf docs ec hnil hwf hwfs _ d fuel hf _ h1, h2⟩

/-- **substituted text is not rescanned** (`C13_no_rescan`): when every reference resolves to a string `sv r` that is
    not itself a directive string (`inertStr`; otherwise arbitrary — braces, `{b}`, quotes …), the result is exactly
    the literals and the `sv r` in order -/
theorem S_C13_no_rescan (hyu : Lib.ParseOK yu) (mf : Go.Doc) (docs : List Go.Doc) (ec : Go.Ctx)
    (hnil : ∀ d ∈ docs, d.isNil = false) (hwf : Val.WF mf.data) (hwfs : ∀ d ∈ docs, Val.WF d.data)
    (s : String) (body : List Char) (hb : interpBody s = some body) (d : Int) (hd : d ≤ 1000) (fuel : Nat)
    (hf : Lib.p2sFuel mf docs ec s d ≤ fuel) (sv : List Char → String)
    (h : ∀ r, Seg.ref r ∈ interpSegs body →
      getWithVar mf.data (docs.map (·.data)) ec.vars (String.ofList r) = .ok (.str (sv r)) ∧ inertStr (sv r)) :
    ∃ t, Lib.process2String' yu fuel s mf docs ec d = .ok (.str t, none) ∧
      t.toList = (interpSegs body).flatMap (substStrChars sv) := by
  obtain ⟨t, h1, h2⟩ := C13_no_rescan (1000 - d).toNat (docs.map (·.data)) mf.data ec.vars s body hb sv h
  rw [← sc13_fuel_succ_of_le hd] at h1
  exact ⟨t, sc13_process2String_of_model_ok yu hyu mf docs ec hnil hwf hwfs _ d fuel hf _ h1, h2⟩

/-- **a missing reference is an error, never an empty substitution** (`C13_missing_is_error`): if some reference of
    the template cannot be resolved, the translated process2String returns `nil` and an error (no string at all);
    `hmod`: the model does not stop at a reference outside the sub-language it reads -/
theorem S_C13_missing_is_error (hyu : Lib.ParseOK yu) (mf : Go.Doc) (docs : List Go.Doc) (ec : Go.Ctx)
    (hnil : ∀ d ∈ docs, d.isNil = false) (hwf : Val.WF mf.data) (hwfs : ∀ d ∈ docs, Val.WF d.data)
    (s : String) (body : List Char) (hb : interpBody s = some body) (d : Int) (hd : d ≤ 1000) (fuel : Nat)
    (hf : Lib.p2sFuel mf docs ec s d ≤ fuel) (r : List Char) (e : Err)
    (hr : Seg.ref r ∈ interpSegs body)
    (he : getWithVar mf.data (docs.map (·.data)) ec.vars (String.ofList r) = .error e)
    (hmod : process2String (1001 - d).toNat (docs.map (·.data)) mf.data ec.vars s ≠ .error Err.unmodelled) :
    ∃ e', Lib.process2String' yu fuel s mf docs ec d = .ok (.null, some e') := by
  obtain ⟨e', h⟩ := C13_missing_is_error (1000 - d).toNat (docs.map (·.data)) mf.data ec.vars s body hb r e hr he
  rw [← sc13_fuel_succ_of_le hd] at h
  exact ⟨e', sc13_process2String_of_model_error yu hyu mf docs ec hnil hwf hwfs _ d fuel hf e'
    (fun hu => hmod (by rw [h, hu])) h⟩

/-- … and for a template whose ONLY segment is the unresolvable reference `{r}` (readable, `parseRef r ≠ none`) the
    error is ErrVariableNotFound (`C13_getWithVar_error`) -/
theorem S_C13_missing_single (hyu : Lib.ParseOK yu) (mf : Go.Doc) (docs : List Go.Doc) (ec : Go.Ctx)
    (hnil : ∀ d ∈ docs, d.isNil = false) (hwf : Val.WF mf.data) (hwfs : ∀ d ∈ docs, Val.WF d.data)
    (s : String) (body : List Char) (hb : interpBody s = some body) (d : Int) (hd : d ≤ 1000) (fuel : Nat)
    (hf : Lib.p2sFuel mf docs ec s d ≤ fuel) (r : List Char) (e : Err)
    (hsegs : interpSegs body = [Seg.ref r]) (hu : e ≠ Err.unmodelled)
    (he : getWithVar mf.data (docs.map (·.data)) ec.vars (String.ofList r) = .error e) :
    Lib.process2String' yu fuel s mf docs ec d = .ok (.null, some Err.variableNotFound) := by
  obtain ⟨_, _, rfl⟩ := C13_getWithVar_error _ _ _ _ e he hu
  have hm := C13_interp_spec (1000 - d).toNat (docs.map (·.data)) mf.data ec.vars s body hb
  rw [← sc13_fuel_succ_of_le hd, hsegs] at hm
  have : interpSpec (1000 - d).toNat (docs.map (·.data)) mf.data ec.vars [Seg.ref r]
      = .error Err.variableNotFound := by
    simp [interpSpec, interpSeg, he, R_pure, R_bind_error]
  rw [this] at hm
  exact sc13_process2String_of_model_error yu hyu mf docs ec hnil hwf hwfs _ d fuel hf _ (by decide) hm

/-- **past the depth budget** (`C13_interp_no_fuel`): at Go depth `d > 1000` an interpolation string is
    `(nil, ErrCircularRef)` — it is never returned unevaluated -/
theorem S_C13_interp_no_fuel (hyu : Lib.ParseOK yu) (mf : Go.Doc) (docs : List Go.Doc) (ec : Go.Ctx)
    (hnil : ∀ d ∈ docs, d.isNil = false) (hwf : Val.WF mf.data) (hwfs : ∀ d ∈ docs, Val.WF d.data)
    (s : String) (body : List Char) (hb : interpBody s = some body) (d : Int) (hd : 1000 < d) (fuel : Nat)
    (hf : Lib.p2sFuel mf docs ec s d ≤ fuel) :
    Lib.process2String' yu fuel s mf docs ec d = .ok (.null, some Err.circularRef) := by
  have h0 : (1001 - d).toNat = 0 := by omega
  have hm := C13_interp_no_fuel (docs.map (·.data)) mf.data ec.vars s body hb
  rw [← h0] at hm
  exact sc13_process2String_of_model_error yu hyu mf docs ec hnil hwf hwfs _ d fuel hf _ (by decide) hm

end

/-! ## non-vacuity (C13) -/

/-- `S_C13_env_bound` / `S_C13_env_unbound` with a concrete YAML reader, document and context -/
example : Lib.process2String' Lib.yamlModel
      (Lib.p2sFuel Lib.exDocC [] ⟨[("$env:HOME", .str "/root")]⟩ ("$env:" ++ "HOME") 0) ("$env:" ++ "HOME")
      Lib.exDocC [] ⟨[("$env:HOME", .str "/root")]⟩ 0 = .ok (.str "/root", none) :=
  S_C13_env_bound Lib.yamlModel Lib.yamlModel_ok Lib.exDocC [] _ (by simp) (by decide) (by simp)
    "HOME" _ 0 _ (Nat.le_refl _) (by decide)

example : Lib.process2String' Lib.yamlModel
      (Lib.p2sFuel Lib.exDocC [] ⟨[("$env:HOME", .str "/root")]⟩ ("$env:" ++ "USER") 0) ("$env:" ++ "USER")
      Lib.exDocC [] ⟨[("$env:HOME", .str "/root")]⟩ 0 = .ok (.null, some Err.variableNotFound) :=
  S_C13_env_unbound Lib.yamlModel Lib.yamlModel_ok Lib.exDocC [] _ (by simp) (by decide) (by simp)
    "USER" 0 _ (Nat.le_refl _) (by decide)

/-- `S_C13_nested_value` on the template `$"x={a}!"` in the document `{a: 1}` -/
example : Lib.process2String' Lib.yamlModel (Lib.p2sFuel Lib.exDocC [] ⟨[]⟩ "$\"x={a}!\"" 3) "$\"x={a}!\""
      Lib.exDocC [] ⟨[]⟩ 3 = .ok (.str "x=1!", none) := by
  have hsegs : interpSegs "x={a}!".toList = [.lit "x=".toList, .ref "a".toList, .lit "!".toList] := by decide +kernel
  obtain ⟨h1, -⟩ := S_C13_nested_value Lib.yamlModel Lib.yamlModel_ok Lib.exDocC [] ⟨[]⟩ (by simp) (by decide +kernel)
    (by simp) "$\"x={a}!\"" "x={a}!".toList (by decide +kernel) 3 (by decide +kernel) _ (Nat.le_refl _) (fun _ => .int 1)
    (by
      rw [hsegs]
      intro r hr
      simp only [List.mem_cons, Seg.ref.injEq, List.mem_nil_iff, or_false, reduceCtorEq, false_or] at hr
      subst hr
      exact ⟨.int 1, C13_ref_simple_key _ _ _ _ _ (by simpa using isPlainRef_a) (by decide +kernel) (by decide +kernel),
        .inl ⟨fun _ h => (by cases h), rfl⟩⟩)
  rw [h1, hsegs]
  exact congrArg Except.ok (congrArg (fun s => (Val.str s, (none : Option Err))) (by decide +kernel))

/-- `S_C13_missing_single`: `$"{b}"` in the document `{a: 1}` with no variables -/
example : Lib.process2String' Lib.yamlModel (Lib.p2sFuel Lib.exDocC [] ⟨[]⟩ "$\"{b}\"" 3) "$\"{b}\""
      Lib.exDocC [] ⟨[]⟩ 3 = .ok (.null, some Err.variableNotFound) := by
  refine S_C13_missing_single Lib.yamlModel Lib.yamlModel_ok Lib.exDocC [] ⟨[]⟩ (by simp) (by decide)
    (by simp) "$\"{b}\"" "{b}".toList (by decide) 3 (by decide) _ (Nat.le_refl _) "b".toList .variableNotFound
    (by decide) (by decide) ?_
  have := C13_ref_simple_key_missing [("a", Val.int 1)] [] [] "b" (by decide +kernel) (by decide) (by decide)
  simpa [Lib.exDocC, getVar, fget, R_throw] using this

/-! # the same on `process2'`, and C12 (nested `$repeat`), C06 (plain data) -/

section
variable (ms : Go.Opaque → List Val → String × Option Err) (us : Go.Opaque → String → List Val × Option Err)
  (gf : String → Go.Opaque × Option Err) (nz : Val → Val × Option Err) (yu : String → Val × Option Err)

theorem sc13_process2_model_of_source (hGF : Lib.GetFormatSpec gf) (hyu : Lib.ParseOK yu) (mf : Go.Doc)
    (docs : List Go.Doc) (hnil : ∀ d ∈ docs, d.isNil = false) (hwf : Val.WF mf.data)
    (hwfs : ∀ d ∈ docs, Val.WF d.data) (ec : Go.Ctx) (obj : Val) (d : Int) (v : Val)
    (hmod : process2 (1000 - d).toNat (docs.map (·.data)) mf.data ec.vars obj ≠ .error Err.unmodelled)
    (hsrc : ∃ N, ∀ fuel, N ≤ fuel → Lib.process2' ms us gf nz yu fuel obj mf docs ec d = .ok (v, none)) :
    process2 (1000 - d).toNat (docs.map (·.data)) mf.data ec.vars obj = .ok v := by
  obtain ⟨N, hN⟩ := Lib.T_process2_eq ms us gf nz yu hGF hyu mf docs hnil hwf hwfs ec obj d hmod
  obtain ⟨N', hN'⟩ := hsrc
  obtain ⟨q, hq, hn⟩ := hN (max N N') (Nat.le_max_left _ _)
  rw [hN' (max N N') (Nat.le_max_right _ _)] at hq
  cases hq
  cases hm : process2 (1000 - d).toNat (docs.map (·.data)) mf.data ec.vars obj with
  | ok w =>
    rw [hm] at hn
    simp only [Lib.errNorm, Lib.valRes_ok] at hn
    simp at hn
    rw [hn]
  | error e =>
    rw [hm] at hn
    simp [Lib.errNorm] at hn

theorem sc13_p2fuel_succ_of_lt {d : Int} (hd : d < 1000) : (1000 - d).toNat = (1000 - (d + 1)).toNat + 1 := by omega

/-- **`$env:NAME` set, through process2** on the string value `.str "$env:NAME"` (`C13_env_bound`) -/
theorem S_C13_env_bound_process2 (hGF : Lib.GetFormatSpec gf) (hyu : Lib.ParseOK yu) (mf : Go.Doc)
    (docs : List Go.Doc) (hnil : ∀ d ∈ docs, d.isNil = false) (hwf : Val.WF mf.data)
    (hwfs : ∀ d ∈ docs, Val.WF d.data) (ec : Go.Ctx) (name : String) (v : Val) (d : Int) (hd : d < 1000)
    (h : fget ec.vars ("$env:" ++ name) = some v) :
    ∃ N, ∀ fuel, N ≤ fuel →
      Lib.process2' ms us gf nz yu fuel (.str ("$env:" ++ name)) mf docs ec d = .ok (v, none) := by
  apply Lib.T_process2_eq_ok ms us gf nz yu hGF hyu mf docs hnil hwf hwfs ec _ d v
  rw [sc13_p2fuel_succ_of_lt hd, process2_str_eq]
  exact C13_env_bound _ _ _ _ name v h

/-- **`$env:NAME` unset, through process2**: the error ErrVariableNotFound (`C13_env_unbound`) -/
theorem S_C13_env_unbound_process2 (hGF : Lib.GetFormatSpec gf) (hyu : Lib.ParseOK yu) (mf : Go.Doc)
    (docs : List Go.Doc) (hnil : ∀ d ∈ docs, d.isNil = false) (hwf : Val.WF mf.data)
    (hwfs : ∀ d ∈ docs, Val.WF d.data) (ec : Go.Ctx) (name : String) (d : Int) (hd : d < 1000)
    (h : fget ec.vars ("$env:" ++ name) = none) :
    ∃ N, ∀ fuel, N ≤ fuel → ∃ x,
      Lib.process2' ms us gf nz yu fuel (.str ("$env:" ++ name)) mf docs ec d
        = .ok (x, some Err.variableNotFound) := by
  apply Lib.T_process2_eq_error ms us gf nz yu hGF hyu mf docs hnil hwf hwfs ec _ d _ (by decide)
  rw [sc13_p2fuel_succ_of_lt hd, process2_str_eq]
  exact C13_env_unbound _ _ _ _ name h

/-- **`$env:NAME` as a map key** (`C13_env_in_key`): `{"$env:NAME": v}` with `v` a boolean or a number, at a Go depth
    with two levels left: the key is replaced by the variable's value when that is a string; bound to a non-string
    it is ErrInvalidType; unbound, ErrVariableNotFound -/
theorem S_C13_env_in_key (hGF : Lib.GetFormatSpec gf) (hyu : Lib.ParseOK yu) (mf : Go.Doc)
    (docs : List Go.Doc) (hnil : ∀ d ∈ docs, d.isNil = false) (hwf : Val.WF mf.data)
    (hwfs : ∀ d ∈ docs, Val.WF d.data) (ec : Go.Ctx) (name : String) (v : Val)
    (hv : (∃ b, v = .bool b) ∨ (∃ i, v = .int i) ∨ (∃ r, v = .flt r)) (d : Int) (hd : d ≤ 998) :
    (∀ k2, fget ec.vars ("$env:" ++ name) = some (.str k2) → ∃ N, ∀ fuel, N ≤ fuel →
      Lib.process2' ms us gf nz yu fuel (.map [("$env:" ++ name, v)]) mf docs ec d
        = .ok (.map [(k2, v)], none)) ∧
    (∀ w, fget ec.vars ("$env:" ++ name) = some w → (∀ k2, w ≠ .str k2) → ∃ N, ∀ fuel, N ≤ fuel → ∃ x,
      Lib.process2' ms us gf nz yu fuel (.map [("$env:" ++ name, v)]) mf docs ec d
        = .ok (x, some Err.invalidType)) ∧
    (fget ec.vars ("$env:" ++ name) = none → ∃ N, ∀ fuel, N ≤ fuel → ∃ x,
      Lib.process2' ms us gf nz yu fuel (.map [("$env:" ++ name, v)]) mf docs ec d
        = .ok (x, some Err.variableNotFound)) := by
  have hF : (1000 - d).toNat = (998 - d).toNat + 2 := by omega
  have hm := C13_env_in_key (998 - d).toNat (docs.map (·.data)) mf.data ec.vars name v hv
  rw [← hF] at hm
  refine ⟨fun k2 h => ?_, fun w h hw => ?_, fun h => ?_⟩
  · rw [h] at hm
    exact Lib.T_process2_eq_ok ms us gf nz yu hGF hyu mf docs hnil hwf hwfs ec _ d _ hm
  · rw [h] at hm
    refine Lib.T_process2_eq_error ms us gf nz yu hGF hyu mf docs hnil hwf hwfs ec _ d _ (by decide) ?_
    rw [hm]
    cases w <;> first | rfl | exact absurd rfl (hw _)
  · rw [h] at hm
    exact Lib.T_process2_eq_error ms us gf nz yu hGF hyu mf docs hnil hwf hwfs ec _ d _ (by decide) hm

/-! ## C12 — `$repeat` nested in a list / in a map, on `process2'` -/

/-- **nested `$repeat` in a list** (`C12_list_nested_exact`): the list `[{$repeat: n, …body}]` at Go depth `d`
    evaluates to exactly `n` entries, in index order: the `i`-th is the body (the map without its `$repeat` key)
    evaluated one level deeper with `$repeat` bound to `i`, for `i = 0 … n-1` (none for `n ≤ 0`).  `hg`: what the body
    evaluates to for each index (model, fuel of Go depth `d + 1`), `hnn`: no copy is null (null copies are dropped) -/
theorem S_C12_nested_list_exact (hGF : Lib.GetFormatSpec gf) (hyu : Lib.ParseOK yu) (mf : Go.Doc)
    (docs : List Go.Doc) (hnil : ∀ d ∈ docs, d.isNil = false) (hwf : Val.WF mf.data)
    (hwfs : ∀ d ∈ docs, Val.WF d.data) (ec : Go.Ctx) (m : Fields) (n : Int) (g : Nat → Val)
    (d : Int) (hd : d < 1000) (hr : fget m "$repeat" = some (.int n))
    (hg : ∀ i, i < n.toNat →
      process2 (1000 - (d + 1)).toNat (docs.map (·.data)) mf.data (fset ec.vars "$repeat" (.int i))
        (.map (fdel m "$repeat")) = .ok (g i))
    (hnn : ∀ i, i < n.toNat → (g i).isNull = false) :
    (∃ N, ∀ fuel, N ≤ fuel →
      Lib.process2' ms us gf nz yu fuel (.list [.map m]) mf docs ec d
        = .ok (.list ((List.range n.toNat).map g), none)) ∧
    ((List.range n.toNat).map g).length = n.toNat := by
  obtain ⟨h1, h2⟩ := C12_list_nested_exact _ (docs.map (·.data)) mf.data ec.vars m n g hr hg hnn
  rw [← sc13_p2fuel_succ_of_lt hd] at h1
  exact ⟨Lib.T_process2_eq_ok ms us gf nz yu hGF hyu mf docs hnil hwf hwfs ec _ d _ h1, h2⟩

/-- … the same with the hypothesis on the copies stated on the TRANSLATED function too: if, for each index `i < n`,
    process2' on the body at Go depth `d + 1` in the context `ec` + `$repeat ↦ i` returns `g i` (not null, no error)
    for all large fuel, then process2' on `[{$repeat: n, …body}]` at depth `d` returns `[g 0, …, g (n-1)]`.
    (`hmod`: the model does not stop on the body at something it does not model.) -/
theorem S_C12_nested_list_source (hGF : Lib.GetFormatSpec gf) (hyu : Lib.ParseOK yu) (mf : Go.Doc)
    (docs : List Go.Doc) (hnil : ∀ d ∈ docs, d.isNil = false) (hwf : Val.WF mf.data)
    (hwfs : ∀ d ∈ docs, Val.WF d.data) (ec : Go.Ctx) (m : Fields) (n : Int) (g : Nat → Val)
    (d : Int) (hd : d < 1000) (hr : fget m "$repeat" = some (.int n))
    (hsrc : ∀ i, i < n.toNat → ∃ N, ∀ fuel, N ≤ fuel →
      Lib.process2' ms us gf nz yu fuel (.map (fdel m "$repeat")) mf docs
        ⟨fset ec.vars "$repeat" (.int i)⟩ (d + 1) = .ok (g i, none))
    (hmod : ∀ i, i < n.toNat →
      process2 (1000 - (d + 1)).toNat (docs.map (·.data)) mf.data (fset ec.vars "$repeat" (.int i))
        (.map (fdel m "$repeat")) ≠ .error Err.unmodelled)
    (hnn : ∀ i, i < n.toNat → (g i).isNull = false) :
    ∃ N, ∀ fuel, N ≤ fuel →
      Lib.process2' ms us gf nz yu fuel (.list [.map m]) mf docs ec d
        = .ok (.list ((List.range n.toNat).map g), none) :=
  (S_C12_nested_list_exact ms us gf nz yu hGF hyu mf docs hnil hwf hwfs ec m n g d hd hr
    (fun i hi => sc13_process2_model_of_source ms us gf nz yu hGF hyu mf docs hnil hwf hwfs
      ⟨fset ec.vars "$repeat" (.int i)⟩ _ (d + 1) (g i) (hmod i hi) (hsrc i hi)) hnn).1

/-- **a nested count that is not an integer** (`C12_nonint_error_nested`): ErrInvalidType -/
theorem S_C12_nested_list_nonint_error (hGF : Lib.GetFormatSpec gf) (hyu : Lib.ParseOK yu) (mf : Go.Doc)
    (docs : List Go.Doc) (hnil : ∀ d ∈ docs, d.isNil = false) (hwf : Val.WF mf.data)
    (hwfs : ∀ d ∈ docs, Val.WF d.data) (ec : Go.Ctx) (m : Fields) (r : Val) (d : Int) (hd : d < 1000)
    (hr : fget m "$repeat" = some r) (hni : ∀ n, r ≠ .int n) :
    ∃ N, ∀ fuel, N ≤ fuel → ∃ x,
      Lib.process2' ms us gf nz yu fuel (.list [.map m]) mf docs ec d = .ok (x, some Err.invalidType) := by
  apply Lib.T_process2_eq_error ms us gf nz yu hGF hyu mf docs hnil hwf hwfs ec _ d _ (by decide)
  rw [sc13_p2fuel_succ_of_lt hd]
  exact C12_nonint_error_nested _ _ _ _ m r hr hni

/-- **nested `$repeat` in a map entry** (`C12_map_nested_exact`): `{k: {$repeat: n, …body}}` at Go depth `d`: the
    body and the key `k` are evaluated one level deeper for `i = 0 … n-1` with `$repeat` bound to `i` (`g i`, `kf i`);
    when no copy is null, no evaluated key is a directive name and the copies are stable under the second pass of
    process2Map, the result is the sorted map of the pairs `(kf i, g i)`, a later copy replacing an earlier one with
    the same key; exactly `n` entries when the keys are pairwise distinct -/
theorem S_C12_nested_map_exact (hGF : Lib.GetFormatSpec gf) (hyu : Lib.ParseOK yu) (mf : Go.Doc)
    (docs : List Go.Doc) (hnil : ∀ d ∈ docs, d.isNil = false) (hwf : Val.WF mf.data)
    (hwfs : ∀ d ∈ docs, Val.WF d.data) (ec : Go.Ctx) (k : String) (m : Fields) (n : Int) (g : Nat → Val)
    (kf : Nat → String) (d : Int) (hd : d < 1000) (hr : fget m "$repeat" = some (.int n))
    (hg : ∀ i, i < n.toNat →
      process2 (1000 - (d + 1)).toNat (docs.map (·.data)) mf.data (fset ec.vars "$repeat" (.int i))
        (.map (fdel m "$repeat")) = .ok (g i))
    (hnn : ∀ i, i < n.toNat → (g i).isNull = false)
    (hk : ∀ i, i < n.toNat →
      process2 (1000 - (d + 1)).toNat (docs.map (·.data)) mf.data (fset ec.vars "$repeat" (.int i)) (.str k)
        = .ok (.str (kf i)))
    (hdir : ∀ i, i < n.toNat → kf i ≠ "$encode" ∧ kf i ≠ "$decode" ∧ kf i ≠ "$value")
    (hfix : ∀ i, i < n.toNat →
      process2 (1000 - (d + 1)).toNat (docs.map (·.data)) mf.data ec.vars (g i) = .ok (g i) ∧
      process2 (1000 - (d + 1)).toNat (docs.map (·.data)) mf.data ec.vars (.str (kf i)) = .ok (.str (kf i))) :
    (∃ N, ∀ fuel, N ≤ fuel →
      Lib.process2' ms us gf nz yu fuel (.map [(k, .map m)]) mf docs ec d
        = .ok (.map (fofList ((List.range n.toNat).map fun i => (kf i, g i))), none)) ∧
    (∀ j, j < n.toNat → (∀ j', j < j' → j' < n.toNat → kf j' ≠ kf j) →
      fget (fofList ((List.range n.toNat).map fun i => (kf i, g i))) (kf j) = some (g j)) ∧
    ((∀ i j, i < n.toNat → j < n.toNat → kf i = kf j → i = j) →
      (fofList ((List.range n.toNat).map fun i => (kf i, g i))).length = n.toNat) := by
  obtain ⟨h1, h2, h3⟩ := C12_map_nested_exact _ (docs.map (·.data)) mf.data ec.vars k m n g kf hr hg hnn hk
    hdir hfix
  rw [← sc13_p2fuel_succ_of_lt hd] at h1
  exact ⟨Lib.T_process2_eq_ok ms us gf nz yu hGF hyu mf docs hnil hwf hwfs ec _ d _ h1, h2, h3⟩

/-- a non-integer count in a map entry (`C12_nonint_error_map_nested`): ErrInvalidType -/
theorem S_C12_nested_map_nonint_error (hGF : Lib.GetFormatSpec gf) (hyu : Lib.ParseOK yu) (mf : Go.Doc)
    (docs : List Go.Doc) (hnil : ∀ d ∈ docs, d.isNil = false) (hwf : Val.WF mf.data)
    (hwfs : ∀ d ∈ docs, Val.WF d.data) (ec : Go.Ctx) (k : String) (m : Fields) (r : Val) (d : Int)
    (hd : d < 1000) (hr : fget m "$repeat" = some r) (hni : ∀ n, r ≠ .int n) :
    ∃ N, ∀ fuel, N ≤ fuel → ∃ x,
      Lib.process2' ms us gf nz yu fuel (.map [(k, .map m)]) mf docs ec d = .ok (x, some Err.invalidType) := by
  apply Lib.T_process2_eq_error ms us gf nz yu hGF hyu mf docs hnil hwf hwfs ec _ d _ (by decide)
  rw [sc13_p2fuel_succ_of_lt hd]
  exact C12_nonint_error_map_nested _ _ _ _ k m r hr hni

/-- a key `$repeat` under a `$repeat` binding evaluates to an integer, which is not a key
    (`C12_repeat_key_is_error`): ErrInvalidType -/
theorem S_C12_nested_repeat_key_is_error (hGF : Lib.GetFormatSpec gf) (hyu : Lib.ParseOK yu) (mf : Go.Doc)
    (docs : List Go.Doc) (hnil : ∀ d ∈ docs, d.isNil = false) (hwf : Val.WF mf.data)
    (hwfs : ∀ d ∈ docs, Val.WF d.data) (vars : Vars) (i j : Int) (d : Int) (hd : d ≤ 998) :
    ∃ N, ∀ fuel, N ≤ fuel → ∃ x,
      Lib.process2' ms us gf nz yu fuel (.map [("$repeat", .int j)]) mf docs ⟨fset vars "$repeat" (.int i)⟩ d
        = .ok (x, some Err.invalidType) := by
  apply Lib.T_process2_eq_error ms us gf nz yu hGF hyu mf docs hnil hwf hwfs _ _ d _ (by decide)
  have hF : (1000 - d).toNat = (998 - d).toNat + 2 := by omega
  rw [hF]
  exact C12_repeat_key_is_error _ _ _ vars i j

theorem sc13_process2_of_model_ok_fuel (hGF : Lib.GetFormatSpec gf) (hyu : Lib.ParseOK yu) (mf : Go.Doc)
    (docs : List Go.Doc) (hnil : ∀ d ∈ docs, d.isNil = false) (hwf : Val.WF mf.data)
    (hwfs : ∀ d ∈ docs, Val.WF d.data) (ec : Go.Ctx) (obj : Val) (d : Int) (fuel : Nat)
    (hf : Lib.p2Fuel mf docs (1000 - d).toNat d ec obj ≤ fuel) (v : Val)
    (h : process2 (1000 - d).toNat (docs.map (·.data)) mf.data ec.vars obj = .ok v) :
    Lib.process2' ms us gf nz yu fuel obj mf docs ec d = .ok (v, none) := by
  obtain ⟨q, hq, hn⟩ := Lib.T_process2_eq_fuel ms us gf nz yu hGF hyu mf docs hnil hwf hwfs ec obj d fuel hf
    (by rw [h]; intro h'; cases h')
  rw [h] at hn
  rw [hq, Lib.errNorm_ok hn]

/-- `S_C12_nested_list_exact` with the explicit fuel bound -/
theorem S_C12_nested_list_exact_fuel (hGF : Lib.GetFormatSpec gf) (hyu : Lib.ParseOK yu) (mf : Go.Doc)
    (docs : List Go.Doc) (hnil : ∀ d ∈ docs, d.isNil = false) (hwf : Val.WF mf.data)
    (hwfs : ∀ d ∈ docs, Val.WF d.data) (ec : Go.Ctx) (m : Fields) (n : Int) (g : Nat → Val)
    (d : Int) (hd : d < 1000) (fuel : Nat)
    (hf : Lib.p2Fuel mf docs (1000 - d).toNat d ec (.list [.map m]) ≤ fuel)
    (hr : fget m "$repeat" = some (.int n))
    (hg : ∀ i, i < n.toNat →
      process2 (1000 - (d + 1)).toNat (docs.map (·.data)) mf.data (fset ec.vars "$repeat" (.int i))
        (.map (fdel m "$repeat")) = .ok (g i))
    (hnn : ∀ i, i < n.toNat → (g i).isNull = false) :
    Lib.process2' ms us gf nz yu fuel (.list [.map m]) mf docs ec d
      = .ok (.list ((List.range n.toNat).map g), none) := by
  obtain ⟨h1, -⟩ := C12_list_nested_exact _ (docs.map (·.data)) mf.data ec.vars m n g hr hg hnn
  rw [← sc13_p2fuel_succ_of_lt hd] at h1
  exact sc13_process2_of_model_ok_fuel ms us gf nz yu hGF hyu mf docs hnil hwf hwfs ec _ d fuel hf _ h1

/-! ## C06 — plain / inert / doubled data through `process2'` -/

/-- **process2 is the identity on plain data, up to dropping nulls** (`C06_process2_plain` = `e_process2_plain`):
    `plain v`: no key and no string of `v` is recognised by the evaluator; `v` well-formed and nested less deep than
    the depth budget that is left -/
theorem S_C06_process2_plain (hGF : Lib.GetFormatSpec gf) (hyu : Lib.ParseOK yu) (mf : Go.Doc)
    (docs : List Go.Doc) (hnil : ∀ d ∈ docs, d.isNil = false) (hwf : Val.WF mf.data)
    (hwfs : ∀ d ∈ docs, Val.WF d.data) (ec : Go.Ctx) (v : Val) (d : Int)
    (hp : plain v = true) (hw : v.WF) (hd : depth v < (1000 - d).toNat) :
    ∃ N, ∀ fuel, N ≤ fuel → Lib.process2' ms us gf nz yu fuel v mf docs ec d = .ok (dropNulls v, none) :=
  Lib.T_process2_eq_ok ms us gf nz yu hGF hyu mf docs hnil hwf hwfs ec v d _
    (C06_process2_plain _ _ _ _ v hp hw hd)

/-- in particular on inert data (nothing recognised, no `$$`) (`C06_process2_inert`) -/
theorem S_C06_process2_inert (hGF : Lib.GetFormatSpec gf) (hyu : Lib.ParseOK yu) (mf : Go.Doc)
    (docs : List Go.Doc) (hnil : ∀ d ∈ docs, d.isNil = false) (hwf : Val.WF mf.data)
    (hwfs : ∀ d ∈ docs, Val.WF d.data) (ec : Go.Ctx) (v : Val) (d : Int)
    (hi : inert v = true) (hw : v.WF) (hd : depth v < (1000 - d).toNat) :
    ∃ N, ∀ fuel, N ≤ fuel → Lib.process2' ms us gf nz yu fuel v mf docs ec d = .ok (dropNulls v, none) :=
  S_C06_process2_plain ms us gf nz yu hGF hyu mf docs hnil hwf hwfs ec v d (e_inert_plain hi) hw hd

/-- … and null-free inert data comes back unchanged -/
theorem S_C06_process2_inert_noNulls (hGF : Lib.GetFormatSpec gf) (hyu : Lib.ParseOK yu) (mf : Go.Doc)
    (docs : List Go.Doc) (hnil : ∀ d ∈ docs, d.isNil = false) (hwf : Val.WF mf.data)
    (hwfs : ∀ d ∈ docs, Val.WF d.data) (ec : Go.Ctx) (v : Val) (d : Int)
    (hi : inert v = true) (hw : v.WF) (hd : depth v < (1000 - d).toNat) (hn : dropNulls v = v) :
    ∃ N, ∀ fuel, N ≤ fuel → Lib.process2' ms us gf nz yu fuel v mf docs ec d = .ok (v, none) := by
  have := S_C06_process2_inert ms us gf nz yu hGF hyu mf docs hnil hwf hwfs ec v d hi hw hd
  rwa [hn] at this

/-- **doubled data passes through process2 as data** (`e_plain_double`, `e_wf_double`): every `$` of `v` doubled — so
    whatever directive names, `$env:`, `$"…"` strings `v` contains — the translated process2 returns the doubled
    value, nulls dropped, no error; and the translated finalizeOutput then gives back `v` itself, nulls dropped
    (`S_C06_finalize_double`): the `$$` escape, through both translated functions -/
theorem S_C06_process2_double (hGF : Lib.GetFormatSpec gf) (hyu : Lib.ParseOK yu) (mf : Go.Doc)
    (docs : List Go.Doc) (hnil : ∀ d ∈ docs, d.isNil = false) (hwf : Val.WF mf.data)
    (hwfs : ∀ d ∈ docs, Val.WF d.data) (ec : Go.Ctx) (v : Val) (d : Int)
    (hw : v.WF) (hd : depth v < (1000 - d).toNat) :
    (∃ N, ∀ fuel, N ≤ fuel →
      Lib.process2' ms us gf nz yu fuel (double v) mf docs ec d = .ok (double (dropNulls v), none)) ∧
    (∀ fuel', 2 * Go.depth (dropNulls v) + 1 ≤ fuel' →
      Lib.finalizeOutput' fuel' (double (dropNulls v)) = .ok (dropNulls v)) := by
  refine ⟨?_, fun fuel' hf' => Lib.S_C06_finalize_double _ (e_wf_dropNulls v hw) hf'⟩
  have := S_C06_process2_plain ms us gf nz yu hGF hyu mf docs hnil hwf hwfs ec (double v) d
    (e_plain_double v) (e_wf_double hw) (by rw [e_depth_double_all.1]; exact hd)
  rwa [e_dropNulls_double_all.1] at this

end

/-! ## non-vacuity (C12, C06) -/

/-- `[{$repeat: 3, v: "$repeat"}]` through the translated process2 with concrete third-party functions:
    `[{v: 0}, {v: 1}, {v: 2}]` -/
example : ∃ N, ∀ fuel, N ≤ fuel →
    Lib.process2' Lib.msName Lib.usNone Lib.gfModel Lib.nzId Lib.yamlModel fuel
      (.list [.map [("$repeat", .int 3), ("v", .str "$repeat")]]) Lib.exDocC [] ⟨[]⟩ 0
      = .ok (.list [.map [("v", .int 0)], .map [("v", .int 1)], .map [("v", .int 2)]], none) := by
  have hdel : fdel [("$repeat", Val.int 3), ("v", .str "$repeat")] "$repeat" = [("v", .str "$repeat")] := by
    decide
  obtain ⟨h, -⟩ := S_C12_nested_list_exact Lib.msName Lib.usNone Lib.gfModel Lib.nzId Lib.yamlModel
    (fun _ => rfl) Lib.yamlModel_ok Lib.exDocC [] (by simp) (by decide) (by simp) ⟨[]⟩
    [("$repeat", .int 3), ("v", .str "$repeat")] 3 (fun i => .map [("v", .int i)]) 0 (by decide) (by decide)
    (fun i _ => by rw [hdel]; exact process2_body_v_repeat 997 _ _ [] i)
    (fun _ _ => rfl)
  exact h

/-- … and with the explicit fuel bound, near the end of the depth budget (Go depth 997: three levels left) -/
example : Lib.process2' Lib.msName Lib.usNone Lib.gfModel Lib.nzId Lib.yamlModel 20
      (.list [.map [("$repeat", .int 2), ("v", .str "$repeat")]]) Lib.exDocC [] ⟨[]⟩ 997
      = .ok (.list [.map [("v", .int 0)], .map [("v", .int 1)]], none) := by
  have hdel : fdel [("$repeat", Val.int 2), ("v", .str "$repeat")] "$repeat" = [("v", .str "$repeat")] := by
    decide +kernel
  exact S_C12_nested_list_exact_fuel Lib.msName Lib.usNone Lib.gfModel Lib.nzId Lib.yamlModel
    (fun _ => rfl) Lib.yamlModel_ok Lib.exDocC [] (by simp) (by decide +kernel) (by simp) ⟨[]⟩
    [("$repeat", .int 2), ("v", .str "$repeat")] 2 (fun i => .map [("v", .int i)]) 997 (by decide +kernel) 20 (by decide +kernel)
    (by decide +kernel) (fun i _ => by rw [hdel]; exact process2_body_v_repeat 0 _ _ [] i) (fun _ _ => rfl)

/-- a count that is a string -/
example : fget [("$repeat", Val.str "2"), ("x", .int 1)] "$repeat" = some (.str "2")
    ∧ ∀ n, Val.str "2" ≠ .int n := ⟨by decide, fun _ h => (by cases h)⟩

/-- inert data (dollar signs and braces that mean nothing, nulls) through the translated process2 -/
example : ∃ N, ∀ fuel, N ≤ fuel →
    Lib.process2' Lib.msName Lib.usNone Lib.gfModel Lib.nzId Lib.yamlModel fuel c06_ex1 Lib.exDocC [] ⟨[]⟩ 0
      = .ok (.map [("a", .str "$5 bill"), ("b", .list [.int 1, .str "x{y}$", .map []]), ("d", .map [])], none) :=
  S_C06_process2_inert Lib.msName Lib.usNone Lib.gfModel Lib.nzId Lib.yamlModel (fun _ => rfl) Lib.yamlModel_ok
    Lib.exDocC [] (by simp) (by decide +kernel) (by simp) ⟨[]⟩ c06_ex1 0 (by decide +kernel) (by decide +kernel) (by decide +kernel)

/-- data full of directive names, doubled -/
example : c06_ex2.WF ∧ depth c06_ex2 < (1000 - (0 : Int)).toNat := by decide +kernel

end Bkl.Gen
