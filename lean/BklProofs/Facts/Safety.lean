/-
  Fact obligations for crash freedom (F3, F8).  Used by C08.
-/
import Bkl.Process1
import Generated.Facts
namespace Bkl

/-- F3: package bkl contains no single-value type assertion `x.(T)` (each one is a possible panic) -/
theorem F3_no_unchecked_type_assertions : Facts.typeAsserts = [] := by decide

/-- F8: the depth guards of process1 / process2 / interpolation exist and equal the model's fuel -/
theorem F8_depth_guards :
    Facts.depthGuards = [("process1.go", "process1", "1000"), ("process2.go", "process2", "1000"),
                         ("process2.go", "process2StringInterp", "1000")] ∧ depthLimit = 1000 := by decide +kernel

end Bkl
