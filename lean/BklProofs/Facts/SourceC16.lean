/- C16 on the translated cmd/bkli/intersect.go (`intersect'`), and the migrate workflow on `intersect'`, `diff'`,
   `merge'` together: the theorems of BklProofs/C16 composed with `T_intersect_eq` (Facts/TransBkli) and the laws of
   SourceC15. -/
import BklProofs.C16
import BklProofs.Facts.TransBkli
import BklProofs.Facts.SourceC15
namespace Bkl.Gen
open Bkl Go

/-- idempotence (`C16_idempotent`): a well-formed, null-free document intersected with itself is itself -/
theorem S_C16_idempotent (v : Val) (hv : Val.WF v) (hn : v.nullFree = true)
    (fuel : Nat) (hf : 3 * Go.depth v + 1 ≤ fuel) :
    Bkli.intersect' fuel v v = .ok (v, none) := by
  rw [Bkli.T_intersect_eq v v hv fuel hf, C16_idempotent v hv hn]

example : Val.WF C16_a ∧ C16_a.nullFree = true ∧ 3 * Go.depth C16_a + 1 ≤ 7 :=
  ⟨plainVal_wf C16_witness_plain.1, plainVal_nullFree C16_witness_plain.1, by decide⟩

/-- the result is a common sub-document (`C16_common`): for null-free inputs, the first well-formed, the translated
    `intersect` never fails and what it returns is a (marker-tolerant) sub-document `Sub` of both inputs -/
theorem S_C16_common (a b : Val) (ha : Val.WF a) (han : a.nullFree = true) (hbn : b.nullFree = true)
    (fuel : Nat) (hf : 3 * Go.depth a + 1 ≤ fuel) :
    ∃ r, Bkli.intersect' fuel a b = .ok (r, none) ∧ Sub r a ∧ Sub r b :=
  ⟨_, Bkli.T_intersect_eq a b ha fuel hf, C16_common a b ha han hbn⟩

example : Val.WF C16_a ∧ C16_a.nullFree = true ∧ C16_b.nullFree = true ∧ 3 * Go.depth C16_a + 1 ≤ 7 :=
  ⟨plainVal_wf C16_witness_plain.1, plainVal_nullFree C16_witness_plain.1,
    plainVal_nullFree C16_witness_plain.2.1, by decide⟩

/-- a field with non-null values on both sides is never dropped, and two different scalars become the marker
    (`C16_required_on_conflict`, `C16_required_on_conflict_scalar`), read off the translated function's result -/
theorem S_C16_required_on_conflict (am bm : Fields) (k : String) (x y : Val) (ha : Val.WF (.map am))
    (hx : fget am k = some x) (hy : fget bm k = some y) (hxn : x ≠ .null) (hyn : y ≠ .null)
    (fuel : Nat) (hf : 3 * Go.depth (.map am) + 1 ≤ fuel) :
    ∃ rm, Bkli.intersect' fuel (.map am) (.map bm) = .ok (.map rm, none) ∧
      fget rm k = some (intersect x y) ∧
      (x.isScalar = true → x ≠ y → fget rm k = some (.str "$required")) := by
  refine ⟨intersectFields am bm, ?_, (C16_required_on_conflict am bm k x y hx hy hxn hyn).1,
    fun hs hne => C16_required_on_conflict_scalar am bm k x y hx hy hs hyn hne⟩
  rw [Bkli.T_intersect_eq _ _ ha fuel hf]
  simp [intersect]

example : Val.WF (.map [("name", .str "a")]) ∧ fget [("name", Val.str "a")] "name" = some (.str "a") ∧
    fget [("name", Val.str "b")] "name" = some (.str "b") ∧ Val.str "a" ≠ .null ∧ Val.str "b" ≠ .null ∧
    3 * Go.depth (.map [("name", .str "a")]) + 1 ≤ 4 := by decide

/-- THE MIGRATE WORKFLOW IS LOSSLESS, on the three translated sources together (`C16_lossless`): for plain `a`, `b`
    the translated `intersect` returns a base `r`; the translated `diff` of either input against `r` never fails
    with the replace-parent error: it returns nil and the input equals the base, or a patch that the translated
    `merge` layers over `r` to give back the input -/
theorem S_C16_lossless (a b x : Val) (ha : plainVal a = true) (hb : plainVal b = true) (hx : x = a ∨ x = b)
    (fuel : Nat) (hf : 3 * Go.depth a + 1 ≤ fuel) (fuel2 : Nat) (hf2 : 3 * Go.depth x + 1 ≤ fuel2) :
    ∃ r, Bkli.intersect' fuel a b = .ok (r, none) ∧
      ((Bkld.diff' Bkld.modelReproduces fuel2 x r = .ok (.null, none) ∧ x = r) ∨
       ∃ p, p ≠ .null ∧ Bkld.diff' Bkld.modelReproduces fuel2 x r = .ok (p, none) ∧
         ∀ fuel3, 4 * Go.depth p + 2 ≤ fuel3 → Lib.merge' fuel3 r p = .ok (x, none)) := by
  refine ⟨_, Bkli.T_intersect_eq a b (plainVal_wf ha) fuel hf, ?_⟩
  have hall : ∀ y ∈ [b, a], plainVal y = true := by
    intro y hy
    simp only [List.mem_cons, List.not_mem_nil, or_false] at hy
    rcases hy with rfl | rfl <;> assumption
  have hwf : Val.WF (intersect a b) := (C16_fold_wf [b, a] (by simp) hall).1
  have hsub : Sub (intersect a b) x := by
    have := C16_fold [b, a] hall x (by rcases hx with rfl | rfl <;> simp)
    exact this
  have hxp : plainVal x = true := by rcases hx with rfl | rfl <;> assumption
  rcases S_C15_roundtrip_core x (intersect a b) hxp hwf fuel2 hf2 with h | ⟨p, hn, _, _, hd, hm⟩ | h
  · exact .inl h
  · exact .inr ⟨p, hn, hd, hm⟩
  · exact absurd ((C15_replaceParent_iff _ _).2 h.2) (diff_ne_replaceParent_of_Sub hsub)

example : plainVal C16_a = true ∧ plainVal C16_b = true ∧ 3 * Go.depth C16_a + 1 ≤ 7 :=
  ⟨C16_witness_plain.1, C16_witness_plain.2.1, by decide⟩


end Bkl.Gen
