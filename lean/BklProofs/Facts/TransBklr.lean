/-
  Translation equivalence, cmd/bklr/required.go: the Lean definitions that harness/cmd/gotrans writes from /repo's
  CURRENT required.go (Generated/Trans/Bklr.lean, regenerated on every run) compute the model's `required`
  (Bkl/Tools.lean).  A change of required.go that changes its meaning makes these theorems fail to check.

  Differences between the Go code and the model that the theorems bridge:
  * Go returns `nil` for "nothing to emit", the model `none`            → `(required v).getD .null`
    (and Go tests `v2 == nil` on the recursive result: `required` never answers `some nil`, `required_ne_null`);
  * Go builds the result map with `ret[k] = v2` (`fset` into a key-sorted association list), the model keeps the
    entries in input order → equal for well-formed input (`Val.WF v`: every map inside `v` has strictly increasing
    keys), NOT equal otherwise (`required_eq_needs_WF`, `required_eq_needs_WF_nested`).  Without any hypothesis the
    Go result is the normal form `Val.norm` of the model's result (`T_required_eq_norm`).
-/
import Generated.Trans.Bklr
import BklProofs.Lemmas.GoLibBklr
import BklProofs.Lemmas.GoLibUtil
namespace Bkl.Gen.Bklr
open Bkl Go

/-- Go's `nil` or the non-empty container -/
def listOrNil (l : List Val) : Val := if l.isEmpty then .null else .list l
def mapOrNil (m : Fields) : Val := if m.isEmpty then .null else .map m

@[simp] theorem listOrNil_nil : listOrNil [] = .null := rfl
@[simp] theorem listOrNil_cons (x : Val) (l : List Val) : listOrNil (x :: l) = .list (x :: l) := rfl
@[simp] theorem mapOrNil_nil : mapOrNil [] = .null := rfl
@[simp] theorem mapOrNil_cons (x : String × Val) (l : Fields) : mapOrNil (x :: l) = .map (x :: l) := rfl

theorem required_map_getD (kvs : Fields) :
    (required (.map kvs)).getD .null = mapOrNil (requiredFields kvs) := by
  simp only [required]
  cases requiredFields kvs <;> simp

theorem required_list_getD (xs : List Val) :
    (required (.list xs)).getD .null = listOrNil (requiredList xs) := by
  simp only [required]
  cases requiredList xs <;> simp

/-! ## one level: the loops, given the recursive calls (for any specification `g` of the recursive call) -/

theorem requiredList_step (g : Val → Option Val) (hg : ∀ v, g v ≠ some .null) (fuel : Nat) (xs : List Val)
    (hall : ∀ x ∈ xs, required' fuel x = .ok ((g x).getD .null, none)) :
    requiredList' (fuel + 1) xs = .ok (listOrNil (xs.filterMap g), none) := by
  unfold requiredList'
  dsimp only
  rw [forRange_filterMap_append g xs _ ?_ []]
  · cases xs.filterMap g <;> rfl
  · intro x hx acc
    rw [hall x hx]
    cases hgx : g x with
    | none => exact congrArg (fun l => Except.ok (Loop.next l)) (List.append_nil acc).symm
    | some w =>
      have hw : (w == Val.null) = false := beq_eq_false_iff_ne.2 fun e => hg x (hgx.trans (congrArg some e))
      simp only [Option.getD_some, hw]
      rfl

theorem requiredMap_step (g : Val → Option Val) (hg : ∀ v, g v ≠ some .null) (fuel : Nat) (kvs : Fields)
    (hall : ∀ p ∈ kvs, required' fuel p.2 = .ok ((g p.2).getD .null, none)) :
    requiredMap' (fuel + 1) kvs = .ok (mapOrNil (fofList (Fields.filterMapVal (fun _ => g) kvs)), none) := by
  unfold requiredMap'
  dsimp only
  rw [forRange_filterMapVal (fun _ => g) kvs _ ?_ []]
  · unfold fofList
    cases fsetAll [] (Fields.filterMapVal (fun _ => g) kvs) <;> rfl
  · rintro ⟨k, v⟩ hp acc
    dsimp only
    rw [hall (k, v) hp]
    cases hgx : g v with
    | none => rfl
    | some w =>
      have hw : (w == Val.null) = false := beq_eq_false_iff_ne.2 fun e => hg v (hgx.trans (congrArg some e))
      simp only [Option.getD_some, hw]
      rfl

/-! ## any input: the Go code computes the normal form (`Val.norm`: maps rebuilt key-sorted) of the model's result -/

/-- the specification of the recursive call for arbitrary input -/
def requiredNorm (v : Val) : Option Val := (required v).map Val.norm

theorem requiredNorm_ne_null (v : Val) : requiredNorm v ≠ some .null := by
  unfold requiredNorm
  cases h : required v with
  | none => simp
  | some r =>
    intro e
    simp only [Option.map_some, Option.some.injEq] at e
    exact required_ne_null v (by rw [h, gu_norm_eq_null e])

theorem normList_requiredList (xs : List Val) :
    Val.normList (requiredList xs) = xs.filterMap requiredNorm := by
  induction xs with
  | nil => simp [requiredList, Val.normList]
  | cons x xs ih =>
    rw [requiredList, List.filterMap_cons]
    have hx : requiredNorm x = (required x).map Val.norm := rfl
    rw [hx]
    cases required x with
    | none => simpa using ih
    | some w => simpa [Val.normList] using ih

theorem normFields_requiredFields (kvs : Fields) :
    Val.normFields (requiredFields kvs) = Fields.filterMapVal (fun _ => requiredNorm) kvs := by
  induction kvs with
  | nil => rfl
  | cons p kvs ih =>
    obtain ⟨k, v⟩ := p
    rw [requiredFields_cons, filterMapVal_cons, ← ih, requiredNorm]
    cases required v <;> rfl

theorem requiredNorm_map_getD (kvs : Fields) :
    (requiredNorm (.map kvs)).getD .null =
      mapOrNil (fofList (Fields.filterMapVal (fun _ => requiredNorm) kvs)) := by
  rw [← normFields_requiredFields]
  simp only [requiredNorm, required]
  cases h : requiredFields kvs with
  | nil => simp [Val.normFields, fofList]
  | cons a t =>
    obtain ⟨k, w⟩ := a
    have hne : fofList (Val.normFields ((k, w) :: t)) ≠ [] := by
      rw [Ne, rq_fofList_eq_nil_iff]; simp [Val.normFields]
    simp only [Option.map_some, Option.getD_some, Val.norm, mapOrNil]
    simp [hne]

theorem requiredNorm_list_getD (xs : List Val) :
    (requiredNorm (.list xs)).getD .null = listOrNil (xs.filterMap requiredNorm) := by
  rw [← normList_requiredList]
  simp only [requiredNorm, required]
  cases h : requiredList xs with
  | nil => simp [Val.normList]
  | cons a t => simp [Val.norm, Val.normList]

/-- with NO hypothesis on the input: required.go computes the model's `required` up to the order of map entries —
    its result is the normal form (every map rebuilt key-sorted, `Val.norm`) of the model's result -/
theorem T_required_eq_norm (v : Val) (fuel : Nat) (h : 2 * Go.depth v + 1 ≤ fuel) :
    required' fuel v = .ok (((required v).map Val.norm).getD .null, none) := by
  refine Go.fuel_induction 2 (P := fun fuel v => required' fuel v = .ok ((requiredNorm v).getD .null, none))
    (fun f v h0 => ?_) (fun f kvs ih => ?_) (fun f xs ih => ?_) v fuel h
  · cases v with
    | map _ | list _ => cases h0
    | str s =>
      unfold required' requiredNorm required
      dsimp only
      cases s == "$required" <;> rfl
    | _ => rfl
  · unfold required'
    dsimp only
    rw [requiredMap_step requiredNorm requiredNorm_ne_null f kvs fun p hm =>
      ih p.2 (Go.depth_le_of_mem_fields (k := p.1) hm) f (Nat.le_refl f)]
    exact congrArg (fun r => Except.ok (r, none)) (requiredNorm_map_getD kvs).symm
  · unfold required'
    dsimp only
    rw [requiredList_step requiredNorm requiredNorm_ne_null f xs fun x hm =>
      ih x (Go.depth_le_of_mem_list hm) f (Nat.le_refl f)]
    exact congrArg (fun r => Except.ok (r, none)) (requiredNorm_list_getD xs).symm

/-! ## well-formed input: the Go code computes the model's `required` -/

theorem requiredList_loop (fuel : Nat) (xs : List Val)
    (hall : ∀ x ∈ xs, required' fuel x = .ok ((required x).getD .null, none)) :
    requiredList' (fuel + 1) xs = .ok (listOrNil (requiredList xs), none) := by
  rw [requiredList_step required required_ne_null fuel xs hall, requiredList_eq]

theorem requiredMap_loop (fuel : Nat) (kvs : Fields) (hs : Fields.SortedKeys kvs)
    (hall : ∀ p ∈ kvs, required' fuel p.2 = .ok ((required p.2).getD .null, none)) :
    requiredMap' (fuel + 1) kvs = .ok (mapOrNil (requiredFields kvs), none) := by
  rw [requiredMap_step required required_ne_null fuel kvs hall, ← requiredFields_eq,
    fofList_of_sorted (sorted_requiredFields hs)]

/-- required.go:required, as translated from the current source, is the model's `required` on every well-formed
    value (given fuel for its nesting depth); Go's `nil` result is the model's `none` -/
theorem T_required_eq (v : Val) (hwf : Val.WF v) (fuel : Nat) (h : 2 * Go.depth v + 1 ≤ fuel) :
    required' fuel v = .ok ((required v).getD .null, none) := by
  rw [T_required_eq_norm v fuel h]
  cases hr : required v with
  | none => rfl
  | some r => rw [Option.map_some, gu_norm_of_wf r (required_wf hwf hr)]

/-- required.go:requiredMap is the model's `requiredFields` (`nil` for an empty result) -/
theorem T_requiredMap_eq (kvs : Fields) (hwf : Val.WF (.map kvs)) (fuel : Nat)
    (h : 2 * Go.depthFields kvs + 2 ≤ fuel) :
    requiredMap' fuel kvs = .ok (mapOrNil (requiredFields kvs), none) := by
  obtain ⟨f, rfl, hf⟩ := Go.fuel_of_mem_fields h
  have hw := wf_map_iff.1 hwf
  exact requiredMap_loop f kvs hw.1 fun p hm => T_required_eq p.2 (hw.2 p hm) f (hf p hm)

/-- required.go:requiredList is the model's `requiredList` (`nil` for an empty result) -/
theorem T_requiredList_eq (xs : List Val) (hwf : Val.WF (.list xs)) (fuel : Nat)
    (h : 2 * Go.depthList xs + 2 ≤ fuel) :
    requiredList' fuel xs = .ok (listOrNil (requiredList xs), none) := by
  obtain ⟨f, rfl, hf⟩ := Go.fuel_of_mem_list h
  exact requiredList_loop f xs fun x hm => T_required_eq x (wf_list_iff.1 hwf x hm) f (hf x hm)

/-- the same two statements in terms of `required` on the container -/
theorem T_requiredMap_eq_required (kvs : Fields) (hwf : Val.WF (.map kvs)) (fuel : Nat)
    (h : 2 * Go.depthFields kvs + 2 ≤ fuel) :
    requiredMap' fuel kvs = .ok ((required (.map kvs)).getD .null, none) := by
  rw [required_map_getD]; exact T_requiredMap_eq kvs hwf fuel h

theorem T_requiredList_eq_required (xs : List Val) (hwf : Val.WF (.list xs)) (fuel : Nat)
    (h : 2 * Go.depthList xs + 2 ≤ fuel) :
    requiredList' fuel xs = .ok ((required (.list xs)).getD .null, none) := by
  rw [required_list_getD]; exact T_requiredList_eq xs hwf fuel h

/-- exactly when the Go code and the model agree: when the model's result is in normal form (its maps key-sorted).
    `Val.WF v` (T_required_eq) is the natural sufficient condition on the INPUT. -/
theorem T_required_eq_iff (v : Val) (fuel : Nat) (h : 2 * Go.depth v + 1 ≤ fuel) :
    required' fuel v = .ok ((required v).getD .null, none) ↔ (required v).map Val.norm = required v := by
  rw [T_required_eq_norm v fuel h]
  constructor
  · intro e
    cases hr : required v with
    | none => rfl
    | some r =>
      rw [hr] at e
      simp only [Option.map_some, Option.getD_some, Except.ok.injEq, Prod.mk.injEq, and_true] at e
      rw [Option.map_some, e]
  · intro e; rw [e]

/-! ## non-vacuity -/

def exWF : Val :=
  .map [("a", .str "$required"), ("b", .int 1), ("c", .list [.str "x", .map [("d", .str "$required")]])]

example : Val.WF exWF ∧ 2 * Go.depth exWF + 1 ≤ 7 := by decide
example : required exWF =
    some (.map [("a", .str "$required"), ("c", .list [.map [("d", .str "$required")]])]) := by decide
example : required' 7 exWF =
    .ok (.map [("a", .str "$required"), ("c", .list [.map [("d", .str "$required")]])], none) :=
  T_required_eq exWF (by decide) 7 (by decide)

/-! ## the hypothesis `Val.WF v` is needed -/

/-- results of translated functions can be compared by `decide` (only used for the concrete examples below) -/
local instance decEqG {α : Type} [DecidableEq α] : DecidableEq (G α)
  | .ok a, .ok b => if h : a = b then isTrue (h ▸ rfl) else isFalse (fun e => h (Except.ok.inj e))
  | .error a, .error b => if h : a = b then isTrue (h ▸ rfl) else isFalse (fun e => h (Except.error.inj e))
  | .ok _, .error _ => isFalse (fun e => by cases e)
  | .error _, .ok _ => isFalse (fun e => by cases e)

/-- a map whose keys are not sorted -/
def exUnsorted : Val := .map [("b", .str "$required"), ("a", .str "$required")]

/-- Go (`ret[k] = v2`, a map) yields the entries by key; the model yields them in input order -/
theorem required_eq_needs_WF :
    required' 3 exUnsorted = .ok (.map [("a", .str "$required"), ("b", .str "$required")], none)
    ∧ (required exUnsorted).getD .null = .map [("b", .str "$required"), ("a", .str "$required")]
    ∧ required' 3 exUnsorted ≠ .ok ((required exUnsorted).getD .null, none)
    ∧ 2 * Go.depth exUnsorted + 1 ≤ 3 ∧ ¬ Val.WF exUnsorted := by
  decide

/-- sortedness of the top-level map is not enough: the unsorted map may sit anywhere inside -/
theorem required_eq_needs_WF_nested :
    required' 5 (.list [exUnsorted]) ≠ .ok ((required (.list [exUnsorted])).getD .null, none)
    ∧ 2 * Go.depth (.list [exUnsorted]) + 1 ≤ 5 := by
  decide

/-- the same for requiredMap directly (`Fields.SortedKeys` is what its own loop needs) -/
theorem requiredMap_eq_needs_sorted :
    requiredMap' 2 [("b", .str "$required"), ("a", .str "$required")]
      ≠ .ok (mapOrNil (requiredFields [("b", .str "$required"), ("a", .str "$required")]), none) := by
  decide

/-- and for requiredList (its own loop needs nothing, the elements do) -/
theorem requiredList_eq_needs_WF :
    requiredList' 4 [exUnsorted] ≠ .ok (listOrNil (requiredList [exUnsorted]), none) := by
  decide

/-- on the unsorted example the unconditional theorem gives the Go result -/
example : required' 3 exUnsorted = .ok (.map [("a", .str "$required"), ("b", .str "$required")], none) := by
  rw [T_required_eq_norm exUnsorted 3 (by decide)]; decide

end Bkl.Gen.Bklr
