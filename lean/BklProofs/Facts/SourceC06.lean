/- C06 on the translated finalize.go and merge.go (`finalizeString'`, `finalizeOutput'`, `merge'`): the theorems of
   BklProofs/C06 composed with `T_finalizeOutput_eq` (Facts/TransFinalize) and `T_merge_eq`; the two nesting depths
   (`Go.depth` of the fuel bounds, `depth` of the evaluator's guard) agree. -/
import BklProofs.C06
import BklProofs.Facts.TransFinalize
import BklProofs.Facts.SourceC01
namespace Bkl.Gen.Lib
open Bkl Go

/-- the nesting depth that bounds the fuel of the translated functions (`Go.depth`, Lemmas/GoLib) and the one the
    depth guard of the evaluator is stated with (`depth`, Lemmas/EscapeVal) are one function -/
theorem depth_eq_all :
    (∀ v, Go.depth v = depth v) ∧ (∀ xs, Go.depthList xs = depthList xs) ∧
    (∀ kvs, Go.depthFields kvs = depthFields kvs) := by
  apply Val.induction₃ <;> intros <;>
    simp_all [Go.depth, depth, Go.depthList, depthList, Go.depthFields, depthFields]

/-- doubling does not change the nesting depth (so the fuel bound can be stated on the original value) -/
theorem S_depth_double_all :
    (∀ v, Go.depth (double v) = Go.depth v) ∧
    (∀ xs, Go.depthList (doubleList xs) = Go.depthList xs) ∧
    (∀ kvs, Go.depthFields (doubleFields kvs) = Go.depthFields kvs) := by
  simp only [depth_eq_all.1, depth_eq_all.2.1, depth_eq_all.2.2]
  exact e_depth_double_all

/-- un-escaping after doubling is the identity, one string (`unescape_double` / `finalizeString_double`) -/
theorem S_C06_finalizeString_double (s : String) : finalizeString' (doubleStr s) = .ok s := by
  rw [T_finalizeString_eq, finalizeString_double]

/-- the same on character lists: what the translated function computes is `unescapeChars`, and that undoes
    `doubleChars` -/
theorem S_C06_unescape_double (cs : List Char) :
    finalizeString' (String.ofList (doubleChars cs)) = .ok (String.ofList cs) := by
  rw [T_finalizeString_eq, finalizeString, String.toList_ofList, unescape_double]

/-- **un-escaping after doubling is the identity on whole documents** (well-formed: Go rebuilds every map) -/
theorem S_C06_finalize_double (v : Val) (hw : v.WF) {fuel : Nat} (h : 2 * Go.depth v + 1 ≤ fuel) :
    finalizeOutput' fuel (double v) = .ok v := by
  rw [T_finalizeOutput_eq (double v) fuel (by rw [S_depth_double_all.1]; exact h), e_finalize_double v hw]

example : (Val.map [("$merge", .str "$env:HOME"), ("k$$", .list [.str "$required", .null])]).WF ∧
    2 * Go.depth (.map [("$merge", .str "$env:HOME"), ("k$$", .list [.str "$required", .null])]) + 1 ≤ 5 ∧
    double (.map [("$merge", .str "$env:HOME"), ("k$$", .list [.str "$required", .null])])
      = .map [("$$merge", .str "$$env:HOME"), ("k$$$$", .list [.str "$$required", .null])] := by
  refine ⟨by decide +kernel, by decide +kernel, by decide +kernel⟩

/-- data without `$$` passes through `finalizeOutput'` unchanged -/
theorem S_C06_finalize_noDD (v : Val) (hn : noDD v = true) (hw : v.WF) {fuel : Nat}
    (h : 2 * Go.depth v + 1 ≤ fuel) : finalizeOutput' fuel v = .ok v := by
  rw [T_finalizeOutput_eq v fuel h, e_finalize_of_noDD v hn hw]

/-- in particular inert data (nothing the evaluator recognises, no `$$`) -/
theorem S_C06_finalize_inert (v : Val) (hi : inert v = true) (hw : v.WF) {fuel : Nat}
    (h : 2 * Go.depth v + 1 ≤ fuel) : finalizeOutput' fuel v = .ok v :=
  S_C06_finalize_noDD v (e_inert_noDD hi) hw h

example : inert (.map [("a", .str "$5 bill"), ("b", .list [.null, .str "x{y}$"])]) = true ∧
    (Val.map [("a", .str "$5 bill"), ("b", .list [.null, .str "x{y}$"])]).WF ∧
    2 * Go.depth (.map [("a", .str "$5 bill"), ("b", .list [.null, .str "x{y}$"])]) + 1 ≤ 5 := by decide +kernel

/-- doubled layers merge like plain data under the translated merge: every directive of the child arrives as data
    (`C06_merge_double`) -/
theorem S_C06_merge_double_ok (a b r : Val) (hb : b.WF) (hm : plainMerge a b = .ok r) {fuel : Nat}
    (h : 4 * Go.depth b + 2 ≤ fuel) : merge' fuel (double a) (double b) = .ok (double r, none) := by
  apply S_C01_of_model_ok (e_wf_double hb) (by rw [S_depth_double_all.1]; exact h)
  rw [C06_merge_double, hm]; rfl


end Bkl.Gen.Lib
