/- Fact obligation F13: the regenerated table of the package-level variables and struct fields of the four tools and
   the wrapper is the one written out below. -/
import Generated.Facts
namespace Bkl

/-- F13: the tools and the wrapper keep no state between calls: their only package-level variable is an error
    sentinel and their only struct types are the option records filled by the flag parser (the `-f`, `-o`, `-r`,
    `-P`, `-v` options the model's `CliOpts` / `ToolOpts` carry; `CPUProfile`, `Verbose`, `Version` do not affect
    the result) -/
theorem F13_tools_stateless : Facts.toolState = [
    ("cmd/bkl", "field options", "CPUProfile"), ("cmd/bkl", "field options", "OutputFormat"),
    ("cmd/bkl", "field options", "OutputPath"), ("cmd/bkl", "field options", "Positional"),
    ("cmd/bkl", "field options", "RootPath"), ("cmd/bkl", "field options", "SkipParent"),
    ("cmd/bkl", "field options", "Verbose"), ("cmd/bkl", "field options", "Version"),
    ("cmd/bkld", "field options", "OutputFormat"), ("cmd/bkld", "field options", "OutputPath"),
    ("cmd/bkld", "field options", "Positional"), ("cmd/bkld", "var", "errReplaceParent"),
    ("cmd/bkli", "field options", "OutputFormat"), ("cmd/bkli", "field options", "OutputPath"),
    ("cmd/bkli", "field options", "Positional"),
    ("cmd/bklr", "field options", "OutputFormat"), ("cmd/bklr", "field options", "OutputPath"),
    ("cmd/bklr", "field options", "Positional")] := by decide +kernel

end Bkl
