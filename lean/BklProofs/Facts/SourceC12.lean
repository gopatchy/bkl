/- C12 on the translated repeat.go (`repeatDoc'`): the theorems of BklProofs/C12 composed with `T_repeatDoc_eq`
   (Facts/TransRepeat). -/
import BklProofs.C12
import BklProofs.Facts.TransRepeat
namespace Bkl.Gen
open Bkl Go

/-! # C12 — document-level `$repeat`, on `repeatDoc'`

  `clone` = Document.Clone is the parameter of the translated function; `CloneSpec clone`: it never fails and keeps
  the data.  The translated function returns two parallel slices (documents, contexts) and an error. -/

theorem lengths_of_maps {docs : List Go.Doc} {ecs : List Go.Ctx} {pairs : List (Val × Vars)}
    (h1 : docs.map (·.data) = pairs.map (·.1)) (h2 : ecs.map (·.vars) = pairs.map (·.2)) :
    docs.length = pairs.length ∧ ecs.length = pairs.length := by
  have a := congrArg List.length h1
  have b := congrArg List.length h2
  simp only [List.length_map] at a b
  exact ⟨a, b⟩

/-- `$repeat: n` on a map document (`C12_doc_int` / `C12_repeatDoc_map_int`): the translated `repeatDoc` returns no
    error and exactly `n` documents (none for `n ≤ 0`), each with the data of the document minus its `$repeat` key,
    and `n` contexts binding `$repeat` to `0, 1, …, n-1` in this order -/
theorem S_C12_doc_int (clone : Go.Doc → String → Go.Doc × Option Err) (hc : Lib.CloneSpec clone)
    (doc : Go.Doc) (ec : Go.Ctx) (kvs : Fields) (n : Int)
    (hd : doc.data = .map kvs) (hr : fget kvs "$repeat" = some (.int n)) :
    ∃ docs ecs, Lib.repeatDoc' clone doc ec = .ok (docs, ecs, none) ∧
      docs.length = n.toNat ∧ ecs.length = n.toNat ∧
      docs.map (·.data) = List.replicate n.toNat (.map (fdel kvs "$repeat")) ∧
      ecs.map (·.vars) = (List.range n.toNat).map (fun (i : Nat) => fset ec.vars "$repeat" (.int i)) := by
  have h := Lib.T_repeatDoc_eq clone hc doc ec
  rw [hd, C12_repeatDoc_map_int kvs ec.vars n hr] at h
  obtain ⟨docs, ecs, hok, h1, h2⟩ := h
  have hl := lengths_of_maps h1 h2
  simp only [List.length_map, List.length_range] at hl
  refine ⟨docs, ecs, hok, hl.1, hl.2, ?_, ?_⟩
  · rw [h1, List.map_map]
    apply List.ext_getElem <;> simp
  · rw [h2, List.map_map]; rfl

example : Lib.CloneSpec Lib.cloneId ∧
    fget [("$repeat", Val.int 3), ("a", .str "$repeat")] "$repeat" = some (.int 3) :=
  ⟨fun _ _ => ⟨rfl, rfl⟩, by decide⟩

/-- no `$repeat` key: exactly one document, the context unchanged (`C12_repeatDoc_no_repeat_map`) -/
theorem S_C12_no_repeat (clone : Go.Doc → String → Go.Doc × Option Err) (hc : Lib.CloneSpec clone)
    (doc : Go.Doc) (ec : Go.Ctx) (kvs : Fields) (hd : doc.data = .map kvs) (hr : fget kvs "$repeat" = none) :
    ∃ d e, Lib.repeatDoc' clone doc ec = .ok ([d], [e], none) ∧ d.data = .map kvs ∧ e.vars = ec.vars := by
  have h := Lib.T_repeatDoc_eq clone hc doc ec
  rw [hd, C12_repeatDoc_no_repeat_map kvs ec.vars hr] at h
  obtain ⟨docs, ecs, hok, h1, h2⟩ := h
  have hl := lengths_of_maps h1 h2
  simp only [List.length_cons, List.length_nil, Nat.zero_add] at hl
  obtain ⟨d, rfl⟩ := List.length_eq_one_iff.1 hl.1
  obtain ⟨e, rfl⟩ := List.length_eq_one_iff.1 hl.2
  simp only [List.map_cons, List.map_nil, List.cons.injEq, and_true] at h1 h2
  exact ⟨d, e, hok, h1, h2⟩

example : fget [("a", Val.int 1)] "$repeat" = none := by decide

/-- named counts `$repeat: {name: count, …}` (`C12_doc_named`, `C12_doc_named_length`): the translated `repeatDoc`
    returns no error; the number of documents (and of contexts) is the PRODUCT of the counts; every document has the
    data of the document minus its `$repeat` key; the contexts are those of the index tuples of the cartesian product
    in lexicographic order (first name slowest), over `ec` plus the declared counts -/
theorem S_C12_doc_named (clone : Go.Doc → String → Go.Doc × Option Err) (hc : Lib.CloneSpec clone)
    (doc : Go.Doc) (ec : Go.Ctx) (kvs rs : Fields)
    (hd : doc.data = .map kvs) (hr : fget kvs "$repeat" = some (.map rs))
    (hint : ∀ kv ∈ rs, ∃ n, kv.2 = Val.int n) :
    ∃ docs ecs, Lib.repeatDoc' clone doc ec = .ok (docs, ecs, none) ∧
      docs.length = (rs.map fun kv => countOf kv.2).prod ∧
      ecs.length = (rs.map fun kv => countOf kv.2).prod ∧
      (∀ d ∈ docs, d.data = .map (fdel kvs "$repeat")) ∧
      ecs.map (·.vars) = (tuples (rs.map fun kv => (kv.1, countOf kv.2))).map fun t =>
        t.foldl (fun e ni => fset e ("$repeat:" ++ ni.1) (.int ni.2)) (repeatEc1 ec.vars rs) := by
  have h := Lib.T_repeatDoc_eq clone hc doc ec
  have hm : repeatDoc (.map kvs) ec.vars = repeatGen (.map (fdel kvs "$repeat")) ec.vars (.map rs) := by
    simp only [repeatDoc, hr]
  rw [hd, hm, C12_doc_named _ ec.vars rs hint] at h
  obtain ⟨docs, ecs, hok, h1, h2⟩ := h
  have hl := lengths_of_maps h1 h2
  obtain ⟨_, hg, hlen⟩ := C12_doc_named_length (.map (fdel kvs "$repeat")) ec.vars rs hint
  rw [C12_doc_named _ ec.vars rs hint] at hg
  cases hg
  refine ⟨docs, ecs, hok, hl.1.trans hlen, hl.2.trans hlen, ?_, ?_⟩
  · intro d hdm
    have : d.data ∈ docs.map (·.data) := List.mem_map_of_mem hdm
    rw [h1, List.map_map] at this
    obtain ⟨t, _, ht⟩ := List.mem_map.1 this
    exact ht.symm
  · rw [h2, List.map_map]; rfl

example : fget [("$repeat", Val.map [("a", .int 2), ("b", .int 3)]), ("x", .int 7)] "$repeat"
      = some (.map [("a", .int 2), ("b", .int 3)]) ∧
    (∀ kv ∈ ([("a", .int 2), ("b", .int 3)] : Fields), ∃ n, kv.2 = Val.int n) := by
  refine ⟨by decide, ?_⟩
  intro kv h; simp at h; rcases h with rfl | rfl <;> exact ⟨_, rfl⟩

/-- a count that is not an integer is `ErrInvalidRepeat`, and no document (`C12_nonint_error`,
    `C12_nonint_error_named`) -/
theorem S_C12_nonint_error (clone : Go.Doc → String → Go.Doc × Option Err) (hc : Lib.CloneSpec clone)
    (doc : Go.Doc) (ec : Go.Ctx) (kvs : Fields) (v : Val)
    (hd : doc.data = .map kvs) (hr : fget kvs "$repeat" = some v)
    (hbad : ((∀ n, v ≠ .int n) ∧ (∀ rs, v ≠ .map rs)) ∨ ∃ rs, v = .map rs ∧ ∃ kv ∈ rs, ∀ n, kv.2 ≠ Val.int n) :
    Lib.repeatDoc' clone doc ec = .ok ([], [], some Err.invalidRepeat) := by
  have h := Lib.T_repeatDoc_eq clone hc doc ec
  have hm : repeatDoc (.map kvs) ec.vars = repeatGen (.map (fdel kvs "$repeat")) ec.vars v := by
    simp only [repeatDoc, hr]
  rw [hd, hm] at h
  rcases hbad with ⟨h1, h2⟩ | ⟨rs, rfl, hkv⟩
  · rw [C12_nonint_error _ _ v h1 h2] at h; exact h
  · rw [C12_nonint_error_named _ _ rs hkv] at h; exact h

/-- non-vacuity: `{$repeat: 3, a: "$repeat"}` through the translated function with a concrete `Clone` -/
example : ∃ docs ecs,
    Lib.repeatDoc' Lib.cloneId { id := "d", parents := "", data := .map [("$repeat", .int 3), ("a", .str "$repeat")] }
      { vars := [] } = .ok (docs, ecs, none) ∧ docs.length = 3 ∧
    ecs.map (·.vars) = [[("$repeat", .int 0)], [("$repeat", .int 1)], [("$repeat", .int 2)]] := by
  obtain ⟨docs, ecs, h, hl, _, _, he⟩ := S_C12_doc_int Lib.cloneId (fun _ _ => ⟨rfl, rfl⟩)
    { id := "d", parents := "", data := .map [("$repeat", .int 3), ("a", .str "$repeat")] } { vars := [] }
    _ 3 rfl (by decide)
  exact ⟨docs, ecs, h, hl, by rw [he]; decide⟩


end Bkl.Gen
