/-
  Translation equivalence, finalize.go: the Lean definitions that harness/cmd/gotrans writes from /repo's CURRENT
  finalize.go (Generated/Trans/Finalize.lean, regenerated on every run) compute the model's `finalize`
  (Bkl/Output.lean).  No hypothesis on the value is needed: the Go loop `newObj[finalizeString(k)] = finalizeOutput(v)`
  is a left fold of `fset` from the empty map, which is literally the model's `fofList (finalizeFields kvs)`.
-/
import Generated.Trans.Finalize
import BklProofs.Lemmas.GoLib
namespace Bkl.Gen.Lib
open Bkl Go

/-! ## strings.ReplaceAll(s, "$$", "$") is the model's `unescapeChars` -/

theorem replaceAllAux_dollar (cs : List Char) :
    Go.replaceAllAux ['$', '$'] ['$'] 0 cs = unescapeChars cs := by
  fun_induction unescapeChars cs with
  | case1 rest ih =>
    simp [Go.replaceAllAux, Go.isPrefixChars, ih]
  | case2 c rest hne ih =>
    have hp : Go.isPrefixChars ['$', '$'] (c :: rest) = false := by
      cases rest with
      | nil => simp [Go.isPrefixChars]
      | cons d rest' =>
        simp only [Go.isPrefixChars, Bool.and_true]
        cases hc : ('$' == c) with
        | false => simp
        | true =>
          cases hd : ('$' == d) with
          | false => simp
          | true =>
            exfalso
            have h1 : c = '$' := (beq_iff_eq.mp hc).symm
            have h2 : d = '$' := (beq_iff_eq.mp hd).symm
            subst h1; subst h2
            exact hne rest' rfl rfl
    simp [Go.replaceAllAux, hp, ih]
  | case3 => simp [Go.replaceAllAux]

theorem replaceAll_dollar (s : String) : Go.replaceAll s "$$" "$" = finalizeString s := by
  have h2 : ("$$" : String).toList = ['$', '$'] := by decide
  have h1 : ("$" : String).toList = ['$'] := by decide
  unfold Go.replaceAll finalizeString
  rw [h2, h1, replaceAllAux_dollar]

/-- finalize.go:finalizeString, as translated, is the model's `finalizeString` -/
theorem T_finalizeString_eq (s : String) : finalizeString' s = .ok (finalizeString s) := by
  unfold finalizeString'
  rw [replaceAll_dollar]

/-! ## the list loop: `newList := make([]any, len(obj)); for idx, v := range obj { newList[idx] = f(v) }` -/

theorem listSet_append_cons (pre suf : List Val) (x r : Val) :
    Go.listSet (pre ++ x :: suf) (Int.ofNat pre.length) r = (pre ++ [r]) ++ suf := by
  unfold Go.listSet
  have h : ¬ (Int.ofNat pre.length < 0) := by
    have : (0 : Int) ≤ Int.ofNat pre.length := Int.natCast_nonneg _
    omega
  rw [if_neg h]
  simp

theorem finalizeList_loop_gen (body : Int × Val → List Val → G (Go.Loop (List Val) (List Val))) (xs : List Val)
    (hbody : ∀ i x acc, x ∈ xs → body (i, x) acc = .ok (Go.Loop.next (Go.listSet acc i (finalize x)))) :
    ∀ (pre suf : List Val), suf.length = xs.length →
      Go.forRange (ρ := List Val) (Go.enumFrom (Int.ofNat pre.length) xs) (pre ++ suf) body
      = .ok (.inl (pre ++ finalizeList xs)) := by
  induction xs with
  | nil =>
    intro pre suf hl
    have : suf = [] := List.eq_nil_of_length_eq_zero (by simpa using hl)
    subst this
    simp [Go.enumFrom, finalizeList]
  | cons x xs ih =>
    intro pre suf hl
    obtain ⟨y, suf', rfl⟩ : ∃ y suf', suf = y :: suf' := by
      cases suf with
      | nil => simp at hl
      | cons y s => exact ⟨y, s, rfl⟩
    simp only [Go.enumFrom]
    rw [forRange_cons_next (s' := (pre ++ [finalize x]) ++ suf')]
    · have hlen : Int.ofNat pre.length + 1 = Int.ofNat (pre ++ [finalize x]).length := by
        simp
      rw [hlen, ih (fun i y acc hy => hbody i y acc (List.mem_cons_of_mem _ hy)) (pre ++ [finalize x]) suf'
        (by simpa using hl)]
      simp [finalizeList]
    · rw [hbody _ x _ List.mem_cons_self, listSet_append_cons]

theorem finalizeList_loop (fuel : Nat) (xs : List Val)
    (hall : ∀ x ∈ xs, finalizeOutput' fuel x = .ok (finalize x)) :
    finalizeList' (fuel + 1) xs = .ok (finalizeList xs) := by
  unfold finalizeList'
  try dsimp only
  have h0 : Go.enum xs = Go.enumFrom (Int.ofNat ([] : List Val).length) xs := rfl
  have hr : List.replicate (Int.ofNat xs.length).toNat Val.null
      = [] ++ List.replicate xs.length Val.null := by simp
  rw [h0, hr, finalizeList_loop_gen _ xs ?hb [] _ (by simp)]
  case hb =>
    intro i x acc hm
    simp only [hall x hm]
  simp

/-! ## the map loop: `newObj := map[string]any{}; for k, v := range obj { newObj[fs(k)] = f(v) }` -/

theorem finalizeMap_loop_gen (body : String × Val → Fields → G (Go.Loop Fields Fields)) (kvs : Fields)
    (hbody : ∀ k v acc, (k, v) ∈ kvs →
      body (k, v) acc = .ok (Go.Loop.next (fset acc (finalizeString k) (finalize v)))) :
    ∀ (acc : Fields),
      Go.forRange (ρ := Fields) kvs acc body = .ok (.inl (fsetAll acc (finalizeFields kvs))) :=
  forRange_unique (fun kvs acc => .ok (.inl (fsetAll acc (finalizeFields kvs)))) body kvs (fun _ => rfl)
    (fun p hp rest acc => by rw [hbody p.1 p.2 acc hp, finalizeFields]; rfl)

theorem finalizeMap_loop (fuel : Nat) (kvs : Fields)
    (hall : ∀ k v, (k, v) ∈ kvs → finalizeOutput' fuel v = .ok (finalize v)) :
    finalizeMap' (fuel + 1) kvs = .ok (fofList (finalizeFields kvs)) := by
  unfold finalizeMap'
  try dsimp only
  rw [finalizeMap_loop_gen _ kvs ?hb]
  case hb =>
    intro k v acc hm
    simp only [T_finalizeString_eq, hall k v hm]
  simp [fofList]

/-! ## finalizeOutput -/

/-- finalize.go:finalizeOutput, as translated from the current source, is the model's `finalize`
    (for every value, well-formed or not, given fuel for its nesting depth) -/
theorem T_finalizeOutput_eq (v : Val) (fuel : Nat) (h : 2 * Go.depth v + 1 ≤ fuel) :
    finalizeOutput' fuel v = .ok (finalize v) := by
  refine Go.fuel_induction 2 (P := fun fuel v => finalizeOutput' fuel v = .ok (finalize v))
    (fun f v h0 => ?_) (fun f kvs ih => ?_) (fun f xs ih => ?_) v fuel h
  · cases v with
    | map _ | list _ => cases h0
    | str s => rw [finalizeOutput', T_finalizeString_eq]; rfl
    | _ => rfl
  · rw [finalizeOutput', finalizeMap_loop f kvs fun k v hm => ih v (Go.depth_le_of_mem_fields hm) f (Nat.le_refl f)]
    rfl
  · rw [finalizeOutput', finalizeList_loop f xs fun x hm => ih x (Go.depth_le_of_mem_list hm) f (Nat.le_refl f)]
    rfl

/-- finalize.go:finalizeMap -/
theorem T_finalizeMap_eq (kvs : Fields) (fuel : Nat) (h : 2 * Go.depthFields kvs + 2 ≤ fuel) :
    finalizeMap' fuel kvs = .ok (fofList (finalizeFields kvs)) := by
  obtain ⟨f, rfl, hf⟩ := Go.fuel_of_mem_fields h
  exact finalizeMap_loop f kvs fun k v hm => T_finalizeOutput_eq v f (hf (k, v) hm)

/-- finalize.go:finalizeList -/
theorem T_finalizeList_eq (xs : List Val) (fuel : Nat) (h : 2 * Go.depthList xs + 2 ≤ fuel) :
    finalizeList' fuel xs = .ok (finalizeList xs) := by
  obtain ⟨f, rfl, hf⟩ := Go.fuel_of_mem_list h
  exact finalizeList_loop f xs fun x hm => T_finalizeOutput_eq x f (hf x hm)

/-- non-vacuity of the fuel hypotheses, and a run on a map whose keys collide after unescaping
    (`"$$a"` and `"$a"` both become `"$a"`; the later one in range order wins, in Go and in the model) -/
example : finalizeOutput' 5 (.map [("$$a", .list [.str "x$$y"]), ("$a", .int 1)])
    = .ok (.map [("$a", .int 1)]) := by
  rw [T_finalizeOutput_eq _ _ (by decide)]; rfl

end Bkl.Gen.Lib
