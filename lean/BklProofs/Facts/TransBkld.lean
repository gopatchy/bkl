/-
  Translation equivalence, cmd/bkld/diff.go: the Lean definitions that harness/cmd/gotrans writes from /repo's
  CURRENT diff.go (Generated/Trans/Bkld.lean, regenerated on every run) compute the model's `diff`
  (Bkl/Tools.lean, section bkld).  A change of diff.go that changes its meaning makes these theorems fail to check.

  Go's `reproduces(src, patch, dst)` (bkl's own merge, run through the public API) is not translated: it is a
  parameter of the translated functions.  The theorems are stated for every `reproduces` that agrees with the
  model's test (`modelReproduces`: `mergeListList src patch` succeeds with `.list dst`) on the entry-level patches
  that diffListList builds, and in particular for `modelReproduces` itself.

  The one difference between the Go code and the model, and the hypothesis `SpineOK dst` that bridges it (nothing
  is needed of `src`):
  * Go stores the entries of the result map left to right (`ret[k] = v`), the model collects them from the right:
    the same map exactly when the keys are pairwise distinct (`diff_dupkey_differs`).
  `SpineOK dst`: every map of `dst` that is reached through maps only has pairwise distinct keys.
  It follows from `Val.WF dst` (maps strictly sorted by key: every Go map).
  Nil values need no hypothesis: Go tests `v3 != nil` to see whether a child changed, so a child patch that IS nil
  (target value nil, base value a scalar or `{}`) is dropped, and so does the model's `diffFields`
  (`diff_null_value_agrees`, `diff_null_nested_agrees`).
-/
import Generated.Trans.Bkld
import BklProofs.Lemmas.ToolsDiff
import BklProofs.Lemmas.GoLib
namespace Bkl.Gen.Bkld
open Bkl Go

/-! ## the correspondence of results, and the `reproduces` parameter -/

/-- the model's three outcomes as Go's `(any, error)`; `errReplaceParent` is rendered as `some Err.other` -/
def dresToGo : DRes → Val × Option Err
  | .same => (.null, none)
  | .patch v => (v, none)
  | .replaceParent => (.null, some Err.other)

/-- a Go result without error: nothing to emit (`nil`), or the patch itself -/
theorem dresToGo_eq_ok {d : DRes} {p : Val} :
    dresToGo d = (p, none) ↔ (d = .same ∧ p = .null) ∨ d = .patch p := by
  constructor
  · intro h
    cases d with
    | same => exact .inl ⟨rfl, (Prod.mk.inj h).1.symm⟩
    | patch q => exact .inr (congrArg DRes.patch (Prod.mk.inj h).1)
    | replaceParent => cases (Prod.mk.inj h).2
  · rintro (⟨rfl, rfl⟩ | rfl) <;> rfl

/-- the model's version of `reproduces(src, patch, dst)`: bkl's list merge of `patch` over `src` succeeds with
    exactly `dst` (the test in the model's `diffListList`) -/
def modelReproduces (src patch dst : List Val) : Bool :=
  match mergeListList src patch with
  | .ok r => r == .list dst
  | .error _ => false

/-- `reproduces` answers like the model on the entry-level patches that diffListList builds -/
def ReproducesOK (reproduces : List Val → List Val → List Val → Bool) : Prop :=
  ∀ dst src p, listPatch dst src = some p → reproduces src p dst = modelReproduces src p dst

theorem modelReproduces_ok : ReproducesOK modelReproduces := fun _ _ _ _ => rfl

/-- the model's diffListList with the test abstracted -/
def diffListListG (reproduces : List Val → List Val → List Val → Bool) (dst src : List Val) : DRes :=
  if dst == src then .same
  else match listPatch dst src with
    | none => .patch (replaceList dst)
    | some p => if reproduces src p dst then .patch (.list p) else .patch (replaceList dst)

theorem diffListListG_of_ok {reproduces : List Val → List Val → List Val → Bool} (hR : ReproducesOK reproduces)
    (dst src : List Val) : diffListListG reproduces dst src = diffListList dst src := by
  unfold diffListListG diffListList
  cases hlp : listPatch dst src with
  | none => rfl
  | some p =>
    dsimp only
    rw [hR dst src p hlp, modelReproduces]
    cases mergeListList src p <;> rfl

theorem diffListListG_model (dst src : List Val) : diffListListG modelReproduces dst src = diffListList dst src :=
  diffListListG_of_ok modelReproduces_ok dst src

/-! ## the hypothesis -/

mutual
/-- every map of `v` that is reached through maps only has pairwise distinct keys (lists are opaque: their
    entries are only compared) -/
def spineOKB : Val → Bool
  | .map kvs => decide (Fields.DistinctKeys kvs) && spineOKFieldsB kvs
  | _ => true
def spineOKFieldsB : Fields → Bool
  | [] => true
  | (_, v) :: rest => spineOKB v && spineOKFieldsB rest
end

def SpineOK (v : Val) : Prop := spineOKB v = true

instance (v : Val) : Decidable (SpineOK v) := by unfold SpineOK; infer_instance

theorem spineOKFieldsB_iff {m : Fields} :
    spineOKFieldsB m = true ↔ ∀ p ∈ m, SpineOK p.2 :=
  all_of_eqns spineOKFieldsB.eq_1 fun p l => spineOKFieldsB.eq_2 p.1 p.2 l

theorem spineOK_map_iff {m : Fields} :
    SpineOK (.map m) ↔ Fields.DistinctKeys m ∧ ∀ p ∈ m, SpineOK p.2 := by
  simp only [SpineOK, spineOKB, Bool.and_eq_true, decide_eq_true_eq, spineOKFieldsB_iff]

/-- every well-formed value (maps strictly sorted by key) qualifies, nil values or not -/
theorem SpineOK_of_WF {v : Val} (h : Val.WF v) : SpineOK v := by
  induction v using Go.depth_induction with | _ v ih =>
  cases v with
  | map kvs =>
    have hw := wf_map_iff.1 h
    exact spineOK_map_iff.2 ⟨distinctKeys_of_sorted hw.1, fun p hp =>
      ih _ (Nat.lt_succ_of_le (Go.depth_le_of_mem_fields (k := p.1) hp)) (hw.2 p hp)⟩
  | _ => rfl

theorem spineOKFields_of_wfB : ∀ (m : Fields), Val.wfFieldsB m = true → spineOKFieldsB m = true :=
  fun _ h => spineOKFieldsB_iff.2 fun p hp => SpineOK_of_WF (wfFieldsB_iff.1 h p hp)

/-- `SpineOK_of_WF` with a nil-freeness hypothesis that plays no part -/
theorem SpineOK_of_WF_nullFree {v : Val} (h : Val.WF v) (_hn : v.nullFree = true) : SpineOK v :=
  SpineOK_of_WF h

theorem SpineOK_of_plainVal {v : Val} (h : plainVal v = true) : SpineOK v :=
  SpineOK_of_WF (plainVal_wf h)

/-! ## replaceable, replaceList -/

theorem T_replaceable_eq (src : Val) : replaceable' src = .ok (replaceable src) := by
  cases src <;> rfl

theorem replaceList_ok (dst : List Val) :
    replaceList' dst = .ok (dst ++ [.map [("$replace", .bool true)]]) := rfl

/-- diff.go:replaceList returns the entries, the model's `replaceList` wraps them in `.list` (as its callers do) -/
theorem T_replaceList_eq (dst : List Val) : Val.list <$> replaceList' dst = .ok (replaceList dst) := by
  rw [replaceList_ok]; rfl

/-! ## diffListList, diffList -/

/-- diffListList for an arbitrary `reproduces` -/
theorem T_diffListList_eq_gen (reproduces : List Val → List Val → List Val → Bool) (dst src : List Val) :
    diffListList' reproduces dst src = .ok (dresToGo (diffListListG reproduces dst src)) := by
  -- the two outer loops are `forRange_filter` and `forRange_collect_or_ret`; each inner loop with its labelled
  -- `continue` is a `forRange_any` with `Exit.cont`
  unfold diffListList' diffListListG
  rw [list_beq]
  cases hEq : dst == src with
  | true => rfl
  | false =>
    rw [if_neg Bool.false_ne_true, if_neg Bool.false_ne_true]
    dsimp only
    rw [forRange_filter (p := fun v1 => !(src.any (fun v2 => v1 == v2)))]
    · dsimp only [List.nil_append]
      rw [forRange_collect_or_ret (p := fun v1 => !(dst.any (fun v2 => v1 == v2))) (ok := Val.isMap)
        (f := fun v => Val.map [("$delete", v)]) (r := (replaceList dst, (none : Option Err)))]
      · unfold listPatch
        dsimp only
        cases (src.filter (fun v1 => !(dst.any (fun v2 => v1 == v2)))).all Val.isMap with
        | true =>
          rw [if_pos rfl, if_pos rfl]
          dsimp only
          cases reproduces src _ dst <;> rfl
        | false => rfl
      · intro v1 ret
        rw [forRange_any (fun v2 => v1 == v2) Go.Exit.cont _ _ (fun _ _ => rfl)]
        cases dst.any (fun v2 => v1 == v2) with
        | true => rfl
        | false => cases v1 <;> rfl
    · intro v1 ret
      rw [forRange_any (fun v2 => v1 == v2) Go.Exit.cont _ _ (fun _ _ => rfl)]
      cases src.any (fun v2 => v1 == v2) <;> rfl

/-- diff.go:diffListList is the model's `diffListList`, for every `reproduces` that answers like the model -/
theorem T_diffListList_eq_of (reproduces : List Val → List Val → List Val → Bool) (hR : ReproducesOK reproduces)
    (dst src : List Val) :
    diffListList' reproduces dst src = .ok (dresToGo (diffListList dst src)) := by
  rw [T_diffListList_eq_gen, diffListListG_of_ok hR]

theorem T_diffListList_eq (dst src : List Val) :
    diffListList' modelReproduces dst src = .ok (dresToGo (diffListList dst src)) :=
  T_diffListList_eq_of _ modelReproduces_ok dst src

/-- how every case ends where target and base are of different kinds -/
theorem replaceable_end (t src : Val) :
    (if replaceable src = true then (.ok (t, none) : G (Val × Option Err)) else .ok (.null, some Err.other)) =
      .ok (dresToGo (if replaceable src = true then .patch t else .replaceParent)) := by
  cases replaceable src <;> rfl

theorem T_diffList_eq_of (reproduces : List Val → List Val → List Val → Bool) (hR : ReproducesOK reproduces)
    (dst : List Val) (src : Val) :
    diffList' reproduces dst src = .ok (dresToGo (diff (.list dst) src)) := by
  unfold diffList'
  cases src with
  | list sl => dsimp only; rw [T_diffListList_eq_of reproduces hR, diff_list_list]
  | _ => dsimp only; rw [diff_list_other _ _ rfl, T_replaceable_eq]; exact replaceable_end ..

theorem T_diffList_eq (dst : List Val) (src : Val) :
    diffList' modelReproduces dst src = .ok (dresToGo (diff (.list dst) src)) :=
  T_diffList_eq_of _ modelReproduces_ok dst src

/-! ## diffMapMap -/

theorem mapIndex2_snd (m : Fields) (k : String) : (Go.mapIndex2 m k).2 = fhas m k := by
  unfold Go.mapIndex2 fhas
  cases fget m k <;> rfl

/-- diffMapMap, given that the recursive calls on the entries of `dst` are right -/
theorem diffMapMap_step (reproduces : List Val → List Val → List Val → Bool) (fuel : Nat) (dm sm : Fields)
    (hdist : Fields.DistinctKeys dm)
    (hall : ∀ k v, (k, v) ∈ dm → ∀ v2, diff' reproduces fuel v v2 = .ok (dresToGo (diff v v2))) :
    diffMapMap' reproduces (fuel + 1) dm sm = .ok (dresToGo (diff (.map dm) (.map sm))) := by
  unfold diffMapMap'
  dsimp only
  rw [forRange_filterMapVal_or_ret (diffRP sm) (fun k v => diffAt v (fget sm k))
      (Val.map (fset dm "$replace" (.bool true)), none) dm _ ?_ [],
    diff_map_map, diffFields_snd]
  · cases dm.any (diffRP sm) with
    | true => rfl
    | false =>
      rw [if_neg Bool.false_ne_true, if_neg Bool.false_ne_true]
      dsimp only
      rw [forRange_filterMapVal (fun k _ => if fhas dm k = true then none else some (.str "$delete")) sm,
        ← diffDels_eq, ← fofList, ← diffFields_fst_distinct hdist]
      · show (if (diffAll dm sm).isEmpty = true then _ else _) = _
        cases (diffAll dm sm).isEmpty <;> rfl
      · rintro ⟨k, v⟩ _ ret
        dsimp only
        rw [mapIndex2_snd]
        cases fhas dm k <;> rfl
  · rintro ⟨k, v⟩ hmem ret
    unfold Go.mapIndex2
    dsimp only
    cases hg : fget sm k with
    | none => simp only [diffRP, diffAt, hg]; rfl
    | some v2 =>
      dsimp only
      rw [hall k v hmem]
      cases hd : diff v v2 with
      | patch p => simp only [diffRP, diffAt, hg, hd]; cases p <;> rfl
      | _ => simp only [diffRP, diffAt, hg, hd]; rfl

/-! ## diff, diffMap: the cases that do not recurse -/

theorem diff_nonmap (reproduces : List Val → List Val → List Val → Bool) (hR : ReproducesOK reproduces)
    (fuel : Nat) (d s : Val) (hf : 0 < fuel) (hd : d.isMap = false) :
    diff' reproduces fuel d s = .ok (dresToGo (diff d s)) := by
  cases fuel with
  | zero => cases hf
  | succ fuel =>
    unfold diff'
    cases d with
    | map m => cases hd
    | list l => dsimp only; rw [T_diffList_eq_of reproduces hR]
    | _ =>
      dsimp only
      rw [diff_scalar _ _ rfl rfl, T_replaceable_eq]
      cases _ == s
      · exact replaceable_end ..
      · rfl

/-- diffMap, given diffMapMap -/
theorem diffMap_step (reproduces : List Val → List Val → List Val → Bool) (fuel : Nat) (dm : Fields) (s : Val)
    (hmm : ∀ sm, diffMapMap' reproduces fuel dm sm = .ok (dresToGo (diff (.map dm) (.map sm)))) :
    diffMap' reproduces (fuel + 1) dm s = .ok (dresToGo (diff (.map dm) s)) := by
  unfold diffMap'
  cases s with
  | map sm => dsimp only; rw [hmm]
  | _ => dsimp only; rw [diff_map_other _ _ rfl, T_replaceable_eq]; exact replaceable_end ..

/-! ## main theorems -/

/-- diff.go:diff, as translated from the current source, is the model's `diff`: for every `reproduces` that answers
    like the model, every target `dst` whose map spine has distinct keys (nil values allowed), every base `src`,
    given fuel for the nesting depth of `dst` -/
theorem T_diff_eq_of (reproduces : List Val → List Val → List Val → Bool) (hR : ReproducesOK reproduces)
    (dst src : Val) (hw : SpineOK dst) (fuel : Nat) (h : 3 * Go.depth dst + 1 ≤ fuel) :
    diff' reproduces fuel dst src = .ok (dresToGo (diff dst src)) := by
  refine Go.fuel_induction 3
    (P := fun fuel dst => SpineOK dst → ∀ src, diff' reproduces fuel dst src = .ok (dresToGo (diff dst src)))
    (fun f v h0 _ src => ?_) (fun f dm ih hw src => ?_) (fun f xs _ _ src => ?_) dst fuel h hw src
  · cases v with
    | map _ | list _ => cases h0
    | _ => exact diff_nonmap reproduces hR _ _ src (Nat.succ_pos f) rfl
  · have hw' := spineOK_map_iff.1 hw
    unfold diff'
    dsimp only
    rw [diffMap_step reproduces (f + 1) dm src fun sm => diffMapMap_step reproduces f dm sm hw'.1 fun k v hm v2 =>
      ih v (Go.depth_le_of_mem_fields hm) f (Nat.le_refl f) (hw'.2 _ hm) v2]
  · exact diff_nonmap reproduces hR _ _ src (Nat.succ_pos _) rfl

theorem T_diff_eq_spine (dst src : Val) (hw : SpineOK dst) (fuel : Nat) (h : 3 * Go.depth dst + 1 ≤ fuel) :
    diff' modelReproduces fuel dst src = .ok (dresToGo (diff dst src)) :=
  T_diff_eq_of _ modelReproduces_ok dst src hw fuel h

/-- for every well-formed target (maps strictly sorted by key: every Go map; in particular bkld's inputs) -/
theorem T_diff_eq (dst src : Val) (hw : Val.WF dst) (fuel : Nat)
    (h : 3 * Go.depth dst + 1 ≤ fuel) :
    diff' modelReproduces fuel dst src = .ok (dresToGo (diff dst src)) :=
  T_diff_eq_spine dst src (SpineOK_of_WF hw) fuel h

/-- diff.go:diffMapMap is the model's `diff` on two maps -/
theorem T_diffMapMap_eq_of (reproduces : List Val → List Val → List Val → Bool) (hR : ReproducesOK reproduces)
    (dst src : Fields) (hw : SpineOK (.map dst)) (fuel : Nat) (h : 3 * Go.depthFields dst + 2 ≤ fuel) :
    diffMapMap' reproduces fuel dst src = .ok (dresToGo (diff (.map dst) (.map src))) := by
  obtain ⟨f, rfl, hf⟩ := Go.fuel_of_mem_fields h
  have hw' := spineOK_map_iff.1 hw
  exact diffMapMap_step reproduces f dst src hw'.1 fun k v hm v2 =>
    T_diff_eq_of reproduces hR v v2 (hw'.2 _ hm) f (hf (k, v) hm)

theorem T_diffMapMap_eq_spine (dst src : Fields) (hw : SpineOK (.map dst)) (fuel : Nat)
    (h : 3 * Go.depthFields dst + 2 ≤ fuel) :
    diffMapMap' modelReproduces fuel dst src = .ok (dresToGo (diff (.map dst) (.map src))) :=
  T_diffMapMap_eq_of _ modelReproduces_ok dst src hw fuel h

theorem T_diffMapMap_eq (dst src : Fields) (hw : Val.WF (.map dst))
    (fuel : Nat) (h : 3 * Go.depthFields dst + 2 ≤ fuel) :
    diffMapMap' modelReproduces fuel dst src = .ok (dresToGo (diff (.map dst) (.map src))) :=
  T_diffMapMap_eq_spine dst src (SpineOK_of_WF hw) fuel h

/-- diff.go:diffMap is the model's `diff` on a map target -/
theorem T_diffMap_eq_of (reproduces : List Val → List Val → List Val → Bool) (hR : ReproducesOK reproduces)
    (dst : Fields) (src : Val) (hw : SpineOK (.map dst)) (fuel : Nat) (h : 3 * Go.depth (.map dst) ≤ fuel) :
    diffMap' reproduces fuel dst src = .ok (dresToGo (diff (.map dst) src)) := by
  simp only [Go.depth] at h
  obtain ⟨f, rfl⟩ : ∃ f, fuel = f + 1 := ⟨fuel - 1, by omega⟩
  exact diffMap_step reproduces f dst src
    (fun sm => T_diffMapMap_eq_of reproduces hR dst sm hw f (by omega))

theorem T_diffMap_eq_spine (dst : Fields) (src : Val) (hw : SpineOK (.map dst)) (fuel : Nat)
    (h : 3 * Go.depth (.map dst) ≤ fuel) :
    diffMap' modelReproduces fuel dst src = .ok (dresToGo (diff (.map dst) src)) :=
  T_diffMap_eq_of _ modelReproduces_ok dst src hw fuel h

theorem T_diffMap_eq (dst : Fields) (src : Val) (hw : Val.WF (.map dst))
    (fuel : Nat) (h : 3 * Go.depth (.map dst) ≤ fuel) :
    diffMap' modelReproduces fuel dst src = .ok (dresToGo (diff (.map dst) src)) :=
  T_diffMap_eq_spine dst src (SpineOK_of_WF hw) fuel h

/-! ## non-vacuity, and the hypotheses are needed -/

/-- non-trivial instances of the hypotheses: distinct keys need not be in order, map values, the root and the entries
    of lists may be nil, the entries of lists arbitrary -/
example : SpineOK (.map [("b", .map [("y", .int 1), ("x", .str "s"), ("n", .null)]),
    ("a", .list [.null, .map [("z", .null), ("z", .null)]])]) := by decide
example : SpineOK .null := by decide
example : Val.WF (.map [("a", .map [("x", .int 1), ("y", .null)]), ("b", .list [.int 1])]) := by decide

/-- a repeated key in the target (not a Go map): Go's `ret[k] = v` keeps the last entry, the model the first -/
theorem diff_dupkey_differs (reproduces : List Val → List Val → List Val → Bool) :
    let dst : Val := .map [("a", .int 1), ("a", .int 2)]
    let src : Val := .map []
    ¬ SpineOK dst ∧ ∀ fuel, diff' reproduces fuel dst src ≠ .ok (dresToGo (diff dst src)) := by
  refine ⟨by decide, fun fuel h => ?_⟩
  match fuel with
  | 0 | 1 | 2 => cases h
  | f + 3 => cases h

/-- a nil value in the target over a scalar in the base: Go takes the nil child patch for "no change" and emits
    nothing, and so does the model — both answer "no difference" (the hypothesis of `T_diff_eq` holds) -/
theorem diff_null_value_agrees (reproduces : List Val → List Val → List Val → Bool) :
    let dst : Val := .map [("a", .null)]
    let src : Val := .map [("a", .int 1)]
    Val.WF dst ∧ SpineOK dst ∧ diff dst src = .same ∧
      ∀ fuel, 3 * Go.depth dst + 1 ≤ fuel →
        diff' reproduces fuel dst src = .ok (.null, none) ∧
        diff' reproduces fuel dst src = .ok (dresToGo (diff dst src)) := by
  refine ⟨by decide, by decide, rfl, fun fuel hf => ?_⟩
  obtain ⟨f, rfl⟩ : ∃ f, fuel = f + 4 := ⟨fuel - 4, (Nat.sub_add_cancel hf).symm⟩
  exact ⟨rfl, rfl⟩

/-- the same one level down: model and translation agree ("no difference") along the whole map spine -/
theorem diff_null_nested_agrees (reproduces : List Val → List Val → List Val → Bool) :
    let dst : Val := .map [("k", .map [("a", .null)])]
    let src : Val := .map [("k", .map [("a", .int 1)])]
    Val.WF dst ∧ SpineOK dst ∧ diff dst src = .same ∧
      ∀ fuel, 3 * Go.depth dst + 1 ≤ fuel →
        diff' reproduces fuel dst src = .ok (.null, none) ∧
        diff' reproduces fuel dst src = .ok (dresToGo (diff dst src)) := by
  refine ⟨by decide, by decide, rfl, fun fuel hf => ?_⟩
  obtain ⟨f, rfl⟩ : ∃ f, fuel = f + 7 := ⟨fuel - 7, (Nat.sub_add_cancel hf).symm⟩
  exact ⟨rfl, rfl⟩

/-- a nil value under a key that the base does not have is emitted as it is, by both (an instance of `T_diff_eq`) -/
example : diff (.map [("a", .null)]) (.map []) = .patch (.map [("a", .null)]) ∧
    diff' modelReproduces 4 (.map [("a", .null)]) (.map []) = .ok (.map [("a", .null)], none) := by
  refine ⟨rfl, ?_⟩
  rw [T_diff_eq _ _ (by decide) 4 (by decide)]; rfl

/-- `reproduces` matters: a test that always answers yes accepts the empty patch for a reordered list, bkl's merge
    (the model's test) does not -/
theorem reproduces_needed :
    let dst : List Val := [.int 1, .int 2]
    let src : List Val := [.int 2, .int 1]
    diffListList' (fun _ _ _ => true) dst src = .ok (.list [], none) ∧
      diffListList' modelReproduces dst src = .ok (.list [.int 1, .int 2, .map [("$replace", .bool true)]], none) := by
  refine ⟨rfl, ?_⟩
  rw [T_diffListList_eq]
  simp [diffListList, listPatch, mergeListList, popListString, popListMapBool, hasListMapBool, mergeEntries,
    dresToGo, replaceList, pure, Except.pure, bind, Except.bind]

/-- the fuel is needed: with none, the translated function reports `GErr.fuel` -/
example : diff' modelReproduces 0 .null .null = .error GErr.fuel := rfl

end Bkl.Gen.Bkld
