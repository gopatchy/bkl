/-
  Fact obligation F10, slice "files": the directive literals, in source order, of every function of
  file.go are the ones the model mirrors (table and explanation: BklProofs/Facts/Dispatch.lean).
-/
import BklProofs.Facts.Dispatch
namespace Bkl

theorem F10_dispatch_order_files :
    seqOfFiles ["file.go"] Facts.directiveSeq = seqOfFiles ["file.go"] (expectedDirectiveSeq.map (·.1)) := by decide +kernel

end Bkl
