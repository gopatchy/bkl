/-
  Translation equivalence, get.go (and match.go:matchDoc): the Lean definitions that harness/cmd/gotrans writes from
  /repo's CURRENT get.go (Generated/Trans/Get.lean, regenerated on every run) compute the model's reference resolution
  (Bkl/Get.lean: `getPath`, `getCrossDoc`, `getPathFromList`, `getPathFromString`, `get`; Bkl/Process2.lean: `getWithVar`).

  * `*Document` is `Go.Doc`; the model's `docs : List Val` are `docs.map (·.data)`, `root = doc.data`; every document of
    the stream is non-nil (`hnil`; needed: `getCrossDoc_nil_doc`).
  * `yaml.Unmarshal` of a reference string is the parameter `yamlUnmarshal`; it is tied to the model's reader `parseRef`
    on the modelled sub-language by `ParseOK`; outside it the model answers `Err.unmodelled`, and the theorems assume
    that the model does not (`parseRef s ≠ none` / `get … ≠ .error Err.unmodelled`; sufficient: `RefsModelled m`,
    `get_ne_unmodelled`; needed: `get_unmodelled_string`).
  * `getRef'` IS the model's `get` (which has getCross inlined and does not clone); Go's `get` deep-clones the result:
    `T_get_eq_norm` for arbitrary documents (`Val.norm`), `T_get_eq` for well-formed ones (needed: `get_unsorted_ne`).
    getWithVar does NOT clone the variable of its fallback.
  * The model's `get` has one normal form (`get_cases`): a path lookup (`getPath`) in the referencing document or in a
    document of the stream, or an error, which is `unmodelled` only through a reference string the model cannot read;
    that what `get` returns is a part of those documents (`get_closed`) and `get_ne_unmodelled` are read off it.
  * Every error class agrees with the model's (refNotFound, invalidType, missingMatch, multiMatch, noMatchFound,
    variableNotFound); the value beside an error is always `nil` (`valRes`).
  * fuel: `matchDoc'` 3·depth pat + 2, `getCrossDoc'` 3·depth pat + 3, `getPath'` parts.length + 1 (sharp),
    `getPathFromList'` `pathFuel path`, `getPathFromString'` `strFuel s`, `getRef'` `refFuel m`, `getCross'`
    `refFuelFields conf + 1`, `get'` additionally the depth of the documents + 2 (deepClone), `getWithVar'` one more.
-/
import Generated.Trans.Get
import BklProofs.Facts.TransMatch
import BklProofs.Facts.TransRepeat
import BklProofs.Lemmas.Interp
import BklProofs.Lemmas.Get
namespace Bkl.Gen.Lib
open Bkl Go

/-- the Go result pair of a model result: `(v, nil)` or `(nil, error class)` -/
def valRes : R Val → Val × Option Err
  | .ok v => (v, none)
  | .error e => (.null, some e)

@[simp] theorem valRes_ok (v : Val) : valRes (.ok v) = (v, none) := rfl
@[simp] theorem valRes_error (e : Err) : valRes (.error e) = (.null, some e) := rfl

/-- match.go:matchDoc is the model's `matchV` on the document's data -/
theorem T_matchDoc_eq (doc : Go.Doc) (pat : Val) (fuel : Nat) (h : 3 * Go.depth pat + 2 ≤ fuel) :
    matchDoc' fuel doc pat = .ok (matchV doc.data pat) := by
  obtain ⟨f, rfl⟩ : ∃ f, fuel = f + 1 := ⟨fuel - 1, by omega⟩
  simp [matchDoc', T_match_eq doc.data pat f (by omega)]

/-- the specification of the translated getCrossDoc on documents: the one matching document, or the error class -/
def crossDoc (docs : List Go.Doc) (pat : Val) : Go.Doc × Option Err :=
  match docs.filter (fun d => matchV d.data pat) with
  | [] => (Go.Doc.nil, some Err.noMatchFound)
  | [d] => (d, none)
  | _ => (Go.Doc.nil, some Err.multiMatch)

/-- the loop of getCrossDoc once a document has been found: a second match is ErrMultiMatch -/
theorem getCrossDoc_loop_found (pat : Val) (body : Go.Doc → Go.Doc → G (Loop Go.Doc (Go.Doc × Option Err)))
    (hbody : ∀ d ret, body d ret = .ok (if matchV d.data pat then
        (if !ret.isNil then .ret (Go.Doc.nil, some Err.multiMatch) else .next d) else .next ret))
    (docs : List Go.Doc) (ret : Go.Doc) (hret : ret.isNil = false) :
    forRange docs ret body = .ok (if docs.any (fun d => matchV d.data pat) then .inr (Go.Doc.nil, some Err.multiMatch) else .inl ret) := by
  induction docs with
  | nil => simp
  | cons d ds ih =>
    cases hm : matchV d.data pat with
    | true =>
      rw [forRange_cons_ret (r := (Go.Doc.nil, some Err.multiMatch))]
      · simp [hm]
      · simp [hbody, hm, hret]
    | false =>
      rw [forRange_cons_next (s' := ret)]
      · simp [hm, ih]
      · simp [hbody, hm]

/-- the loop of getCrossDoc from `ret == nil` -/
theorem getCrossDoc_loop (pat : Val) (body : Go.Doc → Go.Doc → G (Loop Go.Doc (Go.Doc × Option Err)))
    (hbody : ∀ d ret, body d ret = .ok (if matchV d.data pat then
        (if !ret.isNil then .ret (Go.Doc.nil, some Err.multiMatch) else .next d) else .next ret))
    (docs : List Go.Doc) (hnil : ∀ d ∈ docs, d.isNil = false) (ret : Go.Doc) (hret : ret.isNil = true) :
    forRange docs ret body = .ok (match docs.filter (fun d => matchV d.data pat) with
      | [] => .inl ret
      | [d] => .inl d
      | _ => .inr (Go.Doc.nil, some Err.multiMatch)) := by
  induction docs with
  | nil => simp
  | cons d ds ih =>
    have ih' := ih (fun x hx => hnil x (List.mem_cons_of_mem _ hx))
    cases hm : matchV d.data pat with
    | true =>
      rw [forRange_cons_next (s' := d)]
      · rw [getCrossDoc_loop_found pat body hbody ds d (hnil d List.mem_cons_self)]
        simp only [List.filter_cons, hm, if_true]
        cases hf : ds.filter (fun d => matchV d.data pat) with
        | nil =>
          have : ds.any (fun d => matchV d.data pat) = false := by
            rw [List.any_eq_false]; intro x hx hp
            have : x ∈ ds.filter (fun d => matchV d.data pat) := List.mem_filter.2 ⟨hx, hp⟩
            rw [hf] at this; cases this
          simp [this]
        | cons y ys =>
          have : ds.any (fun d => matchV d.data pat) = true := by
            have hy : y ∈ ds.filter (fun d => matchV d.data pat) := by rw [hf]; exact List.mem_cons_self
            rw [List.any_eq_true]; exact ⟨y, (List.mem_filter.1 hy).1, (List.mem_filter.1 hy).2⟩
          simp [this]
      · simp [hbody, hm, hret]
    | false =>
      rw [forRange_cons_next (s' := ret)]
      · simp [hm, ih']
      · simp [hbody, hm]

/-- get.go:getCrossDoc returns `crossDoc docs pat`; `crossDoc_cases` relates it to the model's `getCrossDoc` -/
theorem T_getCrossDoc_eq (docs : List Go.Doc) (pat : Val) (hnil : ∀ d ∈ docs, d.isNil = false)
    (fuel : Nat) (h : 3 * Go.depth pat + 3 ≤ fuel) :
    getCrossDoc' fuel docs pat = .ok (crossDoc docs pat) := by
  obtain ⟨f, rfl⟩ : ∃ f, fuel = f + 1 := ⟨fuel - 1, by omega⟩
  unfold getCrossDoc'
  simp only []
  rw [getCrossDoc_loop pat _ _ docs hnil Go.Doc.nil rfl]
  · unfold crossDoc
    have hall : ∀ d ∈ docs.filter (fun d => matchV d.data pat), d.isNil = false :=
      fun d hd => hnil d (List.mem_filter.1 hd).1
    cases hf : docs.filter (fun d => matchV d.data pat) with
    | nil => simp [Go.Doc.nil]
    | cons y ys =>
      rw [hf] at hall
      cases ys <;> simp [hall y List.mem_cons_self]
  · intro d ret
    rw [T_matchDoc_eq d pat f (by omega)]
    cases matchV d.data pat <;> simp
    cases ret.isNil <;> simp


/-- the translated selector against the model's: the same error class, or the document whose data the model returns -/
theorem crossDoc_cases (docs : List Go.Doc) (pat : Val) :
    (∃ d, d ∈ docs ∧ crossDoc docs pat = (d, none) ∧ getCrossDoc (docs.map (·.data)) pat = .ok d.data) ∨
    (∃ e, crossDoc docs pat = (Go.Doc.nil, some e) ∧ getCrossDoc (docs.map (·.data)) pat = .error e) := by
  unfold crossDoc getCrossDoc
  rw [List.filter_map]
  have hcomp : ((fun d => matchV d pat) ∘ fun (x : Go.Doc) => x.data) = fun d => matchV d.data pat := rfl
  rw [hcomp]
  have hall : ∀ d ∈ docs.filter (fun d => matchV d.data pat), d ∈ docs := fun d hd => (List.mem_filter.1 hd).1
  cases hf : docs.filter (fun d => matchV d.data pat) with
  | nil => right; exact ⟨_, rfl, rfl⟩
  | cons y ys =>
    rw [hf] at hall
    cases ys with
    | nil => left; exact ⟨y, hall y List.mem_cons_self, rfl, rfl⟩
    | cons z zs => right; exact ⟨_, rfl, rfl⟩

/-- get.go:getPath is the model's `getPath` (Go recurses on `parts[1:]`: fuel `parts.length + 1`) -/
theorem T_getPath_eq (parts : List String) : ∀ (obj : Val) (fuel : Nat), parts.length + 1 ≤ fuel →
    getPath' fuel obj parts = .ok (valRes (getPath obj parts)) := by
  induction parts with
  | nil =>
    intro obj fuel h
    obtain ⟨f, rfl⟩ : ∃ f, fuel = f + 1 := ⟨fuel - 1, by omega⟩
    simp [getPath', getPath, pure, Except.pure]
  | cons p ps ih =>
    intro obj fuel h
    obtain ⟨f, rfl⟩ : ∃ f, fuel = f + 1 := ⟨fuel - 1, by omega⟩
    simp only [List.length_cons] at h
    unfold getPath'
    cases obj with
    | map kvs =>
      cases hg : fget kvs p with
      | none => simp [Go.mapIndex2, Go.strAt, hg, getPath, throw, throwThe, MonadExceptOf.throw]
      | some v => simp [Go.mapIndex2, Go.strAt, hg, getPath, ih v f (by omega)]
    | _ => simp [getPath, throw, throwThe, MonadExceptOf.throw]

/-- fuel of getPathFromList: the selector pattern at the head (getCrossDoc) and the path (getPath) -/
def pathFuel (path : List Val) : Nat := max (3 * Go.depth (path.headD .null) + 3) (path.length + 1) + 1

/-- the common tail of getPathFromList: `toStringList`, then `getPath` -/
theorem strPath_eq (o : Val) (p : List Val) (f : Nat) (hf : p.length + 1 ≤ f) :
    (match toStringList' p with
     | .error e => (.error e : G (Val × Option Err))
     | .ok (r5, r6) => if (r6 == none) = true then
        (match getPath' f o r5 with
        | .error e => (.error e : G (Val × Option Err))
        | .ok (a, b) => .ok (a, b)) else .ok (Val.null, r6))
      = .ok (valRes (toStringList p >>= getPath o)) := by
  rw [T_toStringList_eq]
  cases hts : toStringList p with
  | error e => rfl
  | ok ss =>
    have := toStringList_length hts
    simp only [listErr, beq_self_eq_true, if_true, T_getPath_eq ss o f (by omega)]
    rfl

/-- the head of a list path selects a document of the stream -/
theorem crossPath_eq (docs : List Go.Doc) (hnil : ∀ d ∈ docs, d.isNil = false) (pat : Val) (rest : List Val) (f : Nat)
    (hf1 : 3 * Go.depth pat + 3 ≤ f) (hf2 : rest.length + 1 ≤ f) :
    (match getCrossDoc' f docs pat with
      | .error e => (.error e : G (Val × Option Err))
      | .ok (doc, err) =>
        if (err == none) = true then
          match toStringList' rest with
          | .error e => (.error e : G (Val × Option Err))
          | .ok (r5, r6) => if (r6 == none) = true then
            (match getPath' f doc.data r5 with
            | .error e => (.error e : G (Val × Option Err))
            | .ok (a, b) => .ok (a, b)) else .ok (Val.null, r6)
        else .ok (Val.null, err))
      = .ok (valRes (getCrossDoc (docs.map (·.data)) pat >>= fun d => toStringList rest >>= getPath d)) := by
  rw [T_getCrossDoc_eq docs pat hnil f hf1]
  rcases crossDoc_cases docs pat with ⟨d, -, hcd, hm⟩ | ⟨e, hcd, hm⟩
  · rw [hcd, hm]
    exact strPath_eq d.data rest f hf2
  · rw [hcd, hm]
    rfl

/-- get.go:getPathFromList is the model's `getPathFromList` -/
theorem T_getPathFromList_eq (obj : Val) (docs : List Go.Doc) (path : List Val)
    (hnil : ∀ d ∈ docs, d.isNil = false) (fuel : Nat) (h : pathFuel path ≤ fuel) :
    getPathFromList' fuel obj docs path = .ok (valRes (getPathFromList obj (docs.map (·.data)) path)) := by
  unfold pathFuel at h
  obtain ⟨f, rfl⟩ : ∃ f, fuel = f + 1 := ⟨fuel - 1, by omega⟩
  unfold getPathFromList'
  cases path with
  | nil => exact strPath_eq obj [] f (by simp at h ⊢; omega)
  | cons x rest =>
    simp only [List.length_cons, List.headD_cons] at h
    have hs := strPath_eq obj (x :: rest) f (by simp only [List.length_cons]; omega)
    cases x with
    | map p => exact crossPath_eq docs hnil (.map p) rest f (by omega) (by omega)
    | list l => exact crossPath_eq docs hnil (.list l) rest f (by omega) (by omega)
    | _ => exact hs

/-! ## the reference reader -/

def ParseOK (yamlUnmarshal : String → Val × Option Err) : Prop :=
  ∀ s r, parseRef s = some r → yamlUnmarshal s = (r, none)

def strFuel (s : String) : Nat :=
  (match parseRef s with
   | some (.list l) => pathFuel l
   | _ => (s.splitOn ".").length + 1) + 1

/-- get.go:getPathFromString is the model's `getPathFromString` on the strings the model reads -/
theorem T_getPathFromString_eq (yamlUnmarshal : String → Val × Option Err) (hyu : ParseOK yamlUnmarshal)
    (obj : Val) (docs : List Go.Doc) (s : String) (hnil : ∀ d ∈ docs, d.isNil = false)
    (hs : parseRef s ≠ none) (fuel : Nat) (h : strFuel s ≤ fuel) :
    getPathFromString' yamlUnmarshal fuel obj docs s =
      .ok (valRes (getPathFromString obj (docs.map (·.data)) s)) := by
  obtain ⟨f, rfl⟩ : ∃ f, fuel = f + 1 := ⟨fuel - 1, by unfold strFuel at h; omega⟩
  unfold strFuel at h
  cases hp : parseRef s with
  | none => exact absurd hp hs
  | some r =>
    rw [hp] at h
    unfold getPathFromString' getPathFromString
    rcases parseRef_shape hp with rfl | ⟨items, rfl⟩
    · simp only [] at h
      simp [hyu s _ hp, hp, T_getPath_eq (s.splitOn ".") obj f (by omega)]
    · simp only [] at h
      simp [hyu s _ hp, hp, T_getPathFromList_eq obj docs (items.map .str) hnil f (by omega)]


/-! ## getRef / getCross -/

mutual
/-- fuel that `getRef'` needs on the reference `m` -/
def refFuel : Val → Nat
  | .str s => strFuel s + 1
  | .list l => pathFuel l + 1
  | .map kvs => refFuelFields kvs + 2
  | _ => 1
/-- fuel that `getCross'` needs below its own level: the `$match` pattern and the `$path` reference -/
def refFuelFields : Fields → Nat
  | [] => 0
  | (k, v) :: rest =>
    max (if k = "$path" then refFuel v else if k = "$match" then 3 * Go.depth v + 3 else 0) (refFuelFields rest)
end

theorem refFuelFields_le {conf : Fields} {k : String} {p : Val} (h : fget conf k = some p) :
    (if k = "$path" then refFuel p else if k = "$match" then 3 * Go.depth p + 3 else 0) ≤ refFuelFields conf := by
  induction conf with
  | nil => cases h
  | cons kv rest ih =>
    obtain ⟨k', v⟩ := kv
    rw [refFuelFields]
    by_cases hk : k' = k
    · subst hk
      rw [fget_cons_self] at h
      cases h
      exact Nat.le_max_left _ _
    · exact Nat.le_trans (ih (by rwa [fget_cons_ne hk] at h)) (Nat.le_max_right _ _)

theorem refFuelFields_path {conf : Fields} {p : Val} (h : fget conf "$path" = some p) :
    refFuel p ≤ refFuelFields conf := by
  simpa using refFuelFields_le h

theorem refFuelFields_match {conf : Fields} {p : Val} (h : fget conf "$match" = some p) :
    3 * Go.depth p + 3 ≤ refFuelFields conf := by
  simpa using refFuelFields_le h

/-- one level of the mutual recursion getRef → getCross → getRef -/
theorem getCross_step (yamlUnmarshal : String → Val × Option Err)
    (docs : List Go.Doc) (hnil : ∀ d ∈ docs, d.isNil = false) (conf : Fields) (root : Val) (f : Nat)
    (hf : refFuelFields conf ≤ f)
    (hrec : ∀ (d : Go.Doc) (path : Val), fget conf "$path" = some path →
      get d.data (docs.map (·.data)) path ≠ .error Err.unmodelled →
      getRef' yamlUnmarshal f d docs path = .ok (valRes (get d.data (docs.map (·.data)) path)))
    (hmod : get root (docs.map (·.data)) (.map conf) ≠ .error Err.unmodelled) :
    getCross' yamlUnmarshal (f + 1) docs conf = .ok (valRes (get root (docs.map (·.data)) (.map conf))) := by
  unfold getCross'
  rw [get_map_eq] at hmod ⊢
  simp only [popMapValue_eq_match]
  cases hmatch : fget conf "$match" with
  | none => simp
  | some pat =>
    have hc := T_getCrossDoc_eq docs pat hnil f (by have := refFuelFields_match hmatch; omega)
    simp only [hmatch] at hmod
    rcases crossDoc_cases docs pat with ⟨d, hd, hcd, hm⟩ | ⟨e, hcd, hm⟩
    · simp only [hm] at hmod
      cases hpath : fget conf "$path" with
      | none => simp [hc, hcd, hm]
      | some path =>
        simp only [hpath] at hmod
        simp [hc, hcd, hm, hrec d path hpath hmod]
    · simp [hc, hcd, hm]

theorem refFuel_pos (m : Val) : 1 ≤ refFuel m := by
  cases m <;> simp only [refFuel] <;> omega

/-- get.go:getRef is the model's `get` (no clone), whenever the model does not answer `unmodelled` -/
theorem T_getRef_eq (yamlUnmarshal : String → Val × Option Err) (hyu : ParseOK yamlUnmarshal)
    (doc : Go.Doc) (docs : List Go.Doc) (m : Val) (hnil : ∀ d ∈ docs, d.isNil = false)
    (hmod : get doc.data (docs.map (·.data)) m ≠ .error Err.unmodelled)
    (fuel : Nat) (h : refFuel m ≤ fuel) :
    getRef' yamlUnmarshal fuel doc docs m = .ok (valRes (get doc.data (docs.map (·.data)) m)) := by
  induction fuel using Nat.strongRecOn generalizing doc m with
  | _ fuel ih =>
    obtain ⟨f, rfl⟩ : ∃ f, fuel = f + 1 := ⟨fuel - 1, by have := refFuel_pos m; omega⟩
    cases m with
    | map conf =>
      simp only [refFuel] at h
      obtain ⟨f', rfl⟩ : ∃ f', f = f' + 1 := ⟨f - 1, by omega⟩
      have hstep := getCross_step yamlUnmarshal docs hnil conf doc.data f' (by omega)
        (fun d path hpath hmod' => ih f' (by omega) d path hmod' (by have := refFuelFields_path hpath; omega)) hmod
      unfold getRef'
      simp [hstep]
    | list l =>
      simp only [refFuel] at h
      simp [getRef', get, T_getPathFromList_eq doc.data docs l hnil f (by omega)]
    | str s =>
      simp only [refFuel] at h
      have hs : parseRef s ≠ none := by
        intro hp; apply hmod; simp [get, getPathFromString, hp, throw, throwThe, MonadExceptOf.throw]
      simp [getRef', get, T_getPathFromString_eq yamlUnmarshal hyu doc.data docs s hnil hs f (by omega)]
    | _ => simp [getRef', get, throw, throwThe, MonadExceptOf.throw]

/-- get.go:getCross is the model's `get` on a map reference (the model inlines it; `root` is not used) -/
theorem T_getCross_eq (yamlUnmarshal : String → Val × Option Err) (hyu : ParseOK yamlUnmarshal)
    (root : Val) (docs : List Go.Doc) (conf : Fields) (hnil : ∀ d ∈ docs, d.isNil = false)
    (hmod : get root (docs.map (·.data)) (.map conf) ≠ .error Err.unmodelled)
    (fuel : Nat) (h : refFuelFields conf + 1 ≤ fuel) :
    getCross' yamlUnmarshal fuel docs conf = .ok (valRes (get root (docs.map (·.data)) (.map conf))) := by
  obtain ⟨f, rfl⟩ : ∃ f, fuel = f + 1 := ⟨fuel - 1, by omega⟩
  exact getCross_step yamlUnmarshal docs hnil conf root f (by omega)
    (fun d path hpath hmod' => T_getRef_eq yamlUnmarshal hyu d docs path hnil hmod' f
      (by have := refFuelFields_path hpath; omega)) hmod


/-! ## get, getWithVar -/

theorem get_depth (root : Val) (docs : List Val) (m v : Val) (h : get root docs m = .ok v) :
    Go.depth v ≤ Go.depthList (root :: docs) := by
  refine get_closed (fun v => Go.depth v ≤ Go.depthList (root :: docs)) ?_ docs ?_ root m v ?_ h
  · intro kvs k v hm hg
    have := Go.depth_le_of_mem_fields (fget_mem hg)
    simp only [Go.depth] at hm; omega
  · intro d hd; exact Go.depth_le_of_mem_list (List.mem_cons_of_mem _ hd)
  · exact Go.depth_le_of_mem_list List.mem_cons_self

/-- the Go result of `get`: the model's value rebuilt by `deepClone` (`Val.norm`), or the model's error class -/
def normRes : R Val → Val × Option Err
  | .ok v => (Val.norm v, none)
  | .error e => (.null, some e)

/-- get.go:get for arbitrary documents: the model's result rebuilt by deepClone (`Val.norm`) -/
theorem T_get_eq_norm (yamlUnmarshal : String → Val × Option Err) (hyu : ParseOK yamlUnmarshal)
    (doc : Go.Doc) (docs : List Go.Doc) (m : Val) (hnil : ∀ d ∈ docs, d.isNil = false)
    (hmod : get doc.data (docs.map (·.data)) m ≠ .error Err.unmodelled)
    (fuel : Nat) (h : refFuel m + 1 ≤ fuel) (hdepth : Go.depthList (doc.data :: docs.map (·.data)) + 2 ≤ fuel) :
    get' yamlUnmarshal fuel doc docs m = .ok (normRes (get doc.data (docs.map (·.data)) m)) := by
  obtain ⟨f, rfl⟩ : ∃ f, fuel = f + 1 := ⟨fuel - 1, by omega⟩
  unfold get'
  simp only []
  rw [T_getRef_eq yamlUnmarshal hyu doc docs m hnil hmod f (by omega)]
  cases hg : get doc.data (docs.map (·.data)) m with
  | error e => simp [normRes]
  | ok v =>
    have := get_depth _ _ _ _ hg
    simp [normRes, T_deepClone_eq_norm v f (by omega)]

/-- get.go:get is the model's `get` on well-formed documents -/
theorem T_get_eq (yamlUnmarshal : String → Val × Option Err) (hyu : ParseOK yamlUnmarshal)
    (doc : Go.Doc) (docs : List Go.Doc) (m : Val) (hnil : ∀ d ∈ docs, d.isNil = false)
    (hwf : Val.WF doc.data) (hwfs : ∀ d ∈ docs, Val.WF d.data)
    (hmod : get doc.data (docs.map (·.data)) m ≠ .error Err.unmodelled)
    (fuel : Nat) (h : refFuel m + 1 ≤ fuel) (hdepth : Go.depthList (doc.data :: docs.map (·.data)) + 2 ≤ fuel) :
    get' yamlUnmarshal fuel doc docs m = .ok (valRes (get doc.data (docs.map (·.data)) m)) := by
  rw [T_get_eq_norm yamlUnmarshal hyu doc docs m hnil hmod fuel h hdepth]
  cases hg : get doc.data (docs.map (·.data)) m with
  | error e => rfl
  | ok v =>
    have : Val.WF v := get_wf _ _ _ _ hwf (by
      intro d hd; obtain ⟨d', hd', rfl⟩ := List.mem_map.1 hd; exact hwfs d' hd') hg
    simp [normRes, gu_norm_of_wf v this]

/-- `T_EvalContext_GetVar_eq` (Facts/TransRepeat) with its result written as `valRes` -/
theorem EvalContext_GetVar_eq (ec : Go.Ctx) (name : String) :
    EvalContext_GetVar' ec name = .ok (valRes (getVar ec.vars name)) :=
  T_EvalContext_GetVar_eq ec name


/-! ## getWithVar -/

/-- the error branch of getWithVar: a string reference falls back to the variable, anything else keeps the error -/
def varFallback (ec : Go.Ctx) (m : Val) (e : Option Err) : Val × Option Err :=
  match m with
  | .str s => valRes (getVar ec.vars s)
  | _ => (.null, e)

theorem getWithVar_of_get (yamlUnmarshal : String → Val × Option Err) (doc : Go.Doc) (docs : List Go.Doc)
    (ec : Go.Ctx) (m : Val) (f : Nat) (r : Val × Option Err) (h : get' yamlUnmarshal f doc docs m = .ok r) :
    getWithVar' yamlUnmarshal (f + 1) doc docs ec m =
      .ok (if r.2 = none then (r.1, none) else varFallback ec m r.2) := by
  unfold getWithVar'
  simp only [h]
  obtain ⟨v, e⟩ := r
  cases e with
  | none => simp
  | some e => cases m <;> simp [EvalContext_GetVar_eq, varFallback]

/-- get.go:getWithVar on a string reference, for arbitrary documents: the found value is rebuilt by `deepClone`
    (`Val.norm`); the variable of the fallback is returned as it is -/
theorem T_getWithVar_eq_norm (yamlUnmarshal : String → Val × Option Err) (hyu : ParseOK yamlUnmarshal)
    (doc : Go.Doc) (docs : List Go.Doc) (ec : Go.Ctx) (s : String) (hnil : ∀ d ∈ docs, d.isNil = false)
    (hs : parseRef s ≠ none)
    (fuel : Nat) (h : refFuel (.str s) + 2 ≤ fuel) (hdepth : Go.depthList (doc.data :: docs.map (·.data)) + 3 ≤ fuel) :
    getWithVar' yamlUnmarshal fuel doc docs ec (.str s) =
      .ok (match get doc.data (docs.map (·.data)) (.str s) with
           | .ok v => (Val.norm v, none)
           | .error _ => valRes (getVar ec.vars s)) := by
  obtain ⟨f, rfl⟩ : ∃ f, fuel = f + 1 := ⟨fuel - 1, by omega⟩
  have hmod := get_str_ne_unmodelled doc.data (docs.map (·.data)) s hs
  rw [getWithVar_of_get _ _ _ _ _ _ _ (T_get_eq_norm yamlUnmarshal hyu doc docs (.str s) hnil hmod f (by omega) (by omega))]
  cases hg : get doc.data (docs.map (·.data)) (.str s) with
  | ok v => simp [normRes]
  | error e => simp [normRes, varFallback]

/-- get.go:getWithVar on a string reference is the model's `getWithVar` (documents well-formed) -/
theorem T_getWithVar_eq (yamlUnmarshal : String → Val × Option Err) (hyu : ParseOK yamlUnmarshal)
    (doc : Go.Doc) (docs : List Go.Doc) (ec : Go.Ctx) (s : String) (hnil : ∀ d ∈ docs, d.isNil = false)
    (hwf : Val.WF doc.data) (hwfs : ∀ d ∈ docs, Val.WF d.data)
    (hs : parseRef s ≠ none)
    (fuel : Nat) (h : refFuel (.str s) + 2 ≤ fuel) (hdepth : Go.depthList (doc.data :: docs.map (·.data)) + 3 ≤ fuel) :
    getWithVar' yamlUnmarshal fuel doc docs ec (.str s) =
      .ok (valRes (getWithVar doc.data (docs.map (·.data)) ec.vars s)) := by
  rw [T_getWithVar_eq_norm yamlUnmarshal hyu doc docs ec s hnil hs fuel h hdepth]
  unfold getWithVar
  cases hg : get doc.data (docs.map (·.data)) (.str s) with
  | ok v =>
    have : Val.WF v := get_wf _ _ _ _ hwf (by
      intro d hd; obtain ⟨d', hd', rfl⟩ := List.mem_map.1 hd; exact hwfs d' hd') hg
    simp only [gu_norm_of_wf v this]
    rfl
  | error e =>
    simp only []
    split
    · rename_i heq; cases heq
    · rename_i heq
      cases heq
      exact absurd hg (get_str_ne_unmodelled doc.data (docs.map (·.data)) s hs)
    · rfl

/-- get.go:getWithVar on a reference that is not a string: no fallback, the result of `get` -/
theorem T_getWithVar_nonstr_eq (yamlUnmarshal : String → Val × Option Err) (hyu : ParseOK yamlUnmarshal)
    (doc : Go.Doc) (docs : List Go.Doc) (ec : Go.Ctx) (m : Val) (hm : ∀ s, m ≠ .str s)
    (hnil : ∀ d ∈ docs, d.isNil = false)
    (hmod : get doc.data (docs.map (·.data)) m ≠ .error Err.unmodelled)
    (fuel : Nat) (h : refFuel m + 2 ≤ fuel) (hdepth : Go.depthList (doc.data :: docs.map (·.data)) + 3 ≤ fuel) :
    getWithVar' yamlUnmarshal fuel doc docs ec m = .ok (normRes (get doc.data (docs.map (·.data)) m)) := by
  obtain ⟨f, rfl⟩ : ∃ f, fuel = f + 1 := ⟨fuel - 1, by omega⟩
  rw [getWithVar_of_get _ _ _ _ _ _ _ (T_get_eq_norm yamlUnmarshal hyu doc docs m hnil hmod f (by omega) (by omega))]
  cases hg : get doc.data (docs.map (·.data)) m with
  | ok v => simp [normRes]
  | error e => cases m <;> first | exact absurd rfl (hm _) | simp [normRes, varFallback]


/-! ## instances: the hypotheses are met by real inputs, and each of them is needed -/

/-- a reader of reference strings that satisfies `ParseOK`: the model's reader, and YAML's `null` (no error) elsewhere -/
def yamlModel (s : String) : Val × Option Err :=
  match parseRef s with
  | some r => (r, none)
  | none => (.null, none)

theorem yamlModel_ok : ParseOK yamlModel := by
  intro s r h; simp [yamlModel, h]

def exDocA : Go.Doc := { id := "a", parents := "", data := .map [("name", .str "a"), ("v", .int 1)] }
def exDocB : Go.Doc := { id := "b", parents := "", data := .map [("name", .str "b"), ("v", .map [("w", .int 2)])] }
/-- `{$match: {name: b}, $path: [v, w]}` -/
def exRef : Val := .map [("$match", .map [("name", .str "b")]), ("$path", .list [.str "v", .str "w"])]

theorem exRef_cross : getCrossDoc [exDocA.data, exDocB.data] (.map [("name", .str "b")]) = .ok exDocB.data := by
  have h1 : matchV exDocA.data (.map [("name", .str "b")]) = false := by decide
  have h2 : matchV exDocB.data (.map [("name", .str "b")]) = true := by decide
  simp [getCrossDoc, List.filter, h1, h2, pure, Except.pure]

theorem exRef_model : get exDocA.data ([exDocA, exDocB].map (·.data)) exRef = .ok (.int 2) := by
  show get exDocA.data [exDocA.data, exDocB.data] exRef = _
  rw [exRef, get_map_eq]
  simp [fget, exRef_cross]
  simp [exDocB, get, getPathFromList, toStringList, getPath, fget, pure, Except.pure, bind, Except.bind]


/-- non-vacuity of `T_get_eq`: a cross-document reference, all hypotheses met, fuel 12 -/
example : get' yamlModel 12 exDocA [exDocA, exDocB] exRef = .ok (.int 2, none) := by
  rw [T_get_eq yamlModel yamlModel_ok exDocA [exDocA, exDocB] exRef (by simp [exDocA, exDocB]) (by decide)
    (by simp [exDocA, exDocB]; decide) (by rw [exRef_model]; simp)
    12 (by decide) (by decide), exRef_model]
  rfl

/-- the bound of `T_getPath_eq` is sharp -/
example : getPath' 1 (.map [("a", .null)]) ["a"] = .error GErr.fuel := rfl
example : getPath' 2 (.map [("a", .null)]) ["a"] = .ok (.null, none) := by
  rw [T_getPath_eq _ _ _ (by decide)]; rfl

/-- `hnil` is needed in `T_getCrossDoc_eq`: a nil `*Document` in the stream (Go would panic on `doc.Data`) is not
    counted by the translated loop, the model counts its data -/
theorem getCrossDoc_nil_doc :
    getCrossDoc' 3 [Go.Doc.nil] .null = .ok (Go.Doc.nil, some Err.noMatchFound) ∧
    getCrossDoc ([Go.Doc.nil].map (·.data)) .null = .ok .null := by
  constructor
  · rfl
  · have h : matchV Val.null Val.null = true := by decide
    simp [getCrossDoc, Go.Doc.nil, List.filter, h, pure, Except.pure]

/-- `Val.WF` of the documents is needed in `T_get_eq`: `deepClone` returns an unsorted map sorted -/
def exUnsortedDoc : Go.Doc := { id := "", parents := "", data := .map [("x", .map [("b", .null), ("a", .null)])] }

theorem get_unsorted_model :
    get exUnsortedDoc.data (([] : List Go.Doc).map (·.data)) (.list [.str "x"]) = .ok (.map [("b", .null), ("a", .null)]) := by
  simp [exUnsortedDoc, get, getPathFromList, toStringList, getPath, fget, pure, Except.pure, bind, Except.bind]

theorem get_unsorted :
    get' yamlModel 6 exUnsortedDoc [] (.list [.str "x"]) = .ok (.map [("a", .null), ("b", .null)], none) := by
  rw [T_get_eq_norm yamlModel yamlModel_ok exUnsortedDoc [] (.list [.str "x"]) (by simp)
    (get_ne_unmodelled _ _ _ rfl) 6 (by decide) (by decide), get_unsorted_model]
  rfl

theorem get_unsorted_ne :
    get' yamlModel 6 exUnsortedDoc [] (.list [.str "x"]) ≠
      .ok (valRes (get exUnsortedDoc.data (([] : List Go.Doc).map (·.data)) (.list [.str "x"]))) := by
  rw [get_unsorted, get_unsorted_model]; simp

/-- the hypothesis "the model can read the reference string" is needed: on the empty string the model answers
    `unmodelled`; a reader that satisfies `ParseOK` is free there (yaml.v3 reads `null`: Go answers ErrInvalidType) -/
theorem parseRef_empty : parseRef "" = none := by
  simp [parseRef, isPlainRef, flowItems]

theorem get_unmodelled_string :
    get' yamlModel 4 exDocA [] (.str "") = .ok (.null, some Err.invalidType) ∧
    get exDocA.data (([] : List Go.Doc).map (·.data)) (.str "") = .error Err.unmodelled := by
  constructor
  · simp [get', getRef', getPathFromString', yamlModel, parseRef_empty]
  · simp [get, getPathFromString, parseRef_empty, throw, throwThe, MonadExceptOf.throw]


/-- the same theorems under the syntactic condition `RefsModelled m` -/
theorem T_get_eq_modelled (yamlUnmarshal : String → Val × Option Err) (hyu : ParseOK yamlUnmarshal)
    (doc : Go.Doc) (docs : List Go.Doc) (m : Val) (hnil : ∀ d ∈ docs, d.isNil = false)
    (hwf : Val.WF doc.data) (hwfs : ∀ d ∈ docs, Val.WF d.data) (hm : RefsModelled m)
    (fuel : Nat) (h : refFuel m + 1 ≤ fuel) (hdepth : Go.depthList (doc.data :: docs.map (·.data)) + 2 ≤ fuel) :
    get' yamlUnmarshal fuel doc docs m = .ok (valRes (get doc.data (docs.map (·.data)) m)) :=
  T_get_eq yamlUnmarshal hyu doc docs m hnil hwf hwfs (get_ne_unmodelled _ _ _ hm) fuel h hdepth

def exDocC : Go.Doc := { id := "c", parents := "", data := .map [("a", .int 1)] }

theorem exFuel_a : refFuel (.str "a") = 4 := by
  simp [refFuel, strFuel, parseRef, isPlainRef_a, splitOn_dot_none "a" (by decide)]

/-- non-vacuity of `T_getWithVar_eq`: the reference `a` is found in the document … -/
example : getWithVar' yamlModel 6 exDocC [] ⟨[("a", .int 5), ("b", .int 7)]⟩ (.str "a") = .ok (.int 1, none) := by
  rw [T_getWithVar_eq yamlModel yamlModel_ok exDocC [] _ "a" (by simp) (by decide) (by simp)
    (by simp [parseRef, isPlainRef_a]) 6 (by rw [exFuel_a]; decide) (by decide)]
  have := getWithVar_simple_key [("a", .int 1)] [] [("a", .int 5), ("b", .int 7)] "a" (.int 1) isPlainRef_a (by decide)
    (by simp [fget])
  simp [exDocC, this]


/-- … and where the document has no `a`, the variable `a` is the answer -/
example : getWithVar' yamlModel 6 exDocA [] ⟨[("a", .int 5), ("b", .int 7)]⟩ (.str "a") = .ok (.int 5, none) := by
  rw [T_getWithVar_eq yamlModel yamlModel_ok exDocA [] _ "a" (by simp) (by decide) (by simp)
    (by simp [parseRef, isPlainRef_a]) 6 (by rw [exFuel_a]; decide) (by decide)]
  simp [exDocA, getWithVar, get_simple_key _ _ _ isPlainRef_a (by decide), getPath, fget, getVar,
    throw, throwThe, MonadExceptOf.throw, pure, Except.pure]

end Bkl.Gen.Lib
