/-
  Translation equivalence, process2.go (1): string interpolation — process2String / process2StringInterp, as
  harness/cmd/gotrans writes them from /repo's CURRENT process2.go (Generated/Trans/Process2.lean), against the model's
  `process2String` (Bkl/Process2.lean).

  * depth budget: Go's process2StringInterp fails with ErrCircularRef when `depth > 1000` and evaluates a string
    reference with `depth + 1`; the model's `process2String fuel` fails at fuel 0 and recurses with `fuel - 1`.
    The exact correspondence is  model fuel = `(1001 - depth).toNat`  (for EVERY integer depth).
  * `interpRE.ReplaceAllStringFunc` is `Go.replaceAllInterp` (the model's own segment scanner); the function literal
    is in state-passing style, its state is the captured `err` (`replaceSegs_of_eq`): after the first
    error every later match is replaced by "{ERROR}" and the error is kept, the model's `mapM` stops at the first error:
    the same error class.
  * hypotheses: `ParseOK yamlUnmarshal`, every document of the stream non-nil, documents well-formed (`Val.WF`; needed,
    `wf_needed_go`/`wf_needed_model` in TransProcess2.lean: `get` deep-clones = sorts, `%v` prints in map order), and
    the model does not answer `unmodelled` (⇔ every reference that is REACHED is in the sub-language the model reads;
    needed: `unmodelled_needed_ref`).
  * translator fuel (explicit): `p2sFuel` = two units per interpolation level that is left, plus what `getWithVar'`
    needs: `refFuel` of every reference written in an interpolation string of the string itself, the documents or the
    variables (`strNeed`/`valNeed`: only those can ever be reached) + 2, and the depth of the documents + 3.
  Main theorems: T_process2String_eq, T_process2StringInterp_eq.
-/
import BklProofs.Facts.TransGet
import Generated.Trans.Process2
namespace Bkl.Gen.Lib
open Bkl Go

theorem isPrefixChars_eq (p s : List Char) : Go.isPrefixChars p s = p.isPrefixOf s := by
  induction p generalizing s with
  | nil => cases s <;> simp [Go.isPrefixChars]
  | cons a p ih => cases s with
    | nil => simp [Go.isPrefixChars]
    | cons b s => simp [Go.isPrefixChars, ih, List.isPrefixOf]

theorem hasPrefix_eq_startsWith (s p : String) : Go.hasPrefix s p = s.startsWith p := by
  unfold Go.hasPrefix
  rw [isPrefixChars_eq]
  cases h : s.startsWith p
  · simp at h; exact Bool.eq_false_iff.2 (fun hh => h (List.isPrefixOf_iff_prefix.1 hh))
  · simp at h; exact List.isPrefixOf_iff_prefix.2 h

theorem interpBody_eq (s : String) : interpBody s =
    if (Go.hasPrefix s "$\"" && Go.hasSuffix s "\"") then some (Go.trimSuffix (Go.trimPrefix s "$\"") "\"").toList else none := by
  have h1 : "$\"".toList = ['$', '"'] := by decide
  have h2 : "\"".toList = ['"'] := by decide
  unfold interpBody Go.hasPrefix Go.hasSuffix Go.trimSuffix Go.trimPrefix Go.hasSuffix
  rw [h1, h2]
  rcases hs : s.toList with _ | ⟨c1, _ | ⟨c2, rest⟩⟩
  · simp [isPrefixChars]
  · simp [isPrefixChars]
  · by_cases hc1 : c1 = '$'
    · by_cases hc2 : c2 = '"'
      · subst hc1; subst hc2
        obtain ⟨rr, hrr⟩ : ∃ rr, rest = rr.reverse := ⟨rest.reverse, by simp⟩
        subst hrr
        cases rr with
        | nil => simp [isPrefixChars]
        | cons c rr =>
          by_cases hc : c = '"'
          · subst hc; simp [isPrefixChars]
          · simp [isPrefixChars, hc]
            exact fun h => hc h.symm
      · simp [isPrefixChars, hc2]
        exact fun _ h => absurd h.symm hc2
    · simp [isPrefixChars, hc1]
      exact fun h => absurd h.symm hc1

theorem trim_braces (cs : List Char) :
    Go.trimSuffix (Go.trimPrefix (String.ofList ('{' :: cs ++ ['}'])) "{") "}" = String.ofList cs := by
  have h1 : "{".toList = ['{'] := by decide
  have h2 : "}".toList = ['}'] := by decide
  unfold Go.trimSuffix Go.trimPrefix Go.hasSuffix
  simp [h1, h2, isPrefixChars]

/-! ## fuel needed by the references of interpolation strings -/

def segsNeed : List Seg → Nat
  | [] => 0
  | .lit _ :: r => segsNeed r
  | .ref cs :: r => max (refFuel (.str (String.ofList cs))) (segsNeed r)

def strNeed (s : String) : Nat :=
  match interpBody s with
  | none => 0
  | some body => segsNeed (interpSegs body)

mutual
def valNeed : Val → Nat
  | .str s => strNeed s
  | .list xs => listNeed xs
  | .map kvs => fieldsNeed kvs
  | _ => 0
def listNeed : List Val → Nat
  | [] => 0
  | x :: xs => max (valNeed x) (listNeed xs)
def fieldsNeed : Fields → Nat
  | [] => 0
  | (_, v) :: r => max (valNeed v) (fieldsNeed r)
end

theorem segsNeed_mem {segs : List Seg} {cs : List Char} (h : Seg.ref cs ∈ segs) :
    refFuel (.str (String.ofList cs)) ≤ segsNeed segs := by
  induction segs with
  | nil => cases h
  | cons x xs ih =>
    rcases List.mem_cons.1 h with rfl | h'
    · simp only [segsNeed]; omega
    · have := ih h'
      cases x <;> simp only [segsNeed] <;> omega

theorem valNeed_le_of_mem_fields {k : String} {v : Val} {kvs : Fields} (h : (k, v) ∈ kvs) :
    valNeed v ≤ fieldsNeed kvs := by
  induction kvs with
  | nil => cases h
  | cons y ys ih =>
    obtain ⟨k', v'⟩ := y
    simp only [fieldsNeed]
    rcases List.mem_cons.mp h with h' | h'
    · cases h'; omega
    · have := ih h'; omega

theorem valNeed_le_of_mem_list {x : Val} {xs : List Val} (h : x ∈ xs) : valNeed x ≤ listNeed xs := by
  induction xs with
  | nil => cases h
  | cons y ys ih =>
    simp only [listNeed]
    rcases List.mem_cons.mp h with rfl | h'
    · omega
    · have := ih h'; omega

/-- replaceSegs with a closure whose state is the captured `err` -/
theorem replaceSegs_err (F : String → Option Err → G (String × Option Err))
    (herr : ∀ m e, F m (some e) = .ok ("{ERROR}", some e)) (segs : List Seg) (acc : String) (e : Err) :
    ∃ a, Go.replaceSegs F segs acc (some e) = .ok (a, some e) := by
  induction segs generalizing acc with
  | nil => exact ⟨acc, rfl⟩
  | cons x xs ih =>
    cases x with
    | lit cs => simp only [Go.replaceSegs]; exact ih _
    | ref cs => simp only [Go.replaceSegs, herr]; exact ih _

/-- Go's results of the function literal of `ReplaceAllStringFunc`, called before any error, for the text the model
    puts for the segment -/
def segRes : R String → String × Option Err
  | .ok t => (t, none)
  | .error e => ("{ERROR}", some e)

/-- `interpRE.ReplaceAllStringFunc(s, F)` for a function literal `F` whose state is the captured `err`: once it is set
    every later match is replaced by "{ERROR}"; before that `F` refines the model's segment function `g`.  For use on a
    hypothesis `replaceSegs F … = res` (the literal need not be written out) -/
theorem replaceSegs_of_eq {F : String → Option Err → G (String × Option Err)} {segs : List Seg} {acc : String}
    {res : G (String × Option Err)} (hR : Go.replaceSegs F segs acc none = res) (g : Seg → R String)
    (hlit : ∀ cs, g (.lit cs) = .ok (String.ofList cs))
    (herr : ∀ m e, F m (some e) = .ok ("{ERROR}", some e))
    (hF : ∀ cs, Seg.ref cs ∈ segs →
      Sim (fun q m => q = segRes m) (F (String.ofList ('{' :: cs ++ ['}'])) none) (g (.ref cs)))
    (hmod : segs.mapM g ≠ .error Err.unmodelled) :
    match segs.mapM g with
    | .ok parts => res = .ok (acc ++ String.join parts, none)
    | .error e => ∃ a, res = .ok (a, some e) := by
  subst hR
  induction segs generalizing acc with
  | nil => simp [Go.replaceSegs, String.join, pure, Except.pure]
  | cons x xs ih =>
    rw [List.mapM_cons] at hmod ⊢
    have hx : Go.replaceSegs F (x :: xs) acc none =
        match g x with
        | .ok t => Go.replaceSegs F xs (acc ++ t) none
        | .error e => Go.replaceSegs F xs (acc ++ "{ERROR}") (some e) := by
      cases x with
      | lit cs => rw [hlit]; rfl
      | ref cs =>
        obtain ⟨q, hq, rfl⟩ := sim_def.1 (hF cs List.mem_cons_self) fun h => hmod (by rw [h]; rfl)
        rw [Go.replaceSegs, hq]
        cases g (.ref cs) <;> rfl
    rw [hx]
    cases hg : g x with
    | error e => exact replaceSegs_err F herr xs _ e
    | ok t =>
      rw [hg] at hmod
      have ih' := ih (acc := acc ++ t) (fun cs h => hF cs (List.mem_cons_of_mem _ h))
        fun h => hmod (by rw [h]; rfl)
      cases hm : xs.mapM g with
      | error e => rw [hm] at ih'; exact ih'
      | ok parts =>
        rw [hm] at ih'
        simp only [ih', bind, Except.bind, pure, Except.pure, String.join_cons, String.append_assoc]

/-! ## the two equations of the model's `process2String` (`process2String_not_interp`, `process2String_interp_eq` of
    Lemmas/Interp), under the names the proofs about process2.go call them by -/

theorem process2String_noninterp (n : Nat) (docs : List Val) (root : Val) (ec : Vars) (s : String)
    (hb : interpBody s = none) :
    process2String n docs root ec s =
      if s.startsWith "$env:" || s == "$repeat" then getVar ec s else .ok (.str s) :=
  process2String_not_interp n docs root ec hb

theorem process2String_succ (fuel : Nat) (docs : List Val) (root : Val) (ec : Vars) (s : String)
    (body : List Char) (hb : interpBody s = some body) :
    process2String (fuel + 1) docs root ec s = interpSpec fuel docs root ec (interpSegs body) :=
  process2String_interp_eq fuel docs root ec s body hb

/-! ## process2String / process2StringInterp -/

/-- what `getWithVar'` needs below an interpolation level: the references written in any interpolation string of the
    documents / the variables (at most `B` units for `getRef'`), and the depth of the documents (`deepClone`) -/
def getNeed (B : Nat) (mf : Go.Doc) (docs : List Go.Doc) : Nat :=
  max (B + 2) (Go.depthList (mf.data :: docs.map (·.data)) + 3)

theorem getWithVar_need (root : Val) (docs : List Val) (ec : Vars) (B : Nat)
    (hroot : valNeed root ≤ B) (hdocs : listNeed docs ≤ B) (hvars : fieldsNeed ec ≤ B)
    (m : String) (v : Val) (h : getWithVar root docs ec m = .ok v) : valNeed v ≤ B := by
  unfold getWithVar at h
  cases hg : get root docs (.str m) with
  | ok w =>
    rw [hg] at h
    simp only [pure, Except.pure, Except.ok.injEq] at h
    subst h
    refine get_closed (fun v => valNeed v ≤ B) ?_ docs ?_ root (.str m) w hroot hg
    · intro kvs k v hm hk
      have := valNeed_le_of_mem_fields (fget_mem hk)
      simp only [valNeed] at hm; omega
    · intro d hd; have := valNeed_le_of_mem_list hd; omega
  | error e =>
    rw [hg] at h
    have hv : getVar ec m = .ok v := by
      cases e <;> first | exact h | (simp [throw, throwThe, MonadExceptOf.throw] at h)
    unfold getVar at hv
    cases hf : fget ec m with
    | none => simp [hf, throw, throwThe, MonadExceptOf.throw] at hv
    | some w =>
      simp only [hf, pure, Except.pure, Except.ok.injEq] at hv
      subst hv
      have := valNeed_le_of_mem_fields (fget_mem hf); omega

theorem process2StringInterp_deep (yu : String → Val × Option Err) (f : Nat) (s : String) (mf : Go.Doc)
    (docs : List Go.Doc) (ec : Go.Ctx) (depth : Int) (hd : depth > 1000) :
    process2StringInterp' yu (f + 1) s mf docs ec depth = .ok (Val.null, some Err.circularRef) := by
  unfold process2StringInterp'
  simp only [hd, decide_true, if_true]

theorem process2String_unfold (yu : String → Val × Option Err) (f : Nat) (s : String) (mf : Go.Doc)
    (docs : List Go.Doc) (ec : Go.Ctx) (depth : Int) :
    process2String' yu (f + 1) s mf docs ec depth =
      match interpBody s with
      | some _ => process2StringInterp' yu f s mf docs ec depth
      | none => .ok (if s.startsWith "$env:" || s == "$repeat" then valRes (getVar ec.vars s) else (Val.str s, none)) := by
  unfold process2String'
  have hib := interpBody_eq s
  cases hb : interpBody s with
  | none =>
    rw [hb] at hib
    have hc : (Go.hasPrefix s "$\"" && Go.hasSuffix s "\"") = false := by
      cases hcc : (Go.hasPrefix s "$\"" && Go.hasSuffix s "\"") <;> simp [hcc] at hib ⊢
    simp only [hc, Bool.false_eq_true, if_false]
    simp only [hasPrefix_eq_startsWith, EvalContext_GetVar_eq]
    by_cases h2 : (s.startsWith "$env:" || s == "$repeat") = true <;> simp [h2]
  | some body =>
    rw [hb] at hib
    have hc : (Go.hasPrefix s "$\"" && Go.hasSuffix s "\"") = true := by
      cases hcc : (Go.hasPrefix s "$\"" && Go.hasSuffix s "\"") <;> simp [hcc] at hib ⊢
    simp only [hc, if_true]
    cases process2StringInterp' yu f s mf docs ec depth with
    | error e => rfl
    | ok p => rfl

theorem interpBody_trim (s : String) (body : List Char) (hb : interpBody s = some body) :
    (Go.trimSuffix (Go.trimPrefix s "$\"") "\"").toList = body := by
  have := interpBody_eq s
  rw [hb] at this
  cases hcc : (Go.hasPrefix s "$\"" && Go.hasSuffix s "\"") <;> simp [hcc] at this
  exact this.symm

theorem reads_valRes (m : R Val) : Reads (valRes m) m := by
  cases m <;> rfl

theorem process2String_of_interp (yu : String → Val × Option Err) (f : Nat) (s : String) (mf : Go.Doc)
    (docs : List Go.Doc) (ec : Go.Ctx) (depth : Int) (n : Nat)
    (h : ∀ body, interpBody s = some body → process2StringInterp' yu f s mf docs ec depth =
      .ok (valRes (process2String n (docs.map (·.data)) mf.data ec.vars s))) :
    process2String' yu (f + 1) s mf docs ec depth =
      .ok (valRes (process2String n (docs.map (·.data)) mf.data ec.vars s)) := by
  rw [process2String_unfold]
  cases hb : interpBody s with
  | none => simp only [process2String_noninterp _ _ _ _ _ hb]; split <;> rfl
  | some body => exact h body hb

theorem process2StringInterp_aux (yu : String → Val × Option Err) (hyu : ParseOK yu)
    (mf : Go.Doc) (docs : List Go.Doc) (ec : Go.Ctx) (hnil : ∀ d ∈ docs, d.isNil = false)
    (hwf : Val.WF mf.data) (hwfs : ∀ d ∈ docs, Val.WF d.data) (B : Nat)
    (hroot : valNeed mf.data ≤ B) (hdocs : listNeed (docs.map (·.data)) ≤ B) (hvars : fieldsNeed ec.vars ≤ B) :
    ∀ (n : Nat) (s : String) (depth : Int) (f : Nat), (1001 - depth).toNat = n → strNeed s ≤ B →
      2 * n + getNeed B mf docs + 1 ≤ f →
      process2String n (docs.map (·.data)) mf.data ec.vars s ≠ .error Err.unmodelled →
      ∀ body, interpBody s = some body →
        process2StringInterp' yu f s mf docs ec depth =
          .ok (valRes (process2String n (docs.map (·.data)) mf.data ec.vars s)) := by
  intro n
  induction n with
  | zero =>
    intro s depth f hn hs hf hmod body hb
    obtain ⟨f', rfl⟩ : ∃ f', f = f' + 1 := ⟨f - 1, by omega⟩
    rw [C13_interp_no_fuel _ _ _ _ _ hb, process2StringInterp_deep _ _ _ _ _ _ _ (by omega)]
    rfl
  | succ n ih =>
    intro s depth f hn hs hf hmod body hb
    have hN : B + 2 ≤ getNeed B mf docs ∧ Go.depthList (mf.data :: docs.map (·.data)) + 3 ≤ getNeed B mf docs := by
      unfold getNeed; omega
    obtain ⟨f', rfl⟩ : ∃ f', f = f' + 2 := ⟨f - 2, by omega⟩
    rw [process2String_succ _ _ _ _ _ _ hb] at hmod ⊢
    have hsn : segsNeed (interpSegs body) ≤ B := by unfold strNeed at hs; rwa [hb] at hs
    unfold process2StringInterp' Go.replaceAllInterp
    simp only [show ¬ depth > 1000 by omega, decide_false, Bool.false_eq_true, if_false, interpBody_trim s body hb]
    generalize hR : Go.replaceSegs _ (interpSegs body) "" none = res
    have hspec := replaceSegs_of_eq hR (interpSeg n (docs.map (·.data)) mf.data ec.vars) (fun cs => rfl)
      (fun m e => rfl) (fun cs hcs => by
        -- the function literal, called before any error: `getWithVar`, then `process2String` on a string
        simp only [beq_self_eq_true, if_true, trim_braces]
        rw [interpSeg_ref]
        refine Sim.bindV (sim_def.2 fun hgv => ⟨_, T_getWithVar_eq yu hyu mf docs ec _ hnil hwf hwfs
            (fun h => hgv ((getWithVar_unmodelled_iff _ _ _ _).2 h)) (f' + 1)
            (by have := segsNeed_mem hcs; omega) (by omega), reads_valRes _⟩) (fun v hv => ?_) fun _ _ => rfl
        cases v with
        | str s2 =>
          exact Sim.bindV (sim_def.2 fun hm2 => ⟨_, process2String_of_interp yu f' s2 mf docs ec (depth + 1) n
              (ih s2 (depth + 1) f' (by omega) (getWithVar_need _ _ _ B hroot hdocs hvars _ _ hv) (by omega) hm2),
            reads_valRes _⟩) (fun w _ => Sim.pure rfl) fun _ _ => rfl
        | _ => exact Sim.pure rfl)
      (by intro h; apply hmod; unfold interpSpec; rw [h])
    unfold interpSpec
    cases hm : List.mapM (interpSeg n (docs.map (·.data)) mf.data ec.vars) (interpSegs body) with
    | error e =>
      rw [hm] at hspec
      obtain ⟨a, rfl⟩ := hspec
      rfl
    | ok parts =>
      rw [hm] at hspec
      rw [hspec, String.empty_append]; rfl

/-- the `getRef'` fuel of every reference written in an interpolation string of the string, the documents or the
    variables -/
def refNeed (mf : Go.Doc) (docs : List Go.Doc) (ec : Go.Ctx) (s : String) : Nat :=
  max (strNeed s) (max (valNeed mf.data) (max (listNeed (docs.map (·.data))) (fieldsNeed ec.vars)))

theorem refNeed_le (mf : Go.Doc) (docs : List Go.Doc) (ec : Go.Ctx) (s : String) :
    strNeed s ≤ refNeed mf docs ec s ∧ valNeed mf.data ≤ refNeed mf docs ec s ∧
      listNeed (docs.map (·.data)) ≤ refNeed mf docs ec s ∧ fieldsNeed ec.vars ≤ refNeed mf docs ec s := by
  unfold refNeed
  omega

/-- translator fuel for process2String at Go depth `depth`: two units per interpolation level that is left
    (`1001 - depth`), and what `getWithVar'` needs below the last one -/
def p2sFuel (mf : Go.Doc) (docs : List Go.Doc) (ec : Go.Ctx) (s : String) (depth : Int) : Nat :=
  2 * (1001 - depth).toNat + getNeed (refNeed mf docs ec s) mf docs + 2

/-- process2.go:process2String at Go depth `depth` is the model's `process2String` with fuel `1001 - depth`
    (the levels of interpolation that are left: process2StringInterp fails when `depth > 1000` and passes `depth + 1`),
    on well-formed documents, wherever the model does not answer `unmodelled` (= every reference that is reached is in
    the sub-language the model reads) -/
theorem T_process2String_eq (yu : String → Val × Option Err) (hyu : ParseOK yu)
    (mf : Go.Doc) (docs : List Go.Doc) (ec : Go.Ctx) (hnil : ∀ d ∈ docs, d.isNil = false)
    (hwf : Val.WF mf.data) (hwfs : ∀ d ∈ docs, Val.WF d.data) (s : String) (depth : Int) (fuel : Nat)
    (hf : p2sFuel mf docs ec s depth ≤ fuel)
    (hmod : process2String (1001 - depth).toNat (docs.map (·.data)) mf.data ec.vars s ≠ .error Err.unmodelled) :
    process2String' yu fuel s mf docs ec depth =
      .ok (valRes (process2String (1001 - depth).toNat (docs.map (·.data)) mf.data ec.vars s)) := by
  unfold p2sFuel at hf
  obtain ⟨f, rfl⟩ : ∃ f, fuel = f + 1 := ⟨fuel - 1, by omega⟩
  obtain ⟨h1, h2, h3, h4⟩ := refNeed_le mf docs ec s
  exact process2String_of_interp yu f s mf docs ec depth _
    (process2StringInterp_aux yu hyu mf docs ec hnil hwf hwfs _ h2 h3 h4 _ s depth f rfl h1 (by omega) hmod)

/-- process2.go:process2StringInterp on a string of the form `$"…"` (the only ones process2String hands to it) -/
theorem T_process2StringInterp_eq (yu : String → Val × Option Err) (hyu : ParseOK yu)
    (mf : Go.Doc) (docs : List Go.Doc) (ec : Go.Ctx) (hnil : ∀ d ∈ docs, d.isNil = false)
    (hwf : Val.WF mf.data) (hwfs : ∀ d ∈ docs, Val.WF d.data) (s : String) (depth : Int) (fuel : Nat)
    (hs : interpBody s ≠ none)
    (hf : p2sFuel mf docs ec s depth ≤ fuel + 1)
    (hmod : process2String (1001 - depth).toNat (docs.map (·.data)) mf.data ec.vars s ≠ .error Err.unmodelled) :
    process2StringInterp' yu fuel s mf docs ec depth =
      .ok (valRes (process2String (1001 - depth).toNat (docs.map (·.data)) mf.data ec.vars s)) := by
  unfold p2sFuel at hf
  cases hb : interpBody s with
  | none => exact absurd hb hs
  | some body =>
    obtain ⟨h1, h2, h3, h4⟩ := refNeed_le mf docs ec s
    exact process2StringInterp_aux yu hyu mf docs ec hnil hwf hwfs _ h2 h3 h4 _ s depth fuel rfl h1 (by omega)
      hmod body hb


end Bkl.Gen.Lib
