/-
  Fact obligation F5: the only calls in package bkl that read file contents are `p.root.Open`
  (confined by os.Root) and the ReadAll on its result; OutputToFile opens the *output* path.
  Used by C18.
-/
import Generated.Facts
namespace Bkl

theorem F5_file_reads :
    Facts.fileReads = [("file.go", "loadFile", "io.ReadAll"), ("file.go", "loadFile", "p.root.Open"),
                       ("parser.go", "OutputToFile", "os.OpenFile")] := by decide +kernel

end Bkl
