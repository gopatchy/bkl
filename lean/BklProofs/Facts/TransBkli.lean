/-
  Translation equivalence, cmd/bkli/intersect.go: the Lean definitions that harness/cmd/gotrans writes from /repo's
  CURRENT intersect.go (Generated/Trans/Bkli.lean, regenerated on every run) compute the model's `intersect`
  (Bkl/Tools.lean).  A change of intersect.go that changes its meaning makes these theorems fail to check.

  The one real difference: Go builds the result map with `ret[k] = v` (`fset` into a key-sorted association list),
  the model keeps the entries in the order of its first argument.  The two agree exactly when the maps on the
  "map spine" of the first argument have strictly increasing keys (`SpineSorted a`, implied by `Val.WF a`); nothing
  is needed of the second argument.  The examples at the end show that the hypothesis cannot be dropped.
-/
import Generated.Trans.Bkli
import BklProofs.Lemmas.GoLib
import BklProofs.Lemmas.ToolsIntersect
namespace Bkl.Gen.Bkli
open Bkl Go

/-! ## the hypothesis: maps reachable from the root through maps only are strictly sorted by key -/

mutual
/-- every map of `v` that is reached through maps only has strictly increasing keys (lists are opaque:
    their entries are only compared) -/
def spineSortedB : Val → Bool
  | .map kvs => Fields.sortedKeysB kvs && spineSortedFieldsB kvs
  | _ => true
def spineSortedFieldsB : Fields → Bool
  | [] => true
  | (_, v) :: rest => spineSortedB v && spineSortedFieldsB rest
end

def SpineSorted (v : Val) : Prop := spineSortedB v = true

instance (v : Val) : Decidable (SpineSorted v) := by unfold SpineSorted; infer_instance

theorem spineSortedFieldsB_iff {m : Fields} : spineSortedFieldsB m = true ↔ ∀ p ∈ m, SpineSorted p.2 :=
  all_of_eqns spineSortedFieldsB.eq_1 fun p l => spineSortedFieldsB.eq_2 p.1 p.2 l

theorem spineSorted_map_iff {m : Fields} :
    SpineSorted (.map m) ↔ Fields.SortedKeys m ∧ ∀ p ∈ m, SpineSorted p.2 := by
  simp only [SpineSorted, spineSortedB, Bool.and_eq_true, sortedKeysB_iff, spineSortedFieldsB_iff]

theorem SpineSorted_of_WF {v : Val} (h : Val.WF v) : SpineSorted v := by
  induction v using Go.depth_induction with | _ v ih =>
  cases v with
  | map kvs =>
    have hw := wf_map_iff.1 h
    exact spineSorted_map_iff.2 ⟨hw.1, fun p hp =>
      ih _ (Nat.lt_succ_of_le (Go.depth_le_of_mem_fields (k := p.1) hp)) (hw.2 p hp)⟩
  | _ => rfl

theorem spineSortedFields_of_wfB : ∀ (m : Fields), Val.wfFieldsB m = true → spineSortedFieldsB m = true :=
  fun _ h => spineSortedFieldsB_iff.2 fun p hp => SpineSorted_of_WF (wfFieldsB_iff.1 h p hp)

/-! ## intersectListList / intersectList -/

/-- the model's list case (Bkl/Tools.lean `intersect`, both lists), as a function on lists -/
def intersectListModel (a b : List Val) : List Val :=
  if ((listCommon a b).isEmpty && decide (a.length + b.length > 0)) = true
  then [.str "$required"] else listCommon a b

theorem intersect_list_list_model (a b : List Val) :
    intersect (.list a) (.list b) = .list (intersectListModel a b) := by
  rw [intersect_list_list, intersectListModel]; split <;> rfl

theorem T_intersectListList_eq (a b : List Val) :
    intersectListList' a b = .ok (intersectListModel a b, none) := by
  unfold intersectListList' intersectListModel listCommon
  dsimp only
  rw [forRange_filter (p := fun v1 => b.any (fun v2 => v1 == v2))]
  · have hlen : decide (Int.ofNat a.length + Int.ofNat b.length > (0 : Int)) = decide (a.length + b.length > 0) :=
      decide_eq_decide.2 (by show (a.length : Int) + b.length > 0 ↔ _; omega)
    dsimp only [List.nil_append]
    rw [hlen]
    cases a.filter (fun v1 => b.any fun v2 => v1 == v2) with
    | nil => cases decide (a.length + b.length > 0) <;> rfl
    | cons x xs => rfl
  · intro v1 ret
    -- the inner loop appends `v1` at its first equal in `b` and breaks
    rw [forRange_unique (fun xs r => .ok (.inl (if xs.any (fun v2 => v1 == v2) then r ++ [v1] else r))) _ b
      (fun _ => rfl) (fun v2 _ xs r => by rw [List.any_cons]; cases v1 == v2 <;> rfl)]

theorem T_intersectList_eq (a : List Val) (b : Val) (hb : b ≠ .null) :
    intersectList' a b = .ok (intersect (.list a) b, none) := by
  unfold intersectList'
  cases b with
  | null => exact absurd rfl hb
  | list bl => simp only [T_intersectListList_eq, intersect_list_list_model]
  | _ => simp [intersect]

/-! ## intersectMapMap -/

/-- intersectMapMap, given that the recursive calls on the entries of `a` are right: the loop stores the model's
    entries (`intersectAt` under each key) one by one, which rebuilds the key-sorted `intersectFields a b` -/
theorem intersectMapMap_step (fuel : Nat) (a b : Fields) (hs : Fields.SortedKeys a)
    (hall : ∀ k v, (k, v) ∈ a → ∀ v2, intersect' fuel v v2 = .ok (intersect v v2, none)) :
    intersectMapMap' (fuel + 1) a b = .ok (intersectFields a b, none) := by
  unfold intersectMapMap'
  dsimp only
  rw [forRange_filterMapVal (fun k v => intersectAt v (fget b k)) a _ ?_ [], ← intersectFields_eq]
  · exact congrArg (fun r => Except.ok (r, none)) (fofList_of_sorted (sorted_intersectFields b hs))
  · rintro ⟨k, v⟩ hmem ret
    unfold Go.mapIndex2 intersectAt
    dsimp only
    cases fget b k with
    | none => rfl
    | some v2 =>
      dsimp only
      rw [hall k v hmem, beq_null_eq_isNull, beq_null_eq_isNull]
      cases v.isNull && v2.isNull with
      | true => rfl
      | false =>
        dsimp only
        rw [beq_null_eq_isNull]
        cases (intersect v v2).isNull <;> rfl

/-! ## intersect: the cases that do not recurse -/

theorem intersect_null_b (fuel : Nat) (a : Val) : intersect' (fuel + 1) a .null = .ok (intersect a .null, none) := by
  rw [intersect_null_right]; rfl

theorem intersect_nonmap (fuel : Nat) (a b : Val) (hf : 0 < fuel) (ha : a.isMap = false) :
    intersect' fuel a b = .ok (intersect a b, none) := by
  cases fuel with
  | zero => cases hf
  | succ fuel =>
    by_cases hb : b = .null
    · subst hb; exact intersect_null_b fuel a
    · unfold intersect'
      rw [beq_eq_false_iff_ne.2 hb, if_neg Bool.false_ne_true]
      cases a with
      | map m => cases ha
      | list l => dsimp only; rw [T_intersectList_eq l b hb]
      | null => rw [intersect_null_left]
      | _ =>
        dsimp only
        rw [intersect_scalar _ b rfl hb]
        cases _ == b <;> rfl

/-- intersectMap, given intersectMapMap -/
theorem intersectMap_step (fuel : Nat) (a : Fields) (b : Val) (hb : b ≠ .null)
    (hmm : ∀ bm, intersectMapMap' fuel a bm = .ok (intersectFields a bm, none)) :
    intersectMap' (fuel + 1) a b = .ok (intersect (.map a) b, none) := by
  unfold intersectMap'
  cases b with
  | null => exact absurd rfl hb
  | map bm => dsimp only; rw [hmm, intersect_map_map]
  | _ => rw [intersect_map_other _ _ hb rfl]

/-! ## main theorems -/

/-- intersect.go:intersect, as translated from the current source, is the model's `intersect`, for every first
    argument whose map spine is key-sorted and every second argument, given fuel for the nesting depth of the first -/
theorem T_intersect_eq_spine (a b : Val) (hw : SpineSorted a) (fuel : Nat) (h : 3 * Go.depth a + 1 ≤ fuel) :
    intersect' fuel a b = .ok (intersect a b, none) := by
  refine Go.fuel_induction 3
    (P := fun fuel a => SpineSorted a → ∀ b, intersect' fuel a b = .ok (intersect a b, none))
    (fun f v h0 _ b => ?_) (fun f am ih hw b => ?_) (fun f xs _ _ b => ?_) a fuel h hw b
  · cases v with
    | map _ | list _ => cases h0
    | _ => exact intersect_nonmap _ _ b (Nat.succ_pos f) rfl
  · by_cases hb : b = .null
    · subst hb; exact intersect_null_b _ _
    · have hw' := spineSorted_map_iff.1 hw
      unfold intersect'
      rw [beq_eq_false_iff_ne.2 hb, if_neg Bool.false_ne_true]
      dsimp only
      rw [intersectMap_step (f + 1) am b hb fun bm => intersectMapMap_step f am bm hw'.1 fun k v hm v2 =>
        ih v (Go.depth_le_of_mem_fields hm) f (Nat.le_refl f) (hw'.2 _ hm) v2]
  · exact intersect_nonmap _ _ b (Nat.succ_pos _) rfl

theorem T_intersect_eq (a b : Val) (hw : Val.WF a) (fuel : Nat) (h : 3 * Go.depth a + 1 ≤ fuel) :
    intersect' fuel a b = .ok (intersect a b, none) :=
  T_intersect_eq_spine a b (SpineSorted_of_WF hw) fuel h

/-- intersect.go:intersectMapMap is the model's `intersectFields` -/
theorem T_intersectMapMap_eq_spine (a b : Fields) (hw : SpineSorted (.map a)) (fuel : Nat)
    (h : 3 * Go.depthFields a + 2 ≤ fuel) :
    intersectMapMap' fuel a b = .ok (intersectFields a b, none) := by
  obtain ⟨f, rfl, hf⟩ := Go.fuel_of_mem_fields h
  have hw' := spineSorted_map_iff.1 hw
  exact intersectMapMap_step f a b hw'.1 fun k v hm v2 => T_intersect_eq_spine v v2 (hw'.2 _ hm) f (hf (k, v) hm)

theorem T_intersectMapMap_eq (a b : Fields) (hw : Val.WF (.map a)) (fuel : Nat)
    (h : 3 * Go.depthFields a + 2 ≤ fuel) :
    intersectMapMap' fuel a b = .ok (intersectFields a b, none) :=
  T_intersectMapMap_eq_spine a b (SpineSorted_of_WF hw) fuel h

/-- intersect.go:intersectMap is the model's `intersect` on a map first argument; Go's `intersect` has already
    returned for `b == nil`, the helper alone answers "$required" there (see `intersectMap_null_differs`) -/
theorem T_intersectMap_eq_spine (a : Fields) (b : Val) (hb : b ≠ .null) (hw : SpineSorted (.map a)) (fuel : Nat)
    (h : 3 * Go.depth (.map a) ≤ fuel) :
    intersectMap' fuel a b = .ok (intersect (.map a) b, none) := by
  simp only [Go.depth] at h
  obtain ⟨f, rfl⟩ : ∃ f, fuel = f + 1 := ⟨fuel - 1, by omega⟩
  exact intersectMap_step f a b hb (fun bm => T_intersectMapMap_eq_spine a bm hw f (by omega))

theorem T_intersectMap_eq (a : Fields) (b : Val) (hb : b ≠ .null) (hw : Val.WF (.map a)) (fuel : Nat)
    (h : 3 * Go.depth (.map a) ≤ fuel) :
    intersectMap' fuel a b = .ok (intersect (.map a) b, none) :=
  T_intersectMap_eq_spine a b hb (SpineSorted_of_WF hw) fuel h

/-! ## non-vacuity, and the hypotheses are needed -/

/-- a non-trivial instance of the hypotheses (sorted map spine; an unsorted map inside a list is allowed) -/
example : SpineSorted (.map [("a", .map [("x", .int 1), ("y", .null)]),
    ("b", .list [.map [("z", .null), ("y", .null)]])]) := by decide
example : Val.WF (.map [("a", .map [("x", .int 1), ("y", .null)]), ("b", .list [.int 1])]) := by decide

/-- unsorted keys in the first argument: Go (a real map, re-sorted on output; here `fset`) gives the keys in
    order, the model keeps the order of `a` -/
theorem intersect_unsorted_differs :
    let a : Val := .map [("b", .int 1), ("a", .int 2)]
    ¬ SpineSorted a ∧ ∀ fuel, intersect' fuel a a ≠ .ok (intersect a a, none) := by
  refine ⟨by decide, fun fuel h => ?_⟩
  match fuel with
  | 0 | 1 | 2 | 3 => cases h
  | f + 4 =>
    have h' : Val.map [("a", .int 2), ("b", .int 1)] = .map [("b", .int 1), ("a", .int 2)] :=
      (Prod.mk.inj (Except.ok.inj h)).1
    exact absurd h' (by decide)

/-- a repeated key in the first argument (not a Go map): `ret[k] = v` overwrites, the model lists both -/
theorem intersect_dupkey_differs :
    let a : Val := .map [("a", .int 1), ("a", .int 1)]
    ¬ SpineSorted a ∧ ∀ fuel, intersect' fuel a a ≠ .ok (intersect a a, none) := by
  refine ⟨by decide, fun fuel h => ?_⟩
  match fuel with
  | 0 | 1 | 2 | 3 => cases h
  | f + 4 => cases h

/-- the same one level down: sortedness is needed along the whole map spine -/
theorem intersect_unsorted_nested_differs :
    let a : Val := .map [("k", .map [("b", .int 1), ("a", .int 2)])]
    Fields.SortedKeys [("k", Val.map [("b", .int 1), ("a", .int 2)])] ∧ ¬ SpineSorted a ∧
      ∀ fuel, 3 * Go.depth a + 1 ≤ fuel → intersect' fuel a a ≠ .ok (intersect a a, none) := by
  refine ⟨by decide, by decide, fun fuel hf h => ?_⟩
  obtain ⟨f, rfl⟩ : ∃ f, fuel = f + 7 := ⟨fuel - 7, (Nat.sub_add_cancel hf).symm⟩
  have h' : Val.map [("k", .map [("a", .int 2), ("b", .int 1)])] = .map [("k", .map [("b", .int 1), ("a", .int 2)])] :=
    (Prod.mk.inj (Except.ok.inj h)).1
  exact absurd h' (by decide)

/-- `b ≠ nil` is needed for the helpers alone: Go's `intersect` returns before calling them -/
theorem intersectMap_null_differs :
    intersectMap' 1 [] .null = .ok (.str "$required", none) ∧ intersect (.map []) .null = .null :=
  ⟨rfl, rfl⟩

theorem intersectList_null_differs :
    intersectList' [] .null = .ok (.str "$required", none) ∧ intersect (.list []) .null = .null :=
  ⟨rfl, rfl⟩

/-- the fuel is needed: with none, the translated function reports `GErr.fuel` -/
example : intersect' 0 .null .null = .error GErr.fuel := rfl

end Bkl.Gen.Bkli
