/-
  Fact obligations for determinism (F2, F4): the list of `range` loops over Go maps in package
  bkl equals the list of loops for which BklProofs.C09 has an order-invariance theorem, there is
  no package-level mutable state and no goroutine is started by the library.  Used by C09.
-/
import Generated.Facts
namespace Bkl

/-- every unordered `range` site of package bkl, with the theorem that makes its order irrelevant -/
def coveredRanges : List ((String × String × String) × String) := [
  (("document.go", "allParents", "parent.AllParents(...)"), "C09_allParents_order_invariant"),
  (("filepath.go", "findFile", "formatByExtension"), "order matters only for ambiguous layer names (excluded by the property); model: sorted"),
  (("json.go", "jsonKeepFloats", "v2"), "C09_insert_order_invariant (copy into a fresh map; added by fix c9f6d4f)"),
  (("match.go", "matchMap", "objMap"), "single-entry map (len == 1 is tested first)"),
  (("match.go", "matchMap", "pat"), "C09_match_order_invariant"),
  (("merge.go", "mergeMapMap", "src"), "C09_merge_order_invariant"),
  (("repeat.go", "repeatDocGenFromMap", "rs"), "C09_repeat_vars_order_invariant"),
  (("util.go", "deepClone", "v2"), "C09_insert_order_invariant (copy into a fresh map)"),
  (("util.go", "filterMap", "m2"), "C09_insert_order_invariant (insert into the result map)"),
  (("validate.go", "validateMap", "obj"), "C09_validate_order_invariant"),
  (("yaml.go", "yamlKeepFloats", "v2"), "C09_insert_order_invariant (copy into a fresh map; added by fix c9f6d4f)"),
  (("yaml.go", "yamlMerge", "inner"), "C09_insert_order_invariant"),
  (("yaml.go", "yamlMerge", "src2"), "C09_insert_order_invariant")]

/-- F2: no unordered map walk exists in package bkl beyond the covered ones -/
theorem F2_raw_ranges_covered : Facts.rawMapRanges = coveredRanges.map (·.1) := by decide +kernel

/-- F4: package-level variables are sentinels, regexps and the format table; none is assigned after init -/
theorem F4_no_mutable_globals :
    Facts.pkgVarWrites = [] ∧
    Facts.pkgVarKinds.all (fun k => k == "sentinel" || k == "regexp" || k == "formatTable") = true := by decide

/-- the library starts no goroutine: concurrent evaluations share nothing but immutable globals -/
theorem F4_no_goroutines : Facts.goStatements = [] := by decide

end Bkl
