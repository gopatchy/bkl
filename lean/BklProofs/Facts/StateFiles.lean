/- Fact obligation F12, the struct type `file` (table and explanation: BklProofs/Facts/State.lean). -/
import BklProofs.Facts.State
namespace Bkl

/-- F12, file side: a file being loaded holds its path, its child chain and its documents (C03, C09, C18) -/
theorem F12_no_hidden_state_files :
    fieldsOfTypes ["file"] Facts.structFields = fieldsOfTypes ["file"] (expectedStructFields.map (·.1)) := by decide +kernel

end Bkl
