/-
  Fact obligation F10, slice "eval": the directive literals, in source order, of every function of
  process2.go, repeat.go are the ones the model mirrors (table and explanation: BklProofs/Facts/Dispatch.lean).
-/
import BklProofs.Facts.Dispatch
namespace Bkl

theorem F10_dispatch_order_eval :
    seqOfFiles ["process2.go", "repeat.go"] Facts.directiveSeq = seqOfFiles ["process2.go", "repeat.go"] (expectedDirectiveSeq.map (·.1)) := by decide +kernel

end Bkl
