/- C17 on the translated cmd/bklr/required.go (`required'`): the theorems of BklProofs/C17 composed with `T_required_eq`
   (Facts/TransBklr). -/
import BklProofs.C17
import BklProofs.Facts.TransBklr
namespace Bkl.Gen
open Bkl Go

/-! ### `depth_required_le` (Lemmas/GoLibBklr) read on the entries of a list and of a map (the laws below use the
    value's form) -/

theorem depthList_required_le : ∀ (xs : List Val), Go.depthList (requiredList xs) ≤ Go.depthList xs := by
  intro xs
  refine depthList_le_of_forall fun x hx => ?_
  rw [requiredList_eq] at hx
  obtain ⟨y, hy, hr⟩ := List.mem_filterMap.1 hx
  exact Nat.le_trans (depth_required_le y x hr) (depth_le_of_mem_list hy)

theorem depthFields_required_le : ∀ (kvs : Fields), Go.depthFields (requiredFields kvs) ≤ Go.depthFields kvs := by
  intro kvs
  refine depthFields_le_of_forall fun p hp => ?_
  rw [requiredFields_eq] at hp
  obtain ⟨v, hv, hr⟩ := mem_filterMapVal.1 (show (p.1, p.2) ∈ _ from hp)
  exact Nat.le_trans (depth_required_le v p.2 hr) (depth_le_of_mem_fields hv)

/-! ### the laws -/

/-- the output consists of markers only (`C17_only_markers`): for a well-formed input the translated `required`
    never fails, and what it returns is nil or a value all of whose leaves are `"$required"` and all of whose
    containers are non-empty; the number of markers is that of the input (`C17_count`) -/
theorem S_C17_only_markers (v : Val) (hv : Val.WF v) (fuel : Nat) (hf : 2 * Go.depth v + 1 ≤ fuel) :
    ∃ r, Bklr.required' fuel v = .ok (r, none) ∧ (r = .null ∨ onlyMarkers r = true) ∧
      countReq r = countReq v := by
  refine ⟨_, Bklr.T_required_eq v hv fuel hf, ?_, C17_count v⟩
  cases h : required v with
  | none => exact .inl rfl
  | some r => exact .inr (C17_only_markers v r h)

/-- nothing is emitted exactly when the input has no marker (`C17_empty_iff`) -/
theorem S_C17_empty_iff (v : Val) (hv : Val.WF v) (fuel : Nat) (hf : 2 * Go.depth v + 1 ≤ fuel) :
    Bklr.required' fuel v = .ok (.null, none) ↔ countReq v = 0 := by
  rw [Bklr.T_required_eq v hv fuel hf, ← C17_empty_iff v]
  cases h : required v with
  | none => simp
  | some r =>
    have := required_ne_null v
    rw [h] at this
    simp only [Option.getD_some, Except.ok.injEq, Prod.mk.injEq, and_true, reduceCtorEq, iff_false]
    intro e; subst e; exact this rfl

/-- idempotence (`C17_idempotent`): running the translated `required` on its own output returns that output —
    with the SAME fuel bound as for the input (`required` does not deepen a value) -/
theorem S_C17_idempotent (v r : Val) (hv : Val.WF v) (fuel : Nat) (hf : 2 * Go.depth v + 1 ≤ fuel)
    (h : Bklr.required' fuel v = .ok (r, none)) (fuel' : Nat) (hf' : 2 * Go.depth v + 1 ≤ fuel') :
    Bklr.required' fuel' r = .ok (r, none) := by
  rw [Bklr.T_required_eq v hv fuel hf] at h
  cases hr : required v with
  | none =>
    rw [hr] at h
    simp only [Option.getD_none, Except.ok.injEq, Prod.mk.injEq, and_true] at h
    subst h
    rw [Bklr.T_required_eq .null wf_null fuel' (by simp only [Go.depth]; omega)]
    rfl
  | some r0 =>
    rw [hr] at h
    simp only [Option.getD_some, Except.ok.injEq, Prod.mk.injEq, and_true] at h
    subst h
    have hd := depth_required_le v r0 hr
    rw [Bklr.T_required_eq r0 (required_wf hv hr) fuel' (by omega), C17_idempotent v r0 hr]
    rfl

/-- non-vacuity (the witness of BklProofs/Facts/TransBklr): a well-formed value with two markers; the translated
    `required` returns the skeleton, which is not nil, and is a fixed point -/
example : Val.WF Bklr.exWF ∧ 2 * Go.depth Bklr.exWF + 1 ≤ 7 ∧ countReq Bklr.exWF = 2 := by decide

example : Bklr.required' 7 Bklr.exWF =
      .ok (.map [("a", .str "$required"), ("c", .list [.map [("d", .str "$required")]])], none) ∧
    Bklr.required' 7 (.map [("a", .str "$required"), ("c", .list [.map [("d", .str "$required")]])]) =
      .ok (.map [("a", .str "$required"), ("c", .list [.map [("d", .str "$required")]])], none) ∧
    Bklr.required' 7 Bklr.exWF ≠ .ok (.null, none) := by
  have h1 : Bklr.required' 7 Bklr.exWF =
      .ok (.map [("a", .str "$required"), ("c", .list [.map [("d", .str "$required")]])], none) := by
    rw [Bklr.T_required_eq Bklr.exWF (by decide) 7 (by decide)]; decide
  refine ⟨h1, S_C17_idempotent Bklr.exWF _ (by decide) 7 (by decide) h1 7 (by decide), ?_⟩
  rw [Ne, S_C17_empty_iff Bklr.exWF (by decide) 7 (by decide)]
  decide


end Bkl.Gen
