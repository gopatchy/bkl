/-
  Fact obligation F10, slice "escape": the directive literals, in source order, of every function of
  finalize.go, validate.go are the ones the model mirrors (table and explanation: BklProofs/Facts/Dispatch.lean).
-/
import BklProofs.Facts.Dispatch
namespace Bkl

theorem F10_dispatch_order_escape :
    seqOfFiles ["finalize.go", "validate.go"] Facts.directiveSeq = seqOfFiles ["finalize.go", "validate.go"] (expectedDirectiveSeq.map (·.1)) := by decide +kernel

end Bkl
