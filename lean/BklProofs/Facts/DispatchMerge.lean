/-
  Fact obligation F10, slice "merge": the directive literals, in source order, of every function of
  match.go, merge.go, parser.go are the ones the model mirrors (table and explanation: BklProofs/Facts/Dispatch.lean).
-/
import BklProofs.Facts.Dispatch
namespace Bkl

theorem F10_dispatch_order_merge :
    seqOfFiles ["match.go", "merge.go", "parser.go"] Facts.directiveSeq = seqOfFiles ["match.go", "merge.go", "parser.go"] (expectedDirectiveSeq.map (·.1)) := by decide +kernel

end Bkl
