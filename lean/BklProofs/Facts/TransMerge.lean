/-
  Translation equivalence, merge.go: the Lean definitions that harness/cmd/gotrans writes from /repo's CURRENT
  merge.go (Generated/Trans/Merge.lean, regenerated on every run: merge', mergeMap', mergeMapMap', mergeList',
  mergeListList', mergeListDelete', mergeListMatch') compute the model's `merge` (Bkl/Merge.lean: `merge`,
  `mergeMapMap`/`mergeFields`, `mergeListList`/`mergeEntries`, `mergeListDelete`).  A change of merge.go that changes
  its meaning makes these theorems fail to check.

  Main theorem `T_merge_eq`: for every target `dst`, every WELL-FORMED patch `src` and every fuel
  `≥ 4 * Go.depth src + 2`,  `merge' fuel dst src = .ok (resOf dst src)`, where `resOf` is the model's result as Go's
  `(any, error)`: `(r, nil)`, or `(typed nil, the same error class)` (`mergeErrVal`: a nil map where the error comes
  out of mergeMapMap, a nil slice out of mergeList, the nil interface otherwise).

  Differences between the Go code and the model, and how they are bridged:
  * Go deep-clones the patch values it stores under keys new to the target, and the `$match` update once per matching
    entry; `deepClone` rebuilds maps entry by entry (`Val.norm`), the identity exactly on well-formed values.  Hence
    the hypothesis `Val.WF src`; it is needed (`merge_unsorted_patch_differs`).  NOTHING is needed of `dst`: both sides
    use the same `fget`/`fset`/`fdel` on it, and the recursion only ever descends the patch.
  * closures (`filterList(obj, func …)`) are rendered in state-passing style; what `filterList'` does with them is
    proved in Facts/TransFilterCore and Facts/TransFilter (`T_filterList_rec`, `T_filterList_drop`, and
    `T_popListString_eq`, `T_popListMapBoolValue_eq` for the two helpers of util.go), the two closures of merge.go here
    (`mergeListDelete_step`, `mergeListMatch_filter`).
  * mergeListList re-binds `src` to the popped list; the model passes on the original: equal when nothing was popped
    (`popListMapBool_closed`, and the filter of an absent string is the identity).
  * the model inlines mergeListMatch in `mergeEntries`; `mergeListMatch`/`entryStep` (Lemmas/MergeList) name the pieces
    and `mergeEntries_eq_steps` shows `mergeEntries` is their iteration.  Likewise `mergeAct`/`fput` (Lemmas/Merge) for `mergeFields`.
  * mergeMapMap / mergeListList return a Go map / slice that the callers convert to `any`: `mergeMapMapF` (below) and
    `mergeListListL` (Lemmas/MergeList, the closed form) are the model's functions before the wrapping
    (`mergeMapMap_eq_F`, `mergeListList_eq_L`).
  The fuel bound: one level of the patch costs at most 4 calls (merge → mergeList → mergeListList → mergeListMatch →
  merge); `match` on a `$match`/`$delete` pattern needs `3 * depth + 1` and `deepClone` `depth + 1`, both below it.
-/
import Generated.Trans.Merge
import BklProofs.Facts.TransFilter
import BklProofs.Facts.TransMatch
import BklProofs.Lemmas.MergeList
namespace Bkl.Gen.Lib
open Bkl Go

/-! ## the recursion of util.go:filterList (state-passing rendering), written out -/

/-- `filterList` from the accumulator `acc` and the closure state `st`: the same recursion as `filterListRecS` of
    Facts/TransFilterCore, with which every lemma about `filterList'`, those of this file included, is stated -/
def filterRec {σ : Type} (filter : Val → σ → G ((List Val × Option Err) × σ)) :
    List Val → List Val → σ → G ((List Val × Option Err) × σ)
  | [], acc, st => .ok ((acc, none), st)
  | x :: xs, acc, st =>
    match filter x st with
    | .error e => .error e
    | .ok ((l2, none), st') => filterRec filter xs (acc ++ l2) st'
    | .ok ((_, some e), st') => .ok (([], some e), st')

theorem filterRec_nil {σ : Type} (filter : Val → σ → G ((List Val × Option Err) × σ)) (acc : List Val) (st : σ) :
    filterRec filter [] acc st = .ok ((acc, none), st) := rfl

/-! ## merge.go:mergeListDelete -/

/-- mergeListDelete, given that the calls of `match` on the entries answer like the model -/
theorem mergeListDelete_step (f : Nat) (obj : List Val) (del : Val)
    (hm : ∀ v ∈ obj, match' f v del = .ok (matchV v del)) :
    mergeListDelete' (f + 1) obj del = .ok (resPair (mergeListDelete obj del)) := by
  unfold mergeListDelete'
  simp only []
  rw [T_filterList_drop (fun v => matchV v del) obj _ false (fun x hx b => ?_)]
  · unfold mergeListDelete
    cases obj.any (fun v => matchV v del) <;> rfl
  · rw [hm x hx]
    cases matchV x del <;> cases b <;> rfl

/-- merge.go:mergeListDelete is the model's `mergeListDelete` -/
theorem T_mergeListDelete_eq (obj : List Val) (del : Val) (fuel : Nat) (h : 3 * Go.depth del + 2 ≤ fuel) :
    mergeListDelete' fuel obj del = .ok (resPair (mergeListDelete obj del)) := by
  obtain ⟨f, rfl⟩ : ∃ f, fuel = f + 1 := ⟨fuel - 1, by omega⟩
  exact mergeListDelete_step f obj del (fun v _ => T_match_eq v del f (by omega))

/-! ## the results of merge.go:merge as Go pairs -/

/-- the value that merge.go:merge returns next to an error: a nil map / nil slice converted to `any` where the error
    comes from mergeMapMap / mergeList, the nil interface otherwise -/
def mergeErrVal : Val → Val → Val
  | .map _, .map _ => .map []
  | .list _, _ => .list []
  | _, _ => .null

/-- Go's `(any, error)` of the model's `merge dst src` -/
def resOf (dst src : Val) : Val × Option Err :=
  match merge dst src with
  | .ok r => (r, none)
  | .error e => (mergeErrVal dst src, some e)

/-! ## merge.go:mergeListMatch -/

/-- the value merged into the matching entries -/
def matchUpd (v : Fields) : Val :=
  match fget v "$value" with
  | some v2 => v2
  | none => .map v

/-- the `$match` closure: entries matching `m` are replaced by their merge with `upd`, the state records that one
    matched: a `mapM` with a flag -/
theorem filterListRecS_match (m upd : Val) (filter : Val → Bool → G ((List Val × Option Err) × Bool)) (l : List Val)
    (hf : ∀ x ∈ l, ∀ found, filter x found =
      .ok (if matchV x m then
        (match merge x upd with
         | .ok r => (([r], none), true)
         | .error e => (([], some e), true))
        else (([x], none), found)))
    (acc : List Val) (found : Bool) :
    filterListRecS filter l acc found =
      .ok (match l.mapM (fun e => if matchV e m then merge e upd else pure e) with
        | .ok d' => ((acc ++ d', none), (found || l.any (fun e => matchV e m)))
        | .error e => (([], some e), true)) := by
  induction l generalizing acc found with
  | nil => simp only [mapM_nil, List.any_nil, Bool.or_false, List.append_nil, filterListRecS]
  | cons x xs ih =>
    have ih' := ih (fun y hy => hf y (List.mem_cons_of_mem _ hy))
    have hx := hf x List.mem_cons_self found
    rw [mapM_cons, List.any_cons]
    generalize List.mapM (fun e => if matchV e m then merge e upd else pure e) xs = rs at ih' ⊢
    cases hmx : matchV x m with
    | false =>
      rw [hmx] at hx
      rw [filterListRecS_cons_ok hx, ih']
      cases rs with
      | error e => rfl
      | ok d' => simp only [Bool.false_eq_true, if_false, R_pure, Bool.false_or, List.append_assoc, List.singleton_append]
    | true =>
      rw [hmx] at hx
      simp only [if_true] at hx ⊢
      cases hme : merge x upd with
      | error e => rw [hme] at hx; rw [filterListRecS_cons_err hx]
      | ok r =>
        rw [hme] at hx
        rw [filterListRecS_cons_ok hx, ih']
        cases rs with
        | error e => rfl
        | ok d' => simp only [List.append_assoc, List.singleton_append, Bool.true_or, Bool.or_true]

/-- the `filterList` call of mergeListMatch with what follows it (`upd` = the value merged into the entries that
    match `m`), given the answers of the calls the closure makes -/
theorem mergeListMatch_filter (f : Nat) (obj : List Val) (m upd : Val)
    (hmatch : ∀ x ∈ obj, match' f x m = .ok (matchV x m))
    (hclone : deepClone' f upd = .ok (upd, none))
    (hmerge : ∀ x ∈ obj, merge' f x upd = .ok (resOf x upd))
    (filter : Val → Bool → G ((List Val × Option Err) × Bool))
    (hfilter : ∀ x found, filter x found = (match match' f x m with
      | .error e => (.error e : G ((List Val × Option Err) × Bool))
      | .ok r => if r then
          (match deepClone' f upd with
           | .error e => .error e
           | .ok (c, err) => if err == none then
               (match merge' f x c with
                | .error e => .error e
                | .ok (r2, err) => if err == none then .ok ((([r2], none), true)) else .ok ((([], err), true)))
             else .ok ((([], err), true)))
        else .ok ((([x], none), found)))) :
    (match filterList' obj filter false with
      | .error e => (.error e : G (List Val × Option Err))
      | .ok ((obj', err), found) =>
        if err == none then (if found then .ok (obj', none) else .ok ([], some Err.noMatchFound))
        else .ok ([], err)) = .ok (resPair (matchOnly obj m upd)) := by
  rw [T_filterList_rec, filterListRecS_match m upd filter obj (fun x hx found => ?_) [] false]
  · unfold matchOnly
    cases List.mapM (fun e => if matchV e m then merge e upd else pure e) obj with
    | error e => rfl
    | ok d' => cases obj.any (fun e => matchV e m) <;> rfl
  · rw [hfilter, hmatch x hx]
    cases matchV x m with
    | false => rfl
    | true =>
      simp only [if_true, hclone, hmerge x hx, resOf]
      cases merge x upd <;> rfl

theorem mergeListMatch_step (f : Nat) (obj : List Val) (m : Val) (v : Fields)
    (hmatch : ∀ x ∈ obj, match' f x m = .ok (matchV x m))
    (hclone : deepClone' f (matchUpd v) = .ok (matchUpd v, none))
    (hmerge : ∀ x ∈ obj, merge' f x (matchUpd v) = .ok (resOf x (matchUpd v))) :
    mergeListMatch' (f + 1) obj m v = .ok (resPair (mergeListMatch obj m v)) := by
  unfold mergeListMatch' mergeListMatch
  unfold matchUpd at hclone hmerge
  simp only [popMapValue_eq_match]
  cases hv : fget v "$value" with
  | none =>
    rw [hv] at hclone hmerge
    exact mergeListMatch_filter f obj m (.map v) hmatch hclone hmerge _ (fun _ _ => rfl)
  | some v2 =>
    rw [hv] at hclone hmerge
    cases he : fdel v "$value" with
    | nil => exact mergeListMatch_filter f obj m v2 hmatch hclone hmerge _ (fun _ _ => rfl)
    | cons p rest => rfl

/-! ## merge.go:mergeListList -/

theorem mergeListList_loop (s : List Val)
    (body : Val → (List Val × Option Err) → G (Loop (List Val × Option Err) (List Val × Option Err)))
    (hbody : ∀ v ∈ s, ∀ d, body v (d, none) = .ok (match entryStep d v with
      | .ok d' => .next (d', none)
      | .error e => .ret ([], some e)))
    (d : List Val) :
    forRange s (d, (none : Option Err)) body = .ok (match mergeEntries d s with
      | .ok r => .inl (r, none)
      | .error e => .inr ([], some e)) := by
  induction s generalizing d with
  | nil => rw [mergeEntries_nil]; rfl
  | cons v rest ih =>
    have hv := hbody v List.mem_cons_self d
    rw [mergeEntries_eq_steps]
    cases hes : entryStep d v with
    | error e => rw [hes] at hv; exact forRange_cons_ret hv
    | ok d' =>
      rw [hes] at hv
      rw [forRange_cons_next hv]
      exact ih (fun y hy => hbody y (List.mem_cons_of_mem _ hy)) d'

theorem mergeListList_step (f : Nat) (d s : List Val)
    (hdel : ∀ kvs del, Val.map kvs ∈ s → fget kvs "$delete" = some del →
      ∀ d, mergeListDelete' f d del = .ok (resPair (mergeListDelete d del)))
    (hmat : ∀ kvs m, Val.map kvs ∈ s → fget kvs "$delete" = none → fget kvs "$match" = some m →
      ∀ d, mergeListMatch' f d m (fdel kvs "$match") = .ok (resPair (mergeListMatch d m (fdel kvs "$match")))) :
    mergeListList' (f + 1) d s = .ok (resPair (mergeListListL d s)) := by
  unfold mergeListList' mergeListListL
  simp only [T_popListString_eq, popListString]
  cases hany : s.any (fun x => x == Val.str "$replace") with
  | true => rfl
  | false =>
    have hfilt : s.filter (fun x => !(x == Val.str "$replace")) = s :=
      List.filter_eq_self.2 fun x hx => by simpa using List.any_eq_false.1 hany x hx
    simp only [Bool.false_eq_true, if_false, hfilt, T_popListMapBoolValue_eq, popListMapBool_closed]
    cases hhas : hasListMapBool s "$replace" true with
    | true => cases s.any (os_isExtra "$replace" true) <;> rfl
    | false =>
      simp only [any_isExtra_of_no_marker hhas, beq_self_eq_true, Bool.false_eq_true, if_true, if_false]
      unfold dropRequired
      rw [mergeListList_loop s _ (fun v hv d0 => ?_)]
      · cases mergeEntries _ s <;> rfl
      · cases v with
        | map kvs =>
          simp only [Go.asMap, if_true, popMapValue_eq_match, entryStep]
          cases hd : fget kvs "$delete" with
          | some del =>
            cases he : fdel kvs "$delete" with
            | nil =>
              simp only [List.isEmpty_nil, if_true, hdel kvs del hv hd d0, List.length_nil, Nat.lt_irrefl, if_false]
              cases mergeListDelete d0 del <;> rfl
            | cons p rest => rfl
          | none =>
            cases hm : fget kvs "$match" with
            | none => rfl
            | some m =>
              simp only [Bool.false_eq_true, if_false, if_true, hmat kvs m hv hd hm d0]
              cases mergeListMatch d0 m (fdel kvs "$match") <;> rfl
        | _ => rfl

/-! ## merge.go:mergeMapMap -/

theorem mergeMapMap_loop (s : Fields)
    (body : (String × Val) → Fields → G (Loop Fields (Fields × Option Err)))
    (hbody : ∀ p ∈ s, ∀ d, body p d = .ok (match mergeAct (fget d p.1) p.2 with
      | .ok a => .next (fput d p.1 a)
      | .error e => .ret ([], some e)))
    (d : Fields) :
    forRange s d body = .ok (match mergeFields d s with
      | .ok r => .inl r
      | .error e => .inr ([], some e)) :=
  forRange_unique (fun s d => .ok (match mergeFields d s with
      | .ok r => .inl r
      | .error e => .inr ([], some e))) body s (fun d => by rw [mergeFields_nil])
    (fun p hp rest d => by
      rw [hbody p hp, mergeFields_cons_act]
      cases mergeAct (fget d p.1) p.2 <;> rfl) d

/-- the model's `mergeMapMap` before the final wrapping in `.map` -/
def mergeMapMapF (d s : Fields) : R Fields :=
  if fhasBool s "$replace" true then .ok (fdel s "$replace") else mergeFields d s

theorem mergeMapMap_eq_F (d s : Fields) : mergeMapMap d s = (mergeMapMapF d s).map Val.map := by
  unfold mergeMapMapF
  cases h : fhasBool s "$replace" true with
  | true => exact mergeMapMap_replace h
  | false => exact mergeMapMap_noreplace h

theorem getMapBoolValue_and (s : Fields) (k : String) :
    ∃ r fnd, getMapBoolValue' s k = .ok (r, fnd) ∧ (fnd && r) = fhasBool s k true := by
  rw [T_getMapBoolValue_eq]
  unfold fhasBool
  cases fget s k with
  | none => exact ⟨_, _, rfl, rfl⟩
  | some v => cases v <;> first | exact ⟨_, _, rfl, rfl⟩ | exact ⟨_, _, rfl, (Bool.true_and _).trans (beq_true _).symm⟩

theorem mergeMapMap_step (f : Nat) (d s : Fields)
    (hmerge : ∀ p ∈ s, ∀ e, merge' f e p.2 = .ok (resOf e p.2))
    (hclone : ∀ p ∈ s, deepClone' f p.2 = .ok (p.2, none)) :
    mergeMapMap' (f + 1) d s = .ok (resPair (mergeMapMapF d s)) := by
  unfold mergeMapMap' mergeMapMapF
  obtain ⟨r, fnd, h1, h2⟩ := getMapBoolValue_and s "$replace"
  simp only [h1]
  rw [h2]
  cases hrep : fhasBool s "$replace" true with
  | true => rfl
  | false =>
    simp only [Bool.false_eq_true, if_false]
    rw [mergeMapMap_loop s _ (fun p hp d0 => ?_) d]
    · cases mergeFields d s <;> rfl
    · obtain ⟨k, v⟩ := p
      have hc := hclone (k, v) hp
      have hm := hmerge (k, v) hp
      by_cases hv : v.toStr = "$delete"
      · cases hg : fget d0 k <;> simp only [T_toString_eq, Go.mapIndex2, mergeAct, fput, hg, hv, beq_self_eq_true, if_true] <;> rfl
      · have hv' : (v.toStr == "$delete") = false := beq_eq_false_iff_ne.2 hv
        cases hg : fget d0 k with
        | none => simp only [T_toString_eq, Go.mapIndex2, mergeAct, fput, hg, hv, hv', hc, Bool.false_eq_true, if_false]; rfl
        | some e =>
          simp only [T_toString_eq, Go.mapIndex2, mergeAct, fput, hg, hv, hv', hm e, resOf, Bool.false_eq_true, if_false, if_true]
          cases merge e v <;> rfl

/-! ## merge.go:mergeMap, mergeList, merge -/

/-- the model's `merge` on a list target, before the final wrapping in `.list` -/
def mergeListL (d : List Val) (src : Val) : R (List Val) :=
  match src with
  | .list s => mergeListListL d s
  | .null => .ok d
  | _ => .error .invalidType

theorem merge_list_eq_L (d : List Val) (src : Val) : merge (.list d) src = (mergeListL d src).map Val.list := by
  cases src with
  | list s => rw [merge_list_list, mergeListList_eq_L]; rfl
  | null => exact merge_list_null d
  | _ => exact merge_list_other _ _ rfl rfl

theorem mergeMap_step (f : Nat) (d : Fields) (src : Val)
    (h : ∀ s, src = .map s → mergeMapMap' f d s = .ok (resPair (mergeMapMapF d s))) :
    mergeMap' (f + 1) d src = .ok (resOf (.map d) src) := by
  unfold mergeMap' resOf
  cases src with
  | map s =>
    simp only [h s rfl, merge_map_map, mergeMapMap_eq_F]
    cases mergeMapMapF d s <;> rfl
  | null => rw [merge_map_null]
  | _ =>
    rw [merge_map_other _ _ rfl rfl]
    cases d <;> rfl

theorem mergeList_step (f : Nat) (d : List Val) (src : Val)
    (h : ∀ s, src = .list s → mergeListList' f d s = .ok (resPair (mergeListListL d s))) :
    mergeList' (f + 1) d src = .ok (resPair (mergeListL d src)) := by
  unfold mergeList' mergeListL
  cases src with
  | list s => simp only [h s rfl]
  | _ => rfl

theorem merge_step (f : Nat) (dst src : Val)
    (hmap : ∀ d, dst = .map d → mergeMap' f d src = .ok (resOf (.map d) src))
    (hlist : ∀ d, dst = .list d → mergeList' f d src = .ok (resPair (mergeListL d src))) :
    merge' (f + 1) dst src = .ok (resOf dst src) := by
  unfold merge'
  cases dst with
  | map d => simp only [hmap d rfl]
  | list d =>
    simp only [hlist d rfl, resOf, merge_list_eq_L]
    cases mergeListL d src <;> rfl
  | null => rw [resOf, merge_null]
  | _ =>
    rw [resOf, merge_scalar _ _ rfl]
    split <;> rfl

/-! ## depth and well-formedness of the pieces of a patch -/

theorem depth_matchUpd_le (v : Fields) : Go.depth (matchUpd v) ≤ Go.depthFields v + 1 := by
  unfold matchUpd
  cases h : fget v "$value" with
  | none => exact Nat.le_refl _
  | some v2 => exact Nat.le_succ_of_le (depth_le_of_fget h)

theorem wf_matchUpd {v : Fields} (h : Val.WF (.map v)) : Val.WF (matchUpd v) := by
  unfold matchUpd
  cases hv : fget v "$value" with
  | none => exact h
  | some v2 => exact wf_of_fget h hv

/-! ## the functions of merge.go, given `merge` on shallower patches -/

/-- the translated `merge` is right on the patches of depth below `n` -/
def MergeBelow (n : Nat) : Prop :=
  ∀ src, Go.depth src < n → Val.WF src → ∀ fuel, 4 * Go.depth src + 2 ≤ fuel →
    ∀ dst, merge' fuel dst src = .ok (resOf dst src)

theorem mergeListMatch_of {n : Nat} (hM : MergeBelow n) (obj : List Val) (m : Val) (v : Fields) (hv : Val.WF (.map v))
    (hn : Go.depthFields v + 1 < n) (fuel : Nat) (h1 : 3 * Go.depth m + 2 ≤ fuel) (h2 : 4 * Go.depthFields v + 7 ≤ fuel) :
    mergeListMatch' fuel obj m v = .ok (resPair (mergeListMatch obj m v)) := by
  obtain ⟨f, rfl⟩ : ∃ f, fuel = f + 1 := ⟨fuel - 1, by omega⟩
  have h3 := depth_matchUpd_le v
  have hwu := wf_matchUpd hv
  exact mergeListMatch_step f obj m v (fun x _ => T_match_eq x m f (by omega))
    (T_deepClone_eq _ hwu f (by omega)) (fun x _ => hM _ (by omega) hwu f (by omega) x)

theorem mergeListList_of {n : Nat} (hM : MergeBelow n) (d s : List Val) (hs : Val.WF (.list s))
    (hn : Go.depthList s < n) (fuel : Nat) (h : 4 * Go.depthList s + 4 ≤ fuel) :
    mergeListList' fuel d s = .ok (resPair (mergeListListL d s)) := by
  obtain ⟨f, rfl⟩ : ∃ f, fuel = f + 1 := ⟨fuel - 1, by omega⟩
  refine mergeListList_step f d s (fun kvs del hmem hdel d0 => ?_) (fun kvs pm hmem _ hm d0 => ?_)
  all_goals
    have h1 := Go.depth_le_of_mem_list hmem
    simp only [Go.depth] at h1
  · have h2 := depth_le_of_fget hdel
    exact T_mergeListDelete_eq d0 del f (by omega)
  · have h2 := depth_le_of_fget hm
    have h3 := Go.depthFields_fdel_le kvs "$match"
    exact mergeListMatch_of hM d0 pm _ (wf_fdel (wf_list_iff.1 hs _ hmem)) (by omega) f (by omega) (by omega)

theorem mergeMapMap_of {n : Nat} (hM : MergeBelow n) (d s : Fields) (hs : ∀ p ∈ s, Val.WF p.2)
    (hn : Go.depthFields s < n) (fuel : Nat) (h : 4 * Go.depthFields s + 3 ≤ fuel) :
    mergeMapMap' fuel d s = .ok (resPair (mergeMapMapF d s)) := by
  obtain ⟨f, rfl⟩ : ∃ f, fuel = f + 1 := ⟨fuel - 1, by omega⟩
  refine mergeMapMap_step f d s (fun p hp e => ?_) (fun p hp => ?_)
  all_goals have := Go.depth_le_of_mem_fields (k := p.1) (v := p.2) hp
  · exact hM p.2 (by omega) (hs p hp) f (by omega) e
  · exact T_deepClone_eq p.2 (hs p hp) f (by omega)

theorem mergeList_of {n : Nat} (hM : MergeBelow n) (d : List Val) (src : Val) (hs : Val.WF src)
    (hn : Go.depth src ≤ n) (fuel : Nat) (h : 4 * Go.depth src + 1 ≤ fuel) :
    mergeList' fuel d src = .ok (resPair (mergeListL d src)) := by
  obtain ⟨f, rfl⟩ : ∃ f, fuel = f + 1 := ⟨fuel - 1, by omega⟩
  refine mergeList_step f d src (fun s hsrc => ?_)
  subst hsrc
  simp only [Go.depth] at hn h
  exact mergeListList_of hM d s hs (by omega) f (by omega)

theorem mergeMap_of {n : Nat} (hM : MergeBelow n) (d : Fields) (src : Val) (hs : Val.WF src)
    (hn : Go.depth src ≤ n) (fuel : Nat) (h : 4 * Go.depth src + 1 ≤ fuel) :
    mergeMap' fuel d src = .ok (resOf (.map d) src) := by
  obtain ⟨f, rfl⟩ : ∃ f, fuel = f + 1 := ⟨fuel - 1, by omega⟩
  refine mergeMap_step f d src (fun s hsrc => ?_)
  subst hsrc
  simp only [Go.depth] at hn h
  exact mergeMapMap_of hM d s (wf_map_iff.1 hs).2 (by omega) f (by omega)

/-- merge.go:merge, as translated from the current source, is the model's `merge` for a well-formed patch (nothing is
    asked of the target): the same value, or the same error class next to Go's nil -/
theorem T_merge_eq (dst src : Val) (hs : Val.WF src) (fuel : Nat) (h : 4 * Go.depth src + 2 ≤ fuel) :
    merge' fuel dst src = .ok (resOf dst src) := by
  induction src using Go.depth_induction generalizing dst fuel with | _ src ih =>
  have hM : MergeBelow (Go.depth src) := fun w hw hwf fuel' hf' dst' => ih w hw dst' hwf fuel' hf'
  obtain ⟨f, rfl⟩ : ∃ f, fuel = f + 1 := ⟨fuel - 1, by omega⟩
  exact merge_step f dst src (fun d _ => mergeMap_of hM d src hs (Nat.le_refl _) f (by omega))
    (fun d _ => mergeList_of hM d src hs (Nat.le_refl _) f (by omega))

theorem mergeBelow (n : Nat) : MergeBelow n := fun src _ hs fuel h dst => T_merge_eq dst src hs fuel h

/-- non-vacuity of `T_merge_eq`: a well-formed patch with a `$match` entry, and enough fuel -/
example : Val.WF (.list [.map [("$match", .map [("n", .int 1)]), ("x", .list [.str "a"])]]) ∧
    4 * Go.depth (.list [.map [("$match", .map [("n", .int 1)]), ("x", .list [.str "a"])]]) + 2 ≤ 14 := by decide

/-! ## the other functions of merge.go, each with its own fuel bound -/

/-- merge.go:mergeListMatch (`v` = the patch entry without `$match`) is the model's `$match` step -/
theorem T_mergeListMatch_eq (obj : List Val) (m : Val) (v : Fields) (hv : Val.WF (.map v)) (fuel : Nat)
    (h1 : 3 * Go.depth m + 2 ≤ fuel) (h2 : 4 * Go.depthFields v + 7 ≤ fuel) :
    mergeListMatch' fuel obj m v = .ok (resPair (mergeListMatch obj m v)) :=
  mergeListMatch_of (mergeBelow _) obj m v hv (Nat.lt_succ_self _) fuel h1 h2

example : Val.WF (.map [("$value", .map [("a", .int 1)])]) ∧ 3 * Go.depth (.map [("n", .int 1)]) + 2 ≤ 15 ∧
    4 * Go.depthFields [("$value", .map [("a", .int 1)])] + 7 ≤ 15 := by decide

/-- merge.go:mergeListList is the model's `mergeListList` (before the wrapping in `.list`) -/
theorem T_mergeListList_eq (d s : List Val) (hs : Val.WF (.list s)) (fuel : Nat)
    (h : 4 * Go.depthList s + 4 ≤ fuel) :
    mergeListList' fuel d s = .ok (resPair (mergeListListL d s)) :=
  mergeListList_of (mergeBelow _) d s hs (Nat.lt_succ_self _) fuel h

example : Val.WF (.list [.map [("$delete", .int 1)], .str "x"]) ∧
    4 * Go.depthList [.map [("$delete", .int 1)], .str "x"] + 4 ≤ 8 := by decide

/-- … in terms of the model's `mergeListList` itself -/
theorem T_mergeListList_eq_model (d s : List Val) (hs : Val.WF (.list s)) (fuel : Nat)
    (h : 4 * Go.depthList s + 4 ≤ fuel) :
    (fun p => (Val.list p.1, p.2)) <$> mergeListList' fuel d s = .ok (resOf (.list d) (.list s)) := by
  rw [T_mergeListList_eq d s hs fuel h, resOf, merge_list_list, mergeListList_eq_L]
  cases mergeListListL d s <;> rfl

/-- merge.go:mergeList -/
theorem T_mergeList_eq (d : List Val) (src : Val) (hs : Val.WF src) (fuel : Nat)
    (h : 4 * Go.depth src + 1 ≤ fuel) :
    mergeList' fuel d src = .ok (resPair (mergeListL d src)) :=
  mergeList_of (mergeBelow _) d src hs (Nat.le_refl _) fuel h

/-- … in terms of the model's `merge` on a list target -/
theorem T_mergeList_eq_model (d : List Val) (src : Val) (hs : Val.WF src) (fuel : Nat)
    (h : 4 * Go.depth src + 1 ≤ fuel) :
    (fun p => (Val.list p.1, p.2)) <$> mergeList' fuel d src = .ok (resOf (.list d) src) := by
  rw [T_mergeList_eq d src hs fuel h, resOf, merge_list_eq_L]
  cases mergeListL d src <;> rfl

/-- merge.go:mergeMapMap is the model's `mergeMapMap` (before the wrapping in `.map`); only the VALUES of the patch have
    to be well-formed (they are deep-cloned), the key order of the patch itself is followed by both sides -/
theorem T_mergeMapMap_eq (d s : Fields) (hs : ∀ p ∈ s, Val.WF p.2) (fuel : Nat)
    (h : 4 * Go.depthFields s + 3 ≤ fuel) :
    mergeMapMap' fuel d s = .ok (resPair (mergeMapMapF d s)) :=
  mergeMapMap_of (mergeBelow _) d s hs (Nat.lt_succ_self _) fuel h

/-- non-vacuity, with a patch whose own keys are out of order (allowed here) -/
example : (∀ p ∈ ([("b", .map [("x", .null)]), ("a", .int 1)] : Fields), Val.WF p.2) ∧
    4 * Go.depthFields [("b", .map [("x", .null)]), ("a", .int 1)] + 3 ≤ 7 := by decide

/-- … in terms of the model's `mergeMapMap` itself -/
theorem T_mergeMapMap_eq_model (d s : Fields) (hs : ∀ p ∈ s, Val.WF p.2) (fuel : Nat)
    (h : 4 * Go.depthFields s + 3 ≤ fuel) :
    (fun p => (Val.map p.1, p.2)) <$> mergeMapMap' fuel d s = .ok (resOf (.map d) (.map s)) := by
  rw [T_mergeMapMap_eq d s hs fuel h, resOf, merge_map_map, mergeMapMap_eq_F]
  cases mergeMapMapF d s <;> rfl

/-- merge.go:mergeMap is the model's `merge` on a map target -/
theorem T_mergeMap_eq (d : Fields) (src : Val) (hs : Val.WF src) (fuel : Nat)
    (h : 4 * Go.depth src + 1 ≤ fuel) :
    mergeMap' fuel d src = .ok (resOf (.map d) src) :=
  mergeMap_of (mergeBelow _) d src hs (Nat.le_refl _) fuel h

example : Val.WF (.map [("a", .map [("x", .null)])]) ∧ 4 * Go.depth (.map [("a", .map [("x", .null)])]) + 1 ≤ 9 := by
  decide

/-! ## the hypothesis `Val.WF src` is needed; nothing is needed of `dst` -/

/-- a patch value with an unsorted map, stored under a key that is new to the target: Go deep-clones it (and the
    clone comes back key-sorted), the model stores it as it is -/
theorem merge_unsorted_patch_go :
    merge' 6 (.map []) (.map [("k", .map [("b", .null), ("a", .null)])])
      = .ok (.map [("k", .map [("a", .null), ("b", .null)])], none) := by rfl

theorem merge_unsorted_patch_model :
    merge (.map []) (.map [("k", .map [("b", .null), ("a", .null)])])
      = .ok (.map [("k", .map [("b", .null), ("a", .null)])]) := by
  simp [merge_map_map, mergeMapMap_noreplace, fhasBool, fget, mergeFields_cons, mergeFields_nil, Val.toStr, fset,
    Except.map]

/-- hence `T_merge_eq` fails without `Val.WF src` (here with more than enough fuel) -/
theorem merge_unsorted_patch_differs :
    merge' 6 (.map []) (.map [("k", .map [("b", .null), ("a", .null)])])
      ≠ .ok (resOf (.map []) (.map [("k", .map [("b", .null), ("a", .null)])])) := by
  rw [merge_unsorted_patch_go, resOf, merge_unsorted_patch_model]
  intro h
  have h' : Val.map [("k", Val.map [("a", Val.null), ("b", Val.null)])] =
      Val.map [("k", Val.map [("b", Val.null), ("a", Val.null)])] := by
    injection h with h; exact (Prod.mk.inj h).1
  exact absurd h' (by decide)

/-- the same through a `$match` entry of a list patch (the merged value is deep-cloned per matching entry) -/
theorem merge_unsorted_match_go :
    merge' 10 (.list [.null]) (.list [.map [("$match", .null), ("$value", .map [("b", .null), ("a", .null)])]])
      = .ok (.list [.map [("a", .null), ("b", .null)]], none) := by rfl

theorem merge_unsorted_match_model :
    merge (.list [.null]) (.list [.map [("$match", .null), ("$value", .map [("b", .null), ("a", .null)])]])
      = .ok (.list [.map [("b", .null), ("a", .null)]]) := by
  rw [merge_list_eq_L]
  simp [mergeListL, mergeListListL, hasListMapBool_eq, isMarker, fhasBool, fget, dropRequired,
    mergeEntries_eq_steps, mergeEntries_nil, entryStep, mergeListMatch, fdel, matchOnly, matchV,
    merge_null, Except.map]
  rfl

/-- a target that is NOT well-formed (keys out of order) is fine: both sides use the same `fget`/`fset`/`fdel` -/
example : merge' 6 (.map [("b", .int 1), ("a", .int 2)]) (.map [("a", .int 3)])
    = .ok (resOf (.map [("b", .int 1), ("a", .int 2)]) (.map [("a", .int 3)])) :=
  T_merge_eq _ _ (by decide) 6 (by decide)

/-- fuel: the translated function does not finish on too little -/
example : merge' 2 (.map [("a", .int 1)]) (.map [("a", .int 2)]) = .error GErr.fuel := by rfl

/-- the error results carry Go's typed nils: a nil map from mergeMapMap, a nil slice from mergeList, nil otherwise -/
example : merge' 6 (.map [("a", .int 1)]) (.map [("a", .int 1)]) = .ok (.map [], some Err.uselessOverride) := by rfl
example : merge' 6 (.list []) (.int 1) = .ok (.list [], some Err.invalidType) := by rfl
example : merge' 6 (.map [("a", .int 1)]) (.int 1) = .ok (.null, some Err.invalidType) := by rfl
example : merge' 6 (.int 1) (.int 1) = .ok (.null, some Err.uselessOverride) := by rfl

end Bkl.Gen.Lib
