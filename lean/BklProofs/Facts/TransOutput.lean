/-
  Translation equivalence, output.go (filterOutput / filterOutputMap / filterOutputList): the Lean definitions that
  harness/cmd/gotrans writes from /repo's CURRENT output.go (Generated/Trans/Output.lean, regenerated on every run)
  compute the model's `filterOutput` / `filterOutputFields` / `filterOutputList` (Bkl/Output.lean).

  The generated functions call the higher-order helpers `filterList'` / `filterMap'` and `popListMapBoolValue'` of
  Generated/Trans/Filter.lean; what these do with a function literal is proved in Facts/TransFilter.  The literals of
  output.go assign no variable of the enclosing function, so their state is `Unit`.

  Differences between the Go code and the model that the theorems bridge:
  * Go returns `nil` for "hidden", the model `none` (and a `nil` VALUE is hidden in the model too): `r.getD .null`;
    Go tests `v2 == nil` on the recursive result: `filterOutput` never answers `some nil` (`filterOutput_some_ne_null`);
  * the value that Go returns NEXT TO a non-nil error depends on where the error is detected (`nil`, or the empty
    container of the failing `filterList` / `filterMap`): `filterOutputErrVal`;
  * the model tests `hasListMapBool` first and calls `popListMapBool` only for its error, Go calls
    popListMapBoolValue and looks at its `output` result: these agree (`popListMapBool_closed`);
  * Go's filterMap rebuilds the map with `ret[k] = v` (`fset` into a key-sorted association list), the model keeps
    the entries in input order: equal for well-formed input (`Val.WF v`), NOT equal otherwise
    (`filterOutput_eq_needs_WF…`).  Without any hypothesis the Go result is the normal form `Val.norm` of the model's
    result (`T_filterOutput_eq_norm`); the two are equal exactly when the model's result is in normal form
    (`T_filterOutput_eq_iff`).
-/
import Generated.Trans.Output
import BklProofs.Facts.TransFilter
import BklProofs.Lemmas.C11Spec
import BklProofs.Lemmas.GoLibUtil
namespace Bkl.Gen.Lib
open Bkl Go

/-! ## util.go:filterList, filterMap with the stateless literals of output.go -/

/-- a filter that runs out of fuel makes filterList run out of fuel (first element shown) -/
theorem O_filterList_error {σ : Type} (x : Val) (l : List Val) (filter : Val → σ → G ((List Val × Option Err) × σ))
    (s : σ) (e : GErr) (h : filter x s = .error e) : filterList' (x :: l) filter s = .error e := by
  rw [T_filterList_rec, filterListRecS_cons_error h]

theorem O_T_filterList_flatMap (g : Val → List Val) (l : List Val)
    (filter : Val → Unit → G ((List Val × Option Err) × Unit))
    (h : ∀ x ∈ l, filter x () = .ok ((g x, none), ())) :
    filterList' l filter () = .ok ((l.flatMap g, none), ()) :=
  T_filterList_spec l filter g () (fun x hx _ => h x hx)

theorem O_T_filterMap_flatMap (g : String → Val → Fields) (m : Fields)
    (filter : String → Val → Unit → G ((Fields × Option Err) × Unit))
    (h : ∀ p ∈ m, filter p.1 p.2 () = .ok ((g p.1 p.2, none), ())) :
    filterMap' m filter () = .ok ((fofList (m.flatMap (fun p => g p.1 p.2)), none), ()) :=
  T_filterMap_spec_flatMap m filter g () (fun p hp _ => h p hp)

/-! ## the model's `popListMapBool` -/

/-- the model's `popListMapBool` fails only when there is a marker entry -/
theorem O_popListMapBool_error (l : List Val) (k : String) (b : Bool) (e : Err)
    (h : popListMapBool l k b = .error e) : hasListMapBool l k b = true := by
  rw [popListMapBool_closed] at h
  cases hh : hasListMapBool l k b
  · rw [hh] at h; cases h
  · rfl

/-! ## the Go result of a model result -/

/-- the value that the Go code returns NEXT TO a non-nil error: `nil` when popListMapBoolValue fails (the list has
    a marker entry), otherwise the empty container that the failing filterList / filterMap returns -/
def filterOutputErrVal : Val → Val
  | .map _ => .map []
  | .list xs => if hasListMapBool xs "$output" false then .null else .list []
  | _ => .null

/-- the Go result pair of the model result `r` of `filterOutput v`: the value (`nil` = hidden) and no error, or the
    error class (next to `filterOutputErrVal v`) -/
def goRes (v : Val) : R (Option Val) → Val × Option Err
  | .ok o => (o.getD .null, none)
  | .error e => (filterOutputErrVal v, some e)

/-- the model's result with every map rebuilt key-sorted -/
def filterOutputNorm (v : Val) : R (Option Val) :=
  match filterOutput v with
  | .ok o => .ok (o.map Val.norm)
  | .error e => .error e

theorem filterOutputNorm_ne_null (v : Val) : filterOutputNorm v ≠ .ok (some .null) := by
  unfold filterOutputNorm
  cases h : filterOutput v with
  | error e => exact fun h => nomatch h
  | ok o =>
    cases o with
    | none => exact fun h => nomatch h
    | some r =>
      intro e
      -- Go's `v2 == nil` test on the recursive result is the model's `none`
      exact filterOutput_some_ne_null h (gu_norm_eq_null (Option.some.inj (Except.ok.inj e)))

/-- what the function literals of output.go do with the Go result of the recursive call: nothing is kept of a hidden
    value, `keep w` of a value `w`, and an error is handed on -/
theorem goRes_kept {α : Type} (x : Val) (keep : Val → List α) (r : R (Option Val)) (hn : r ≠ .ok (some .null))
    {β : Type} (F : List α × Option Err → β) :
    (if (goRes x r).2 == none then (if (goRes x r).1 == Val.null then F ([], none) else F (keep (goRes x r).1, none))
      else F ([], (goRes x r).2))
      = F (match (generalizing := false) r with
        | .ok none => ([], none)
        | .ok (some w) => (keep w, none)
        | .error e => ([], some e)) := by
  cases r with
  | error e => rfl
  | ok o =>
    cases o with
    | none => rfl
    | some w => cases w <;> first | rfl | exact absurd rfl hn

theorem flatMapR_filterOutputNorm_list (xs : List Val) :
    flatMapR (fun x => (filterOutputNorm x).map Option.toList) xs = (filterOutputList xs).map Val.normList := by
  induction xs with
  | nil => rfl
  | cons x xs ih =>
    rw [flatMapR, os_filterOutputList_cons_eq, ih, filterOutputNorm]
    cases filterOutput x with
    | error e => rfl
    | ok o => cases o <;> cases filterOutputList xs <;> rfl

theorem flatMapR_filterOutputNorm_fields (kvs : Fields) :
    flatMapR (fun p => (filterOutputNorm p.2).map fun o => (o.map (Prod.mk p.1)).toList) kvs
      = (filterOutputFields kvs).map Val.normFields := by
  induction kvs with
  | nil => rfl
  | cons p rest ih =>
    obtain ⟨k, v⟩ := p
    rw [flatMapR, os_filterOutputFields_cons_eq, ih, filterOutputNorm]
    cases filterOutput v with
    | error e => rfl
    | ok o => cases o <;> cases filterOutputFields rest <;> rfl

/-! ## one level, given the recursive calls -/

theorem filterOutputList_step (f : Nat) (xs : List Val)
    (hall : ∀ x ∈ xs, filterOutput' f x = .ok (goRes x (filterOutputNorm x))) :
    filterOutputList' (f + 1) xs = .ok (goRes (.list xs) (filterOutputNorm (.list xs))) := by
  unfold filterOutputList'
  simp only [T_popListMapBoolValue_eq, popListMapBool_closed, filterOutputNorm, os_filterOutput_list_eq]
  cases hh : hasListMapBool xs "$output" false
  · simp only [Bool.false_eq_true, if_false, if_true, beq_self_eq_true]
    rw [filterList_resPair xs _ (fun x => (filterOutputNorm x).map Option.toList) () (fun x hx _ => ?_),
      flatMapR_filterOutputNorm_list]
    · cases filterOutputList xs <;> simp only [goRes, filterOutputErrVal, hh] <;> rfl
    · rw [hall x hx]
      exact (goRes_kept x (fun w => [w]) _ (filterOutputNorm_ne_null x) (fun p => Except.ok (p, ()))).trans
        (by cases filterOutputNorm x with
          | error e => rfl
          | ok o => cases o <;> rfl)
  · cases xs.any (os_isExtra "$output" false) <;> simp only [goRes, filterOutputErrVal, hh] <;> rfl

theorem filterOutputMap_step (f : Nat) (kvs : Fields)
    (hall : ∀ p ∈ kvs, filterOutput' f p.2 = .ok (goRes p.2 (filterOutputNorm p.2))) :
    filterOutputMap' (f + 1) kvs = .ok (goRes (.map kvs) (filterOutputNorm (.map kvs))) := by
  unfold filterOutputMap'
  simp only [T_popMapBoolValue_eq, filterOutputNorm, os_filterOutput_map_eq]
  cases hh : fhasBool kvs "$output" false
  · simp only [Bool.false_eq_true, if_false]
    rw [filterMap_resPair kvs _ (fun k v => (filterOutputNorm v).map fun o => (o.map (Prod.mk k)).toList) ()
      (fun p hp _ => ?_), flatMapR_filterOutputNorm_fields]
    · cases filterOutputFields kvs <;> rfl
    · rw [hall p hp]
      exact (goRes_kept p.2 (fun w => [(p.1, w)]) _ (filterOutputNorm_ne_null p.2) (fun q => Except.ok (q, ()))).trans
        (by cases filterOutputNorm p.2 with
          | error e => rfl
          | ok o => cases o <;> rfl)
  · rfl

/-! ## any input: the Go code computes the normal form (`Val.norm`: maps rebuilt key-sorted) of the model's result -/

theorem filterOutput_eq_goRes (v : Val) (fuel : Nat) (h : 2 * Go.depth v + 1 ≤ fuel) :
    filterOutput' fuel v = .ok (goRes v (filterOutputNorm v)) := by
  refine Go.fuel_induction 2 (P := fun fuel v => filterOutput' fuel v = .ok (goRes v (filterOutputNorm v)))
    (fun f v h0 => ?_) (fun f kvs ih => ?_) (fun f xs ih => ?_) v fuel h
  · cases v with
    | map _ | list _ => cases h0
    | _ => rfl
  · rw [filterOutput', filterOutputMap_step f kvs fun p hp =>
      ih p.2 (Go.depth_le_of_mem_fields (k := p.1) hp) f (Nat.le_refl f)]
  · rw [filterOutput', filterOutputList_step f xs fun x hx => ih x (Go.depth_le_of_mem_list hx) f (Nat.le_refl f)]

/-- with NO hypothesis on the input: output.go:filterOutput computes the model's `filterOutput` up to the order of
    map entries — the same error class, or the normal form (every map rebuilt key-sorted, `Val.norm`) of the model's
    result; hidden (`none`) is Go's `nil` -/
theorem T_filterOutput_eq_norm (v : Val) (fuel : Nat) (h : 2 * Go.depth v + 1 ≤ fuel) :
    filterOutput' fuel v = .ok (match filterOutput v with
      | .ok r => ((r.map Val.norm).getD .null, none)
      | .error e => (filterOutputErrVal v, some e)) := by
  rw [filterOutput_eq_goRes v fuel h, filterOutputNorm]
  cases filterOutput v <;> rfl

theorem T_filterOutputMap_eq_norm (kvs : Fields) (fuel : Nat) (h : 2 * Go.depthFields kvs + 2 ≤ fuel) :
    filterOutputMap' fuel kvs = .ok (match filterOutput (.map kvs) with
      | .ok r => ((r.map Val.norm).getD .null, none)
      | .error e => (.map [], some e)) := by
  obtain ⟨f, rfl, hf⟩ := Go.fuel_of_mem_fields h
  rw [filterOutputMap_step f kvs fun p hm => filterOutput_eq_goRes p.2 f (hf p hm), filterOutputNorm]
  cases filterOutput (.map kvs) <;> rfl

theorem T_filterOutputList_eq_norm (xs : List Val) (fuel : Nat) (h : 2 * Go.depthList xs + 2 ≤ fuel) :
    filterOutputList' fuel xs = .ok (match filterOutput (.list xs) with
      | .ok r => ((r.map Val.norm).getD .null, none)
      | .error e => (if hasListMapBool xs "$output" false then .null else .list [], some e)) := by
  obtain ⟨f, rfl, hf⟩ := Go.fuel_of_mem_list h
  rw [filterOutputList_step f xs fun x hm => filterOutput_eq_goRes x f (hf x hm), filterOutputNorm]
  cases filterOutput (.list xs) <;> rfl

/-! ## well-formed input: the model's result is well-formed, so the Go code computes the model's `filterOutput` -/

theorem filterOutput_wf (v : Val) : Val.WF v → ∀ r, filterOutput v = .ok (some r) → Val.WF r :=
  fun hw _ h => (filterOutput_some h).2.2 ▸ wf_prune v hw

theorem filterOutputFields_wf : ∀ (kvs : Fields), (∀ p ∈ kvs, Val.WF p.2) → ∀ fs, filterOutputFields kvs = .ok fs →
    ∀ p ∈ fs, Val.WF p.2 :=
  fun _ hwf _ h => (filterOutputFields_ok_iff.1 h).2 ▸ pruneFields_forall fun p hp _ => wf_prune _ (hwf p hp)
theorem filterOutputList_wf : ∀ (xs : List Val), (∀ x ∈ xs, Val.WF x) → ∀ rs, filterOutputList xs = .ok rs →
    ∀ r ∈ rs, Val.WF r :=
  fun _ hwf _ h => (filterOutputList_ok_iff.1 h).2 ▸ pruneList_forall fun x hx _ => wf_prune _ (hwf x hx)

theorem filterOutput_map_norm (v : Val) (hwf : Val.WF v) {o : Option Val} (h : filterOutput v = .ok o) :
    o.map Val.norm = o := by
  cases o with
  | none => rfl
  | some r => exact congrArg some (gu_norm_of_wf r (filterOutput_wf v hwf r h))

/-- output.go:filterOutput, as translated from the current source, is the model's `filterOutput` on every
    well-formed value (given fuel for its nesting depth): the same error class, or the same value with Go's `nil` for
    the model's `none` (hidden) -/
theorem T_filterOutput_eq (v : Val) (hwf : Val.WF v) (fuel : Nat) (h : 2 * Go.depth v + 1 ≤ fuel) :
    filterOutput' fuel v = .ok (match filterOutput v with
      | .ok r => (r.getD .null, none)
      | .error e => (filterOutputErrVal v, some e)) := by
  rw [T_filterOutput_eq_norm v fuel h]
  cases hr : filterOutput v with
  | error e => rfl
  | ok o => exact congrArg (fun a => Except.ok (a.getD Val.null, none)) (filterOutput_map_norm v hwf hr)

/-- output.go:filterOutputMap is the model's `filterOutput` on a map (`filterOutputFields` after the `$output: false`
    test); next to an error Go returns the empty map of the failing filterMap -/
theorem T_filterOutputMap_eq (kvs : Fields) (hwf : Val.WF (.map kvs)) (fuel : Nat)
    (h : 2 * Go.depthFields kvs + 2 ≤ fuel) :
    filterOutputMap' fuel kvs = .ok (match filterOutput (.map kvs) with
      | .ok r => (r.getD .null, none)
      | .error e => (.map [], some e)) := by
  rw [T_filterOutputMap_eq_norm kvs fuel h]
  cases hr : filterOutput (.map kvs) with
  | error e => rfl
  | ok o => exact congrArg (fun a => Except.ok (a.getD Val.null, none)) (filterOutput_map_norm _ hwf hr)

/-- the same in terms of `filterOutputFields` -/
theorem T_filterOutputMap_eq_fields (kvs : Fields) (hwf : Val.WF (.map kvs)) (fuel : Nat)
    (h : 2 * Go.depthFields kvs + 2 ≤ fuel) :
    filterOutputMap' fuel kvs = .ok (if fhasBool kvs "$output" false then (.null, none) else
      match filterOutputFields kvs with
      | .ok fs => (.map fs, none)
      | .error e => (.map [], some e)) := by
  rw [T_filterOutputMap_eq kvs hwf fuel h, os_filterOutput_map_eq]
  cases fhasBool kvs "$output" false with
  | true => rfl
  | false => cases filterOutputFields kvs <;> rfl

/-- output.go:filterOutputList is the model's `filterOutput` on a list (`popListMapBool` for its error, then
    `filterOutputList`); next to an error Go returns `nil` (popListMapBoolValue failed) or the empty list of the
    failing filterList -/
theorem T_filterOutputList_eq (xs : List Val) (hwf : Val.WF (.list xs)) (fuel : Nat)
    (h : 2 * Go.depthList xs + 2 ≤ fuel) :
    filterOutputList' fuel xs = .ok (match filterOutput (.list xs) with
      | .ok r => (r.getD .null, none)
      | .error e => (if hasListMapBool xs "$output" false then .null else .list [], some e)) := by
  rw [T_filterOutputList_eq_norm xs fuel h]
  cases hr : filterOutput (.list xs) with
  | error e => rfl
  | ok o => exact congrArg (fun a => Except.ok (a.getD Val.null, none)) (filterOutput_map_norm _ hwf hr)

/-- the same in terms of `popListMapBool` / `filterOutputList` -/
theorem T_filterOutputList_eq_list (xs : List Val) (hwf : Val.WF (.list xs)) (fuel : Nat)
    (h : 2 * Go.depthList xs + 2 ≤ fuel) :
    filterOutputList' fuel xs = .ok (match popListMapBool xs "$output" false with
      | .error e => (.null, some e)
      | .ok (true, _) => (.null, none)
      | .ok (false, _) =>
        match filterOutputList xs with
        | .ok rs => (.list rs, none)
        | .error e => (.list [], some e)) := by
  rw [T_filterOutputList_eq xs hwf fuel h, os_filterOutput_list_eq, popListMapBool_closed]
  cases hh : hasListMapBool xs "$output" false
  · cases filterOutputList xs <;> rfl
  · cases xs.any (os_isExtra "$output" false) <;> rfl

/-- exactly when the Go code and the model agree: when the model's result is in normal form (its maps key-sorted).
    `Val.WF v` (T_filterOutput_eq) is the natural sufficient condition on the INPUT. -/
theorem T_filterOutput_eq_iff (v : Val) (fuel : Nat) (h : 2 * Go.depth v + 1 ≤ fuel) :
    filterOutput' fuel v = .ok (match filterOutput v with
      | .ok r => (r.getD .null, none)
      | .error e => (filterOutputErrVal v, some e))
    ↔ ∀ r, filterOutput v = .ok (some r) → Val.norm r = r := by
  rw [T_filterOutput_eq_norm v fuel h]
  cases hr : filterOutput v with
  | error e => simp
  | ok o =>
    cases o with
    | none => simp
    | some r => simp

/-! ## non-vacuity -/

/-- a well-formed document with a hidden map entry, a hidden list (marker entry), a null and kept values -/
def O_exWF : Val :=
  .map [("a", .map [("$output", .bool false), ("x", .int 1)]),
        ("b", .list [.int 1, .map [("$output", .bool false)]]),
        ("c", .list [.str "s", .null, .map [("d", .null), ("e", .int 2)]]),
        ("d", .null)]

example : Val.WF O_exWF ∧ 2 * Go.depth O_exWF + 1 ≤ 7 := by decide +kernel
example : filterOutput O_exWF = .ok (some (.map [("c", .list [.str "s", .map [("e", .int 2)]])])) := by decide
example : filterOutput' 7 O_exWF = .ok (.map [("c", .list [.str "s", .map [("e", .int 2)]])], none) := by
  rw [T_filterOutput_eq O_exWF (by decide +kernel) 7 (by decide +kernel)]; decide +kernel

/-- a marker entry with extra keys: the error, and the three shapes of the value next to it -/
def exErr : Val := .list [.int 1, .map [("$output", .bool false), ("x", .int 1)]]

example : filterOutput exErr = .error Err.extraKeys := by decide
example : filterOutput' 5 exErr = .ok (.null, some Err.extraKeys) := by
  rw [T_filterOutput_eq exErr (by decide) 5 (by decide)]; decide
example : filterOutput' 7 (.list [exErr]) = .ok (.list [], some Err.extraKeys) := by
  rw [T_filterOutput_eq _ (by decide) 7 (by decide)]; decide
example : filterOutput' 7 (.map [("a", exErr)]) = .ok (.map [], some Err.extraKeys) := by
  rw [T_filterOutput_eq _ (by decide) 7 (by decide)]; decide
example : Val.WF (.map [("a", exErr)]) ∧ Val.WF (.list [exErr]) := by decide

/-- instances of the hypotheses of T_filterOutputMap_eq / T_filterOutputList_eq -/
example : Val.WF (.map [("a", exErr), ("b", .int 1)]) ∧ 2 * Go.depthFields [("a", exErr), ("b", .int 1)] + 2 ≤ 6 := by
  decide
example : filterOutputMap' 6 [("a", .list [.null, .int 1]), ("b", .null)] = .ok (.map [("a", .list [.int 1])], none) := by
  rw [T_filterOutputMap_eq _ (by decide) 6 (by decide)]; decide
example : Val.WF (.list [exErr, .int 1]) ∧ 2 * Go.depthList [exErr, .int 1] + 2 ≤ 6 := by decide
example : filterOutputList' 6 [.map [("a", .null)], .null, .int 1] = .ok (.list [.map [], .int 1], none) := by
  rw [T_filterOutputList_eq _ (by decide) 6 (by decide)]; decide

/-- the whole value is hidden: Go's `nil`, the model's `none` -/
example : filterOutput' 3 (.map [("$output", .bool false), ("x", .int 1)]) = .ok (.null, none) := by
  rw [T_filterOutput_eq _ (by decide) 3 (by decide)]; decide

/-- fuel: on this value the bound `2 * depth v + 1` is needed (it is not on every value: an empty container counts as
    a level and costs no call) -/
example : filterOutput' 2 (.list [.int 1]) = .error GErr.fuel := by decide
example : 2 * Go.depth (.list [.int 1]) + 1 = 3 := by decide

/-! ## the hypothesis `Val.WF v` is needed -/

/-- a map whose keys are not sorted -/
def O_exUnsorted : Val := .map [("b", .int 1), ("a", .int 2)]

/-- Go (filterMap: `ret[k2] = v2`, a map) yields the entries by key; the model yields them in input order -/
theorem filterOutput_eq_needs_WF :
    filterOutput' 3 O_exUnsorted = .ok (.map [("a", .int 2), ("b", .int 1)], none)
    ∧ filterOutput O_exUnsorted = .ok (some (.map [("b", .int 1), ("a", .int 2)]))
    ∧ filterOutput' 3 O_exUnsorted ≠ .ok (match filterOutput O_exUnsorted with
        | .ok r => (r.getD .null, none)
        | .error e => (filterOutputErrVal O_exUnsorted, some e))
    ∧ 2 * Go.depth O_exUnsorted + 1 ≤ 3 ∧ ¬ Val.WF O_exUnsorted := by
  decide

/-- sortedness of the top-level value is not enough: the unsorted map may sit anywhere inside -/
theorem filterOutput_eq_needs_WF_nested :
    filterOutput' 5 (.list [O_exUnsorted]) ≠ .ok (match filterOutput (.list [O_exUnsorted]) with
        | .ok r => (r.getD .null, none)
        | .error e => (filterOutputErrVal (.list [O_exUnsorted]), some e))
    ∧ 2 * Go.depth (.list [O_exUnsorted]) + 1 ≤ 5 := by
  decide

/-- the same for filterOutputMap directly (`Fields.SortedKeys` is what its own loop needs) -/
theorem filterOutputMap_eq_needs_sorted :
    filterOutputMap' 2 [("b", .int 1), ("a", .int 2)]
      ≠ .ok (match filterOutput (.map [("b", .int 1), ("a", .int 2)]) with
        | .ok r => (r.getD .null, none)
        | .error e => (.map [], some e)) := by
  decide

/-- and for filterOutputList (its own loop needs nothing, the elements do) -/
theorem filterOutputList_eq_needs_WF :
    filterOutputList' 4 [O_exUnsorted] ≠ .ok (match filterOutput (.list [O_exUnsorted]) with
        | .ok r => (r.getD .null, none)
        | .error e => (if hasListMapBool [O_exUnsorted] "$output" false then .null else .list [], some e)) := by
  decide

/-- a repeated key: Go keeps the later entry, the model both -/
theorem filterOutput_eq_needs_WF_dupkey :
    filterOutput' 3 (.map [("a", .int 1), ("a", .int 2)]) = .ok (.map [("a", .int 2)], none)
    ∧ filterOutput (.map [("a", .int 1), ("a", .int 2)]) = .ok (some (.map [("a", .int 1), ("a", .int 2)])) := by
  decide

/-- on the unsorted example the unconditional theorem gives the Go result -/
example : filterOutput' 3 O_exUnsorted = .ok (.map [("a", .int 2), ("b", .int 1)], none) := by
  rw [T_filterOutput_eq_norm O_exUnsorted 3 (by decide)]; decide

end Bkl.Gen.Lib
