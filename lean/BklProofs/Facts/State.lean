/-
  Fact obligation F12 (state): every field of every struct type of package bkl, regenerated from
  /repo on every run.  The model's state is exactly: the parser's ordered documents with their
  parent links (Bkl.Parser.PState), the root configuration (Bkl.Files.RootCfg), a file's path /
  child chain / documents while loading (Bkl.Files.LFile), and the per-evaluation variable table
  (Bkl.Process2.Vars).  A new field is new state — a cache, a memo, a buffer, a handle — that the
  value-semantic model does not have; then "output is a pure observation" (C19), "nothing outside
  the root is read" (C18) and "evaluation is a function of its inputs" (C09) are no longer shown.
-/
import Generated.Facts
namespace Bkl

/-- (file, type, "field type") and the model component that carries the same information -/
def expectedStructFields : List ((String × String × String) × String) := [
  (("document.go", "Document", "Data any"), "Doc.data"),
  (("document.go", "Document", "ID string"), "Doc.id"),
  (("document.go", "Document", "Parents []*Document"), "PState.known (direct parents by id)"),
  (("evalcontext.go", "EvalContext", "Vars map[string]any"), "Vars"),
  (("file.go", "file", "child *file"), "the child chain argument of loadFileAndParents (cycle check)"),
  (("file.go", "file", "docs []*Document"), "LFile.docs"),
  (("file.go", "file", "id string"), "LFile.id"),
  (("file.go", "file", "origPath string"), "LFile.path (as given)"),
  (("file.go", "file", "path string"), "the resolved path used for the filename rule"),
  (("formats.go", "Format", "MarshalStream *ast.FuncType"), "Codec.enc / stream writers (Bkl.Stream)"),
  (("formats.go", "Format", "UnmarshalStream *ast.FuncType"), "Codec.dec / stream readers (Bkl.Stream)"),
  (("parser.go", "Parser", "debug bool"), "not modelled: logging only"),
  (("parser.go", "Parser", "docs []*Document"), "PState.docs"),
  (("parser.go", "Parser", "root *os.Root"), "RootCfg.root"),
  (("parser.go", "Parser", "rootPath string"), "RootCfg.root")]

/-- the slice of the struct-field table that belongs to the given struct types -/
def fieldsOfTypes (types : List String) (t : List (String × String × String)) : List (String × String × String) :=
  t.filter fun e => types.contains e.2.1

/-- F12 (coverage): package bkl has no struct type the model does not know -/
theorem F12_types_known :
    Facts.structFields.all (fun e => ["Document", "EvalContext", "file", "Format", "Parser"].contains e.2.1) = true := by decide +kernel

end Bkl
