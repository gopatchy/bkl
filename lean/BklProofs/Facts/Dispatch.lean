/-
  Fact obligation F10 (dispatch order): for every function of package bkl, the `$` literals of its
  body in source order, regenerated from /repo on every run.  The order in which a function tests
  for / pops directives is part of the semantics and is mirrored by the model function named on
  each line; a reordering, a new recogniser or a dropped one changes the regenerated table and
  this theorem stops checking (then the correspondence search looks for an input).
  Used by C01, C03, C06, C07, C10, C11, C12, C13, C14.
-/
import Generated.Facts
namespace Bkl

/-- (file, function, literals in source order) — and the model definition that follows the same order -/
def expectedDirectiveSeq : List ((String × String × String) × String) := [
  (("file.go", "parentsFromDirective", "$parent"), "Bkl.Files.parentDirective"),
  (("finalize.go", "finalizeString", "$$ $"), "Bkl.Output.unescapeChars"),
  (("get.go", "getCross", "$match $path"), "Bkl.Get.get (cross-document form)"),
  (("match.go", "matchMap", "$invert $merge $replace $encode"), "Bkl.Match.matchV / isPlaceholder"),
  (("merge.go", "mergeListList", "$replace $replace $required $delete $match"), "Bkl.Merge.mergeListList / mergeEntries: replace markers, strip $required, then per entry $delete before $match"),
  (("merge.go", "mergeListMatch", "$value"), "Bkl.Merge.mergeEntries ($value or the entry minus $match)"),
  (("merge.go", "mergeMapMap", "$replace $replace $delete"), "Bkl.Merge.mergeMapMap / mergeFields"),
  (("output.go", "filterOutputList", "$output"), "Bkl.Output.filterOutputList"),
  (("output.go", "filterOutputMap", "$output"), "Bkl.Output.filterOutputFields"),
  (("output.go", "findOutputsList", "$output"), "Bkl.Output.findOutputsList"),
  (("output.go", "findOutputsMap", "$output"), "Bkl.Output.findOutputsFields"),
  (("parser.go", "MergeFile", "$parent"), "Bkl.Files.mergeFileAlone (stripParent)"),
  (("parser.go", "mergePatchMatch", "$match"), "Bkl.Parser.mergeDocument"),
  (("process1.go", "process1List", "$merge $replace"), "Bkl.Process1.process1 (list: $merge entries, then $replace)"),
  (("process1.go", "process1Map", "$merge $merge $replace"), "Bkl.Process1.process1 (map: $merge before $replace)"),
  (("process1.go", "process1String", "$merge: $replace:"), "Bkl.Process1.process1 (string forms)"),
  (("process1.go", "process1StringMerge", "$merge:"), "Bkl.Process1.process1"),
  (("process1.go", "process1StringReplace", "$replace:"), "Bkl.Process1.process1"),
  (("process2.go", "process2DecodeStringMap", "$value"), "Bkl.Process2.process2 ($decode)"),
  (("process2.go", "process2List", "$encode $repeat"), "Bkl.Process2.process2 (list: trailing $encode entry, then $repeat entries)"),
  (("process2.go", "process2Map", "$repeat $encode $decode $value"), "Bkl.Process2.process2 (map: nested $repeat, then $encode BEFORE $decode, then $value) — theorem C14_process2_directive_dispatch"),
  (("process2.go", "process2RepeatObjList", "$repeat"), "Bkl.Process2.process2"),
  (("process2.go", "process2RepeatObjMap", "$repeat"), "Bkl.Process2.process2"),
  (("process2.go", "process2String", "$\" $env: $repeat"), "Bkl.Process2.process2String (interpolation, then $env:, then $repeat)"),
  (("process2.go", "process2StringInterp", "$\""), "Bkl.Process2.interpBody"),
  (("repeat.go", "repeatDocGen", "$repeat"), "Bkl.Process2.repeatGen"),
  (("repeat.go", "repeatDocList", "$repeat"), "Bkl.Process2.repeatDoc"),
  (("repeat.go", "repeatDocMap", "$repeat"), "Bkl.Process2.repeatDoc"),
  (("validate.go", "validateString", "$required"), "Bkl.Output.validateChars")]

/-- the slice of a table that belongs to the given source files -/
def seqOfFiles (files : List String) (t : List (String × String × String)) : List (String × String × String) :=
  t.filter fun e => files.contains e.1

/-- the files whose functions mention directive literals, grouped by the properties that rest on them
    (one theorem per group, in its own module, so that a change in one file disturbs only the checks
    that depend on it) -/
def dispatchGroups : List (String × List String) := [
  ("files",  ["file.go"]),                                   -- C03  (+ parser.go:MergeFile, listed under merge)
  ("merge",  ["match.go", "merge.go", "parser.go"]),         -- C01 C02 C03
  ("refs",   ["get.go", "process1.go"]),                     -- C10
  ("output", ["output.go"]),                                 -- C11
  ("eval",   ["process2.go", "repeat.go"]),                  -- C12 C13 C14
  ("escape", ["finalize.go", "validate.go"])]                -- C06 C07

/-- F10 (coverage): every function that mentions a directive literal lives in a file of some group —
    a NEW file with recognisers of its own stops this theorem, which every group's module imports -/
theorem F10_files_known :
    Facts.directiveSeq.all (fun e => (dispatchGroups.flatMap (·.2)).contains e.1) = true := by decide +kernel

end Bkl
