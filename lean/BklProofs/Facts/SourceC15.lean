/- C15 on the translated cmd/bkld/diff.go and merge.go (`diff'`, `merge'`): the theorems of BklProofs/C15 composed with
   `T_diff_eq` (Facts/TransBkld) and `T_merge_eq` (Facts/TransMerge); the patch `diff` emits is at most one level deeper
   than target and base (`diff_patch_depth`). -/
import BklProofs.C15
import BklProofs.Facts.TransBkld
import BklProofs.Facts.TransMerge
namespace Bkl.Gen
open Bkl Go

/-! (that the patch `diff` emits is well-formed, which `T_merge_eq` asks of a patch: `diff_patch_wf`, BklProofs/Lemmas/ToolsDiff.lean) -/

/-! ### helper: the patch is at most one level deeper than target and base (so `merge'`'s fuel can be stated on them) -/

theorem depth_replaceList_le (dst : List Val) : Go.depth (replaceList dst) ≤ Go.depth (.list dst) + 1 := by
  refine Nat.succ_le_succ (depthList_le_of_forall fun x hx => ?_)
  rcases List.mem_append.1 hx with hx | hx
  · exact Nat.le_succ_of_le (Go.depth_le_of_mem_list hx)
  · rw [List.mem_singleton.1 hx]; exact Nat.le_add_left ..

theorem diffListList_patch_depth (dst src : List Val) (p : Val) (h : diffListList dst src = .patch p) :
    Go.depth p ≤ max (Go.depth (.list dst)) (Go.depth (.list src)) + 1 := by
  rcases diffListList_patch_cases h with rfl | ⟨q, hq, rfl⟩
  · have := depth_replaceList_le dst; omega
  · refine Nat.succ_le_succ (depthList_le_of_forall fun x hx => ?_)
    rcases mem_listPatch hq hx with hx | ⟨y, hy, rfl⟩
    · have := Go.depth_le_of_mem_list hx; simp only [Go.depth]; omega
    · have := Go.depth_le_of_mem_list hy; simp only [Go.depth, Go.depthFields]; omega

theorem diff_patch_depth (t b : Val) (ht : Val.WF t) (hb : Val.WF b) (p : Val) (h : diff t b = .patch p) :
    Go.depth p ≤ max (Go.depth t) (Go.depth b) + 1 := by
  refine diff_patch_induction
    (R := fun t b p => Val.WF t → Val.WF b → Go.depth p ≤ max (Go.depth t) (Go.depth b) + 1)
    (fun _ _ _ _ => by omega) (fun dl sl p h _ _ => diffListList_patch_depth dl sl p h) ?_ ?_ t b p h ht hb
  · intro dm sm _ _
    refine Nat.le_trans (Nat.succ_le_succ (depthFields_le_of_forall (N := Go.depthFields dm) fun q hq => ?_))
      (by simp only [Go.depth]; omega)
    rcases mem_fset hq with rfl | hq
    · exact Nat.zero_le _
    · exact Go.depth_le_of_mem_fields (k := q.1) hq
  · intro dm sm ih ht hb
    have hd := wf_map_iff.1 ht
    have hs := wf_map_iff.1 hb
    refine Nat.succ_le_succ (depthFields_le_of_forall fun ⟨k, v⟩ hm => ?_)
    rcases mem_diffAll hd.1 hs.1 hm with hv | rfl | ⟨x, y, hx, hy, hxy⟩
    · have := Go.depth_le_of_mem_fields hv; simp only [Go.depth]; omega
    · exact Nat.zero_le _
    · have := ih k x y v hx hy hxy (hd.2 _ hx) (hs.2 _ hy)
      have := Go.depth_le_of_mem_fields hx
      have := Go.depth_le_of_mem_fields hy
      simp only [Go.depth]; omega

/-! ### the laws -/

/-- bkld emits nothing — `diff'` returns Go's `(nil, nil)` — exactly when target and base are the same data
    (`C15_same_iff`, `C15_empty_when_equal`), for a plain target, a well-formed base and fuel `≥ 3·depth target + 1` -/
theorem S_C15_same_iff (target base : Val) (ht : plainVal target = true) (hb : Val.WF base)
    (fuel : Nat) (hf : 3 * Go.depth target + 1 ≤ fuel) :
    Bkld.diff' Bkld.modelReproduces fuel target base = .ok (.null, none) ↔ target = base := by
  rw [Bkld.T_diff_eq target base (plainVal_wf ht) fuel hf, ← C15_same_iff target base ht hb, Except.ok.injEq,
    Bkld.dresToGo_eq_ok]
  -- a plain target is not nil, so its patch is never the nil patch
  refine ⟨fun h => h.elim And.left fun hd => ?_, fun h => .inl ⟨h, rfl⟩⟩
  cases diff_patch_isNull hd (nullFree_isNull (plainVal_nullFree ht))

example : plainVal C15_target = true ∧ Val.WF C15_base ∧ 3 * Go.depth C15_target + 1 ≤ 10 :=
  ⟨C15_witness_plain.1, plainVal_wf C15_witness_plain.2.1, by decide⟩

/-- equal data: nothing is emitted (`C15_empty_when_equal`), for every well-formed value (nulls, `$` allowed) -/
theorem S_C15_empty_when_equal (v : Val) (hv : Val.WF v) (fuel : Nat) (hf : 3 * Go.depth v + 1 ≤ fuel) :
    Bkld.diff' Bkld.modelReproduces fuel v v = .ok (.null, none) := by
  rw [Bkld.T_diff_eq v v hv fuel hf, (C15_empty_when_equal v hv).1]; rfl

example : Val.WF C15_target ∧ 3 * Go.depth C15_target + 1 ≤ 10 := ⟨plainVal_wf C15_witness_plain.1, by decide⟩

/-- a non-nil value without error from the translated `diff` is the model's patch -/
theorem diff_patch_of_source (target base p : Val) (hw : Val.WF target)
    (fuel : Nat) (hf : 3 * Go.depth target + 1 ≤ fuel)
    (h : Bkld.diff' Bkld.modelReproduces fuel target base = .ok (p, none)) (hp : p ≠ .null) :
    diff target base = .patch p := by
  rw [Bkld.T_diff_eq target base hw fuel hf, Except.ok.injEq, Bkld.dresToGo_eq_ok] at h
  exact h.resolve_left fun h' => hp h'.2

/-- THE ROUND TRIP on the translated sources (`C15_roundtrip_core`): whenever the translated `diff` returns a patch
    `(p, nil)` (`p` not nil) for a plain target over a well-formed base, the translated `merge` of `p` over the base
    returns `(target, nil)` — for every fuel `≥ 3·depth target + 1` of `diff'` and `≥ 4·depth p + 2` of `merge'`. -/
theorem S_C15_roundtrip (target base p : Val) (ht : plainVal target = true) (hb : Val.WF base)
    (fuel : Nat) (hf : 3 * Go.depth target + 1 ≤ fuel)
    (h : Bkld.diff' Bkld.modelReproduces fuel target base = .ok (p, none)) (hp : p ≠ .null)
    (fuel' : Nat) (hf' : 4 * Go.depth p + 2 ≤ fuel') :
    Lib.merge' fuel' base p = .ok (target, none) := by
  have hd := diff_patch_of_source target base p (plainVal_wf ht) fuel hf h hp
  have hcore := C15_roundtrip_core target base ht hb
  rw [hd] at hcore
  simp only [] at hcore
  rw [Lib.T_merge_eq base p (diff_patch_wf target base (plainVal_wf ht) hb p hd) fuel' hf', Lib.resOf, hcore]

/-- the same with the fuel of `merge'` stated on target and base (the patch is at most one level deeper than the
    deeper of the two, `diff_patch_depth`): `4·(max (depth target) (depth base) + 1) + 2` suffices -/
theorem S_C15_roundtrip_fuel (target base p : Val) (ht : plainVal target = true) (hb : Val.WF base)
    (fuel : Nat) (hf : 3 * Go.depth target + 1 ≤ fuel)
    (h : Bkld.diff' Bkld.modelReproduces fuel target base = .ok (p, none)) (hp : p ≠ .null)
    (fuel' : Nat) (hf' : 4 * (max (Go.depth target) (Go.depth base) + 1) + 2 ≤ fuel') :
    Lib.merge' fuel' base p = .ok (target, none) := by
  have hd := diff_patch_of_source target base p (plainVal_wf ht) fuel hf h hp
  have := diff_patch_depth target base (plainVal_wf ht) hb p hd
  exact S_C15_roundtrip target base p ht hb fuel hf h hp fuel' (by omega)

/-- the three outcomes of the translated `diff` on a plain target and a well-formed base (`C15_roundtrip_core`):
    `(nil, nil)` and the data are equal; or a patch that the translated `merge` turns back into the target; or
    the error (`errReplaceParent`), and then the base is a non-empty map or a list and the target of another kind -/
theorem S_C15_roundtrip_core (target base : Val) (ht : plainVal target = true) (hb : Val.WF base)
    (fuel : Nat) (hf : 3 * Go.depth target + 1 ≤ fuel) :
    (Bkld.diff' Bkld.modelReproduces fuel target base = .ok (.null, none) ∧ target = base) ∨
    (∃ p, p ≠ .null ∧ Val.WF p ∧ Go.depth p ≤ max (Go.depth target) (Go.depth base) + 1 ∧
        Bkld.diff' Bkld.modelReproduces fuel target base = .ok (p, none) ∧
        ∀ fuel', 4 * Go.depth p + 2 ≤ fuel' → Lib.merge' fuel' base p = .ok (target, none)) ∨
    (Bkld.diff' Bkld.modelReproduces fuel target base = .ok (.null, some Err.other) ∧
        replaceable base = false ∧ (target.isMap && base.isMap) = false ∧
        (target.isList && base.isList) = false) := by
  have hT := Bkld.T_diff_eq target base (plainVal_wf ht) fuel hf
  have hcore := C15_roundtrip_core target base ht hb
  cases hd : diff target base with
  | same =>
    rw [hd] at hT hcore
    exact .inl ⟨hT, hcore⟩
  | replaceParent =>
    rw [hd] at hT hcore
    exact .inr (.inr ⟨hT, hcore⟩)
  | patch q =>
    rw [hd] at hT
    have hn : q ≠ .null := by
      intro e; subst e
      have := diff_patch_isNull hd (nullFree_isNull (plainVal_nullFree ht))
      cases this
    exact .inr (.inl ⟨q, hn, diff_patch_wf target base (plainVal_wf ht) hb q hd,
      diff_patch_depth target base (plainVal_wf ht) hb q hd, hT,
      fun fuel' hf' => S_C15_roundtrip target base q ht hb fuel hf hT hn fuel' hf'⟩)

/-- map-rooted documents: the translated `diffMap`/`diff` never answers with the replace-parent error
    (`C15_doc_never_replaceParent`): the error component is always nil -/
theorem S_C15_doc_never_replaceParent (t b : Fields) (ht : Val.WF (.map t))
    (fuel : Nat) (hf : 3 * Go.depth (.map t) + 1 ≤ fuel) :
    ∃ p, Bkld.diff' Bkld.modelReproduces fuel (.map t) (.map b) = .ok (p, none) := by
  rw [Bkld.T_diff_eq _ _ ht fuel hf]
  cases hd : diff (.map t) (.map b) with
  | same => exact ⟨_, rfl⟩
  | patch q => exact ⟨_, rfl⟩
  | replaceParent => exact absurd hd (C15_doc_never_replaceParent t b)

example : Val.WF (.map [("a", .int 1), ("b", .null)]) ∧
    3 * Go.depth (.map [("a", .int 1), ("b", .null)]) + 1 ≤ 4 := by decide

/-- whole map-rooted plain documents (`C15_roundtrip`): the translated `diff` never fails; it returns nil exactly
    when the documents are equal; and a non-nil result is a map that the translated `merge` layers over the base to
    give back the target -/
theorem S_C15_doc_roundtrip (t b : Fields) (ht : plainVal (.map t) = true) (hb : plainVal (.map b) = true)
    (fuel : Nat) (hf : 3 * Go.depth (.map t) + 1 ≤ fuel) :
    ∃ p, Bkld.diff' Bkld.modelReproduces fuel (.map t) (.map b) = .ok (p, none) ∧
      (p = .null ↔ Val.map t = Val.map b) ∧
      (p ≠ .null → (∃ m, p = .map m) ∧
        ∀ fuel', 4 * (max (Go.depth (.map t)) (Go.depth (.map b)) + 1) + 2 ≤ fuel' →
          Lib.merge' fuel' (.map b) p = .ok (.map t, none)) := by
  obtain ⟨p, hp⟩ := S_C15_doc_never_replaceParent t b (plainVal_wf ht) fuel hf
  refine ⟨p, hp, ?_, fun hn => ⟨?_, fun fuel' hf' =>
    S_C15_roundtrip_fuel _ _ p ht (plainVal_wf hb) fuel hf hp hn fuel' hf'⟩⟩
  · rw [← S_C15_same_iff _ _ ht (plainVal_wf hb) fuel hf, hp]
    simp
  · have hd := diff_patch_of_source _ _ p (plainVal_wf ht) fuel hf hp hn
    rcases diff_map_map_cases t b with h | ⟨m, h⟩ <;> rw [h] at hd <;> cases hd
    exact ⟨m, rfl⟩

/-- non-vacuity: the witnesses of BklProofs/C15 are plain map-rooted documents; the translated `diff` (fuel 10)
    returns a non-nil patch for them, which the translated `merge` (any fuel above the bound) turns into the target -/
example : (∃ t b, C15_target = .map t ∧ C15_base = .map b) ∧ plainVal C15_target = true ∧
    plainVal C15_base = true ∧ 3 * Go.depth C15_target + 1 ≤ 10 ∧ C15_target ≠ C15_base :=
  ⟨⟨_, _, rfl, rfl⟩, C15_witness_plain.1, C15_witness_plain.2.1, by decide, by decide +kernel⟩

example : ∃ p, Bkld.diff' Bkld.modelReproduces 10 C15_target C15_base = .ok (p, none) ∧ p ≠ .null ∧
    Lib.merge' (4 * Go.depth p + 2) C15_base p = .ok (C15_target, none) := by
  rcases S_C15_roundtrip_core C15_target C15_base C15_witness_plain.1 (plainVal_wf C15_witness_plain.2.1) 10
    (by decide) with h | h | h
  · exact absurd h.2 (by decide +kernel)
  · obtain ⟨p, hn, _, _, hd, hm⟩ := h
    exact ⟨p, hd, hn, hm _ (Nat.le_refl _)⟩
  · exact absurd h.2.2.1 (by decide +kernel)


end Bkl.Gen
