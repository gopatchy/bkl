/-
  Fact obligation F6: every `$`-literal the evaluator compares against is one the model (and the
  escape / validation theorems) know; and F14: the table behind validate.go's `unicode.IsLower`.  Used by C06 and C07.
-/
import Bkl.Output
import Generated.Facts
namespace Bkl

def modelRecognisers : List String :=
  ["$", "$\"", "$$", "$decode", "$delete", "$encode", "$env:", "$invert", "$match", "$merge", "$merge:",
   "$output", "$parent", "$path", "$repeat", "$replace", "$replace:", "$required", "$value"]

/-- F6: the source has no recogniser literal outside the modelled set -/
theorem F6_recognisers_known : Facts.recogniserLits = modelRecognisers := by decide +kernel

/-- every recogniser other than the escape itself is `$` + lowercase letter or `$"`: left over in
    an output it fails validation (`$"` can only start an interpolation, which is evaluated) -/
theorem F6_recognisers_rejected_if_left_over :
    (modelRecognisers.filter (fun s => s != "$" && s != "$$" && s != "$\"")).all
      (fun s => match validateChars s.toList with | .ok _ => false | .error _ => true) = true := by decide +kernel

/-- F14: the model's table of lower-case letters above Latin-1 (Bkl/UnicodeLower.lean, used by `isLowerModel` =
    validate.go's `unicode.IsLower`) is the `unicode.Lower` table of the toolchain that builds /repo -/
theorem F14_unicode_lower_table : Facts.unicodeLower = unicodeLowerRanges := by decide +kernel

end Bkl
