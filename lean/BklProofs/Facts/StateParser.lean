/- Fact obligation F12, the struct types of the parser (table and explanation: BklProofs/Facts/State.lean). -/
import BklProofs.Facts.State
namespace Bkl

/-- F12, parser side: the parser, its documents, the evaluation context and the format table hold nothing beyond
    what the model carries (C09, C18, C19) -/
theorem F12_no_hidden_state_parser :
    fieldsOfTypes ["Document", "EvalContext", "Format", "Parser"] Facts.structFields =
      fieldsOfTypes ["Document", "EvalContext", "Format", "Parser"] (expectedStructFields.map (·.1)) := by decide +kernel

end Bkl
