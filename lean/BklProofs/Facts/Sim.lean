/-
  The refinement relation between translated Go text and the model, for the functions that return `(value, error)`:
  `SimU U Rd go m` — wherever the model's `m : R α` does not answer an error in `U` (the errors by which the model says
  that it does not model the input), the Go computation `go : G γ` ends and its result reads (`Rd`) as `m`.
  `Sim` is `SimU` off `unmodelled` (process2.go, get.go); the units the model covers entirely take `U := fun _ => False`
  (the function literals of util.go and output.go in Facts/TransFilter).  `Reads` is the reading of a Go pair (the
  value beside an error is not looked at).
  The rules follow the translated text construct by construct — `x, err := f(…); if err != nil { return … }` against
  `>>=` (`Sim.bindV`, `Sim.bindErr`), `return f(…)` (`Sim.tailV`), `if` (`Sim.ite`), `popMapValue` against a `match` on
  `fget` (`Sim.popMapValue`), a `for range` loop against `foldlM` (`forRange_sim`) — so that a proof about a translated
  function reads like the function and never restates it.  What `filterList` / `filterMap` do with a function literal
  that refines what an element contributes in the model is in Facts/TransFilter (`filterList_emit`, `filterMap_emit`).
  The rules that repeat a `match` of the translated text are stated for the result type of the callee they are used
  with (`Val × Option Err`, `Option Err`, `Bool × Val × Fields`), not for a type variable: see the trap described in
  the header of BklProofs/Lemmas/GoLib.lean.  They stay general in the type and the reading of what follows the call.
-/
import BklProofs.Facts.TransUtil
namespace Bkl.Gen.Lib
open Bkl Go

/-! ## the relation -/

/-- the Go pair `q` reads as the model result `m`: the same value and no error, or the same error class (the value
    beside an error is not looked at) -/
def Reads {α : Type} (q : α × Option Err) : R α → Prop
  | .ok a => q = (a, none)
  | .error e => q.2 = some e

/-- `go` refines `m` off `U`: unless the model answers an error in `U`, the Go computation ends with a result that
    reads (`Rd`) as the model's -/
def SimU (U : Err → Prop) {γ α : Type} (Rd : γ → R α → Prop) (go : G γ) (m : R α) : Prop :=
  (∀ e, U e → m ≠ .error e) → ∃ q, go = .ok q ∧ Rd q m

/-- off `unmodelled` -/
abbrev Sim {γ α : Type} (Rd : γ → R α → Prop) (go : G γ) (m : R α) : Prop := SimU (· = Err.unmodelled) Rd go m

theorem sim_def {γ α : Type} {Rd : γ → R α → Prop} {go : G γ} {m : R α} :
    Sim Rd go m ↔ (m ≠ .error Err.unmodelled → ∃ q, go = .ok q ∧ Rd q m) :=
  ⟨fun h hm => h fun _ he => he ▸ hm, fun h hm => h (hm _ rfl)⟩

/-- a computed Go result that reads as the model's -/
theorem SimU.of_eq {U : Err → Prop} {γ α : Type} {Rd : γ → R α → Prop} {go : G γ} {m : R α} {q : γ}
    (h : go = .ok q) (hr : Rd q m) : SimU U Rd go m := fun _ => ⟨q, h, hr⟩

theorem bind_off {U : Err → Prop} {α β : Type} {m : R α} {f : α → R β} (h : ∀ e, U e → (m >>= f) ≠ .error e) :
    ∀ e, U e → m ≠ .error e := fun e he h' => h e he (by rw [h']; rfl)

/-! ## rules that follow the translated text -/

theorem Sim.pure {U : Err → Prop} {γ α : Type} {Rd : γ → R α → Prop} {q : γ} {a : α} (h : Rd q (.ok a)) :
    SimU U Rd (.ok q) (Pure.pure a) := fun _ => ⟨q, rfl, h⟩

theorem Sim.throw {U : Err → Prop} {γ α : Type} {Rd : γ → R α → Prop} {q : γ} {e : Err} (h : Rd q (.error e)) :
    SimU U Rd (.ok q) (throw e : R α) := fun _ => ⟨q, rfl, h⟩

/-- `x, err := go(…); if err != nil { return E }; K` against `m >>= f`, for a callee that returns `(any, error)` -/
theorem Sim.bindV {U : Err → Prop} {β γ : Type} {Rd : γ → R β → Prop} {go : G (Val × Option Err)} {m : R Val}
    {f : Val → R β} {K : Val → Option Err → G γ} {E : Val → Option Err → γ}
    (h : SimU U Reads go m) (hK : ∀ a, m = .ok a → SimU U Rd (K a none) (f a))
    (hE : ∀ z e, Rd (E z (some e)) (.error e)) :
    SimU U Rd (match (generalizing := false) go with
      | .error e => .error e
      | .ok (r1, r2) => if r2 == none then K r1 r2 else .ok (E r1 r2)) (m >>= f) := by
  intro hmod
  obtain ⟨q, hq, hr⟩ := h (bind_off hmod)
  rw [hq]
  cases hm : m with
  | ok a =>
    rw [hm] at hr hmod
    cases hr
    exact hK a hm hmod
  | error e =>
    rw [hm] at hr
    obtain ⟨z, b⟩ := q
    cases hr
    exact ⟨_, rfl, hE z e⟩

/-- `return go(…)` -/
theorem Sim.tailV {U : Err → Prop} {go : G (Val × Option Err)} {m : R Val} (h : SimU U Reads go m) :
    SimU U Reads (match (generalizing := false) go with
      | .error e => .error e
      | .ok (r1, r2) => .ok (r1, r2)) m := by
  intro hmod
  obtain ⟨q, hq, hr⟩ := h hmod
  exact ⟨q, by rw [hq], hr⟩

/-- `err := go(…); if err != nil { return E }; K` for a callee that returns an error only -/
theorem Sim.bindErr {U : Err → Prop} {β γ : Type} {Rd : γ → R β → Prop} {go : G (Option Err)} {m : R Unit}
    {f : Unit → R β} {K : Option Err → G γ} {E : Option Err → γ}
    (h : go = .ok (errOpt m)) (hK : m = .ok () → SimU U Rd (K none) (f ()))
    (hE : ∀ e, Rd (E (some e)) (.error e)) :
    SimU U Rd (match (generalizing := false) go with
      | .error e => .error e
      | .ok r => if r == none then K r else .ok (E r)) (m >>= f) := by
  intro hmod
  rw [h]
  cases hm : m with
  | ok a => rw [hm] at hmod; exact hK hm hmod
  | error e => exact ⟨_, rfl, hE e⟩

/-- `if c { … } else { … }` on both sides -/
theorem Sim.ite {U : Err → Prop} {γ α : Type} {Rd : γ → R α → Prop} {c c' : Bool} {a b : G γ} {a' b' : R α}
    (hc : c = c') (ha : c' = true → SimU U Rd a a') (hb : c' = false → SimU U Rd b b') :
    SimU U Rd (if c then a else b) (if c' then a' else b') := by
  subst hc
  cases c
  · exact hb rfl
  · exact ha rfl

/-- `found, v, rest := popMapValue(m, k); if found { A } else { B }` against a `match fget m k` of the model -/
theorem Sim.popMapValue {U : Err → Prop} {γ α : Type} {Rd : γ → R α → Prop} {m : Fields} {k : String}
    {A B : Val → Fields → G γ} {a : Val → R α} {b : R α}
    (hs : ∀ v, fget m k = some v → SimU U Rd (A v (fdel m k)) (a v))
    (hn : fget m k = none → SimU U Rd (B .null m) b) :
    SimU U Rd (match (generalizing := false) popMapValue' m k with
      | .error e => .error e
      | .ok (r1, r2, r3) => if r1 then A r2 r3 else B r2 r3)
      (match (generalizing := false) fget m k with
       | some v => a v
       | none => b) := by
  rw [popMapValue_eq_match]
  cases h : fget m k with
  | some v => exact hs v h
  | none => exact hn h

/-! ## loops -/

/-- how one execution of a loop body reads as one step of a fold of the model -/
def ReadsNext {σ ρ : Type} (z : ρ) (l : Loop σ (ρ × Option Err)) : R σ → Prop
  | .ok s => l = .next s
  | .error e => l = .ret (z, some e)

/-- the outcome of a Go loop that performs a fold of the model -/
def loopRes {σ ρ : Type} (z : ρ) : R σ → σ ⊕ (ρ × Option Err)
  | .ok s => .inl s
  | .error e => .inr (z, some e)

/-- a Go loop whose body refines the step of a fold of the model performs the fold -/
theorem forRange_sim {U : Err → Prop} {α σ ρ : Type} {z : ρ} {step : σ → α → R σ}
    {body : α → σ → G (Loop σ (ρ × Option Err))}
    {xs : List α} (hbody : ∀ x ∈ xs, ∀ s, SimU U (ReadsNext z) (body x s) (step s x)) (s : σ)
    (hmod : ∀ e, U e → xs.foldlM step s ≠ .error e) :
    forRange xs s body = .ok (loopRes z (xs.foldlM step s)) := by
  induction xs generalizing s with
  | nil => rfl
  | cons x xs ih =>
    rw [List.foldlM_cons] at hmod ⊢
    obtain ⟨l, hl, hr⟩ := hbody x List.mem_cons_self s (bind_off hmod)
    cases hs : step s x with
    | error e =>
      rw [hs] at hr
      exact forRange_cons_ret (hl.trans (congrArg _ hr))
    | ok s' =>
      rw [hs] at hr hmod
      rw [forRange_cons_next (hl.trans (congrArg _ hr))]
      exact ih (fun y hy => hbody y (List.mem_cons_of_mem _ hy)) s' hmod

end Bkl.Gen.Lib
