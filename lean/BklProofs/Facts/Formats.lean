/-
  Fact obligations over the regenerated format table and CLI option table (F1, F7).
  Used by C03, C04, C05, C18, C20.
-/
import Bkl.Files
import Generated.Facts
namespace Bkl

/-- F1: the format table of formats.go has exactly the extensions the model knows -/
theorem F1_format_keys : Facts.formatTable.map (·.1) = supportedExts := by decide

/-- F1: aliases share codecs: yml ≡ yaml, jsonl ≡ json, json-pretty reads as json -/
theorem F1_aliases :
    (Facts.formatTable.lookup "yml" = Facts.formatTable.lookup "yaml") ∧
    (Facts.formatTable.lookup "jsonl" = Facts.formatTable.lookup "json") ∧
    ((Facts.formatTable.lookup "json-pretty").map (·.2) = (Facts.formatTable.lookup "json").map (·.2)) := by decide +kernel

/-- F7: cmd/bkl has -f -o -r -P (and -v -V -c), and -f accepts exactly json, json-pretty, toml, yaml -/
theorem F7_cli_options :
    Facts.cliOptions.map (·.2.1) = ["P", "V", "c", "f", "o", "r", "v"] ∧
    (Facts.cliOptions.lookup "cmd/bkl").isSome ∧
    (Facts.cliOptions.find? (·.2.1 == "f")).map (·.2.2) = some "json,json-pretty,toml,yaml" := by decide +kernel

end Bkl
