/- C07 on the translated validate.go (`validate'`): the theorems of BklProofs/C07 composed with `T_validate_eq`
   (Facts/TransValidate), and with `T_finalizeOutput_eq` for what the output stage emits. -/
import BklProofs.C07
import BklProofs.Facts.TransValidate
import BklProofs.Facts.TransFinalize
namespace Bkl.Gen.Lib
open Bkl Go

/-- `validate'` returns nil exactly when the model's `validate` succeeds -/
theorem S_C07_ok_iff (v : Val) {fuel : Nat} (h : 2 * Go.depth v + 1 ≤ fuel) :
    validate' fuel v = .ok none ↔ validate v = .ok () := by
  rw [T_validate_eq v fuel h]
  cases validate v with
  | ok u => simp [errOpt]
  | error e => simp [errOpt]

/-- `validate'` reports the error class `e` exactly when the model does -/
theorem S_C07_error_iff (v : Val) (e : Err) {fuel : Nat} (h : 2 * Go.depth v + 1 ≤ fuel) :
    validate' fuel v = .ok (some e) ↔ validate v = .error e := by
  rw [T_validate_eq v fuel h]
  cases validate v with
  | ok u => simp [errOpt]
  | error e' => simp [errOpt]

/-- **the translated validate.go:validate accepts exactly the clean trees**: no map key and no string leaf is
    `"$required"` or `$` followed by a lower-case letter -/
theorem S_C07_validate_iff (v : Val) {fuel : Nat} (h : 2 * Go.depth v + 1 ≤ fuel) :
    validate' fuel v = .ok none ↔ clean v = true := by
  rw [S_C07_ok_iff v h, validate_iff]

example : 2 * Go.depth (.map [("a", .list [.str "x", .str "$5"])]) + 1 ≤ 5 ∧
    clean (.map [("a", .list [.str "x", .str "$5"])]) = true ∧
    validate' 5 (.map [("a", .list [.str "x", .str "$5"])]) = .ok none ∧
    clean (.map [("a", .list [.str "x", .str "$merge"])]) = false ∧
    validate' 5 (.map [("a", .list [.str "x", .str "$merge"])]) = .ok (some Err.invalidDirective) := by
  refine ⟨by decide, by decide, by rfl, by decide, by rfl⟩

/-- the same for one string -/
theorem S_C07_validateString_iff (s : String) : validateString' s = .ok none ↔ badString s = false := by
  rw [validateString_eq, ← validateString_iff]
  cases validateString s with
  | ok u => simp [errOpt]
  | error e => simp [errOpt]

/-- the only errors are `requiredField` and `invalidDirective` -/
theorem S_C07_error_class (v : Val) (e : Err) {fuel : Nat} (h : 2 * Go.depth v + 1 ≤ fuel)
    (he : validate' fuel v = .ok (some e)) : e = .requiredField ∨ e = .invalidDirective :=
  validate_error v e ((S_C07_error_iff v e h).1 he)

/-- the `$required` case: the marker string itself is rejected with `requiredField` -/
theorem S_C07_required_string {fuel : Nat} (h : 1 ≤ fuel) :
    validate' fuel (.str "$required") = .ok (some Err.requiredField) :=
  (S_C07_error_iff _ _ (by simpa [Go.depth] using h)).2 (by decide)

/-- … and any tree that still contains a `$required` marker (`countReq`, the specification function of C17) is
    rejected, with one of the two classes -/
theorem S_C07_required_rejected (v : Val) (hr : 0 < countReq v) {fuel : Nat} (h : 2 * Go.depth v + 1 ≤ fuel) :
    validate' fuel v = .ok (some Err.requiredField) ∨ validate' fuel v = .ok (some Err.invalidDirective) := by
  rcases C07_required_rejected_error v hr with hv | hv
  · exact Or.inl ((S_C07_error_iff v _ h).2 hv)
  · exact Or.inr ((S_C07_error_iff v _ h).2 hv)

example : 0 < countReq (.map [("a", .list [.int 1, .str "$required"])]) ∧
    2 * Go.depth (.map [("a", .list [.int 1, .str "$required"])]) + 1 ≤ 5 ∧
    validate' 5 (.map [("a", .list [.int 1, .str "$required"])]) = .ok (some Err.requiredField) := by
  refine ⟨by decide, by decide, by rfl⟩

/-- every document the model's output stage emits is `finalizeOutput'` of a tree that `validate'` accepts -/
theorem S_C07_outputs_validated (ds outs : List Val) (h : emit ds = .ok outs) :
    ∀ o ∈ outs, ∃ v2, ∀ fuel, 2 * Go.depth v2 + 1 ≤ fuel →
      validate' fuel v2 = .ok none ∧ finalizeOutput' fuel v2 = .ok o := by
  intro o ho
  obtain ⟨v2, h1, h2⟩ := C07_outputs_validated ds outs h o ho
  exact ⟨v2, fun fuel hf => ⟨(S_C07_ok_iff v2 hf).2 h2, by rw [T_finalizeOutput_eq v2 fuel hf, h1]⟩⟩

example : emit [.map [("a", .int 1), ("b", .map [("$output", .bool false)])]] = .ok [.map [("a", .int 1)]] := by
  decide +kernel


end Bkl.Gen.Lib
