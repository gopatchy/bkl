/-
  Translation equivalence, process2.go (2): the model's `process2` unfolded by one level over an arbitrary evaluator `P`
  for the level below (`process2_succ`; `expandM`, `mapBodyM`, `encodeM`, `decodeM`, `listBodyM`, `repListM`,
  `repMapM`, the inner folds of Bkl/Process2.lean:process2, verbatim, are defined in BklProofs/Lemmas/Process2.lean),
  and the nested-`$repeat` loops
  process2RepeatObjList / process2RepeatObjMap of Generated/Trans/Process2.lean GIVEN a specification of the recursive
  `process2'` calls they make:
    `CallOK rec P ec v` : if `P ec.vars v` is not `unmodelled`, the call `rec ec v` returns a Go pair that agrees with
    it (`errNorm`: same error class; without an error the same value) — `Sim Reads (rec ec v) (P ec.vars v)` of
    Facts/Sim.lean (`sim_iff`), whose rules the two proofs follow.
  Main theorems: T_process2RepeatObjList_eq, T_process2RepeatObjMap_eq (fuel `f + 1` when the calls are made at `f`;
  `ec.Clone()` + `ec.Vars["$repeat"] = i` is `fset ec.vars "$repeat" (.int i)`; a negative count is an empty loop).
-/
import BklProofs.Facts.TransGet
import Generated.Trans.Process2
import BklProofs.Facts.TransEncode2
import BklProofs.Facts.TransRepeat
import BklProofs.Facts.Sim
import BklProofs.Lemmas.Process2
namespace Bkl.Gen.Lib
open Bkl Go

/-! ## the model's `process2`, one level unfolded -/

theorem process2_succ (F : Nat) (docs : List Val) (root : Val) (ec : Vars) (obj : Val) :
    process2 (F + 1) docs root ec obj =
      match obj with
      | .map kvs0 => expandM (process2 F docs root) ec kvs0 >>= mapBodyM (process2 F docs root) ec
      | .list xs => listBodyM (process2 F docs root) ec xs
      | .str s => process2String (F + 1) docs root ec s
      | _ => pure obj := by
  cases obj with
  | map kvs0 => exact process2_map_succ ..
  | list xs => exact process2_list_succ ..
  | str s => exact process2_str_eq ..
  | _ => rw [process2] <;> (intros; simp_all)

/-! ## reading Go result pairs -/

/-- a recursive call of the translated `process2'` (`rec`, at some fuel and depth) agrees with the evaluator `P`
    wherever `P` does not answer `unmodelled`: the same error class, and without an error the same value (next to an
    error the Go value is not looked at: `errNorm`) -/
def CallOK (rec : Go.Ctx → Val → G (Val × Option Err)) (P : Vars → Val → R Val) (ec : Go.Ctx) (v : Val) : Prop :=
  P ec.vars v ≠ .error Err.unmodelled → ∃ q, rec ec v = .ok q ∧ errNorm q = valRes (P ec.vars v)

theorem reads_iff_errNorm (q : Val × Option Err) (m : R Val) : Reads q m ↔ errNorm q = valRes m := by
  obtain ⟨a, b⟩ := q
  cases m <;> cases b <;> simp [Reads, errNorm]

/-- `CallOK` and the conclusions of the theorems about process2.go are `Sim Reads` -/
theorem sim_iff {go : G (Val × Option Err)} {m : R Val} :
    Sim Reads go m ↔ (m ≠ .error Err.unmodelled → ∃ q, go = .ok q ∧ errNorm q = valRes m) :=
  sim_def.trans (forall_congr' fun _ => exists_congr fun q => and_congr_right fun _ => reads_iff_errNorm q m)

theorem errNorm_ok {q : Val × Option Err} {v : Val} (h : errNorm q = valRes (.ok v)) : q = (v, none) := by
  obtain ⟨a, b⟩ := q
  cases b <;> simp_all [errNorm]

theorem errNorm_err {q : Val × Option Err} {e : Err} (h : errNorm q = valRes (.error e)) : q.2 = some e := by
  obtain ⟨a, b⟩ := q
  cases b <;> simp_all [errNorm]

theorem err_ne_cast {α β : Type} {e : Err} (h : (Except.error e : R α) ≠ .error Err.unmodelled) :
    (Except.error e : R β) ≠ .error Err.unmodelled := fun h' => h (by cases h'; rfl)

theorem CallOK.ok {rec : Go.Ctx → Val → G (Val × Option Err)} {P : Vars → Val → R Val} {ec : Go.Ctx} {v v2 : Val}
    (h : CallOK rec P ec v) (hP : P ec.vars v = .ok v2) : rec ec v = .ok (v2, none) := by
  obtain ⟨q, hq, hn⟩ := h (by rw [hP]; exact nofun)
  rw [hP] at hn
  rw [hq, errNorm_ok hn]

theorem CallOK.error {rec : Go.Ctx → Val → G (Val × Option Err)} {P : Vars → Val → R Val} {ec : Go.Ctx} {v : Val}
    {e : Err} {β : Type} (h : CallOK rec P ec v) (hP : P ec.vars v = .error e)
    (he : (Except.error e : R β) ≠ .error Err.unmodelled) : ∃ a, rec ec v = .ok (a, some e) := by
  obtain ⟨⟨a, b⟩, hq, hn⟩ := h (by rw [hP]; exact err_ne_cast he)
  rw [hP] at hn
  cases errNorm_err hn
  exact ⟨a, hq⟩

theorem some_bne_none (e : Err) : ((some e : Option Err) != none) = true := rfl
theorem none_bne_none : ((none : Option Err) != none) = false := rfl
theorem p2_some_beq_none (e : Err) : ((some e : Option Err) == none) = false := rfl
theorem p2_none_beq_none : ((none : Option Err) == none) = true := rfl

/-- `resPair` (Lemmas/GoLib) at `List Val` and at `Fields`, as the statements about process2RepeatObjList /
    process2RepeatObjMap spell it -/
def P2_listRes : R (List Val) → List Val × Option Err
  | .ok l => (l, none)
  | .error e => ([], some e)

def P2_fieldsRes : R Fields → Fields × Option Err
  | .ok l => (l, none)
  | .error e => ([], some e)

theorem P2_listRes_eq (r : R (List Val)) : P2_listRes r = resPair r := by cases r <;> rfl
theorem P2_fieldsRes_eq (r : R Fields) : P2_fieldsRes r = resPair r := by cases r <;> rfl

@[simp] theorem listRes_ok (l : List Val) : P2_listRes (.ok l) = (l, none) := rfl
@[simp] theorem listRes_error (e : Err) : P2_listRes (.error e) = ([], some e) := rfl
@[simp] theorem fieldsRes_ok (l : Fields) : P2_fieldsRes (.ok l) = (l, none) := rfl
@[simp] theorem fieldsRes_error (e : Err) : P2_fieldsRes (.error e) = ([], some e) := rfl

/-! ## the steps of the model's loops -/

/-- one list element: the evaluated value is appended unless it is null -/
def elemStepM (P : Vars → Val → R Val) (ec : Vars) (acc : List Val) (v : Val) : R (List Val) := do
  let v2 ← P ec v
  if v2.isNull then pure acc else pure (acc ++ [v2])

theorem repListM_cons (P : Vars → Val → R Val) (ec : Vars) (body : Val) (i : Nat) (is : List Nat) (acc : List Val) :
    repListM P ec body (i :: is) acc =
      (match P (fset ec "$repeat" (.int (Int.ofNat i))) body with
       | .error e => .error e
       | .ok v2 => repListM P ec body is (if v2.isNull then acc else acc ++ [v2])) := by
  unfold repListM
  rw [List.foldlM_cons]
  cases P (fset ec "$repeat" (.int (Int.ofNat i))) body with
  | error e => rfl
  | ok v2 => cases h : v2.isNull <;> simp [h, bind, Except.bind, pure, Except.pure]

theorem repListM_eq_foldlM (P : Vars → Val → R Val) (ec : Vars) (body : Val) (is : List Nat) (acc : List Val) :
    repListM P ec body is acc
      = (is.map Int.ofNat).foldlM (fun a i => elemStepM P (fset ec "$repeat" (.int i)) a body) acc := by
  rw [List.foldlM_map]; rfl

theorem repMapM_cons (P : Vars → Val → R Val) (ec : Vars) (k : String) (body : Val) (i : Nat) (is : List Nat)
    (acc : Fields) :
    repMapM P ec k body (i :: is) acc =
      (match P (fset ec "$repeat" (.int (Int.ofNat i))) body with
       | .error e => .error e
       | .ok v2 =>
         if v2.isNull then repMapM P ec k body is acc
         else match P (fset ec "$repeat" (.int (Int.ofNat i))) (.str k) with
           | .error e => .error e
           | .ok (.str k2) => repMapM P ec k body is (fset acc k2 v2)
           | .ok _ => .error Err.invalidType) := by
  unfold repMapM
  rw [List.foldlM_cons]
  cases P (fset ec "$repeat" (.int (Int.ofNat i))) body with
  | error e => rfl
  | ok v2 =>
    cases h : v2.isNull
    · simp only [h, bind, Except.bind, Bool.false_eq_true, if_false]
      cases P (fset ec "$repeat" (.int (Int.ofNat i))) (.str k) with
      | error e => rfl
      | ok k2 => cases k2 <;> rfl
    · simp [h, bind, Except.bind, pure, Except.pure]

theorem repMapM_eq_foldlM (P : Vars → Val → R Val) (ec : Vars) (k : String) (body : Val) (is : List Nat)
    (acc : Fields) :
    repMapM P ec k body is acc
      = (is.map Int.ofNat).foldlM (fun a i => entryStepM P (fset ec "$repeat" (.int i)) a (k, body)) acc := by
  rw [List.foldlM_map]; rfl

/-! ## process2RepeatObjList / process2RepeatObjMap, given the recursive calls -/

section
variable (ms : Go.Opaque → List Val → String × Option Err) (us : Go.Opaque → String → List Val × Option Err)
  (gf : String → Go.Opaque × Option Err) (nz : Val → Val × Option Err) (yu : String → Val × Option Err)

/-- the model's nested `$repeat` in a list, from the empty accumulator -/
def repListSpec (P : Vars → Val → R Val) (ec : Vars) (v : Fields) (r : Val) : R (List Val) :=
  match r with
  | .int n => repListM P ec (.map v) (List.range n.toNat) []
  | _ => .error Err.invalidType

/-- the model's nested `$repeat` in a map entry, from the empty accumulator -/
def repMapSpec (P : Vars → Val → R Val) (ec : Vars) (k : String) (v : Fields) (r : Val) : R Fields :=
  match r with
  | .int n => repMapM P ec k (.map v) (List.range n.toNat) []
  | _ => .error Err.invalidType

/-- process2.go:process2RepeatObjList, given that the calls `process2(v, …, ec{$repeat: i}, depth)` it makes agree
    with `P` (wherever `P` is not `unmodelled`) -/
theorem T_process2RepeatObjList_eq (P : Vars → Val → R Val) (f : Nat) (v : Fields) (mf : Go.Doc) (docs : List Go.Doc)
    (ec : Go.Ctx) (r : Val) (depth : Int)
    (hrec : ∀ i : Nat, i < (Go.asInt r).1.toNat →
      CallOK (fun ec' x => process2' ms us gf nz yu f x mf docs ec' depth) P
        ⟨fset ec.vars "$repeat" (.int (Int.ofNat i))⟩ (.map v))
    (hmod : repListSpec P ec.vars v r ≠ .error Err.unmodelled) :
    process2RepeatObjList' ms us gf nz yu (f + 1) v mf docs ec r depth =
      .ok (P2_listRes (repListSpec P ec.vars v r)) := by
  unfold process2RepeatObjList'
  cases r with
  | int n =>
    simp only [Go.asInt, Go.intRange, if_true, repListSpec, repListM_eq_foldlM] at hrec hmod ⊢
    rw [forRange_sim (U := (· = Err.unmodelled)) (z := ([] : List Val)) ?_ [] fun _ he => he ▸ hmod]
    · generalize (List.foldlM _ _ _ : R (List Val)) = t
      cases t <;> rfl
    · intro i hi acc
      obtain ⟨j, hj, rfl⟩ := List.mem_map.1 hi
      simp only [T_EvalContext_Clone_eq]
      refine Sim.bindV (sim_iff.2 (hrec j (List.mem_range.1 hj))) (fun v2 _ => ?_) fun _ _ => rfl
      exact Sim.ite (beq_null_eq_isNull v2) (fun _ => Sim.pure rfl) fun _ => Sim.pure rfl
  | _ => rfl

/-- process2.go:process2RepeatObjMap, given the calls `process2(v, …)` and `process2(k, …)` it makes -/
theorem T_process2RepeatObjMap_eq (P : Vars → Val → R Val) (f : Nat) (v : Fields) (mf : Go.Doc) (docs : List Go.Doc)
    (ec : Go.Ctx) (k : String) (r : Val) (depth : Int)
    (hrec : ∀ i : Nat, i < (Go.asInt r).1.toNat →
      CallOK (fun ec' x => process2' ms us gf nz yu f x mf docs ec' depth) P
        ⟨fset ec.vars "$repeat" (.int (Int.ofNat i))⟩ (.map v) ∧
      CallOK (fun ec' x => process2' ms us gf nz yu f x mf docs ec' depth) P
        ⟨fset ec.vars "$repeat" (.int (Int.ofNat i))⟩ (.str k))
    (hmod : repMapSpec P ec.vars k v r ≠ .error Err.unmodelled) :
    process2RepeatObjMap' ms us gf nz yu (f + 1) v mf docs ec k r depth =
      .ok (P2_fieldsRes (repMapSpec P ec.vars k v r)) := by
  unfold process2RepeatObjMap'
  cases r with
  | int n =>
    simp only [Go.asInt, Go.intRange, if_true, repMapSpec, repMapM_eq_foldlM] at hrec hmod ⊢
    rw [forRange_sim (U := (· = Err.unmodelled)) (z := ([] : Fields)) ?_ [] fun _ he => he ▸ hmod]
    · generalize (List.foldlM _ _ _ : R Fields) = t
      cases t <;> rfl
    · intro i hi acc
      obtain ⟨j, hj, rfl⟩ := List.mem_map.1 hi
      obtain ⟨c1, c2⟩ := hrec j (List.mem_range.1 hj)
      simp only [T_EvalContext_Clone_eq]
      unfold entryStepM
      refine Sim.bindV (sim_iff.2 c1) (fun v2 _ => ?_) fun _ _ => rfl
      refine Sim.ite (beq_null_eq_isNull v2) (fun _ => Sim.pure rfl) fun _ => ?_
      refine Sim.bindV (sim_iff.2 c2) (fun k2 _ => ?_) fun _ _ => rfl
      cases k2 <;> first | exact Sim.pure rfl | exact Sim.throw rfl
  | _ => rfl
end

end Bkl.Gen.Lib
