/-
  Translation equivalence, util.go (second part): the higher-order helpers `filterList`, `filterMap` and their users
  `popListString`, `popListMapValue`, `popListMapBoolValue`, `popListMapStringValue`, as harness/cmd/gotrans writes them
  from /repo's CURRENT util.go (Generated/Trans/Filter.lean, regenerated on every run).

  Function literals are translated in STATE-PASSING style: `filter` takes the current values of the variables of the
  enclosing function it assigns (the state `σ`; `Unit` when it assigns nothing) and returns its results together with
  the new state; `filterList'`/`filterMap'` thread the state through the loop and return it with their results.

  * `T_filterList_rec` / `T_filterMap_rec`: for an ARBITRARY function value `filter` over an arbitrary state type (also
    one that runs out of fuel) the translated functions are the plain recursions `filterListRecS` / `filterMapRecS`
    below (no hypothesis).  Everything else is read off the recursion:
  * `filterListRecS_prefix` / `filterMapRecS_prefix`: the elements before the first Go error or failure
    (`T_filterList_spec`, `_err`, `_gerr` and the same for `filterMap`);
  * `filterList_emit` / `filterMap_emit`: a function literal that leaves the state alone and refines (`SimU`,
    Facts/Sim) what one element contributes in the model makes the helper return the Go pair of the contributions in
    order (`T_filterList_flatMapR`, `filterList_resPair` and the same for `filterMap` when the literal implements a
    model function outright) — this is what the function literals of util.go, output.go and process2.go are
    handled with;
  * `T_filterList_foldlM` (a literal with a state that implements a model step), `T_filterList_drop` (drop the
    entries satisfying a predicate, remember that one was dropped): merge.go, popListMapValue, popListString;
  * `T_popListString_eq`: the model's `popListString`; `T_popListMapValue_eq`: the model's `popListMapValue`;
    `T_popListMapBoolValue_eq`: the model's `popListMapBool` (all Bkl/Fields.lean);
  * `T_popListMapStringValue_eq`: the model has NO counterpart of `popListMapStringValue` (no other Go function of
    /repo calls it), so it is stated against the explicit specification `popListMapStr` of this file.
  No hypothesis (well-formedness, fuel) is needed anywhere in this unit.
  `T_filterList_rec`, `T_filterList_foldlM` and `T_popListMapValue_eq`, on which the translation of repeat.go rests, stand in
  BklProofs/Facts/TransFilterCore.lean, which Facts/TransRepeat (and get.go, process2.go above it) imports without the
  rest of this unit.
-/
import Generated.Trans.Filter
import BklProofs.Facts.Sim
import BklProofs.Lemmas.Fields
import BklProofs.Facts.TransFilterCore
namespace Bkl.Gen.Lib
open Bkl Go

/-! ## filterList, by the shape of the function literal (the recursion `filterListRecS` itself: Facts/TransFilterCore.lean) -/

/-! ### the elements before the first Go error or failure -/

theorem filterListRecS_prefix {σ : Type} (filter : Val → σ → G ((List Val × Option Err) × σ)) (f : Val → List Val)
    (pre post acc : List Val) (s : σ) (h : ∀ x ∈ pre, ∀ s, filter x s = .ok ((f x, none), s)) :
    filterListRecS filter (pre ++ post) acc s = filterListRecS filter post (acc ++ pre.flatMap f) s := by
  induction pre generalizing acc with
  | nil => rw [List.flatMap_nil, List.append_nil]; rfl
  | cons x xs ih =>
    rw [List.cons_append, filterListRecS_cons_ok (h x List.mem_cons_self s),
      ih _ (fun y hy => h y (List.mem_cons_of_mem _ hy)), List.flatMap_cons, List.append_assoc]

/-- util.go:filterList when `filter` succeeds on every element and leaves the state alone: the concatenation of the
    per-element results, and the initial state -/
theorem T_filterList_spec {σ : Type} (l : List Val) (filter : Val → σ → G ((List Val × Option Err) × σ))
    (f : Val → List Val) (st : σ) (h : ∀ x ∈ l, ∀ s, filter x s = .ok ((f x, none), s)) :
    filterList' l filter st = .ok ((l.flatMap f, none), st) := by
  have := filterListRecS_prefix filter f l [] [] st h
  rwa [List.append_nil, List.nil_append, ← T_filterList_rec] at this

/-- util.go:filterList when `filter` returns a Go error: the FIRST such element stops the loop with `(nil, err)`,
    whatever list `filter` returned beside the error and whatever `filter` does on the later elements -/
theorem T_filterList_spec_err {σ : Type} (pre post : List Val) (x : Val)
    (filter : Val → σ → G ((List Val × Option Err) × σ)) (f : Val → List Val) (st s' : σ) (j : List Val) (e : Err)
    (h : ∀ y ∈ pre, ∀ s, filter y s = .ok ((f y, none), s)) (hx : filter x st = .ok ((j, some e), s')) :
    filterList' (pre ++ x :: post) filter st = .ok (([], some e), s') := by
  rw [T_filterList_rec, filterListRecS_prefix filter f pre _ _ _ h, filterListRecS_cons_err hx]

/-- util.go:filterList when `filter` itself fails (it ran out of fuel): the failure propagates -/
theorem T_filterList_spec_gerr {σ : Type} (pre post : List Val) (x : Val)
    (filter : Val → σ → G ((List Val × Option Err) × σ)) (f : Val → List Val) (st : σ) (ge : GErr)
    (h : ∀ y ∈ pre, ∀ s, filter y s = .ok ((f y, none), s)) (hx : filter x st = .error ge) :
    filterList' (pre ++ x :: post) filter st = .error ge := by
  rw [T_filterList_rec, filterListRecS_prefix filter f pre _ _ _ h, filterListRecS_cons_error hx]

/-- non-vacuity of the specifications: a filter that drops `null`, keeps strings twice, rejects booleans and fails on
    integers; its state counts the calls -/
def exampleFilter : Val → Nat → G ((List Val × Option Err) × Nat)
  | .null, n => .ok (([], none), n + 1)
  | .bool _, n => .ok (([.null], some Err.invalidType), n + 1)
  | .int _, _ => .error GErr.fuel
  | x, n => .ok (([x, x], none), n + 1)

/-- … and the same filter without a state -/
def exampleFilterU (x : Val) (_ : Unit) : G ((List Val × Option Err) × Unit) :=
  match exampleFilter x 0 with
  | .error ge => .error ge
  | .ok (r, _) => .ok (r, ())


example : filterList' [.str "a", .null, .str "b"] exampleFilter 5
    = .ok (([.str "a", .str "a", .str "b", .str "b"], none), 8) := by rfl
example : filterList' ([.str "a", .null] ++ .bool true :: [.int 1]) exampleFilter 5
    = .ok (([], some Err.invalidType), 8) := by rfl
example : filterList' ([.str "a", .null] ++ .int 1 :: [.bool true]) exampleFilter 5 = .error GErr.fuel := by rfl
example : filterList' [.str "a", .null, .str "b"] exampleFilterU ()
    = .ok (([.str "a", .str "a", .str "b", .str "b"], none), ()) :=
  T_filterList_spec _ _ (fun x => match x with | .null => [] | x => [x, x]) () (by intro x hx s; rcases hx with _ | ⟨_, _ | ⟨_, _ | ⟨_, hx⟩⟩⟩ <;> first | rfl | cases hx)
example : filterList' ([.str "a", .null] ++ .bool true :: [.int 1]) exampleFilterU ()
    = .ok (([], some Err.invalidType), ()) :=
  T_filterList_spec_err _ _ _ _ (fun x => match x with | .null => [] | x => [x, x]) () () [.null] _
    (by intro x hx s; rcases hx with _ | ⟨_, _ | ⟨_, hx⟩⟩ <;> first | rfl | cases hx) rfl
example : filterList' ([.str "a", .null] ++ .int 1 :: [.bool true]) exampleFilterU () = .error GErr.fuel :=
  T_filterList_spec_gerr _ _ _ _ (fun x => match x with | .null => [] | x => [x, x]) () _
    (by intro x hx s; rcases hx with _ | ⟨_, _ | ⟨_, hx⟩⟩ <;> first | rfl | cases hx) rfl


/-! ### a function literal that leaves the state alone and refines what one element contributes in the model -/

/-- how the result of a `filter` literal called in state `s` reads as what the element contributes in the model: the
    contribution (as the Go value `view b`) or the error class (the value beside it is not looked at), and the state
    as it was -/
def ReadsCb {σ α β : Type} (view : β → α) (s : σ) (q : (α × Option Err) × σ) : R β → Prop
  | .ok b => q = ((view b, none), s)
  | .error e => (q.1.2, q.2) = (some e, s)

/-- a literal that returns exactly Go's pair of the model's contribution -/
theorem ReadsCb.resPair {σ β : Type} (s : σ) (m : R (List β)) : ReadsCb id s (resPair m, s) m := by
  cases m <;> rfl

theorem filterListRecS_emit {U : Err → Prop} {σ : Type} {filter : Val → σ → G ((List Val × Option Err) × σ)}
    {out : Val → R (List Val)} (l acc : List Val) (s : σ)
    (hf : ∀ x ∈ l, ∀ s, SimU U (ReadsCb id s) (filter x s) (out x)) (hmod : ∀ e, U e → l.mapM out ≠ .error e) :
    filterListRecS filter l acc s = .ok (resPair (l.mapM out >>= fun vss => pure (acc ++ vss.flatten)), s) := by
  induction l generalizing acc with
  | nil => exact congrArg (fun a => Except.ok ((a, none), s)) (List.append_nil acc).symm
  | cons x xs ih =>
    rw [List.mapM_cons] at hmod ⊢
    obtain ⟨⟨⟨l2, o⟩, u⟩, hq, hr⟩ := hf x List.mem_cons_self s (bind_off hmod)
    cases hs : out x with
    | error e =>
      rw [hs] at hr
      cases hr
      exact filterListRecS_cons_err hq xs acc
    | ok r =>
      rw [hs] at hr hmod
      cases hr
      rw [filterListRecS_cons_ok hq, ih _ (fun y hy => hf y (List.mem_cons_of_mem _ hy)) (bind_off hmod)]
      cases xs.mapM out with
      | error e => rfl
      | ok rs => simp [pure, Except.pure, bind, Except.bind]

/-- util.go:filterList with a function literal that refines `out`: Go's pair of the contributions of the elements,
    in order, and the state as it was -/
theorem filterList_emit {U : Err → Prop} {σ : Type} {filter : Val → σ → G ((List Val × Option Err) × σ)}
    {out : Val → R (List Val)} {l : List Val} {M : R (List Val)} {st : σ}
    (hf : ∀ x ∈ l, ∀ s, SimU U (ReadsCb id s) (filter x s) (out x))
    (hM : (l.mapM out >>= fun vss => pure ([] ++ vss.flatten)) = M) (hmod : ∀ e, U e → M ≠ .error e) :
    filterList' l filter st = .ok (resPair M, st) := by
  subst hM
  rw [T_filterList_rec, filterListRecS_emit l [] st hf (bind_off hmod)]

/-! ### the same as a recursion of its own -/

/-- `flatMap` for a function that may fail: the first failure (in list order) is the result -/
def flatMapR {α β : Type} (g : α → R (List β)) : List α → R (List β)
  | [] => .ok []
  | x :: xs =>
    match g x with
    | .error e => .error e
    | .ok a =>
      match flatMapR g xs with
      | .error e => .error e
      | .ok r => .ok (a ++ r)


theorem flatMapR_eq_mapM {α β : Type} (g : α → R (List β)) (l : List α) :
    flatMapR g l = (l.mapM g >>= fun vss => pure ([] ++ vss.flatten)) := by
  induction l with
  | nil => rfl
  | cons x xs ih =>
    rw [flatMapR, ih, mapM_cons]
    cases g x with
    | error e => rfl
    | ok a => cases xs.mapM g <;> rfl

theorem flatMapR_of_ok {α β : Type} (g : α → R (List β)) (f : α → List β) (l : List α)
    (h : ∀ x ∈ l, g x = .ok (f x)) : flatMapR g l = .ok (l.flatMap f) := by
  induction l with
  | nil => rfl
  | cons x xs ih =>
    rw [flatMapR, h x List.mem_cons_self, ih (fun y hy => h y (List.mem_cons_of_mem _ hy)), List.flatMap_cons]


/-- the same as a left fold with an accumulator (the shape of the model's `popListMapBool`) -/
theorem foldlM_eq_flatMapR {α β : Type} (g : α → R (List β)) (l : List α) (acc : List β) :
    l.foldlM (fun acc x => (g x).map (acc ++ ·)) acc = (flatMapR g l).map (acc ++ ·) := by
  induction l generalizing acc with
  | nil => exact congrArg Except.ok (List.append_nil acc).symm
  | cons x xs ih =>
    rw [List.foldlM_cons, flatMapR]
    cases g x with
    | error e => rfl
    | ok a =>
      refine (ih (acc ++ a)).trans ?_
      cases flatMapR g xs with
      | error e => rfl
      | ok r => exact congrArg Except.ok (List.append_assoc acc a r)

/-- util.go:filterList for a `filter` that leaves the state alone and implements a model function
    `g : Val → R (List Val)` (Go `(l, nil)` for `.ok l`, Go `(anything, err)` for `.error err`): the Go pair of
    `flatMapR g l`, and the initial state -/
theorem T_filterList_flatMapR {σ : Type} (l : List Val) (filter : Val → σ → G ((List Val × Option Err) × σ))
    (g : Val → R (List Val)) (st : σ)
    (hok : ∀ x ∈ l, ∀ r, g x = .ok r → ∀ s, filter x s = .ok ((r, none), s))
    (herr : ∀ x ∈ l, ∀ e, g x = .error e → ∀ s, ∃ j, filter x s = .ok ((j, some e), s)) :
    filterList' l filter st = .ok (resPair (flatMapR g l), st) :=
  filterList_emit (U := fun _ => False) (out := g) (fun x hx s _ => by
      cases hg : g x with
      | ok r => exact ⟨_, hok x hx r hg s, rfl⟩
      | error e => obtain ⟨j, hj⟩ := herr x hx e hg s; exact ⟨_, hj, rfl⟩)
    (flatMapR_eq_mapM g l).symm fun _ => False.elim

/-- … in particular when `filter` returns exactly Go's pair of `g` -/
theorem filterList_resPair {σ : Type} (l : List Val) (filter : Val → σ → G ((List Val × Option Err) × σ))
    (g : Val → R (List Val)) (st : σ) (h : ∀ x ∈ l, ∀ s, filter x s = .ok (resPair (g x), s)) :
    filterList' l filter st = .ok (resPair (flatMapR g l), st) :=
  filterList_emit (U := fun _ => False) (fun x hx s => SimU.of_eq (h x hx s) (ReadsCb.resPair s _))
    (flatMapR_eq_mapM g l).symm fun _ => False.elim

/-! ## filterMap -/

/-- `filterMap` as a plain recursion (`acc` = the Go variable `ret`, `s` = the variables the function literal assigns):
    the entries are visited in order, each result map is written into `ret` entry by entry (`ret[k2] = v2`, i.e.
    `fsetAll`) and the state is threaded; the first entry whose `filter` returns a Go error stops with `(nil, err)` and
    the state as `filter` left it; a failure of `filter` itself (fuel) propagates -/
def filterMapRecS {σ : Type} (filter : String → Val → σ → G ((Fields × Option Err) × σ)) :
    Fields → Fields → σ → G ((Fields × Option Err) × σ)
  | [], acc, s => .ok ((acc, none), s)
  | (k, v) :: rest, acc, s =>
    match filter k v s with
    | .error ge => .error ge
    | .ok ((m2, none), s') => filterMapRecS filter rest (fsetAll acc m2) s'
    | .ok ((_, some e), s') => .ok (([], some e), s')

theorem filterMapRecS_cons_ok {σ : Type} {filter : String → Val → σ → G ((Fields × Option Err) × σ)} {k : String}
    {v : Val} {s s' : σ} {m2 : Fields} (h : filter k v s = .ok ((m2, none), s')) (rest acc : Fields) :
    filterMapRecS filter ((k, v) :: rest) acc s = filterMapRecS filter rest (fsetAll acc m2) s' := by
  simp only [filterMapRecS, h]

theorem filterMapRecS_cons_err {σ : Type} {filter : String → Val → σ → G ((Fields × Option Err) × σ)} {k : String}
    {v : Val} {s s' : σ} {m2 : Fields} {e : Err} (h : filter k v s = .ok ((m2, some e), s')) (rest acc : Fields) :
    filterMapRecS filter ((k, v) :: rest) acc s = .ok (([], some e), s') := by
  simp only [filterMapRecS, h]

theorem filterMapRecS_cons_error {σ : Type} {filter : String → Val → σ → G ((Fields × Option Err) × σ)} {k : String}
    {v : Val} {s : σ} {ge : GErr} (h : filter k v s = .error ge) (rest acc : Fields) :
    filterMapRecS filter ((k, v) :: rest) acc s = .error ge := by
  simp only [filterMapRecS, h]

/-- the outer loop of filterMap with what follows it, from any accumulator and state (`hbody`: the body after its
    inner loop `for k2, v2 := range m2 { ret[k2] = v2 }` has run) -/
theorem filterMap_loop {σ : Type} (filter : String → Val → σ → G ((Fields × Option Err) × σ))
    (body : String × Val → Fields × σ → G (Loop (Fields × σ) ((Fields × Option Err) × σ)))
    (hbody : ∀ k v acc s, body (k, v) (acc, s) = (match filter k v s with
      | .error ge => .error ge
      | .ok ((m2, err), s') =>
        if err == none then .ok (.next (fsetAll acc m2, s')) else .ok (.ret (([], err), s'))))
    (m acc : Fields) (s : σ) :
    (match forRange m (acc, s) body with
      | .error ge => .error ge
      | .ok (.inr rr) => .ok rr
      | .ok (.inl (ret, s')) => .ok ((ret, none), s')) = filterMapRecS filter m acc s := by
  induction m generalizing acc s with
  | nil => rfl
  | cons p rest ih =>
    obtain ⟨k, v⟩ := p
    have hb := hbody k v acc s
    cases h : filter k v s with
    | error ge =>
      rw [h] at hb
      rw [forRange_cons_error hb, filterMapRecS_cons_error h]
    | ok q =>
      obtain ⟨⟨m2, o⟩, s'⟩ := q
      rw [h] at hb
      cases o with
      | none => rw [forRange_cons_next hb, filterMapRecS_cons_ok h]; exact ih _ _
      | some e => rw [forRange_cons_ret hb, filterMapRecS_cons_err h]

/-- util.go:filterMap, for every `filter` and every initial state: the plain recursion `filterMapRecS` from the empty
    map -/
theorem T_filterMap_rec {σ : Type} (m : Fields) (filter : String → Val → σ → G ((Fields × Option Err) × σ)) (st : σ) :
    filterMap' m filter st = filterMapRecS filter m [] st := by
  refine filterMap_loop filter _ (fun k v acc s => ?_) m [] st
  dsimp only
  cases filter k v s with
  | error ge => rfl
  | ok p =>
    obtain ⟨⟨m2, o⟩, s'⟩ := p
    cases o with
    | some e => rfl
    | none =>
      dsimp only
      rw [forRange_fold (fun acc (p : String × Val) => fset acc p.1 p.2) m2 acc _ (fun _ _ _ => rfl)]
      rfl


/-! ### the entries before the first Go error or failure -/

theorem filterMapRecS_prefix {σ : Type} (filter : String → Val → σ → G ((Fields × Option Err) × σ))
    (f : String → Val → Fields) (pre post acc : Fields) (s : σ)
    (h : ∀ p ∈ pre, ∀ s, filter p.1 p.2 s = .ok ((f p.1 p.2, none), s)) :
    filterMapRecS filter (pre ++ post) acc s =
      filterMapRecS filter post (fsetAll acc (pre.flatMap fun p => f p.1 p.2)) s := by
  induction pre generalizing acc with
  | nil => rfl
  | cons p rest ih =>
    rw [List.cons_append, filterMapRecS_cons_ok (h p List.mem_cons_self s),
      ih _ (fun q hq => h q (List.mem_cons_of_mem _ hq)), List.flatMap_cons, fsetAll_append]

/-- util.go:filterMap when `filter` succeeds on every entry and leaves the state alone: the entries are visited in
    order and every result map is written into the result entry by entry (`ret[k2] = v2`, later writes win), i.e. the
    map built (`fofList`) from the concatenation of the per-entry results; the state is the initial one -/
theorem T_filterMap_spec_flatMap {σ : Type} (m : Fields) (filter : String → Val → σ → G ((Fields × Option Err) × σ))
    (f : String → Val → Fields) (st : σ) (h : ∀ p ∈ m, ∀ s, filter p.1 p.2 s = .ok ((f p.1 p.2, none), s)) :
    filterMap' m filter st = .ok ((fofList (m.flatMap (fun p => f p.1 p.2)), none), st) := by
  have := filterMapRecS_prefix filter f m [] [] st h
  rwa [List.append_nil, ← T_filterMap_rec] at this

theorem foldl_fsetAll_eq_flatMap (f : String → Val → Fields) (m acc : Fields) :
    m.foldl (fun acc p => fsetAll acc (f p.1 p.2)) acc = fsetAll acc (m.flatMap (fun p => f p.1 p.2)) := by
  rw [List.flatMap_def, ← foldl_fsetAll_flatten, List.foldl_map]

/-- … as the fold the Go loop performs: every result map is merged into the accumulator with `fsetAll` -/
theorem T_filterMap_spec {σ : Type} (m : Fields) (filter : String → Val → σ → G ((Fields × Option Err) × σ))
    (f : String → Val → Fields) (st : σ) (h : ∀ p ∈ m, ∀ s, filter p.1 p.2 s = .ok ((f p.1 p.2, none), s)) :
    filterMap' m filter st = .ok ((m.foldl (fun acc p => fsetAll acc (f p.1 p.2)) [], none), st) := by
  rw [T_filterMap_spec_flatMap m filter f st h, foldl_fsetAll_eq_flatMap, fofList]

/-- util.go:filterMap when `filter` returns a Go error: the FIRST such entry stops the loop with `(nil, err)` -/
theorem T_filterMap_spec_err {σ : Type} (pre post : Fields) (k : String) (v : Val)
    (filter : String → Val → σ → G ((Fields × Option Err) × σ)) (f : String → Val → Fields) (st s' : σ) (j : Fields)
    (e : Err) (h : ∀ p ∈ pre, ∀ s, filter p.1 p.2 s = .ok ((f p.1 p.2, none), s))
    (hx : filter k v st = .ok ((j, some e), s')) :
    filterMap' (pre ++ (k, v) :: post) filter st = .ok (([], some e), s') := by
  rw [T_filterMap_rec, filterMapRecS_prefix filter f pre _ _ _ h, filterMapRecS_cons_err hx]

/-- util.go:filterMap when `filter` itself fails (it ran out of fuel): the failure propagates -/
theorem T_filterMap_spec_gerr {σ : Type} (pre post : Fields) (k : String) (v : Val)
    (filter : String → Val → σ → G ((Fields × Option Err) × σ)) (f : String → Val → Fields) (st : σ) (ge : GErr)
    (h : ∀ p ∈ pre, ∀ s, filter p.1 p.2 s = .ok ((f p.1 p.2, none), s)) (hx : filter k v st = .error ge) :
    filterMap' (pre ++ (k, v) :: post) filter st = .error ge := by
  rw [T_filterMap_rec, filterMapRecS_prefix filter f pre _ _ _ h, filterMapRecS_cons_error hx]

/-- non-vacuity: a filter that renames every key to "x" (later entries win), drops `null`, rejects booleans and
    fails on integers; its state collects the keys it has seen -/
def exampleFilterMap : String → Val → List String → G ((Fields × Option Err) × List String)
  | k, .null, ks => .ok (([], none), k :: ks)
  | k, .bool _, ks => .ok (([("junk", .null)], some Err.invalidType), k :: ks)
  | _, .int _, _ => .error GErr.fuel
  | k, x, ks => .ok (([("x", x), (k, x)], none), k :: ks)

/-- … and the same filter without a state -/
def exampleFilterMapU (k : String) (x : Val) (_ : Unit) : G ((Fields × Option Err) × Unit) :=
  match exampleFilterMap k x [] with
  | .error ge => .error ge
  | .ok (r, _) => .ok (r, ())


example : filterMap' [("b", .str "1"), ("a", .null), ("c", .str "2")] exampleFilterMap []
    = .ok (([("b", .str "1"), ("c", .str "2"), ("x", .str "2")], none), ["c", "a", "b"]) := by rfl
example : filterMap' ([("b", .str "1"), ("a", .null)] ++ ("c", .bool true) :: [("d", .int 1)]) exampleFilterMap []
    = .ok (([], some Err.invalidType), ["c", "a", "b"]) := by rfl
example : filterMap' ([("b", .str "1"), ("a", .null)] ++ ("c", .int 1) :: [("d", .bool true)]) exampleFilterMap []
    = .error GErr.fuel := by rfl
example : filterMap' [("b", .str "1"), ("a", .null), ("c", .str "2")] exampleFilterMapU ()
    = .ok (([("b", .str "1"), ("c", .str "2"), ("x", .str "2")], none), ()) :=
  T_filterMap_spec_flatMap _ _ (fun k x => match x with | .null => [] | x => [("x", x), (k, x)]) ()
    (by intro x hx s; rcases hx with _ | ⟨_, _ | ⟨_, _ | ⟨_, hx⟩⟩⟩ <;> first | rfl | cases hx)
example : filterMap' ([("b", .str "1"), ("a", .null)] ++ ("c", .bool true) :: [("d", .int 1)]) exampleFilterMapU ()
    = .ok (([], some Err.invalidType), ()) :=
  T_filterMap_spec_err _ _ _ _ _ (fun k x => match x with | .null => [] | x => [("x", x), (k, x)]) () () _ _
    (by intro x hx s; rcases hx with _ | ⟨_, _ | ⟨_, hx⟩⟩ <;> first | rfl | cases hx) rfl
example : filterMap' ([("b", .str "1"), ("a", .null)] ++ ("c", .int 1) :: [("d", .bool true)]) exampleFilterMapU ()
    = .error GErr.fuel :=
  T_filterMap_spec_gerr _ _ _ _ _ (fun k x => match x with | .null => [] | x => [("x", x), (k, x)]) () _
    (by intro x hx s; rcases hx with _ | ⟨_, _ | ⟨_, hx⟩⟩ <;> first | rfl | cases hx) rfl

/-! ### a function literal that assigns nothing and refines what one entry contributes in the model -/

theorem filterMapRecS_emit {U : Err → Prop} {σ β : Type} {view raw : β → Fields}
    {filter : String → Val → σ → G ((Fields × Option Err) × σ)} {out : String × Val → R β}
    (hv : ∀ {acc : Fields}, Fields.SortedKeys acc → ∀ b, fsetAll acc (view b) = fsetAll acc (raw b))
    (m acc : Fields) (s : σ) (ha : Fields.SortedKeys acc)
    (hf : ∀ kv ∈ m, ∀ s, SimU U (ReadsCb view s) (filter kv.1 kv.2 s) (out kv))
    (hmod : ∀ e, U e → m.mapM out ≠ .error e) :
    filterMapRecS filter m acc s =
      .ok (resPair (m.mapM out >>= fun bs => pure (fsetAll acc (bs.flatMap raw))), s) := by
  induction m generalizing acc with
  | nil => rfl
  | cons kv rest ih =>
    obtain ⟨k, v⟩ := kv
    rw [List.mapM_cons] at hmod ⊢
    obtain ⟨⟨⟨m2, o⟩, u⟩, hq, hr⟩ := hf (k, v) List.mem_cons_self s (bind_off hmod)
    cases hs : out (k, v) with
    | error e =>
      rw [hs] at hr
      cases hr
      exact filterMapRecS_cons_err hq rest acc
    | ok r =>
      rw [hs] at hr hmod
      cases hr
      rw [filterMapRecS_cons_ok hq, ih _ (sorted_fsetAll _ ha) (fun y hy => hf y (List.mem_cons_of_mem _ hy))
        (bind_off hmod), hv ha]
      cases rest.mapM out with
      | error e => rfl
      | ok rs => simp [pure, Except.pure, bind, Except.bind, fsetAll_append]

/-- util.go:filterMap with a function literal that refines `out`: the contributions of the entries, in order, as one
    map, and the state as it was.  `view b` is the Go map the literal returns for the contribution `b`, `raw b` its
    entries as the model lists them (`hv`: written into a Go map they give the same; `fsetAll_fofList` when the
    literal builds the map from the entries) -/
theorem filterMap_emit {U : Err → Prop} {σ β : Type} {view raw : β → Fields}
    {filter : String → Val → σ → G ((Fields × Option Err) × σ)}
    {out : String × Val → R β} {m : Fields} {M : R Fields} {st : σ}
    (hv : ∀ {acc : Fields}, Fields.SortedKeys acc → ∀ b, fsetAll acc (view b) = fsetAll acc (raw b))
    (hf : ∀ kv ∈ m, ∀ s, SimU U (ReadsCb view s) (filter kv.1 kv.2 s) (out kv))
    (hM : (m.mapM out >>= fun bs => pure (fofList (bs.flatMap raw))) = M) (hmod : ∀ e, U e → M ≠ .error e) :
    filterMap' m filter st = .ok (resPair M, st) := by
  subst hM
  rw [T_filterMap_rec, filterMapRecS_emit hv m [] st (by simp [Fields.SortedKeys]) hf (bind_off hmod)]
  rfl

theorem flatMapR_map_fofList (g : String × Val → R Fields) (m : Fields) :
    (m.mapM g >>= fun bs => pure (fofList (bs.flatMap id))) = (flatMapR g m).map fofList := by
  rw [flatMapR_eq_mapM]
  cases m.mapM g <;> simp [pure, Except.pure, bind, Except.bind, Except.map]

/-- util.go:filterMap for a `filter` that leaves the state alone and implements a model function
    `g : String → Val → R Fields` (Go `(m2, nil)` for `.ok m2`, Go `(anything, err)` for `.error err`): the map built
    (`fofList`) from the concatenation of the per-entry results, or the first error -/
theorem T_filterMap_flatMapR {σ : Type} (m : Fields) (filter : String → Val → σ → G ((Fields × Option Err) × σ))
    (g : String → Val → R Fields) (st : σ)
    (hok : ∀ p ∈ m, ∀ r, g p.1 p.2 = .ok r → ∀ s, filter p.1 p.2 s = .ok ((r, none), s))
    (herr : ∀ p ∈ m, ∀ e, g p.1 p.2 = .error e → ∀ s, ∃ j, filter p.1 p.2 s = .ok ((j, some e), s)) :
    filterMap' m filter st = .ok (resPair ((flatMapR (fun p => g p.1 p.2) m).map fofList), st) :=
  filterMap_emit (U := fun _ => False) (view := id) (raw := id) (out := fun p => g p.1 p.2) (fun _ _ => rfl)
    (fun p hp s _ => by
      cases hg : g p.1 p.2 with
      | ok r => exact ⟨_, hok p hp r hg s, rfl⟩
      | error e => obtain ⟨j, hj⟩ := herr p hp e hg s; exact ⟨_, hj, rfl⟩)
    (flatMapR_map_fofList _ m) fun _ => False.elim

/-- … in particular when `filter` returns exactly Go's pair of `g` -/
theorem filterMap_resPair {σ : Type} (m : Fields) (filter : String → Val → σ → G ((Fields × Option Err) × σ))
    (g : String → Val → R Fields) (st : σ) (h : ∀ p ∈ m, ∀ s, filter p.1 p.2 s = .ok (resPair (g p.1 p.2), s)) :
    filterMap' m filter st = .ok (resPair ((flatMapR (fun p => g p.1 p.2) m).map fofList), st) :=
  filterMap_emit (U := fun _ => False) (view := id) (raw := id) (out := fun p => g p.1 p.2) (fun _ _ => rfl)
    (fun p hp s => SimU.of_eq (h p hp s) (ReadsCb.resPair s _)) (flatMapR_map_fofList _ m) fun _ => False.elim

/-! ## popListString -/

theorem filterListRecS_drop (p : Val → Bool) (filter : Val → Bool → G ((List Val × Option Err) × Bool))
    (l acc : List Val) (b : Bool)
    (h : ∀ x ∈ l, ∀ b, filter x b = .ok (((if p x then [] else [x]), none), (b || p x))) :
    filterListRecS filter l acc b = .ok ((acc ++ l.filter (fun x => !p x), none), (b || l.any p)) := by
  induction l generalizing acc b with
  | nil => simp only [filterListRecS, List.filter_nil, List.append_nil, List.any_nil, Bool.or_false]
  | cons x xs ih =>
    rw [filterListRecS_cons_ok (h x List.mem_cons_self b), ih _ _ (fun y hy => h y (List.mem_cons_of_mem _ hy)),
      List.filter_cons, List.any_cons]
    cases p x
    · simp only [Bool.false_eq_true, if_false, Bool.not_false, if_true, List.append_assoc, List.singleton_append,
        Bool.or_false, Bool.false_or]
    · simp only [if_true, Bool.not_true, Bool.false_eq_true, if_false, List.append_nil, Bool.or_true, Bool.true_or]

/-- util.go:filterList for a `filter` that drops the entries satisfying `p` and records in its state that it dropped
    one: the list without these entries, and whether there was one -/
theorem T_filterList_drop (p : Val → Bool) (l : List Val) (filter : Val → Bool → G ((List Val × Option Err) × Bool))
    (found : Bool) (h : ∀ x ∈ l, ∀ b, filter x b = .ok (((if p x then [] else [x]), none), (b || p x))) :
    filterList' l filter found = .ok ((l.filter (fun x => !p x), none), (found || l.any p)) := by
  rw [T_filterList_rec, filterListRecS_drop p filter l [] found h, List.nil_append]

/-- util.go:popListString is the model's `popListString`: whether the string `v` is an entry of the list, and the list
    without these entries -/
theorem T_popListString_eq (l : List Val) (v : String) : popListString' l v = .ok (popListString l v) := by
  unfold popListString'
  simp only []
  rw [T_filterList_drop (fun x => x == Val.str v) l _ false]
  · rfl
  · intro x _ b
    cases x with
    | str s' =>
      cases h : Val.str s' == Val.str v <;> rw [str_beq] at h <;>
        simp only [asStr, h, if_true, Bool.false_eq_true, if_false] <;> cases b <;> rfl
    | _ => cases b <;> rfl

example : popListString' [.str "a", .null, .str "b", .str "a", .map [("a", .str "a")]] "a"
    = .ok (true, [.null, .str "b", .map [("a", .str "a")]]) := by rw [T_popListString_eq]; rfl
example : popListString' [.null, .str "b"] "a" = .ok (false, [.null, .str "b"]) := by rfl

/-! ## popListMapBoolValue -/

/-- what one list entry contributes to the result of `popListMapBoolValue`: a marker entry `{k: b}` nothing, a marker
    entry with other keys an error, every other entry itself -/
def popBoolEntry (k : String) (b : Bool) : Val → R (List Val)
  | .map m => if fhasBool m k b then (if (fdel m k).length > 0 then .error Err.extraKeys else .ok []) else .ok [.map m]
  | x => .ok [x]


theorem popStep_eq_popBoolEntry (k : String) (b : Bool) (acc : List Val) (x : Val) :
    popStep k b acc x = (popBoolEntry k b x).map (acc ++ ·) := by
  cases x with
  | map m =>
    simp only [popStep, popBoolEntry]
    cases fhasBool m k b
    · rfl
    · by_cases h2 : (fdel m k).length > 0
      · rw [if_pos rfl, if_pos rfl, if_pos h2, if_pos h2]; rfl
      · rw [if_pos rfl, if_pos rfl, if_neg h2, if_neg h2]
        exact congrArg Except.ok (List.append_nil acc).symm
  | _ => rfl

theorem popListMapBool_eq_flatMapR (l : List Val) (k : String) (b : Bool) :
    popListMapBool l k b = (if hasListMapBool l k b then (flatMapR (popBoolEntry k b) l).map (fun r => (true, r))
      else .ok (false, l)) := by
  rw [popListMapBool_eq, show popStep k b = fun acc x => (popBoolEntry k b x).map (acc ++ ·) from
    funext fun acc => funext (popStep_eq_popBoolEntry k b acc), foldlM_eq_flatMapR]
  cases hasListMapBool l k b with
  | false => rfl
  | true => cases flatMapR (popBoolEntry k b) l <;> rfl

/-- util.go:popListMapBoolValue is the model's `popListMapBool`: `(found, rest, nil)`, or `(false, nil, err)` -/
theorem T_popListMapBoolValue_eq (l : List Val) (k : String) (v : Bool) :
    popListMapBoolValue' l k v = .ok (match popListMapBool l k v with
      | .ok (found, rest) => (found, rest, none)
      | .error e => (false, [], some e)) := by
  unfold popListMapBoolValue'
  rw [T_hasListMapBoolValue_eq, popListMapBool_eq_flatMapR]
  cases hasListMapBool l k v with
  | false => rfl
  | true =>
    simp only [if_true]
    rw [filterList_resPair l _ (popBoolEntry k v) () (fun x _ _ => ?_)]
    · cases flatMapR (popBoolEntry k v) l <;> rfl
    · cases x with
      | map m =>
        simp only [asMap, if_true, T_popMapBoolValue_eq, popBoolEntry]
        cases h1 : fhasBool m k v
        · rfl
        · cases h2 : fdel m k <;> rfl
      | _ => rfl

/-! ## popListMapStringValue -/

/-- what one list entry contributes to the result of `popListMapStringValue`: a map with a non-empty string under `k`
    nothing — an error if it has other keys —, every other entry itself -/
def popStrEntry (k : String) : Val → R (List Val)
  | .map m => if fgetStr m k != "" then (if (fdel m k).length > 0 then .error Err.extraKeys else .ok []) else .ok [.map m]
  | x => .ok [x]

/-- SPECIFICATION of util.go:popListMapStringValue (the model Bkl/Fields.lean has no such function): the first
    non-empty string stored under `k` in a map entry of `l` (`getListMapStr`); when there is none `("", l)`; otherwise
    every map entry that has a non-empty string under `k` is dropped — an error if such an entry has other keys -/
def popListMapStr (l : List Val) (k : String) : R (String × List Val) :=
  if getListMapStr l k == "" then .ok ("", l)
  else
    match flatMapR (popStrEntry k) l with
    | .error e => .error e
    | .ok rest => .ok (getListMapStr l k, rest)

/-- util.go:popListMapStringValue is the specification `popListMapStr`: `(value, rest, nil)`, or `("", nil, err)` -/
theorem T_popListMapStringValue_eq (l : List Val) (k : String) :
    popListMapStringValue' l k = .ok (match popListMapStr l k with
      | .ok (s, rest) => (s, rest, none)
      | .error e => ("", [], some e)) := by
  unfold popListMapStringValue' popListMapStr
  rw [T_getListMapStringValue_eq]
  cases hs : getListMapStr l k == ""
  · simp only [hs, Bool.false_eq_true, if_false]
    rw [filterList_resPair l _ (popStrEntry k) () (fun x _ _ => ?_)]
    · cases flatMapR (popStrEntry k) l <;> rfl
    · cases x with
      | map m =>
        cases h1 : fgetStr m k == ""
        · cases h2 : fdel m k <;>
            simp only [asMap, if_true, T_popMapStringValue_eq, popStrEntry, bne, h1, h2, Bool.not_false,
              Bool.false_eq_true, if_false] <;> rfl
        · simp only [asMap, if_true, T_popMapStringValue_eq, popStrEntry, bne, h1, Bool.not_true, Bool.false_eq_true,
            if_false]
          rfl
      | _ => rfl
  · simp only [hs, if_true]

/-! ### what the specification says, without errors -/

/-- the marker entries of `popListMapStringValue` -/
def isStrMarker (k : String) : Val → Bool
  | .map m => fgetStr m k != ""
  | _ => false

theorem getListMapStr_ne_of_mem (l : List Val) (k : String) (m : Fields)
    (hm : Val.map m ∈ l) (hk : fgetStr m k ≠ "") : getListMapStr l k ≠ "" := by
  induction l with
  | nil => cases hm
  | cons x xs ih =>
    cases x with
    | map m' =>
      rw [getListMapStr_cons_map]
      by_cases h' : fgetStr m' k = ""
      · rcases List.mem_cons.1 hm with heq | hm'
        · cases heq; exact absurd h' hk
        · rw [if_neg (by simp only [h', bne_self_eq_false, Bool.false_eq_true, not_false_eq_true])]; exact ih hm'
      · rw [if_pos (bne_iff_ne.2 h')]; exact h'
    | _ =>
      rw [getListMapStr_cons_other _ xs k rfl]
      exact ih ((List.mem_cons.1 hm).resolve_left (fun h => by cases h))

theorem flatMapR_popStrEntry_ok (l : List Val) (k : String)
    (h : ∀ m, Val.map m ∈ l → fgetStr m k ≠ "" → (fdel m k).length = 0) :
    flatMapR (popStrEntry k) l = .ok (l.filter (fun x => !isStrMarker k x)) := by
  induction l with
  | nil => rfl
  | cons x xs ih =>
    rw [flatMapR, ih (fun m hm => h m (List.mem_cons_of_mem _ hm)), List.filter_cons]
    cases x with
    | map m =>
      cases hm : fgetStr m k != ""
      · simp only [popStrEntry, isStrMarker, hm, Bool.false_eq_true, if_false, Bool.not_false, if_true]; rfl
      · simp only [popStrEntry, isStrMarker, hm, h m List.mem_cons_self (bne_iff_ne.1 hm), Nat.lt_irrefl, if_false,
          if_true, Bool.not_true, Bool.false_eq_true, List.nil_append]
    | _ => rfl

theorem flatMapR_popStrEntry_err (l : List Val) (k : String) (m : Fields)
    (hm : Val.map m ∈ l) (hk : fgetStr m k ≠ "") (hx : (fdel m k).length > 0) :
    flatMapR (popStrEntry k) l = .error Err.extraKeys := by
  induction l with
  | nil => cases hm
  | cons x xs ih =>
    rw [flatMapR]
    rcases List.mem_cons.1 hm with rfl | hm'
    · simp only [popStrEntry, bne_iff_ne.2 hk, hx, if_true]
    · have hx' : (∃ a, popStrEntry k x = .ok a) ∨ popStrEntry k x = .error Err.extraKeys := by
        cases x with
        | map m' =>
          cases h1 : fgetStr m' k != ""
          · exact Or.inl ⟨[.map m'], by simp only [popStrEntry, h1, Bool.false_eq_true, if_false]⟩
          · by_cases h2 : (fdel m' k).length > 0
            · exact Or.inr (by simp only [popStrEntry, h1, h2, if_true])
            · exact Or.inl ⟨[], by simp only [popStrEntry, h1, h2, if_true, if_false]⟩
        | _ => exact Or.inl ⟨_, rfl⟩
      rcases hx' with ⟨a, ha⟩ | ha
      · rw [ha, ih hm']
      · rw [ha]

/-- when no marker entry has other keys, the rest is the list without its marker entries … -/
theorem popListMapStr_ok (l : List Val) (k : String)
    (h : ∀ m, Val.map m ∈ l → fgetStr m k ≠ "" → (fdel m k).length = 0) :
    popListMapStr l k = .ok (getListMapStr l k, l.filter (fun x => !isStrMarker k x)) := by
  unfold popListMapStr
  rw [flatMapR_popStrEntry_ok l k h]
  by_cases hs : getListMapStr l k = ""
  · have hfil : l.filter (fun x => !isStrMarker k x) = l := by
      rw [List.filter_eq_self]
      intro x hx
      cases x with
      | map m =>
        by_cases hm : fgetStr m k = ""
        · simp [isStrMarker, hm]
        · exact absurd hs (getListMapStr_ne_of_mem l k m hx hm)
      | _ => simp [isStrMarker]
    simp [hs, hfil]
  · simp [hs]

/-- … and a marker entry with other keys is an error -/
theorem popListMapStr_err (l : List Val) (k : String) (m : Fields)
    (hm : Val.map m ∈ l) (hk : fgetStr m k ≠ "") (hx : (fdel m k).length > 0) :
    popListMapStr l k = .error Err.extraKeys := by
  unfold popListMapStr
  rw [flatMapR_popStrEntry_err l k m hm hk hx]
  simp [getListMapStr_ne_of_mem l k m hm hk]

example : popListMapStr [.str "a", .map [("$k", .str "v")], .map [("x", .null)]] "$k"
    = .ok ("v", [.str "a", .map [("x", .null)]]) := by rfl
example : popListMapStr [.str "a", .map [("$k", .str "v"), ("x", .null)]] "$k" = .error Err.extraKeys := by rfl
example : popListMapStr [.str "a", .map [("$k", .str "")]] "$k" = .ok ("", [.str "a", .map [("$k", .str "")]]) := by rfl
example : popListMapStringValue' [.str "a", .map [("$k", .str "v"), ("x", .null)]] "$k"
    = .ok ("", [], some Err.extraKeys) := by
  rw [T_popListMapStringValue_eq]; rfl
example : popListMapStringValue' [.str "a", .map [("$k", .str "v")], .map [("$k", .str "w")], .null] "$k"
    = .ok ("v", [.str "a", .null], none) := by
  rw [T_popListMapStringValue_eq]; rfl
example : popListMapBoolValue' [.str "a", .map [("$k", .bool true), ("x", .null)]] "$k" true
    = .ok (false, [], some Err.extraKeys) := by
  rw [T_popListMapBoolValue_eq]; rfl
example : popListMapBoolValue' [.str "a", .map [("$k", .bool true)], .map [("$k", .bool false)]] "$k" true
    = .ok (true, [.str "a", .map [("$k", .bool false)]], none) := by
  rw [T_popListMapBoolValue_eq]; rfl
example : popListMapStringValue' [.str "a", .map [("$k", .str "v")], .map [("$k", .str "w")], .null] "$k"
    = .ok ("v", [.str "a", .null], none) := by rfl
example : popListMapBoolValue' [.str "a", .map [("$k", .bool true), ("x", .null)]] "$k" true
    = .ok (false, [], some Err.extraKeys) := by rfl

end Bkl.Gen.Lib