/-
  Translation equivalence, the `$encode` helpers of process2.go and util.go: the Lean definitions that
  harness/cmd/gotrans writes from /repo's CURRENT source (Generated/Trans/Encode.lean, regenerated on every run)
  compute the model's `toListValue`, `toListMap`, `toListList`, `toStringListPermissive` (Bkl/Encode.lean) and, for
  process2ValuesMap, the values of the map in key order (`kvs.map (·.2)`, the "values" case of `encodeString`).
  None of the functions is recursive (no fuel) and none rebuilds a map, so the theorems hold for EVERY input, with
  no well-formedness hypothesis.
  A change of the Go source that changes its meaning makes these theorems fail to check.
-/
import Generated.Trans.Encode
import BklProofs.Lemmas.Encode
import BklProofs.Lemmas.GoLib
namespace Bkl.Gen.Lib
open Bkl Go

/-! ## process2ToListValue -/

/-- process2.go:process2ToListValue returns the string that the model's `toListValue` wraps in `Val.str` -/
theorem T_process2ToListValue_eq (k delim : String) (v : Val) :
    process2ToListValue' k delim v = .ok (match toListValue k delim v with | .str s => s | _ => "") := by
  unfold process2ToListValue' toListValue
  by_cases h : (v == Val.str "") = true <;> simp [h]

theorem toListValue_isStr (k delim : String) (v : Val) :
    Val.str (match toListValue k delim v with | .str s => s | _ => "") = toListValue k delim v := by
  unfold toListValue
  by_cases h : (v == Val.str "") = true <;> simp [h]

/-- the direct form: the translated function, wrapped in `Val.str`, IS the model function -/
theorem T_process2ToListValue_eq_str (k delim : String) (v : Val) :
    (process2ToListValue' k delim v).map Val.str = .ok (toListValue k delim v) := by
  rw [T_process2ToListValue_eq, ← toListValue_isStr k delim v]
  rfl

theorem process2ToListValue_ok (k delim : String) (v : Val) :
    ∃ s, process2ToListValue' k delim v = .ok s ∧ Val.str s = toListValue k delim v :=
  ⟨_, T_process2ToListValue_eq k delim v, toListValue_isStr k delim v⟩

/-! ## process2ToListMap -/

/-- what one map entry contributes to the result of `toListMap` -/
def toListEntry (delim : String) (p : String × Val) : List Val :=
  match p.2 with
  | .list items => items.map (toListValue p.1 delim)
  | v => [toListValue p.1 delim v]

theorem toListMap_flatMap (kvs : Fields) (delim : String) :
    toListMap (.map kvs) delim = .ok (kvs.flatMap (toListEntry delim)) := by
  unfold toListMap
  simp only [pure, Except.pure]
  congr 2
  funext p
  obtain ⟨k, v⟩ := p
  cases v <;> rfl

theorem toListMap_other (obj : Val) (delim : String) (h : (asMap obj).2 = false) :
    toListMap obj delim = .error Err.invalidType := by
  cases obj <;> first | rfl | simp [asMap] at h

theorem foldl_append_map {α β : Type} (f : α → β) (xs : List α) (acc : List β) :
    xs.foldl (fun acc x => acc ++ [f x]) acc = acc ++ xs.map f := by
  induction xs generalizing acc with
  | nil => simp
  | cons x rest ih => rw [List.foldl_cons, ih]; simp

theorem foldl_append_flatMap {α β : Type} (f : α → List β) (xs : List α) (acc : List β) :
    xs.foldl (fun acc x => acc ++ f x) acc = acc ++ xs.flatMap f := by
  induction xs generalizing acc with
  | nil => simp
  | cons x rest ih => rw [List.foldl_cons, ih]; simp

/-- the inner loop of process2ToListMap (over the items of a list value), over an abstract body -/
theorem toListMap_inner_loop (k delim : String) (items : List Val) (acc : List Val)
    (body : Val → List Val → G (Loop (List Val) (List Val × Option Err)))
    (hbody : ∀ x acc, body x acc = .ok (.next (acc ++ [toListValue k delim x]))) :
    forRange items acc body = .ok (.inl (acc ++ items.map (toListValue k delim))) := by
  rw [forRange_fold (fun acc x => acc ++ [toListValue k delim x]) items acc body (fun x _ s => hbody x s),
    foldl_append_map]

/-- the outer loop of process2ToListMap (over the entries of the map), over an abstract body -/
theorem toListMap_outer_loop (delim : String) (kvs : Fields) (acc : List Val)
    (body : String × Val → List Val → G (Loop (List Val) (List Val × Option Err)))
    (hbody : ∀ p acc, body p acc = .ok (.next (acc ++ toListEntry delim p))) :
    forRange kvs acc body = .ok (.inl (acc ++ kvs.flatMap (toListEntry delim))) := by
  rw [forRange_fold (fun acc p => acc ++ toListEntry delim p) kvs acc body (fun p _ s => hbody p s),
    foldl_append_flatMap]

/-- process2.go:process2ToListMap is the model's `toListMap`: the same list, or (nil, the same error class) -/
theorem T_process2ToListMap_eq (obj : Val) (delim : String) :
    process2ToListMap' obj delim = .ok (resPair (toListMap obj delim)) := by
  unfold process2ToListMap'
  by_cases hm : (asMap obj).2 = false
  · simp [hm, toListMap_other obj delim hm]
  · obtain ⟨kvs, rfl⟩ : ∃ kvs, obj = .map kvs := by cases obj <;> simp_all [asMap]
    simp only [asMap]
    rw [toListMap_outer_loop delim kvs []]
    · simp [toListMap_flatMap]
    · intro p acc
      obtain ⟨k, v⟩ := p
      have hval : ∀ x, process2ToListValue' k delim x
          = .ok (match toListValue k delim x with | .str s => s | _ => "") := T_process2ToListValue_eq k delim
      cases v with
      | list items =>
        simp only []
        rw [toListMap_inner_loop k delim items acc]
        · rfl
        · intro x acc'
          simp only [hval, toListValue_isStr]
      | _ => simp only [hval, toListValue_isStr, toListEntry]

/-! ## process2ToListList -/

theorem toListList_nil (delim : String) : toListList [] delim = .ok [] := rfl

theorem toListList_cons (x : Val) (xs : List Val) (delim : String) :
    toListList (x :: xs) delim = (match toListMap x delim with
      | .error e => .error e
      | .ok l => match toListList xs delim with
        | .error e => .error e
        | .ok ls => .ok (l ++ ls)) := by
  simp only [toListList, List.mapM_cons, pure, Except.pure, bind, Except.bind]
  cases toListMap x delim with
  | error e => rfl
  | ok l =>
    simp only []
    cases List.mapM (fun x => toListMap x delim) xs <;> simp

/-- the loop of process2ToListList, from any accumulator, over an abstract body -/
theorem toListList_loop (delim : String) (xs : List Val) (acc : List Val)
    (body : Val → List Val → G (Loop (List Val) (List Val × Option Err)))
    (hok : ∀ x l acc, toListMap x delim = .ok l → body x acc = .ok (.next (acc ++ l)))
    (herr : ∀ x e acc, toListMap x delim = .error e → body x acc = .ok (.ret ([], some e))) :
    forRange xs acc body = .ok (match toListList xs delim with
      | .ok ls => .inl (acc ++ ls)
      | .error e => .inr ([], some e)) := by
  refine forRange_unique (fun xs acc => .ok (match toListList xs delim with
    | .ok ls => .inl (acc ++ ls)
    | .error e => .inr ([], some e))) body xs
    (fun s => congrArg (fun l => Except.ok (Sum.inl l)) (List.append_nil s)) (fun x _ rest acc => ?_) acc
  rw [toListList_cons]
  cases hx : toListMap x delim with
  | error e => rw [herr x e acc hx]; rfl
  | ok l =>
    rw [hok x l acc hx]
    cases toListList rest delim <;> simp [Loop.andThen]

/-- process2.go:process2ToListList is the model's `toListList`: the same list, or (nil, the same error class) -/
theorem T_process2ToListList_eq (obj : List Val) (delim : String) :
    process2ToListList' obj delim = .ok (resPair (toListList obj delim)) := by
  unfold process2ToListList'
  simp only []
  rw [toListList_loop delim obj []]
  · cases toListList obj delim <;> simp
  · intro x l acc hx
    simp [T_process2ToListMap_eq, hx]
  · intro x e acc hx
    simp [T_process2ToListMap_eq, hx]

/-! ## process2ValuesMap -/

/-- process2.go:process2ValuesMap: the values of the map in key order and no error — the list that the model's
    `encodeString` returns for "values" -/
theorem T_process2ValuesMap_eq (obj : Fields) :
    process2ValuesMap' obj = .ok (obj.map (·.2), none) := by
  unfold process2ValuesMap'
  simp only []
  rw [forRange_fold (fun acc (p : String × Val) => acc ++ [p.2]) obj []]
  · rw [foldl_append_map]; simp
  · intro p _ s; rfl

theorem process2ValuesMap_encodeString (kvs : Fields) :
    encodeString (.map kvs) "values" = .ok (.list (kvs.map (·.2))) ∧
    process2ValuesMap' kvs = .ok (kvs.map (·.2), none) :=
  ⟨(encodeString_eq (cmd := "values") (args := []) _ (splitOn_colon_none _ (by decide))).trans
    (congrArg (fun l => EncRes.ok (Val.list l)) (map_snd_eq kvs).symm), T_process2ValuesMap_eq kvs⟩

/-! ## toStringListPermissive -/

/-- util.go:toStringListPermissive is the model's `toStringListPermissive` -/
theorem T_toStringListPermissive_eq (v : Val) :
    toStringListPermissive' v = .ok (resPair (toStringListPermissive v)) := by
  unfold toStringListPermissive'
  cases v with
  | list xs =>
    simp only [asList]
    rw [forRange_fold (fun acc (x : Val) => acc ++ [fmtV x]) xs []]
    · rw [foldl_append_map]; simp [toStringListPermissive, pure, Except.pure]
    · intro x _ s; rfl
  | _ => simp [asList, toStringListPermissive, throw, throwThe, MonadExceptOf.throw]

/-! ## concrete instances -/

example : process2ToListMap' (.map [("a", .list [.int 1, .str ""]), ("b", .str "x")]) "="
    = .ok ([.str "a=1", .str "a", .str "b=x"], none) := by
  rw [T_process2ToListMap_eq]; rfl

example : process2ToListList' [.map [("a", .int 1)], .str "no"] "=" = .ok ([], some Err.invalidType) := by
  rw [T_process2ToListList_eq]; rfl

end Bkl.Gen.Lib
