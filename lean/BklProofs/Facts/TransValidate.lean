/-
  Translation equivalence, validate.go: the Lean definitions that harness/cmd/gotrans writes from /repo's CURRENT
  validate.go (Generated/Trans/Validate.lean, regenerated on every run) compute the model's `validate`.
  A change of validate.go that changes its meaning makes these theorems fail to check.
-/
import Generated.Trans.Validate
import BklProofs.Lemmas.GoLib
namespace Bkl.Gen.Lib
open Bkl Go

theorem validateString_eq (s : String) : validateString' s = .ok (errOpt (validateString s)) := by
  unfold validateString' validateString validateChars
  by_cases h : s = "$required"
  · subst h; rfl
  · rw [if_neg (fun hh => h (beq_iff_eq.1 hh)), if_neg (fun hh => h (String.toList_inj.mp hh))]
    generalize s.toList = cs
    -- the model's `match` on the characters against Go's test of the length and of the first two runes
    split
    · rename_i c tail
      simp only [int_ofNat_length_ge_two, Bool.true_and, runeAt_zero, runeAt_one]
      cases isLowerModel c <;> rfl
    · rename_i hne
      rcases cs with _ | ⟨a, _ | ⟨b, rest⟩⟩
      · rfl
      · rfl
      · have ha : (a == Char.ofNat 36) = false := beq_eq_false_iff_ne.2 (fun e => hne b rest (by rw [e]))
        simp only [int_ofNat_length_ge_two, Bool.true_and, runeAt_zero, ha, Bool.false_and]
        rfl

theorem validateList_loop (fuel : Nat) (xs : List Val)
    (hall : ∀ x ∈ xs, validate' fuel x = .ok (errOpt (validate x))) :
    validateList' (fuel + 1) xs = .ok (errOpt (validateList xs)) := by
  unfold validateList'
  rw [forRange_unique (fun xs _ => .ok (match validateList xs with | .ok _ => .inl () | .error e => .inr (some e)))
    _ xs (fun _ => rfl) (fun x hx xs s => ?_)]
  · cases validateList xs <;> rfl
  · dsimp only
    rw [hall x hx, validateList]
    cases validate x <;> rfl

theorem validateMap_loop (fuel : Nat) (kvs : Fields)
    (hk : ∀ k : String, validate' fuel (.str k) = .ok (errOpt (validateString k)))
    (hall : ∀ p ∈ kvs, validate' fuel p.2 = .ok (errOpt (validate p.2))) :
    validateMap' (fuel + 1) kvs = .ok (errOpt (validateFields kvs)) := by
  unfold validateMap'
  rw [forRange_unique (fun kvs _ => .ok (match validateFields kvs with | .ok _ => .inl () | .error e => .inr (some e)))
    _ kvs (fun _ => rfl) (fun p hp rest s => ?_)]
  · cases validateFields kvs <;> rfl
  · obtain ⟨k, v⟩ := p
    dsimp only
    rw [hk, hall (k, v) hp, validateFields]
    cases validateString k <;> cases validate v <;> rfl

/-- validate.go, as translated from the current source, is the model's `validate` (for every value, given fuel
    for its nesting depth) -/
theorem T_validate_eq (v : Val) (fuel : Nat) (h : 2 * Go.depth v + 1 ≤ fuel) :
    validate' fuel v = .ok (errOpt (validate v)) := by
  refine Go.fuel_induction 2 (P := fun fuel v => validate' fuel v = .ok (errOpt (validate v)))
    (fun f v h0 => ?_) (fun f kvs ih => ?_) (fun f xs ih => ?_) v fuel h
  · cases v with
    | map _ | list _ => cases h0
    | str s => rw [validate', validateString_eq]; rfl
    | _ => rfl
  · rw [validate', validateMap_loop f kvs (fun k => ih (.str k) (Nat.zero_le _) f (Nat.le_refl f))
      (fun p hp => ih p.2 (Go.depth_le_of_mem_fields (k := p.1) hp) f (Nat.le_refl f))]
    rfl
  · rw [validate', validateList_loop f xs (fun x hx => ih x (Go.depth_le_of_mem_list hx) f (Nat.le_refl f))]
    rfl

end Bkl.Gen.Lib
