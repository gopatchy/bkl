/-
  Fact obligation F10, slice "output": the directive literals, in source order, of every function of
  output.go are the ones the model mirrors (table and explanation: BklProofs/Facts/Dispatch.lean).
-/
import BklProofs.Facts.Dispatch
namespace Bkl

theorem F10_dispatch_order_output :
    seqOfFiles ["output.go"] Facts.directiveSeq = seqOfFiles ["output.go"] (expectedDirectiveSeq.map (·.1)) := by decide +kernel

end Bkl
