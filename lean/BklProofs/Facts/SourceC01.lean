/- C01 on the translated merge.go (`merge'`): the theorems of BklProofs/C01 composed with `T_merge_eq`
   (Facts/TransMerge). -/
import BklProofs.C01
import BklProofs.Facts.TransMerge
namespace Bkl.Gen.Lib
open Bkl Go

/-! ## bridge: what `merge'` answers when the model accepts / rejects -/

theorem S_C01_of_model_ok {dst src r : Val} (hs : Val.WF src) {fuel : Nat} (h : 4 * Go.depth src + 2 ≤ fuel)
    (hm : merge dst src = .ok r) : merge' fuel dst src = .ok (r, none) := by
  rw [T_merge_eq dst src hs fuel h, resOf, hm]

theorem S_C01_of_model_error {dst src : Val} {e : Err} (hs : Val.WF src) {fuel : Nat}
    (h : 4 * Go.depth src + 2 ≤ fuel) (hm : merge dst src = .error e) :
    merge' fuel dst src = .ok (mergeErrVal dst src, some e) := by
  rw [T_merge_eq dst src hs fuel h, resOf, hm]

/-- `merge'` accepts with `r` exactly when the model does -/
theorem S_C01_ok_iff {dst src r : Val} (hs : Val.WF src) {fuel : Nat} (h : 4 * Go.depth src + 2 ≤ fuel) :
    merge' fuel dst src = .ok (r, none) ↔ merge dst src = .ok r := by
  rw [T_merge_eq dst src hs fuel h, resOf]
  cases merge dst src <;> simp

/-- `merge'` reports the error class `e` exactly when the model does -/
theorem S_C01_error_iff {dst src : Val} {e : Err} (hs : Val.WF src) {fuel : Nat} (h : 4 * Go.depth src + 2 ≤ fuel) :
    (∃ v, merge' fuel dst src = .ok (v, some e)) ↔ merge dst src = .error e := by
  rw [T_merge_eq dst src hs fuel h, resOf]
  cases merge dst src <;> simp

theorem S_C01_fails_iff {dst src : Val} (hs : Val.WF src) {fuel : Nat} (h : 4 * Go.depth src + 2 ≤ fuel) :
    (∃ v e, merge' fuel dst src = .ok (v, some e)) ↔ ∃ e, merge dst src = .error e :=
  exists_comm.trans (exists_congr fun _ => S_C01_error_iff hs h)

/-- what holds of a map patch (well-formedness, fuel) holds of each of its values: the statements about a map go
    through `T_merge_eq` key by key -/
theorem S_C01_at {s : Fields} {k : String} {v : Val} (hs : Val.WF (.map s)) {fuel : Nat}
    (h : 4 * Go.depth (.map s) + 2 ≤ fuel) (hg : fget s k = some v) : Val.WF v ∧ 4 * Go.depth v + 2 ≤ fuel :=
  ⟨wf_of_fget hs hg, by have := depth_le_of_fget hg; simp only [Go.depth] at h; omega⟩

/-! ## 1. the accept / reject boundary -/

/-- **the accept / reject boundary of the translated merge.go:merge**: it returns a non-nil error exactly on
    `Rejects` (only the well-formedness of the patch is used) -/
theorem S_C01_reject_iff_of_src_wf {dst src : Val} (hs : Val.WF src) {fuel : Nat}
    (h : 4 * Go.depth src + 2 ≤ fuel) :
    (∃ v e, merge' fuel dst src = .ok (v, some e)) ↔ Rejects dst src :=
  (S_C01_fails_iff hs h).trans (C01_reject_iff_of_src_wf hs)

/-- the same under the hypotheses of `C01_reject_iff` -/
theorem S_C01_reject_iff {dst src : Val} (_hd : Val.WF dst) (hs : Val.WF src) {fuel : Nat}
    (h : 4 * Go.depth src + 2 ≤ fuel) :
    (∃ v e, merge' fuel dst src = .ok (v, some e)) ↔ Rejects dst src :=
  S_C01_reject_iff_of_src_wf hs h

/-- non-vacuity: a rejected pair (`k: $delete` of an absent key below a key) and an accepted one, on the translated
    function itself -/
example : Val.WF (.map [("a", .int 1)]) ∧ Val.WF (.map [("b", .str "$delete")]) ∧
    4 * Go.depth (.map [("b", .str "$delete")]) + 2 ≤ 6 ∧
    Rejects (.map [("a", .int 1)]) (.map [("b", .str "$delete")]) ∧
    merge' 6 (.map [("a", .int 1)]) (.map [("b", .str "$delete")]) = .ok (.map [], some Err.uselessOverride) ∧
    ¬ Rejects (.map [("a", .int 1)]) (.map [("a", .int 2)]) ∧
    merge' 6 (.map [("a", .int 1)]) (.map [("a", .int 2)]) = .ok (.map [("a", .int 2)], none) := by
  have h2 : merge' 6 (.map [("a", .int 1)]) (.map [("a", .int 2)]) = .ok (.map [("a", .int 2)], none) := by rfl
  refine ⟨by decide, by decide, by decide,
    .mapDeleteAbsent (k := "b") (by decide) (by decide) (by decide), by rfl, fun hr => ?_, h2⟩
  obtain ⟨v, e, he⟩ := (S_C01_reject_iff (fuel := 6) (by decide) (by decide) (by decide)).2 hr
  rw [h2] at he
  cases he

/-- off `Rejects` the translated merge is total, returns a nil error and a well-formed value -/
theorem S_C01_accept_total {dst src : Val} (hd : Val.WF dst) (hs : Val.WF src) (hr : ¬ Rejects dst src) {fuel : Nat}
    (h : 4 * Go.depth src + 2 ≤ fuel) :
    ∃ r, merge' fuel dst src = .ok (r, none) ∧ Val.WF r := by
  obtain ⟨r, hm, hw⟩ := C01_accept_total_wf hd hs hr
  exact ⟨r, S_C01_of_model_ok hs h hm, hw⟩

example : Val.WF (.map [("a", .int 1)]) ∧ Val.WF (.map [("a", .int 2)]) ∧
    4 * Go.depth (.map [("a", .int 2)]) + 2 ≤ 6 := by decide

/-- well-formedness is preserved -/
theorem S_C01_wf {dst src r : Val} (hd : Val.WF dst) (hs : Val.WF src) {fuel : Nat}
    (h : 4 * Go.depth src + 2 ≤ fuel) (hm : merge' fuel dst src = .ok (r, none)) : Val.WF r :=
  C01_wf hd hs ((S_C01_ok_iff hs h).1 hm)

/-! ## 2. scalars, null, lists, maps -/

/-- a scalar parent: the child replaces it; an identical child is rejected (`uselessOverride`, next to Go's nil) -/
theorem S_C01_scalar (dst src : Val) (hd : dst.isScalar = true) (hs : Val.WF src) {fuel : Nat}
    (h : 4 * Go.depth src + 2 ≤ fuel) :
    merge' fuel dst src = .ok (if src == dst then (.null, some Err.uselessOverride) else (src, none)) := by
  rw [T_merge_eq dst src hs fuel h, resOf, C01_scalar dst src hd]
  have he : mergeErrVal dst src = .null := by cases dst <;> first | rfl | cases hd
  by_cases hc : (src == dst) = true
  · simp only [hc, if_true, he]
  · simp only [hc]; rfl

example : (Val.int 3).isScalar = true ∧ Val.WF (.str "x") ∧ 4 * Go.depth (.str "x") + 2 ≤ 2 ∧
    merge' 2 (.int 3) (.str "x") = .ok (.str "x", none) ∧
    merge' 2 (.int 3) (.int 3) = .ok (.null, some Err.uselessOverride) := by
  refine ⟨rfl, by decide, by decide, by rfl, by rfl⟩

/-- a null child changes nothing -/
theorem S_C01_null_child_map (d : Fields) {fuel : Nat} (h : 2 ≤ fuel) :
    merge' fuel (.map d) .null = .ok (.map d, none) :=
  S_C01_of_model_ok (by decide) (by simpa [Go.depth] using h) (C01_null_child_map d)

theorem S_C01_null_child_list (d : List Val) {fuel : Nat} (h : 2 ≤ fuel) :
    merge' fuel (.list d) .null = .ok (.list d, none) :=
  S_C01_of_model_ok (by decide) (by simpa [Go.depth] using h) (C01_null_child_list d)

/-- a null parent is replaced by the child -/
theorem S_C01_null_parent (s : Val) (hs : Val.WF s) {fuel : Nat} (h : 4 * Go.depth s + 2 ≤ fuel) :
    merge' fuel .null s = .ok (s, none) :=
  S_C01_of_model_ok hs h (C01_null_parent s)

/-- kind mismatches are rejected with `invalidType` -/
theorem S_C01_kind_mismatch_map (d : Fields) (src : Val) (hd : d ≠ [])
    (hk : src.isScalar = true ∨ src.isList = true) (hs : Val.WF src) {fuel : Nat}
    (h : 4 * Go.depth src + 2 ≤ fuel) :
    ∃ v, merge' fuel (.map d) src = .ok (v, some Err.invalidType) :=
  ⟨_, S_C01_of_model_error hs h (C01_kind_mismatch_map d src hd hk)⟩

theorem S_C01_kind_mismatch_list (d : List Val) (src : Val)
    (hk : src.isScalar = true ∨ src.isMap = true) (hs : Val.WF src) {fuel : Nat}
    (h : 4 * Go.depth src + 2 ≤ fuel) :
    merge' fuel (.list d) src = .ok (.list [], some Err.invalidType) :=
  S_C01_of_model_error hs h (C01_kind_mismatch_list d src hk)

/-- list concatenation: plain entries are appended (after the parent's `$required` markers are dropped) -/
theorem S_C01_list_concat (d s : List Val) (hp : s.all plainEntry = true) (hs : Val.WF (.list s)) {fuel : Nat}
    (h : 4 * Go.depth (.list s) + 2 ≤ fuel) :
    merge' fuel (.list d) (.list s) =
      .ok (.list (d.filter (fun x => !(x == Val.str "$required")) ++ s), none) :=
  S_C01_of_model_ok hs h (C01_list_concat d s hp)

example : [Val.int 1, .str "x", .map [("a", .int 2)]].all plainEntry = true ∧
    Val.WF (.list [Val.int 1, .str "x", .map [("a", .int 2)]]) ∧
    4 * Go.depth (.list [Val.int 1, .str "x", .map [("a", .int 2)]]) + 2 ≤ 10 := by decide

/-- a `"$replace"` string entry: the child list (minus the marker) replaces the parent list -/
theorem S_C01_list_replace_string (d s : List Val) (hr : Val.str "$replace" ∈ s) (hs : Val.WF (.list s))
    {fuel : Nat} (h : 4 * Go.depth (.list s) + 2 ≤ fuel) :
    merge' fuel (.list d) (.list s) = .ok (.list (s.filter (fun x => !(x == Val.str "$replace"))), none) :=
  S_C01_of_model_ok hs h (C01_list_replace_string d s hr)

/-- a `{$delete: pat}` entry removes every parent entry matching `pat`; none is an error -/
theorem S_C01_list_delete (d : List Val) (pat : Val) (hs : Val.WF pat) {fuel : Nat}
    (h : 4 * Go.depth pat + 10 ≤ fuel) :
    merge' fuel (.list d) (.list [Val.map [("$delete", pat)]]) =
      .ok (if (d.filter (fun x => !(x == Val.str "$required"))).any (fun v => matchV v pat) then
        (.list ((d.filter (fun x => !(x == Val.str "$required"))).filter (fun v => !matchV v pat)), none)
      else (.list [], some Err.uselessOverride)) := by
  have hw : Val.WF (.list [Val.map [("$delete", pat)]]) := by
    rw [wf_list_iff]; intro x hx
    simp only [List.mem_singleton] at hx; subst hx
    rw [wf_map_iff]
    refine ⟨by simp [Fields.SortedKeys], ?_⟩
    intro p hp; simp only [List.mem_singleton] at hp; subst hp; exact hs
  have hf : 4 * Go.depth (.list [Val.map [("$delete", pat)]]) + 2 ≤ fuel := by
    simp [Go.depth, Go.depthList, Go.depthFields]; omega
  rw [T_merge_eq _ _ hw fuel hf, resOf, C01_list_delete]
  by_cases hc : ((d.filter (fun x => !(x == Val.str "$required"))).any (fun v => matchV v pat)) = true
  · simp only [hc, if_true]
  · simp only [hc]; rfl

/-- maps merge key by key (the clauses of `C01_map_by_key`, the recursive one again about `merge'`):
    a key the patch does not mention keeps the parent's value; `k: $delete` removes a present key; a key new to the
    parent is added; a key on both sides carries the result of `merge'` on the two values -/
theorem S_C01_map_by_key {d s : Fields} {r : Val} (hd : Fields.SortedKeys d) (hs : Val.WF (.map s))
    (hrep : fhasBool s "$replace" true = false) {fuel : Nat} (h : 4 * Go.depth (.map s) + 2 ≤ fuel)
    (hm : merge' fuel (.map d) (.map s) = .ok (r, none)) :
    ∃ rm, r = .map rm ∧ Fields.SortedKeys rm ∧ ∀ k,
      match fget s k with
      | none => fget rm k = fget d k
      | some v =>
        if v.toStr = "$delete" then (fget d k ≠ none ∧ fget rm k = none)
        else match fget d k with
          | none => fget rm k = some v
          | some e => ∃ r', merge' fuel e v = .ok (r', none) ∧ fget rm k = some r' := by
  obtain ⟨rm, hr, hsr, hk⟩ := C01_map_by_key hd (wf_map_iff.1 hs).1 hrep ((S_C01_ok_iff hs h).1 hm)
  refine ⟨rm, hr, hsr, fun k => ?_⟩
  have := hk k
  cases hg : fget s k with
  | none => rwa [hg] at this
  | some v =>
    rw [hg] at this
    simp only [S_C01_ok_iff (S_C01_at hs h hg).1 (S_C01_at hs h hg).2]
    -- the statement's `match` on `fget d k` and the one of `C01_map_by_key` are two matchers
    revert this
    cases fget d k <;> exact id

/-- the frame clause on its own: a key the patch does not mention keeps the parent's value -/
theorem S_C01_map_key_not_mentioned {d s : Fields} {r : Val} (hd : Fields.SortedKeys d) (hs : Val.WF (.map s))
    (hrep : fhasBool s "$replace" true = false) {fuel : Nat} (h : 4 * Go.depth (.map s) + 2 ≤ fuel)
    (hm : merge' fuel (.map d) (.map s) = .ok (r, none)) (k : String) (hk : fget s k = none) :
    ∃ rm, r = .map rm ∧ fget rm k = fget d k := by
  obtain ⟨rm, hr, _, hall⟩ := S_C01_map_by_key hd hs hrep h hm
  have := hall k
  rw [hk] at this
  exact ⟨rm, hr, this⟩

/-- non-vacuity of the two map theorems -/
example : Fields.SortedKeys [("a", .int 1), ("b", .int 2)] ∧
    Val.WF (.map [("b", .str "$delete"), ("c", .int 3)]) ∧
    fhasBool [("b", .str "$delete"), ("c", .int 3)] "$replace" true = false ∧
    4 * Go.depth (.map [("b", .str "$delete"), ("c", .int 3)]) + 2 ≤ 6 ∧
    merge' 6 (.map [("a", .int 1), ("b", .int 2)]) (.map [("b", .str "$delete"), ("c", .int 3)])
      = .ok (.map [("a", .int 1), ("c", .int 3)], none) ∧
    fget [("b", .str "$delete"), ("c", .int 3)] "a" = none := by
  refine ⟨by decide, by decide, by decide, by decide, by rfl, by decide⟩

/-- the map boundary: a map patch without `$replace: true` is rejected exactly when some key is a useless `$delete`
    or carries a value that `merge'` rejects over the parent's value -/
theorem S_C01_map_reject_iff {d s : Fields} (hs : Val.WF (.map s)) (hrep : fhasBool s "$replace" true = false)
    {fuel : Nat} (h : 4 * Go.depth (.map s) + 2 ≤ fuel) :
    (∃ r err, merge' fuel (.map d) (.map s) = .ok (r, some err)) ↔
      ∃ k v, fget s k = some v ∧
        ((v.toStr = "$delete" ∧ fget d k = none) ∨
         (v.toStr ≠ "$delete" ∧ ∃ e, fget d k = some e ∧ ∃ r err, merge' fuel e v = .ok (r, some err))) := by
  rw [S_C01_fails_iff hs h, C01_map_reject_iff (wf_map_iff.1 hs).1 hrep]
  exact exists_congr fun k => exists_congr fun v => and_congr_right fun hg => or_congr_right <|
    and_congr_right fun _ => exists_congr fun e => and_congr_right fun _ =>
      (S_C01_fails_iff (S_C01_at hs h hg).1 (S_C01_at hs h hg).2).symm

example : Val.WF (.map [("b", .str "$delete"), ("c", .int 3)]) ∧
    fhasBool [("b", .str "$delete"), ("c", .int 3)] "$replace" true = false ∧
    4 * Go.depth (.map [("b", .str "$delete"), ("c", .int 3)]) + 2 ≤ 6 := by decide

/-! ## 3. `$replace: true` -/

/-- `$replace: true` in a map patch: the patch (minus the directive) replaces the parent map -/
theorem S_C01_replace_true (d s : Fields) (hr : fhasBool s "$replace" true = true) (hs : Val.WF (.map s))
    {fuel : Nat} (h : 4 * Go.depth (.map s) + 2 ≤ fuel) :
    merge' fuel (.map d) (.map s) = .ok (.map (fdel s "$replace"), none) :=
  S_C01_of_model_ok hs h (C01_replace_true d s hr)

example : fhasBool [("$replace", .bool true), ("a", .int 1)] "$replace" true = true ∧
    Val.WF (.map [("$replace", .bool true), ("a", .int 1)]) ∧
    4 * Go.depth (.map [("$replace", .bool true), ("a", .int 1)]) + 2 ≤ 6 ∧
    merge' 6 (.map [("z", .int 9)]) (.map [("$replace", .bool true), ("a", .int 1)])
      = .ok (.map [("a", .int 1)], none) := by
  refine ⟨by decide, by decide, by decide, by rfl⟩

/-- … and nothing below it is ever rejected -/
theorem S_C01_replace_true_never_rejects (d s : Fields) (hr : fhasBool s "$replace" true = true)
    (hs : Val.WF (.map s)) {fuel : Nat} (h : 4 * Go.depth (.map s) + 2 ≤ fuel) :
    ¬ ∃ v e, merge' fuel (.map d) (.map s) = .ok (v, some e) := by
  rw [S_C01_reject_iff_of_src_wf hs h]
  exact C01_replace_true_never_rejects d s hr


end Bkl.Gen.Lib
