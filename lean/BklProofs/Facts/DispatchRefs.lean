/-
  Fact obligation F10, slice "refs": the directive literals, in source order, of every function of
  get.go, process1.go are the ones the model mirrors (table and explanation: BklProofs/Facts/Dispatch.lean).
-/
import BklProofs.Facts.Dispatch
namespace Bkl

theorem F10_dispatch_order_refs :
    seqOfFiles ["get.go", "process1.go"] Facts.directiveSeq = seqOfFiles ["get.go", "process1.go"] (expectedDirectiveSeq.map (·.1)) := by decide +kernel

end Bkl
