/-
  Translation equivalence, util.go: the Lean definitions that harness/cmd/gotrans writes from /repo's CURRENT
  util.go (Generated/Trans/Util.lean, regenerated on every run) compute the model's helpers of Bkl/Val.lean and
  Bkl/Fields.lean (`fget`/`fdel`, `fhasBool`, `fgetStr`, `hasListMapBool`, `getListMapStr`, `toStringList`), and
  `deepClone` is `Val.norm` — the identity exactly on well-formed values.
  A change of util.go that changes its meaning makes these theorems fail to check.
-/
import Generated.Trans.Util
import BklProofs.Lemmas.GoLibUtil
import BklProofs.Lemmas.Markers
import BklProofs.Lemmas.GoLib
namespace Bkl.Gen.Lib
open Bkl Go

/-! ## the functions without loops -/

/-- util.go:toBool is the type assertion `a.(bool)` -/
theorem T_toBool_eq (a : Val) :
    toBool' a = .ok (match a with | .bool b => (b, true) | _ => (false, false)) := by
  cases a <;> rfl

/-- util.go:toString is the model's `Val.toStr` -/
theorem T_toString_eq (a : Val) : toString' a = .ok a.toStr := by
  cases a <;> rfl

/-- util.go:popMapValue, by cases on the lookup -/
theorem popMapValue_eq_match (m : Fields) (k : String) :
    popMapValue' m k = .ok (match fget m k with
      | some v => (true, v, fdel m k)
      | none => (false, .null, m)) := by
  unfold popMapValue' mapIndex2
  cases fget m k <;> rfl

/-- util.go:popMapValue: `(found, value, map without k)` -/
theorem T_popMapValue_eq (m : Fields) (k : String) :
    popMapValue' m k = .ok ((fget m k).isSome, (fget m k).getD .null, fdel m k) := by
  rw [popMapValue_eq_match]
  cases h : fget m k with
  | none => rw [fdel_of_not_mem h]; rfl
  | some v => rfl

/-- util.go:getMapBoolValue: the bool stored under `k` and whether there is one -/
theorem T_getMapBoolValue_eq (m : Fields) (k : String) :
    getMapBoolValue' m k = .ok (match fget m k with | some (.bool b) => (b, true) | _ => (false, false)) := by
  unfold getMapBoolValue' mapIndex2
  cases fget m k with
  | none => rfl
  | some v => cases v <;> rfl

/-- util.go:hasMapBoolValue is the model's `fhasBool` -/
theorem T_hasMapBoolValue_eq (m : Fields) (k : String) (v : Bool) :
    hasMapBoolValue' m k v = .ok (fhasBool m k v) := by
  unfold hasMapBoolValue' fhasBool
  rw [T_getMapBoolValue_eq]
  cases fget m k with
  | none => rfl
  | some w => cases w <;> rfl

/-- util.go:popMapBoolValue -/
theorem T_popMapBoolValue_eq (m : Fields) (k : String) (v : Bool) :
    popMapBoolValue' m k v = .ok (fhasBool m k v, if fhasBool m k v then fdel m k else m) := by
  unfold popMapBoolValue'
  rw [T_hasMapBoolValue_eq]
  cases fhasBool m k v <;> rfl

/-- util.go:getMapStringValue is the model's `fgetStr` -/
theorem T_getMapStringValue_eq (m : Fields) (k : String) :
    getMapStringValue' m k = .ok (fgetStr m k) := by
  unfold getMapStringValue' fgetStr mapIndex2
  cases fget m k with
  | none => rfl
  | some v => cases v <;> rfl

/-- util.go:popMapStringValue -/
theorem T_popMapStringValue_eq (m : Fields) (k : String) :
    popMapStringValue' m k = .ok (fgetStr m k, if fgetStr m k != "" then fdel m k else m) := by
  unfold popMapStringValue'
  rw [T_getMapStringValue_eq]
  cases h : fgetStr m k == "" <;> simp only [bne, h] <;> rfl

/-! ## the loops without state -/

/-- util.go:hasListMapBoolValue is the model's `hasListMapBool` -/
theorem T_hasListMapBoolValue_eq (l : List Val) (k : String) (v : Bool) :
    hasListMapBoolValue' l k v = .ok (hasListMapBool l k v) := by
  unfold hasListMapBoolValue'
  rw [hasListMapBool_eq, forRange_any (isMarker k v) true l _ (fun x _ => ?_)]
  · cases l.any (isMarker k v) <;> rfl
  · cases x with
    | map m =>
      rw [show isMarker k v (.map m) = fhasBool m k v from rfl]
      simp only [asMap, ↓reduceIte, T_hasMapBoolValue_eq]
    | _ => rfl

theorem getListMapStr_nil (k : String) : getListMapStr [] k = "" := rfl

theorem getListMapStr_cons_map (m : Fields) (l : List Val) (k : String) :
    getListMapStr (.map m :: l) k = if fgetStr m k != "" then fgetStr m k else getListMapStr l k := by
  simp only [getListMapStr, List.find?_cons]
  cases h : fgetStr m k != "" <;> rfl

theorem getListMapStr_cons_other (x : Val) (l : List Val) (k : String) (h : (asMap x).2 = false) :
    getListMapStr (x :: l) k = getListMapStr l k := by
  cases x with
  | map m => cases h
  | _ => rfl

/-- util.go:getListMapStringValue is the model's `getListMapStr` -/
theorem T_getListMapStringValue_eq (l : List Val) (k : String) :
    getListMapStringValue' l k = .ok (getListMapStr l k) := by
  unfold getListMapStringValue'
  rw [forRange_unique (fun l _ => .ok (if getListMapStr l k == "" then .inl () else .inr (getListMapStr l k)))
    _ l (fun _ => rfl) (fun x _ xs _ => ?_)]
  · cases h : getListMapStr l k == ""
    · rfl
    · exact congrArg Except.ok (beq_iff_eq.1 h).symm
  · cases x with
    | map m =>
      cases h : fgetStr m k == "" <;>
        simp only [getListMapStr_cons_map, asMap, T_getMapStringValue_eq, bne, h, Bool.not_true, Bool.not_false, if_true,
          Bool.false_eq_true, if_false] <;> rfl
    | _ => rw [getListMapStr_cons_other _ _ _ rfl]; rfl

/-- the Go result pair of a model result: the list and the error class -/
def listErr : R (List String) → List String × Option Err
  | .ok ss => (ss, none)
  | .error e => ([], some e)

/-- util.go:toStringList is the model's `toStringList`: the same strings, or (nil, the same error class) -/
theorem T_toStringList_eq (l : List Val) : toStringList' l = .ok (listErr (toStringList l)) := by
  unfold toStringList'
  simp only []
  rw [forRange_unique (fun l acc => .ok (match toStringList l with
      | .ok ss => .inl (acc ++ ss)
      | .error e => .inr ([], some e))) _ l
    (fun acc => congrArg (fun a => Except.ok (Sum.inl a)) (List.append_nil acc)) (fun x _ xs acc => ?_)]
  · cases toStringList l <;> rfl
  · cases x with
    | str s =>
      rw [toStringList_cons_str]
      cases toStringList xs with
      | ok ss => exact congrArg (fun a => Except.ok (Sum.inl a)) (List.append_assoc acc [s] ss).symm
      | error e => rfl
    | _ => rw [toStringList_cons_other _ xs (fun _ h => by cases h)]; rfl

/-- util.go:deepClone rebuilds every map entry by entry (`ret[k] = v`), i.e. it is the model's `Val.norm`,
    for EVERY value (no hypothesis) -/
theorem T_deepClone_eq_norm (v : Val) (fuel : Nat) (h : Go.depth v + 1 ≤ fuel) :
    deepClone' fuel v = .ok (Val.norm v, none) := by
  refine Go.fuel_induction 1 (P := fun fuel v => deepClone' fuel v = .ok (Val.norm v, none))
    (fun f v h0 => ?_) (fun f kvs ih => ?_) (fun f xs ih => ?_) v fuel (by rwa [Nat.one_mul])
  · cases v with
    | map _ | list _ => cases h0
    | _ => rfl
  · unfold deepClone'
    simp only []
    rw [forRange_fold (fun acc (p : String × Val) => fset acc p.1 (Val.norm p.2)), gu_foldl_norm_fields]
    · rfl
    · intro p hp s
      rw [ih p.2 (Go.depth_le_of_mem_fields (k := p.1) hp) f (Nat.le_refl f)]
      rfl
  · unfold deepClone'
    simp only []
    rw [forRange_fold (fun acc (x : Val) => acc ++ [Val.norm x]), gu_foldl_norm_list]
    · rfl
    · intro x hx s
      rw [ih x (Go.depth_le_of_mem_list hx) f (Nat.le_refl f)]
      rfl

/-- util.go:deepClone returns its argument (and no error) when every map inside it is strictly sorted by key -/
theorem T_deepClone_eq (v : Val) (hv : Val.WF v) (fuel : Nat) (h : Go.depth v + 1 ≤ fuel) :
    deepClone' fuel v = .ok (v, none) := by
  rw [T_deepClone_eq_norm v fuel h, gu_norm_of_wf v hv]

/-- … and ONLY then: `Val.WF v` is the weakest hypothesis for `T_deepClone_eq` -/
theorem deepClone_eq_iff_wf (v : Val) (fuel : Nat) (h : Go.depth v + 1 ≤ fuel) :
    deepClone' fuel v = .ok (v, none) ↔ Val.WF v := by
  rw [T_deepClone_eq_norm v fuel h]
  simp only [Except.ok.injEq, Prod.mk.injEq, and_true]
  exact gu_norm_eq_self_iff v

/-- non-vacuity of `T_deepClone_eq` -/
example : Val.WF (.map [("a", .list [.map [("x", .int 1), ("y", .null)]]), ("b", .str "s")]) ∧
    Go.depth (.map [("a", .list [.map [("x", .int 1), ("y", .null)]]), ("b", .str "s")]) + 1 ≤ 4 := by decide

/-- the hypothesis is needed: an unsorted map comes back sorted … -/
theorem deepClone_unsorted :
    deepClone' 2 (.map [("b", .null), ("a", .null)]) = .ok (.map [("a", .null), ("b", .null)], none) := by
  rw [T_deepClone_eq_norm _ _ (by decide)]; rfl

theorem deepClone_unsorted_ne :
    deepClone' 2 (.map [("b", .null), ("a", .null)]) ≠ .ok (.map [("b", .null), ("a", .null)], none) := by
  rw [deepClone_unsorted]; simp

/-- … and a map with a repeated key loses the earlier entry -/
theorem deepClone_dupkey :
    deepClone' 2 (.map [("a", .int 1), ("a", .int 2)]) = .ok (.map [("a", .int 2)], none) := by
  rw [T_deepClone_eq_norm _ _ (by decide)]; rfl

theorem deepClone_dupkey_ne :
    deepClone' 2 (.map [("a", .int 1), ("a", .int 2)]) ≠ .ok (.map [("a", .int 1), ("a", .int 2)], none) := by
  rw [deepClone_dupkey]; simp

/-- fuel: the translated function does not finish on too little (the bound `depth v + 1` suffices; it is not needed on
    every value: an empty container counts as a level and costs no call) -/
example : deepClone' 1 (.list [.list []]) = .error GErr.fuel := by rfl

end Bkl.Gen.Lib
