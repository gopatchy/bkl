/-
  Translation equivalence, the `$encode` dispatcher of process2.go: the Lean definitions that harness/cmd/gotrans
  writes from /repo's CURRENT source (Generated/Trans/Encode2.lean, regenerated on every run) —
  process2EncodeString' and process2EncodeAny' — compute the model's `encodeString` / `encodeAny` (Bkl/Encode.lean).

  The third-party codecs are the two leading PARAMETERS of the translated functions (`getFormat` = bkl.GetFormat,
  `marshalStream` = Format.MarshalStream). They are tied to the model by
    `GetFormatSpec gf : ∀ cmd, (gf cmd).2 = if isCodecFormat cmd then none else some Err.unknownFormat`
  (nothing is assumed about `marshalStream`), and a model result is read as a Go result pair by `encResToGo`:
    `.ok v ↦ (v, nil)`, `.err e ↦ (nil, e)`, `.codec f v ↦` MarshalStream of `[v]` with the format `f`.

  What is proved (all for every obj / spec / mergeFrom / mergeFromDocs / depth):
  * T_process2EncodeString_exact  (4 ≤ fuel): the translated function returns EXACTLY
      `tolistFix parts (encResToGo … (encodeString obj spec))` — i.e. the model's result, except that a FAILING
      `tolist:<d>` returns `([]any{} , err)` instead of `(nil, err)` (the typed nil slice of process2ToListList /
      process2ToListMap inside an `any`);
  * T_process2EncodeString_eq     (4 ≤ fuel): hence, read as every caller reads a Go `(value, error)` pair
      (`errNorm`: next to an error the value is not looked at), it is `encResToGo … (encodeString obj spec)`;
  * T_process2EncodeAny_eq        (Go.depth spec + 5 ≤ fuel): process2EncodeAny is `encodeAnyWith`, the model's fold
      over a list of specs CONTINUED through codec text (the Go code feeds the text that a codec in the middle of
      a stack produces to the next transform; the model's `encodeList` stops at `.codec`);
      T_process2EncodeAny_list_eq: literally (no `errNorm`) for a list of specs;
  * encodeAnyWith_of_noCodec / _of_ok / _of_err: `encodeAnyWith` IS the model's `encodeAny` whenever the model's
      result is `.ok` or `.err`; encodeAnyWith_codec_last: and for a stack `pre ++ [s]` whose last step is the codec;
      T_process2EncodeAny_eq_model, T_process2EncodeAny_eq_codec_last: the same, for the translated function.
  The examples at the end show that `GetFormatSpec` is needed, that `errNorm` is needed (tolist), that a codec in the
  middle of a stack really differs, and that `flags` really uses four units of fuel.
  A change of the Go source that changes its meaning makes these theorems fail to check.
-/
import Generated.Trans.Encode2
import BklProofs.Facts.TransEncode
namespace Bkl.Gen.Lib
open Bkl Go

/-! ## the Go result pair of a model result -/

/-- the Go result pair `(any, error)` of a model `EncRes`, given the two third-party functions -/
def encResToGo (ms : Go.Opaque → List Val → String × Option Err) (gf : String → Go.Opaque × Option Err) :
    EncRes → Val × Option Err
  | .ok v => (v, none)
  | .err e => (.null, some e)
  | .codec fmt v =>
    let r := ms (gf fmt).1 [v]
    if r.2 != none then (.null, r.2) else (.str r.1, none)

/-- a Go result pair as every caller reads it: next to an error the value is not looked at (`nil`) -/
def errNorm (r : Val × Option Err) : Val × Option Err :=
  if r.2 != none then (.null, r.2) else r

/-- the one place where process2EncodeString returns something other than an untyped `nil` next to an error:
    `tolist:<d>` hands on the results of process2ToListList / process2ToListMap, whose `nil` slice becomes a
    non-nil `any` holding an empty `[]any` -/
def tolistFix (parts : List String) (r : Val × Option Err) : Val × Option Err :=
  if parts.headD "" = "tolist" ∧ parts.length = 2 ∧ r.2 ≠ none then (.list [], r.2) else r

/-- the tie between `bkl.GetFormat` and the model's view of the codecs -/
def GetFormatSpec (gf : String → Go.Opaque × Option Err) : Prop :=
  ∀ cmd, (gf cmd).2 = (if isCodecFormat cmd then none else some Err.unknownFormat)

/-! ## argument lists -/

theorem strAt_zero (p : String) (ps : List String) : Go.strAt (p :: ps) 0 = p := by
  simp [Go.strAt]

theorem len1_ne1 (p : String) : (Int.ofNat [p].length != 1) = false := by simp
theorem len1_ne2 (p : String) : (Int.ofNat [p].length != 2) = true := by simp
theorem len2_ne1 (p q : String) : (Int.ofNat [p, q].length != 1) = true := by simp
theorem len2_ne2 (p q : String) : (Int.ofNat [p, q].length != 2) = false := by simp
theorem len3_ne1 (p q r : String) (rs : List String) : (Int.ofNat (p :: q :: r :: rs).length != 1) = true := by
  simp; omega
theorem len3_ne2 (p q r : String) (rs : List String) : (Int.ofNat (p :: q :: r :: rs).length != 2) = true := by
  simp; omega

/-! ## the loops of `flatten` and `prefix` -/

theorem asList_list (xs : List Val) : asList (.list xs) = (xs, true) := rfl
theorem asMap_map (kvs : Fields) : asMap (.map kvs) = (kvs, true) := rfl

/-- what one item contributes to `flattenList` -/
def flattenItem : Val → List Val
  | .list inner => inner
  | other => [other]

theorem flattenList_flatMap (xs : List Val) : flattenList xs = xs.flatMap flattenItem := by
  unfold flattenList
  congr 1

theorem flatten_loop (xs acc : List Val) (body : Val → List Val → G (Loop (List Val) (Val × Option Err)))
    (hbody : ∀ x acc, body x acc = .ok (.next (acc ++ flattenItem x))) :
    forRange xs acc body = .ok (.inl (acc ++ flattenList xs)) := by
  rw [forRange_fold (fun acc x => acc ++ flattenItem x) xs acc body (fun x _ s => hbody x s),
    foldl_append_flatMap, flattenList_flatMap]

theorem prefix_loop (pre : String) (strs : List String) (acc : List Val)
    (body : String → List Val → G (Loop (List Val) (Val × Option Err)))
    (hbody : ∀ s acc, body s acc = .ok (.next (acc ++ [Val.str (pre ++ s)]))) :
    forRange strs acc body = .ok (.inl (acc ++ strs.map fun s => Val.str (pre ++ s))) := by
  rw [forRange_fold (fun acc s => acc ++ [Val.str (pre ++ s)]) strs acc body (fun x _ s => hbody x s),
    foldl_append_map]

/-! ## the fold over a list of specs, continued through codec text -/

mutual
/-- process2EncodeAny as a total function of the model's values, given the two third-party functions: the model's
    `encodeAny`, except that a third-party codec in the middle of a list of specs hands its TEXT on to the next
    transform (the model's `encodeList` stops at `.codec`); next to an error the value is `nil` -/
def encodeAnyWith (ms : Go.Opaque → List Val → String × Option Err) (gf : String → Go.Opaque × Option Err)
    (obj : Val) : Val → Val × Option Err
  | .str s => encResToGo ms gf (encodeString obj s)
  | .list specs => encodeListWith ms gf obj specs
  | _ => (.null, some .invalidType)
def encodeListWith (ms : Go.Opaque → List Val → String × Option Err) (gf : String → Go.Opaque × Option Err)
    (obj : Val) : List Val → Val × Option Err
  | [] => (obj, none)
  | sp :: rest =>
    match encodeAnyWith ms gf obj sp with
    | (v, none) => encodeListWith ms gf v rest
    | (_, some e) => (.null, some e)
end

/-! ## `flags`: the Go code recurses into the spec list `["tolist:=", "prefix:--"]`, the model inlines it -/

theorem errNorm_encResToGo (ms : Go.Opaque → List Val → String × Option Err)
    (gf : String → Go.Opaque × Option Err) (r : EncRes) : errNorm (encResToGo ms gf r) = encResToGo ms gf r := by
  cases r with
  | ok v => rfl
  | err e => rfl
  | codec f v =>
    simp only [encResToGo, errNorm]
    split <;> simp_all

theorem errNorm_tolistFix (parts : List String) (r : Val × Option Err) (h : errNorm r = r) :
    errNorm (tolistFix parts r) = r := by
  unfold tolistFix
  split
  · rename_i hc
    obtain ⟨v, _ | e⟩ := r
    · simp at hc
    · simp [errNorm] at h ⊢; exact h
  · exact h

/-! ## process2EncodeString, one unit of fuel, given what the recursive call of `flags` returns -/

theorem strAt_one (parts : List String) : Go.strAt parts 1 = parts.getD 1 "" := by
  simp [Go.strAt]

/-- two chains of tests on the same conditions, compared branch by branch -/
theorem ite_push {α β : Type} {c : Prop} [Decidable c] (F : β → α) {a a' : α} {b b' : β}
    (h1 : c → a = F b) (h2 : ¬ c → a' = F b') : (if c then a else a') = F (if c then b else b') := by
  split
  · exact h1 ‹_›
  · exact h2 ‹_›

theorem tolistFix_ne {p : String} (h : p ≠ "tolist") (ps : List String) (r : Val × Option Err) :
    tolistFix (p :: ps) r = r := by
  simp only [tolistFix, List.headD_cons, h, false_and, if_false]

/-- a row of the table for a command without arguments: the Go test `len(parts) == 1` -/
theorem row_noArgs (ms : Go.Opaque → List Val → String × Option Err) (gf : String → Go.Opaque × Option Err)
    {p : String} (hp : p ≠ "tolist") (ps : List String) {x : G (Val × Option Err)} {r : EncRes}
    (h : x = .ok (encResToGo ms gf r)) :
    (if Int.ofNat (p :: ps).length = 1 then x else .ok (.null, some .invalidArguments))
      = .ok (tolistFix (p :: ps) (encResToGo ms gf (noArgs ps r))) := by
  rw [tolistFix_ne hp]
  cases ps with
  | nil => exact h
  | cons a as =>
    have : ¬ (Int.ofNat (p :: a :: as).length = 1) := by simp; omega
    rw [if_neg this]
    rfl

/-- the model's `flags` is the fold over the two specs that the Go code recurses into -/
theorem encodeListWith_flags (ms : Go.Opaque → List Val → String × Option Err)
    (gf : String → Go.Opaque × Option Err) (obj : Val) :
    encodeListWith ms gf obj [.str "tolist:=", .str "prefix:--"] = encResToGo ms gf (flagsSpec obj) := by
  simp only [encodeListWith, encodeAnyWith, encodeString_tolist_eq, encodeString_prefix_dd, flagsSpec]
  rcases tolistSpec_cases "=" obj with ⟨l, h⟩ | h <;> rw [h] <;> rfl

/-- one call of process2EncodeString: both sides test the transform name `p` in the same order -/
theorem encStr_step (ms : Go.Opaque → List Val → String × Option Err) (gf : String → Go.Opaque × Option Err)
    (hGF : GetFormatSpec gf)
    (fuel : Nat) (obj : Val) (mf : Go.Doc) (mfd : List Go.Doc) (spec : String) (depth : Int)
    (hflags : (spec.splitOn ":").headD "" = "flags" →
      process2EncodeAny' ms gf fuel obj mf mfd (.list [.str "tolist:=", .str "prefix:--"]) (depth + 1)
        = .ok (encodeListWith ms gf obj [.str "tolist:=", .str "prefix:--"])) :
    process2EncodeString' ms gf (fuel+1) obj mf mfd spec depth
      = .ok (tolistFix (spec.splitOn ":") (encResToGo ms gf (encodeString obj spec))) := by
  obtain ⟨p, ps, hp⟩ := exists_cons_splitOn spec
  rw [hp, List.headD_cons] at hflags
  rw [encodeString_eq obj hp]
  unfold process2EncodeString' encodeCmd
  rw [hp]
  simp only [strAt_zero, beq_iff_eq]
  -- the same chain of tests on the command name on both sides: row by row
  let F := fun r => (Except.ok (tolistFix (p :: ps) (encResToGo ms gf r)) : G (Val × Option Err))
  refine ite_push F (fun h => ?_) fun _ => ?_
  · exact row_noArgs ms gf (by rw [h]; decide) ps rfl
  refine ite_push F (fun h => ?_) fun _ => ?_
  · refine row_noArgs ms gf (by rw [h]; decide) ps ?_
    rw [hflags h, encodeListWith_flags]
  refine ite_push F (fun h => ?_) fun _ => ?_
  · refine row_noArgs ms gf (by rw [h]; decide) ps ?_
    rw [← flattenSpec_eq]
    cases obj
    case list xs =>
      simp only [asList_list, ↓reduceIte]
      rw [flatten_loop xs []]
      · rfl
      · intro x acc
        cases x <;> simp [asList, flattenItem]
    all_goals rfl
  refine ite_push F (fun h => ?_) fun _ => ?_
  · show _ = Except.ok _
    rw [tolistFix_ne (by rw [h]; decide), T_toStringListPermissive_eq]
    rcases ps with _ | ⟨d, _ | ⟨e, es⟩⟩
    · show _ = Except.ok (encResToGo ms gf (joinSpec "" obj))
      rw [← joinSpec_eq]; cases toStringListPermissive obj <;> rfl
    · show _ = Except.ok (encResToGo ms gf (joinSpec d obj))
      rw [← joinSpec_eq]; cases toStringListPermissive obj <;> rfl
    · have : ¬ Int.ofNat (p :: d :: e :: es).length = 2 ∧ ¬ Int.ofNat (p :: d :: e :: es).length = 1 := by
        simp; omega
      rw [if_neg this.1, if_neg this.2]
      rfl
  refine ite_push F (fun h => ?_) fun _ => ?_
  · show _ = Except.ok _
    rw [tolistFix_ne (by rw [h]; decide)]
    rcases ps with _ | ⟨d, _ | ⟨e, es⟩⟩
    · rfl
    · show _ = Except.ok (encResToGo ms gf (prefixSpec d obj))
      rw [← prefixSpec_eq, if_pos (by rfl), T_toStringListPermissive_eq]
      cases toStringListPermissive obj with
      | error e => rfl
      | ok strs =>
        simp only [resPair_ok]
        rw [prefix_loop _ strs [] _ (fun _ _ => rfl)]
        rfl
    · have : ¬ Int.ofNat (p :: d :: e :: es).length = 2 := by simp; omega
      rw [if_neg this]
      rfl
  refine ite_push F (fun h => ?_) fun _ => ?_
  · exact row_noArgs ms gf (by rw [h]; decide) ps (by rw [String.empty_append]; rfl)
  refine ite_push F (fun h => ?_) fun h7 => ?_
  · subst h
    show _ = Except.ok (tolistFix _ _)
    simp only [tolistFix, List.headD_cons, true_and, strAt_one]
    by_cases hn : ("tolist" :: ps).length = 2
    · obtain ⟨d, rfl⟩ : ∃ d, ps = [d] := by
        match ps, hn with
        | [d], _ => exact ⟨d, rfl⟩
      simp only [hn, ne_eq, true_and, oneArg, ← tolistSpec_eq, List.getD_cons_succ, List.getD_cons_zero]
      cases obj
      case list xs =>
        simp only [asList_list, ↓reduceIte, T_process2ToListList_eq]
        cases toListList xs _ <;> rfl
      all_goals
        simp only [asList, Bool.false_eq_true, ↓reduceIte, T_process2ToListMap_eq]
        generalize toListMap _ _ = t
        cases t <;> rfl
    · have hn' : ¬ Int.ofNat ("tolist" :: ps).length = 2 := fun h => hn (Int.ofNat.inj h)
      simp only [hn, hn', ↓reduceIte, false_and, ne_eq]
      match ps, hn with
      | [], _ | _ :: _ :: _, _ => rfl
  refine ite_push F (fun h => ?_) fun h8 => ?_
  · refine row_noArgs ms gf (by rw [h]; decide) ps ?_
    rw [← valuesSpec_eq]
    cases obj
    case map kvs => simp only [asMap_map, ↓reduceIte, T_process2ValuesMap_eq]; rfl
    all_goals rfl
  refine row_noArgs ms gf h7 ps ?_
  rw [hGF p]
  by_cases hc : isCodecFormat p = true
  · simp only [hc, ↓reduceIte, encResToGo, bne_iff_ne, ne_eq]
    split <;> simp_all
  · simp [hc, encResToGo]
/-! ## process2EncodeAny on a string and on a list of specs -/

/-- the loop of process2EncodeAny over a list of specs, over an abstract body -/
theorem encList_loop (ms : Go.Opaque → List Val → String × Option Err) (gf : String → Go.Opaque × Option Err)
    (specs : List Val) (obj : Val) (body : Val → Val → G (Loop Val (Val × Option Err)))
    (hbody : ∀ sp ∈ specs, ∀ o, body sp o = .ok (match encodeAnyWith ms gf o sp with
      | (v, none) => .next v
      | (_, some e) => .ret (.null, some e))) :
    forRange specs obj body = .ok (match encodeListWith ms gf obj specs with
      | (v, none) => .inl v
      | (_, some e) => .inr (.null, some e)) := by
  refine forRange_unique (fun specs obj => .ok (match encodeListWith ms gf obj specs with
    | (v, none) => .inl v
    | (_, some e) => .inr (.null, some e))) body specs (fun _ => rfl) (fun sp hsp rest obj => ?_) obj
  rw [hbody sp hsp, encodeListWith]
  rcases encodeAnyWith ms gf obj sp with ⟨v, _ | e⟩ <;> rfl

theorem errNorm_encodeListWith (ms : Go.Opaque → List Val → String × Option Err)
    (gf : String → Go.Opaque × Option Err) (obj : Val) (specs : List Val) :
    errNorm (encodeListWith ms gf obj specs) = encodeListWith ms gf obj specs := by
  induction specs generalizing obj with
  | nil => rfl
  | cons sp rest ih =>
    rw [encodeListWith]
    rcases encodeAnyWith ms gf obj sp with ⟨v, _ | e⟩
    · exact ih v
    · rfl

theorem encAny_str (ms : Go.Opaque → List Val → String × Option Err) (gf : String → Go.Opaque × Option Err)
    (fuel : Nat) (obj : Val) (mf : Go.Doc) (mfd : List Go.Doc) (s : String) (depth : Int) :
    process2EncodeAny' ms gf (fuel+1) obj mf mfd (.str s) depth
      = process2EncodeString' ms gf fuel obj mf mfd s depth := by
  rw [process2EncodeAny']
  generalize process2EncodeString' ms gf fuel obj mf mfd s depth = x
  rcases x with _ | ⟨a, b⟩ <;> rfl

theorem encAny_list (ms : Go.Opaque → List Val → String × Option Err) (gf : String → Go.Opaque × Option Err)
    (fuel : Nat) (obj : Val) (mf : Go.Doc) (mfd : List Go.Doc) (specs : List Val) (depth : Int)
    (hall : ∀ sp ∈ specs, ∀ o, ∃ r, process2EncodeAny' ms gf fuel o mf mfd sp depth = .ok r ∧
      errNorm r = encodeAnyWith ms gf o sp) :
    process2EncodeAny' ms gf (fuel+1) obj mf mfd (.list specs) depth
      = .ok (encodeListWith ms gf obj specs) := by
  rw [process2EncodeAny']
  simp only []
  rw [encList_loop ms gf specs obj]
  · have := errNorm_encodeListWith ms gf obj specs
    generalize encodeListWith ms gf obj specs = r at this ⊢
    rcases r with ⟨v, _ | e⟩
    · rfl
    · exact congrArg Except.ok this
  · intro sp hsp o
    obtain ⟨r, hr, hn⟩ := hall sp hsp o
    rw [hr, ← hn]
    obtain ⟨v, _ | e⟩ := r <;> simp [errNorm]

/-! ## process2EncodeString -/

/-- process2.go:process2EncodeString, exactly: the model's `encodeString`, the codecs supplied by the two
    parameters; a failing `tolist:<d>` returns an empty `[]any` (not `nil`) next to its error -/
theorem T_process2EncodeString_exact (ms : Go.Opaque → List Val → String × Option Err)
    (gf : String → Go.Opaque × Option Err) (hGF : GetFormatSpec gf)
    (fuel : Nat) (obj : Val) (mf : Go.Doc) (mfd : List Go.Doc) (spec : String) (depth : Int) (hf : 4 ≤ fuel) :
    process2EncodeString' ms gf fuel obj mf mfd spec depth
      = .ok (tolistFix (spec.splitOn ":") (encResToGo ms gf (encodeString obj spec))) := by
  obtain ⟨k, rfl⟩ : ∃ k, fuel = k + 4 := ⟨fuel - 4, by omega⟩
  refine encStr_step ms gf hGF (k+3) obj mf mfd spec depth fun _ => ?_
  refine encAny_list ms gf (k+2) obj mf mfd _ (depth + 1) fun sp hsp o => ?_
  have hstr : ∀ s : String, (s.splitOn ":").headD "" ≠ "flags" →
      ∃ r, process2EncodeAny' ms gf (k+2) o mf mfd (.str s) (depth + 1) = .ok r ∧
        errNorm r = encodeAnyWith ms gf o (.str s) := fun s hs =>
    ⟨_, by rw [encAny_str, encStr_step ms gf hGF k o mf mfd s _ (fun h => absurd h hs)],
      by rw [errNorm_tolistFix _ _ (errNorm_encResToGo ms gf _), encodeAnyWith]⟩
  simp only [List.mem_cons, List.not_mem_nil, or_false] at hsp
  rcases hsp with rfl | rfl
  · exact hstr _ (by rw [parts_tolist_eq]; decide)
  · exact hstr _ (by rw [parts_prefix_dd]; decide)

/-- process2.go:process2EncodeString is the model's `encodeString` (the codecs supplied by the two parameters):
    the same error class, and without an error the same value -/
theorem T_process2EncodeString_eq (ms : Go.Opaque → List Val → String × Option Err)
    (gf : String → Go.Opaque × Option Err) (hGF : GetFormatSpec gf)
    (fuel : Nat) (obj : Val) (mf : Go.Doc) (mfd : List Go.Doc) (spec : String) (depth : Int) (hf : 4 ≤ fuel) :
    ∃ r, process2EncodeString' ms gf fuel obj mf mfd spec depth = .ok r ∧
      errNorm r = encResToGo ms gf (encodeString obj spec) :=
  ⟨_, T_process2EncodeString_exact ms gf hGF fuel obj mf mfd spec depth hf,
    errNorm_tolistFix _ _ (errNorm_encResToGo ms gf _)⟩

/-! ## process2EncodeAny -/

/-- process2.go:process2EncodeAny is `encodeAnyWith` (the model's fold, continued through codec text): the same
    error class, and without an error the same value — for every spec, given fuel for its nesting depth -/
theorem T_process2EncodeAny_eq (ms : Go.Opaque → List Val → String × Option Err)
    (gf : String → Go.Opaque × Option Err) (hGF : GetFormatSpec gf)
    (fuel : Nat) (obj : Val) (mf : Go.Doc) (mfd : List Go.Doc) (spec : Val) (depth : Int) (hf : Go.depth spec + 5 ≤ fuel) :
    ∃ r, process2EncodeAny' ms gf fuel obj mf mfd spec depth = .ok r ∧
      errNorm r = encodeAnyWith ms gf obj spec := by
  induction fuel generalizing obj spec with
  | zero => omega
  | succ f ih =>
    cases spec with
    | str s =>
      obtain ⟨r, hr, hn⟩ := T_process2EncodeString_eq ms gf hGF f obj mf mfd s depth (by omega)
      exact ⟨r, by rw [encAny_str, hr], by rw [hn, encodeAnyWith]⟩
    | list xs =>
      refine ⟨_, encAny_list ms gf f obj mf mfd xs depth fun sp hm o => ih o sp ?_, ?_⟩
      · have := Go.depth_le_of_mem_list hm
        simp only [Go.depth] at hf
        omega
      · rw [encodeAnyWith, errNorm_encodeListWith]
    | _ => exact ⟨(Val.null, some Err.invalidType), rfl, rfl⟩

/-- … and literally so for a list of specs -/
theorem T_process2EncodeAny_list_eq (ms : Go.Opaque → List Val → String × Option Err)
    (gf : String → Go.Opaque × Option Err) (hGF : GetFormatSpec gf)
    (fuel : Nat) (obj : Val) (mf : Go.Doc) (mfd : List Go.Doc) (specs : List Val) (depth : Int)
    (hf : Go.depth (.list specs) + 5 ≤ fuel) :
    process2EncodeAny' ms gf fuel obj mf mfd (.list specs) depth
      = .ok (encodeAnyWith ms gf obj (.list specs)) := by
  obtain ⟨f, rfl⟩ : ∃ f, fuel = f + 1 := ⟨fuel - 1, by omega⟩
  rw [encodeAnyWith]
  refine encAny_list ms gf f obj mf mfd specs depth fun sp hm o =>
    T_process2EncodeAny_eq ms gf hGF f o mf mfd sp depth ?_
  have := Go.depth_le_of_mem_list hm
  simp only [Go.depth] at hf
  omega

/-! ## `encodeAnyWith` and the model's `encodeAny` -/

mutual
theorem encodeAnyWith_of_noCodec (ms : Go.Opaque → List Val → String × Option Err)
    (gf : String → Go.Opaque × Option Err) : ∀ (spec obj : Val),
    (∀ f v, encodeAny obj spec ≠ .codec f v) →
    encodeAnyWith ms gf obj spec = encResToGo ms gf (encodeAny obj spec)
  | .str s, obj, _ => by rw [encodeAnyWith, encodeAny]
  | .list specs, obj, h => by
    rw [encodeAnyWith, encodeAny]
    exact encodeListWith_of_noCodec ms gf specs obj (by rwa [encodeAny] at h)
  | .null, _, _ | .bool _, _, _ | .int _, _, _ | .flt _, _, _ | .map _, _, _ => rfl
theorem encodeListWith_of_noCodec (ms : Go.Opaque → List Val → String × Option Err)
    (gf : String → Go.Opaque × Option Err) : ∀ (specs : List Val) (obj : Val),
    (∀ f v, encodeList obj specs ≠ .codec f v) →
    encodeListWith ms gf obj specs = encResToGo ms gf (encodeList obj specs)
  | [], obj, _ => by rw [encodeListWith, encodeList]; rfl
  | sp :: rest, obj, h => by
    rw [encodeList] at h
    have hsp : ∀ f v, encodeAny obj sp ≠ .codec f v := fun f v hh => by rw [hh] at h; exact h f v rfl
    rw [encodeListWith, encodeList, encodeAnyWith_of_noCodec ms gf sp obj hsp]
    cases hr : encodeAny obj sp with
    | ok v => rw [hr] at h; exact encodeListWith_of_noCodec ms gf rest v h
    | err e => rfl
    | codec f v => exact absurd hr (hsp f v)
end

theorem encodeAnyWith_of_ok (ms : Go.Opaque → List Val → String × Option Err)
    (gf : String → Go.Opaque × Option Err) (obj spec v : Val) (h : encodeAny obj spec = .ok v) :
    encodeAnyWith ms gf obj spec = (v, none) := by
  rw [encodeAnyWith_of_noCodec ms gf spec obj (by rw [h]; exact fun _ _ => nofun), h]; rfl

theorem encodeAnyWith_of_err (ms : Go.Opaque → List Val → String × Option Err)
    (gf : String → Go.Opaque × Option Err) (obj spec : Val) (e : Err) (h : encodeAny obj spec = .err e) :
    encodeAnyWith ms gf obj spec = (.null, some e) := by
  rw [encodeAnyWith_of_noCodec ms gf spec obj (by rw [h]; exact fun _ _ => nofun), h]; rfl

theorem encodeListWith_append (ms : Go.Opaque → List Val → String × Option Err)
    (gf : String → Go.Opaque × Option Err) (pre post : List Val) (obj : Val) :
    encodeListWith ms gf obj (pre ++ post) = (match encodeListWith ms gf obj pre with
      | (v, none) => encodeListWith ms gf v post
      | (_, some e) => (.null, some e)) := by
  induction pre generalizing obj with
  | nil => simp [encodeListWith]
  | cons sp rest ih =>
    rw [List.cons_append, encodeListWith, encodeListWith]
    rcases encodeAnyWith ms gf obj sp with ⟨v, _ | e⟩
    · exact ih v
    · rfl

theorem encodeList_append_ok (pre post : List Val) (obj v : Val) (h : encodeList obj pre = .ok v) :
    encodeList obj (pre ++ post) = encodeList v post := by
  induction pre generalizing obj with
  | nil => rw [encodeList] at h; cases h; rfl
  | cons sp rest ih =>
    rw [List.cons_append, encodeList]
    rw [encodeList] at h
    cases hsp : encodeAny obj sp with
    | ok w => rw [hsp] at h; exact ih w h
    | err e => rw [hsp] at h; cases h
    | codec f w => rw [hsp] at h; cases h

theorem encodeAnyWith_codec_last (ms : Go.Opaque → List Val → String × Option Err)
    (gf : String → Go.Opaque × Option Err) (pre : List Val) (s : String) (obj v : Val)
    (h : encodeList obj pre = .ok v) :
    encodeAnyWith ms gf obj (.list (pre ++ [.str s]))
      = encResToGo ms gf (encodeAny obj (.list (pre ++ [.str s]))) := by
  have hpre : encodeListWith ms gf obj pre = (v, none) := by
    rw [encodeListWith_of_noCodec ms gf pre obj (by rw [h]; exact fun _ _ => nofun), h]; rfl
  rw [encodeAnyWith, encodeAny, encodeListWith_append, hpre, encodeList_append_ok pre _ obj v h]
  simp only [encodeListWith, encodeList, encodeAnyWith, encodeAny]
  have hn := errNorm_encResToGo ms gf (encodeString v s)
  cases hs : encodeString v s with
  | ok w => rfl
  | err e => rfl
  | codec f w =>
    rw [hs] at hn
    rcases hr : encResToGo ms gf (EncRes.codec f w) with ⟨x, _ | e⟩
    · rfl
    · rw [hr] at hn; simp [errNorm] at hn; simp [hn]

/-- process2.go:process2EncodeAny is the model's `encodeAny` wherever the model does not stop at a codec -/
theorem T_process2EncodeAny_eq_model (ms : Go.Opaque → List Val → String × Option Err)
    (gf : String → Go.Opaque × Option Err) (hGF : GetFormatSpec gf)
    (fuel : Nat) (obj : Val) (mf : Go.Doc) (mfd : List Go.Doc) (spec : Val) (depth : Int) (hf : Go.depth spec + 5 ≤ fuel)
    (hnc : ∀ f v, encodeAny obj spec ≠ .codec f v) :
    ∃ r, process2EncodeAny' ms gf fuel obj mf mfd spec depth = .ok r ∧
      errNorm r = encResToGo ms gf (encodeAny obj spec) := by
  rw [← encodeAnyWith_of_noCodec ms gf spec obj hnc]
  exact T_process2EncodeAny_eq ms gf hGF fuel obj mf mfd spec depth hf

/-- … and for a stack of transforms that ends in a codec -/
theorem T_process2EncodeAny_eq_codec_last (ms : Go.Opaque → List Val → String × Option Err)
    (gf : String → Go.Opaque × Option Err) (hGF : GetFormatSpec gf)
    (fuel : Nat) (obj : Val) (mf : Go.Doc) (mfd : List Go.Doc) (pre : List Val) (s : String) (v : Val) (depth : Int)
    (hf : Go.depth (.list (pre ++ [.str s])) + 5 ≤ fuel) (h : encodeList obj pre = .ok v) :
    process2EncodeAny' ms gf fuel obj mf mfd (.list (pre ++ [.str s])) depth
      = .ok (encResToGo ms gf (encodeAny obj (.list (pre ++ [.str s])))) := by
  rw [T_process2EncodeAny_list_eq ms gf hGF fuel obj mf mfd _ depth hf,
    encodeAnyWith_codec_last ms gf pre s obj v h]

/-! ## concrete instances: the hypotheses are satisfiable, and needed -/

/-- a `GetFormat` as the model sees it: the handle is the name, unknown names fail -/
def gfModel (cmd : String) : Go.Opaque × Option Err :=
  (cmd, if isCodecFormat cmd then none else some Err.unknownFormat)
/-- a `GetFormat` that knows a format the model does not -/
def gfAll (cmd : String) : Go.Opaque × Option Err := (cmd, none)
/-- a `MarshalStream` whose text is the name of the format -/
def msName (f : Go.Opaque) (_ : List Val) : String × Option Err := (f, none)

theorem parts_json : "json".splitOn ":" = ["json"] := by rw [splitOn_colon]; decide

theorem encodeString_json (o : Val) : encodeString o "json" = .codec "json" o :=
  encodeString_eq o parts_json

example : GetFormatSpec gfModel := fun _ => rfl

/-- `GetFormatSpec` is needed: with a `GetFormat` that accepts "nosuch" the Go code encodes, the model says
    `ErrUnknownFormat` -/
example : process2EncodeString' msName gfAll 4 (.int 1) default [] "nosuch" 0 = .ok (.str "nosuch", none)
    ∧ encResToGo msName gfAll (encodeString (.int 1) "nosuch") = (.null, some Err.unknownFormat) := by
  constructor
  · unfold process2EncodeString'
    rw [splitOn_colon_none "nosuch" (by decide)]
    rfl
  · exact congrArg _ (encodeString_eq _ (splitOn_colon_none "nosuch" (by decide)))

/-- the value next to an error: a failing `tolist:=` returns an empty `[]any`, not `nil` (so the theorems compare
    results through `errNorm`) -/
example : process2EncodeString' msName gfModel 4 (.int 1) default [] "tolist:=" 0
    = .ok (.list [], some Err.invalidType)
    ∧ encResToGo msName gfModel (encodeString (.int 1) "tolist:=") = (.null, some Err.invalidType) := by
  constructor
  · rw [T_process2EncodeString_exact msName gfModel (fun _ => rfl) 4 _ _ _ _ _ (Nat.le_refl _),
      encodeString_tolist_eq, parts_tolist_eq]
    rfl
  · rw [encodeString_tolist_eq]
    rfl

/-- a codec in the MIDDLE of a stack: the Go code hands the codec's text to the next transform (here `values`
    of a string: `ErrInvalidType`), the model's `encodeList` stops at the codec -/
example : encodeAnyWith msName gfModel (.int 1) (.list [.str "json", .str "values"])
      = (.null, some Err.invalidType)
    ∧ encodeAny (.int 1) (.list [.str "json", .str "values"]) = .codec "json" (.int 1) := by
  constructor
  · have h2 : encodeString (.str "json") "values" = .err .invalidType :=
      encodeString_eq _ (splitOn_colon_none "values" (by decide))
    simp only [encodeAnyWith, encodeListWith, encodeString_json]
    simp [encResToGo, msName, gfModel, h2]
  · simp only [encodeAny, encodeList, encodeString_json]

/-- a codec at the END of a stack -/
example : process2EncodeAny' msName gfModel 6 (.map [("a", .int 1)]) default [] (.list [.str "tolist:=", .str "json"]) 0
    = .ok (.str "json", none) := by
  have h : encodeList (.map [("a", .int 1)]) [.str "tolist:="] = .ok (.list [.str "a=1"]) := by
    simp only [encodeList, encodeAny, encodeString_tolist_eq]
    rfl
  have := T_process2EncodeAny_eq_codec_last msName gfModel (fun _ => rfl) 6 (.map [("a", .int 1)]) default []
    [.str "tolist:="] "json" _ 0 (by decide) h
  simp only [List.cons_append, List.nil_append] at this
  rw [this]
  simp only [encodeAny, encodeList, encodeString_tolist_eq, encodeString_json]
  rfl

/-- `flags` never ends in a codec -/
theorem encodeString_flags_noCodec (obj : Val) (f : String) (v : Val) : encodeString obj "flags" ≠ .codec f v := by
  rw [encodeString_flags, flagsSpec]
  rcases tolistSpec_cases "=" obj with ⟨l, h⟩ | h <;> rw [h] <;> exact nofun

/-- the hypothesis of T_process2EncodeAny_eq_model holds e.g. for `flags` -/
example : ∀ f v, encodeAny (.map [("a", .int 1)]) (.str "flags") ≠ .codec f v := by
  intro f v
  rw [encodeAny]
  exact encodeString_flags_noCodec _ f v

/-- `flags` needs the four units of fuel -/
example : process2EncodeString' msName gfModel 3 (.map []) default [] "flags" 0 = .error GErr.fuel := by
  unfold process2EncodeString'
  rw [splitOn_colon_none "flags" (by decide)]
  rfl

end Bkl.Gen.Lib
