/- The laws of `$match` patterns on the translated match.go (`match'`): facts about the model's `matchV` composed with
   `T_match_eq` (Facts/TransMatch). -/
import BklProofs.C10
import BklProofs.Lemmas.Tools
import BklProofs.Facts.TransMatch
namespace Bkl.Gen.Lib
open Bkl Go

/-- **`$invert` negates**: a pattern carrying `$invert: true` matches exactly when the pattern without that entry
    does not -/
theorem S_match_invert (obj : Val) (pat : Fields) (hi : fhasBool pat "$invert" true = true) {fuel : Nat}
    (h : 3 * Go.depth (.map pat) + 1 ≤ fuel) :
    ∃ b, match' fuel obj (.map (fdel pat "$invert")) = .ok b ∧ match' fuel obj (.map pat) = .ok (!b) := by
  have hd := Go.depthFields_fdel_le pat "$invert"
  refine ⟨matchV obj (.map (fdel pat "$invert")), T_match_eq _ _ fuel ?_, ?_⟩
  · simp only [Go.depth] at h ⊢; omega
  · rw [T_match_eq _ _ fuel h, matchV_map_inv obj pat hi]

example : fhasBool [("$invert", .bool true), ("a", .int 1)] "$invert" true = true ∧
    3 * Go.depth (.map [("$invert", .bool true), ("a", .int 1)]) + 1 ≤ 4 ∧
    match' 4 (.map [("a", .int 1)]) (.map [("$invert", .bool true), ("a", .int 1)]) = .ok false ∧
    match' 4 (.map [("a", .int 2)]) (.map [("$invert", .bool true), ("a", .int 1)]) = .ok true := by
  refine ⟨by decide, by decide, by rfl, by rfl⟩

/-- a plain value (well-formed, no nulls, no `$` keys) used as a pattern matches itself -/
theorem S_match_refl_plain (e : Val) (hp : plainVal e = true) {fuel : Nat} (h : 3 * Go.depth e + 1 ≤ fuel) :
    match' fuel e e = .ok true := by
  rw [T_match_eq e e fuel h, matchV_refl_plain e hp]

example : plainVal (.map [("a", .list [.int 1, .str "x"]), ("b", .bool true)]) = true ∧
    3 * Go.depth (.map [("a", .list [.int 1, .str "x"]), ("b", .bool true)]) + 1 ≤ 7 := by decide

/-- a scalar (or null) pattern matches exactly the equal value -/
theorem S_match_scalar (obj pat : Val) (hp : pat.isScalar = true ∨ pat = .null) {fuel : Nat} (h : 1 ≤ fuel) :
    match' fuel obj pat = .ok (obj == pat) := by
  obtain ⟨f, rfl⟩ : ∃ f, fuel = f + 1 := ⟨fuel - 1, by omega⟩
  cases pat with
  | map kvs => rcases hp with h | h <;> cases h
  | list xs => rcases hp with h | h <;> cases h
  | _ => rfl

/-- an unexpanded placeholder `{$merge|$replace|$encode: _}` never matches a map pattern without `$invert: true`,
    and always matches one with it (`C10_placeholder_never_matches`, `C10_placeholder_invert_matches`) -/
theorem S_match_placeholder (k : String) (v : Val) (pat : Fields)
    (hk : k = "$merge" ∨ k = "$replace" ∨ k = "$encode") {fuel : Nat} (h : 3 * Go.depth (.map pat) + 1 ≤ fuel) :
    match' fuel (.map [(k, v)]) (.map pat) = .ok (fhasBool pat "$invert" true) := by
  rw [T_match_eq _ _ fuel h]
  cases hi : fhasBool pat "$invert" true with
  | false => rw [C10_placeholder_never_matches k v pat hk hi]
  | true => rw [C10_placeholder_invert_matches k v pat hk hi]

example : match' 4 (.map [("$merge", .str "x")]) (.map []) = .ok false ∧
    match' 4 (.map [("$merge", .str "x")]) (.map [("$invert", .bool true)]) = .ok true := ⟨by rfl, by rfl⟩


end Bkl.Gen.Lib
