/- C10 on the translated get.go (`get'`): the theorems of BklProofs/C10 composed with `T_get_eq_norm` / `T_get_eq`
   (Facts/TransGet). -/
import BklProofs.C10
import BklProofs.Facts.TransGet
namespace Bkl.Gen
open Bkl Go

/-! # C10 — reference resolution, on `get'`

  `yu` = yaml.Unmarshal of a reference string is the parameter of the translated function (`ParseOK yu` ties it to the
  model's reader on the modelled sub-language); `doc` is the referencing document, `docs` the stream (all non-nil).
  Fuel: `refFuel m + 1` for the reference and `depth of the documents + 2` for the deep clone of the result.
  No well-formedness is needed for the error laws (`T_get_eq_norm`). -/

/-- A FAILING REFERENCE IS AN ERROR, NEVER SILENTLY DROPPED: whenever the model's `get` fails with the class `e`
    (other than the model's own "unmodelled"), the translated `get` returns `(nil, e)` -/
theorem S_C10_error_is_error (yu : String → Val × Option Err) (hyu : Lib.ParseOK yu)
    (doc : Go.Doc) (docs : List Go.Doc) (m : Val) (hnil : ∀ d ∈ docs, d.isNil = false)
    (e : Err) (he : get doc.data (docs.map (·.data)) m = .error e) (hne : e ≠ Err.unmodelled)
    (fuel : Nat) (h : Lib.refFuel m + 1 ≤ fuel) (hdepth : Go.depthList (doc.data :: docs.map (·.data)) + 2 ≤ fuel) :
    Lib.get' yu fuel doc docs m = .ok (.null, some e) := by
  rw [Lib.T_get_eq_norm yu hyu doc docs m hnil (by rw [he]; intro h; cases h; exact hne rfl) fuel h hdepth, he]
  rfl

/-- a dangling path reference `[p, …]` (`C10_getPath_spec`, the non-vacuity examples of `C10_dangling_is_error_*`):
    if the referencing document is a map without the key `p`, or not a map at all, the translated `get` returns
    `(nil, ErrRefNotFound)` -/
theorem S_C10_dangling_is_error (yu : String → Val × Option Err) (hyu : Lib.ParseOK yu)
    (doc : Go.Doc) (docs : List Go.Doc) (p : String) (ps : List String) (hnil : ∀ d ∈ docs, d.isNil = false)
    (hdang : (∃ kvs, doc.data = .map kvs ∧ fget kvs p = none) ∨ doc.data.isMap = false)
    (fuel : Nat) (h : Lib.refFuel (.list (.str p :: ps.map .str)) + 1 ≤ fuel)
    (hdepth : Go.depthList (doc.data :: docs.map (·.data)) + 2 ≤ fuel) :
    Lib.get' yu fuel doc docs (.list (.str p :: ps.map .str)) = .ok (.null, some Err.refNotFound) := by
  refine S_C10_error_is_error yu hyu doc docs _ hnil _ ?_ (by decide) fuel h hdepth
  rw [get_list_strs]
  rcases hdang with ⟨kvs, hd, hk⟩ | hnm
  · rw [hd, C10_getPath_spec.2.1, hk]; rfl
  · exact C10_getPath_spec.2.2 _ p ps hnm

example : (∃ kvs, (Lib.exDocA).data = .map kvs ∧ fget kvs "zz" = none) := ⟨_, rfl, by decide⟩

/-- a cross-document reference `{$match: pat, …}` whose pattern matches NO document of the stream, or SEVERAL
    (`C10_cross_zero_or_many_is_error`): the translated `get` returns `(nil, ErrNoMatchFound)`, respectively
    `(nil, ErrMultiMatch)`; and a map reference without `$match` is `(nil, ErrMissingMatch)`
    (`C10_missing_match_is_error`) -/
theorem S_C10_cross_zero_or_many_is_error (yu : String → Val × Option Err) (hyu : Lib.ParseOK yu)
    (doc : Go.Doc) (docs : List Go.Doc) (conf : Fields) (hnil : ∀ d ∈ docs, d.isNil = false)
    (fuel : Nat) (h : Lib.refFuel (.map conf) + 1 ≤ fuel)
    (hdepth : Go.depthList (doc.data :: docs.map (·.data)) + 2 ≤ fuel) :
    (∀ pat, fget conf "$match" = some pat → (docs.map (·.data)).filter (fun d => matchV d pat) = [] →
      Lib.get' yu fuel doc docs (.map conf) = .ok (.null, some Err.noMatchFound)) ∧
    (∀ pat, fget conf "$match" = some pat → 2 ≤ ((docs.map (·.data)).filter (fun d => matchV d pat)).length →
      Lib.get' yu fuel doc docs (.map conf) = .ok (.null, some Err.multiMatch)) ∧
    (fget conf "$match" = none →
      Lib.get' yu fuel doc docs (.map conf) = .ok (.null, some Err.missingMatch)) := by
  refine ⟨fun pat hm h0 => ?_, fun pat hm h2 => ?_, fun hm => ?_⟩
  · refine S_C10_error_is_error yu hyu doc docs _ hnil _ ?_ (by decide) fuel h hdepth
    rw [get_map, hm]
    simp only []
    rw [(C10_cross_zero_or_many_is_error _ pat).1 h0]; rfl
  · refine S_C10_error_is_error yu hyu doc docs _ hnil _ ?_ (by decide) fuel h hdepth
    rw [get_map, hm]
    simp only []
    rw [(C10_cross_zero_or_many_is_error _ pat).2.2 h2]; rfl
  · exact S_C10_error_is_error yu hyu doc docs _ hnil _ (C10_missing_match_is_error _ _ conf hm) (by decide)
      fuel h hdepth

/-- … and when exactly one document matches, that document is the one the reference is resolved in; without `$path`
    the translated `get` returns it (a deep copy; well-formed documents) (`C10_cross_zero_or_many_is_error`,
    `C10_cross_doc_map_nopath`) -/
theorem S_C10_cross_unique (yu : String → Val × Option Err) (hyu : Lib.ParseOK yu)
    (doc : Go.Doc) (docs : List Go.Doc) (pat d : Val) (hnil : ∀ d ∈ docs, d.isNil = false)
    (hwf : Val.WF doc.data) (hwfs : ∀ d ∈ docs, Val.WF d.data)
    (h1 : (docs.map (·.data)).filter (fun d => matchV d pat) = [d])
    (fuel : Nat) (h : Lib.refFuel (.map [("$match", pat)]) + 1 ≤ fuel)
    (hdepth : Go.depthList (doc.data :: docs.map (·.data)) + 2 ≤ fuel) :
    Lib.get' yu fuel doc docs (.map [("$match", pat)]) = .ok (d, none) := by
  have hg : get doc.data (docs.map (·.data)) (.map [("$match", pat)]) = .ok d := by
    rw [C10_cross_doc_map_nopath, (C10_cross_zero_or_many_is_error _ pat).2.1 d h1]
  rw [Lib.T_get_eq yu hyu doc docs _ hnil hwf hwfs (by rw [hg]; intro h; cases h) fuel h hdepth, hg]
  rfl

/-- non-vacuity, on the example stream of BklProofs/Facts/TransGet (documents `name: a` and `name: b`):
    a dangling path, a pattern that matches nothing, a pattern that matches both, and one that matches one -/
example : Lib.get' Lib.yamlModel 12 Lib.exDocA [Lib.exDocA, Lib.exDocB] (.list [.str "zz"])
      = .ok (.null, some Err.refNotFound) :=
  S_C10_dangling_is_error Lib.yamlModel Lib.yamlModel_ok Lib.exDocA _ "zz" [] (by simp [Lib.exDocA, Lib.exDocB])
    (.inl ⟨_, rfl, by decide⟩) 12 (by decide) (by decide)

example : Lib.get' Lib.yamlModel 12 Lib.exDocA [Lib.exDocA, Lib.exDocB] (.map [("$match", .map [("name", .str "c")])])
      = .ok (.null, some Err.noMatchFound) ∧
    Lib.get' Lib.yamlModel 12 Lib.exDocA [Lib.exDocA, Lib.exDocB] (.map [("$match", .map [])])
      = .ok (.null, some Err.multiMatch) ∧
    Lib.get' Lib.yamlModel 12 Lib.exDocA [Lib.exDocA, Lib.exDocB] (.map [("$match", .map [("name", .str "b")])])
      = .ok (Lib.exDocB.data, none) := by
  have hnil : ∀ d ∈ [Lib.exDocA, Lib.exDocB], d.isNil = false := by simp [Lib.exDocA, Lib.exDocB]
  refine ⟨?_, ?_, ?_⟩
  · exact (S_C10_cross_zero_or_many_is_error Lib.yamlModel Lib.yamlModel_ok Lib.exDocA _ _ hnil 12
      (by decide) (by decide)).1 _ rfl (by decide)
  · exact (S_C10_cross_zero_or_many_is_error Lib.yamlModel Lib.yamlModel_ok Lib.exDocA _ _ hnil 12
      (by decide) (by decide)).2.1 _ rfl (by decide)
  · exact S_C10_cross_unique Lib.yamlModel Lib.yamlModel_ok Lib.exDocA _ _ _ hnil (by decide)
      (by simp [Lib.exDocA, Lib.exDocB]; decide) (by decide) 12 (by decide) (by decide)


end Bkl.Gen
