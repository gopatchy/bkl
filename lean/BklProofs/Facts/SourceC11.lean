/- C11 on the translated output.go (`filterOutput'`): the theorems of BklProofs/C11 composed with `T_filterOutput_eq`
   (Facts/TransOutput). -/
import BklProofs.C11
import BklProofs.Facts.TransOutput
namespace Bkl.Gen.Lib
open Bkl Go

/-- `filterOutput'` finishes without error exactly when the model does, with the kept value or Go's nil -/
theorem S_C11_ok_iff (v r : Val) (hw : v.WF) {fuel : Nat} (h : 2 * Go.depth v + 1 ≤ fuel) :
    filterOutput' fuel v = .ok (r, none) ↔ ∃ o, filterOutput v = .ok o ∧ r = o.getD .null := by
  rw [T_filterOutput_eq v hw fuel h]
  cases filterOutput v with
  | ok o => simp [eq_comm]
  | error e => simp

/-- a map carrying `$output: false` is hidden: Go's `(nil, nil)` -/
theorem S_C11_hidden_map (kvs : Fields) (hw : Val.WF (.map kvs)) (hb : fhasBool kvs "$output" false = true)
    {fuel : Nat} (h : 2 * Go.depth (.map kvs) + 1 ≤ fuel) :
    filterOutput' fuel (.map kvs) = .ok (.null, none) := by
  rw [T_filterOutput_eq _ hw fuel h, os_filterOutput_map_eq, if_pos hb]; rfl

example : Val.WF (.map [("$output", .bool false), ("x", .int 1)]) ∧
    fhasBool [("$output", .bool false), ("x", .int 1)] "$output" false = true ∧
    2 * Go.depth (.map [("$output", .bool false), ("x", .int 1)]) + 1 ≤ 3 := by decide

/-- a list with a `{$output: false}` entry is hidden too, unless a marker entry carries extra keys -/
theorem S_C11_hidden_list (xs : List Val) (hw : Val.WF (.list xs))
    (hb : hasListMapBool xs "$output" false = true) {fuel : Nat} (h : 2 * Go.depth (.list xs) + 1 ≤ fuel) :
    filterOutput' fuel (.list xs) =
      .ok (.null, if xs.any (os_isExtra "$output" false) then some Err.extraKeys else none) := by
  rw [T_filterOutput_eq _ hw fuel h, os_filterOutput_list_eq, if_pos hb]
  by_cases hx : xs.any (os_isExtra "$output" false) = true
  · simp only [hx, if_true, filterOutputErrVal, hb]
  · simp only [hx]; rfl

example : Val.WF (.list [.int 1, .map [("$output", .bool false)]]) ∧
    hasListMapBool [.int 1, .map [("$output", .bool false)]] "$output" false = true ∧
    2 * Go.depth (.list [.int 1, .map [("$output", .bool false)]]) + 1 ≤ 5 := by decide

/-- **`C11_hide_spec` on the translated function**: when `filterOutput'` finishes without error, it returns nil
    exactly for the hidden values (`$output: false` map, list with such an entry, null) -/
theorem S_C11_hide_spec (v r : Val) (hw : v.WF) {fuel : Nat} (h : 2 * Go.depth v + 1 ≤ fuel)
    (hf : filterOutput' fuel v = .ok (r, none)) : r = .null ↔ hidden v = true := by
  obtain ⟨o, ho, rfl⟩ := (S_C11_ok_iff v r hw h).1 hf
  rw [← C11_hide_spec v o ho]
  cases o with
  | none => simp
  | some r' => simpa using filterOutput_some_ne_null ho

example : Val.WF (.map [("a", .null), ("b", .map [("$output", .bool false)]), ("c", .int 1)]) ∧
    2 * Go.depth (.map [("a", .null), ("b", .map [("$output", .bool false)]), ("c", .int 1)]) + 1 ≤ 5 ∧
    filterOutput' 5 (.map [("a", .null), ("b", .map [("$output", .bool false)]), ("c", .int 1)])
      = .ok (.map [("c", .int 1)], none) := by
  refine ⟨by decide, by decide, by rfl⟩

/-- a well-formed subtree without `$output: false` markers (and without nulls, which the output stage drops) is
    returned unchanged -/
theorem S_C11_unmarked_unchanged (v : Val) (hw : v.WF) (hm : hasOutFalse v = false) (hn : noNull v = true)
    {fuel : Nat} (h : 2 * Go.depth v + 1 ≤ fuel) : filterOutput' fuel v = .ok (v, none) := by
  rw [T_filterOutput_eq v hw fuel h, filterOutput_unmarked v hm hn]; rfl

example : (Val.map [("$output", .bool true), ("a", .list [.int 1, .map [("b", .str "x")]])]).WF ∧
    hasOutFalse (.map [("$output", .bool true), ("a", .list [.int 1, .map [("b", .str "x")]])]) = false ∧
    noNull (.map [("$output", .bool true), ("a", .list [.int 1, .map [("b", .str "x")]])]) = true ∧
    2 * Go.depth (.map [("$output", .bool true), ("a", .list [.int 1, .map [("b", .str "x")]])]) + 1 ≤ 7 := by
  decide

/-- what `filterOutput'` keeps contains no `$output: false` marker and no null (`C11_hidden_absent_partial`) -/
theorem S_C11_hidden_absent (v r : Val) (hw : v.WF) {fuel : Nat} (h : 2 * Go.depth v + 1 ≤ fuel)
    (hf : filterOutput' fuel v = .ok (r, none)) (hv : hidden v = false) :
    hasOutFalse r = false ∧ noNull r = true := by
  obtain ⟨o, ho, rfl⟩ := (S_C11_ok_iff v r hw h).1 hf
  cases o with
  | none => rw [(C11_hide_spec v none ho).1 rfl] at hv; cases hv
  | some r' => exact C11_hidden_absent_partial v r' hw ho

example : Val.WF (.map [("a", .null), ("c", .int 1)]) ∧ hidden (.map [("a", .null), ("c", .int 1)]) = false ∧
    filterOutput' 3 (.map [("a", .null), ("c", .int 1)]) = .ok (.map [("c", .int 1)], none) := by
  refine ⟨by decide, by decide, by rfl⟩


end Bkl.Gen.Lib
