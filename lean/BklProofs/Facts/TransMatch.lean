/-
  Translation equivalence, match.go: the Lean definitions that harness/cmd/gotrans writes from /repo's CURRENT
  match.go (Generated/Trans/Match.lean, regenerated on every run) compute the model's `matchV`
  (Bkl/Match.lean).  No well-formedness hypothesis is needed: `fdel` erases EVERY entry with the key, the model's
  `matchFields … true` skips EVERY `$invert` entry, so the two agree on maps with repeated keys as well.
-/
import Generated.Trans.Match
import BklProofs.Facts.TransUtil
import BklProofs.Lemmas.Match
namespace Bkl.Gen.Lib
open Bkl Go

/-! ## one step of the model's `matchFields` in the spelling of the Go loop (`mapIndex`); the other equations of `matchV`:
    Lemmas/Match -/

theorem matchFields_false_cons (okvs : Fields) (k : String) (v : Val) (rest : Fields) :
    matchFields okvs false ((k, v) :: rest) = (matchV (mapIndex okvs k) v && matchFields okvs false rest) := rfl

/-- matchListSingle: `for _, ov := range obj { if match(ov, pat) { return true } }; return false` -/
theorem matchListSingle_loop (fuel : Nat) (os : List Val) (pat : Val)
    (hall : ∀ o ∈ os, match' fuel o pat = .ok (matchV o pat)) :
    matchListSingle' (fuel + 1) os pat = .ok (os.any (fun o => matchV o pat)) := by
  unfold matchListSingle'
  rw [forRange_any (fun o => matchV o pat) true os _ (fun o ho => by rw [hall o ho])]
  cases os.any _ <;> rfl

/-- matchList: `for _, pv := range pat { if !matchListSingle(objList, pv) { return false } }; return true` -/
theorem matchList_loop (fuel : Nat) (obj : Val) (ps : List Val)
    (hall : ∀ p ∈ ps, ∀ (os : List Val), matchListSingle' fuel os p = .ok (os.any (fun o => matchV o p))) :
    matchList' (fuel + 1) obj ps = .ok (matchV obj (.list ps)) := by
  unfold matchList'
  cases obj with
  | list os =>
    simp only [Go.asList, matchV, if_true]
    rw [forRange_unique (fun ps _ => .ok (if matchAll os ps then .inl () else .inr false)) _ ps (fun _ => rfl)
      (fun p hp ps _ => ?_)]
    · cases matchAll os ps <;> rfl
    · rw [hall p hp, matchAll]
      cases os.any (fun o => matchV o p) <;> rfl
  | _ => rfl

/-- the `for pk, pv := range pat` loop of matchMap -/
theorem matchMap_fields_loop (fuel : Nat) (okvs pkvs : Fields)
    (hall : ∀ p ∈ pkvs, ∀ o, match' fuel o p.2 = .ok (matchV o p.2))
    (body : String × Val → Unit → G (Loop Unit Bool))
    (hbody : ∀ p, body p () = (match match' fuel (mapIndex okvs p.1) p.2 with
      | .error e => .error e
      | .ok r => if r then .ok (.next ()) else .ok (.ret false))) :
    forRange pkvs () body = .ok (if matchFields okvs false pkvs then .inl () else .inr false) :=
  forRange_unique (fun pkvs _ => .ok (if matchFields okvs false pkvs then .inl () else .inr false)) body pkvs
    (fun _ => rfl)
    (fun p hp rest _ => by
      rw [hbody, hall p hp, matchFields_false_cons]
      cases matchV (mapIndex okvs p.1) p.2 <;> rfl) ()

theorem matchMap_noinv (fuel : Nat) (obj : Val) (pkvs : Fields)
    (hinv : fhasBool pkvs "$invert" true = false)
    (hall : ∀ p ∈ pkvs, ∀ o, match' fuel o p.2 = .ok (matchV o p.2)) :
    matchMap' (fuel + 1) obj pkvs = .ok (matchV obj (.map pkvs)) := by
  rw [matchV_map_noinv obj pkvs hinv]
  unfold matchMap'
  simp only [T_popMapBoolValue_eq, hinv, Bool.false_eq_true, if_false]
  cases obj with
  | map okvs =>
    simp only [Go.asMap, if_true, int_ofNat_beq_one, isPlaceholder_eq]
    rw [matchMap_fields_loop fuel okvs pkvs hall _ (fun p => rfl), forRange_any (fun kv => kv.1 == "$merge" || kv.1 == "$replace" || kv.1 == "$encode") false okvs _
      (fun p _ => rfl)]
    cases okvs.length == 1 <;> cases okvs.any _ <;> cases matchFields okvs false pkvs <;> rfl
  | _ => rfl

/-- matchMap in general: one more level of fuel for the call on the popped pattern -/
theorem matchMap_step (f : Nat) (obj : Val) (pkvs : Fields)
    (hall : ∀ f', f ≤ f' → ∀ p ∈ pkvs, ∀ o, match' f' o p.2 = .ok (matchV o p.2)) :
    matchMap' (f + 2) obj pkvs = .ok (matchV obj (.map pkvs)) := by
  cases hinv : fhasBool pkvs "$invert" true with
  | false => exact matchMap_noinv (f + 1) obj pkvs hinv (hall (f + 1) (Nat.le_succ f))
  | true =>
    have hrec := matchMap_noinv f obj (fdel pkvs "$invert") (fhasBool_fdel_same _ _ _)
      (fun p hp => hall f (Nat.le_refl f) p (mem_fdel hp))
    rw [matchV_map_inv obj pkvs hinv, matchMap']
    simp only [T_popMapBoolValue_eq, hinv, if_true, hrec]

/-- match.go:match, as translated from the current source, is the model's `matchV` -/
theorem T_match_eq (obj pat : Val) (fuel : Nat) (h : 3 * Go.depth pat + 1 ≤ fuel) :
    match' fuel obj pat = .ok (matchV obj pat) := by
  refine Go.fuel_induction 3 (P := fun fuel pat => ∀ obj, match' fuel obj pat = .ok (matchV obj pat))
    (fun f pat h0 obj => ?_) (fun f kvs ih obj => ?_) (fun f xs ih obj => ?_) pat fuel h obj
  · cases pat with
    | map _ | list _ => cases h0
    | _ => simp only [match', matchV]
  · simp only [match', matchMap_step f obj kvs fun f' hf' p hp o =>
      ih p.2 (Go.depth_le_of_mem_fields (k := p.1) hp) f' hf' o]
  · simp only [match', matchList_loop (f + 1) obj xs fun p hp os =>
      matchListSingle_loop f os p fun o _ => ih p (Go.depth_le_of_mem_list hp) f (Nat.le_refl f) o]

/-- match.go:matchMap -/
theorem T_matchMap_eq (obj : Val) (pat : Fields) (fuel : Nat) (h : 3 * Go.depthFields pat + 3 ≤ fuel) :
    matchMap' fuel obj pat = .ok (matchV obj (.map pat)) := by
  obtain ⟨f, rfl⟩ := Nat.exists_eq_add_of_le' (Nat.le_trans (Nat.le_add_left 2 _) h)
  refine matchMap_step f obj pat (fun f' hf' p hp o => T_match_eq o p.2 f' ?_)
  have := Go.depth_le_of_mem_fields (k := p.1) (v := p.2) hp
  omega

/-- match.go:matchListSingle -/
theorem T_matchListSingle_eq (objs : List Val) (pat : Val) (fuel : Nat) (h : 3 * Go.depth pat + 2 ≤ fuel) :
    matchListSingle' fuel objs pat = .ok (objs.any (fun o => matchV o pat)) := by
  obtain ⟨f, rfl⟩ := Nat.exists_eq_add_one_of_ne_zero (Nat.ne_zero_of_lt h)
  exact matchListSingle_loop f objs pat (fun o _ => T_match_eq o pat f (by omega))

/-- match.go:matchList -/
theorem T_matchList_eq (obj : Val) (pat : List Val) (fuel : Nat) (h : 3 * Go.depthList pat + 3 ≤ fuel) :
    matchList' fuel obj pat = .ok (matchV obj (.list pat)) := by
  obtain ⟨f, rfl, hf⟩ := Go.fuel_of_mem_list h
  exact matchList_loop f obj pat fun p hm os => T_matchListSingle_eq os p f (hf p hm)

/-! ## instances: the bounds are met by real inputs, the bound of `T_match_eq` is sharp, and repeated keys in the
    pattern (not well-formed) are handled alike by both sides (hence no `Val.WF` hypothesis) -/

example : 3 * Go.depth (.map [("$invert", .bool true), ("a", .list [.int 1])]) + 1 ≤ 7 := by decide

example : match' 7 (.map [("a", .list [.int 2, .int 1])]) (.map [("$invert", .bool true), ("a", .list [.int 1])])
    = .ok false := by
  rw [T_match_eq _ _ _ (by decide)]; exact congrArg Except.ok (by decide)

/-- one unit of fuel less than the bound of `T_match_eq` is not enough (depth 1, `$invert: true`) -/
example : match' 3 (.map [("a", .int 1)]) (.map [("$invert", .bool true), ("a", .int 1)]) = .error GErr.fuel := by
  rfl

/-- a pattern with the key `$invert` twice: Go's `delete` (`fdel`) and the model's skip both drop every entry -/
example : match' 4 (.map [("a", .int 1)]) (.map [("$invert", .bool true), ("$invert", .bool false), ("a", .int 1)])
    = .ok (matchV (.map [("a", .int 1)]) (.map [("$invert", .bool true), ("$invert", .bool false), ("a", .int 1)])) :=
  T_match_eq _ _ _ (by decide)

example : matchV (.map [("a", .int 1)]) (.map [("$invert", .bool true), ("$invert", .bool false), ("a", .int 1)])
    = false := by decide

end Bkl.Gen.Lib
