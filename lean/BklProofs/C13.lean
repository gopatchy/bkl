/-
  C13 — "Interpolation and $env substitute exactly the referenced values".
  Model: `scanClose`, `scanSegs`, `interpSegs`, `interpBody`, `process2String`, `getWithVar`,
  `getVar`, and the key handling of `process2` (Bkl/Process2.lean).
  Specification side (`render`, `Canonical`, `interpSeg`, `interpSpec`, `envWF`) is defined in
  BklProofs/Lemmas/Interp.lean; `C13_scan_spec` and `C13_interp_no_fuel` stand there too, next to the
  scanner and `process2String` lemmas they follow from, and so do the texts substituted for a reference
  (`cx_substSeg`, `inertStr`).  The model of `os.Environ()` (`envOfEnviron`) is in BklProofs/Lemmas/C13Environ.lean.
-/
import BklProofs.Lemmas.Process2
import BklProofs.Lemmas.C13Environ
import BklProofs.Lemmas.Escape
namespace Bkl

/-- Nothing is lost or invented, for arbitrary input: the segments render back to the input
    (the fuel `length + 1` used by `interpSegs` is sufficient). -/
theorem C13_scan_render (cs : List Char) : render (interpSegs cs) = cs := by
  unfold interpSegs
  rw [render_scanSegs _ _ _ (Nat.le_succ _)]
  rfl

/-- non-vacuity / tests -/
example : Canonical [.lit "a}:b ".toList, .ref "x.y".toList, .ref "$env:Z".toList, .lit "!".toList] := by
  simp [Canonical, startsLit]
example : interpSegs "a}:b {x.y}{$env:Z}!".toList
    = [.lit "a}:b ".toList, .ref "x.y".toList, .ref "$env:Z".toList, .lit "!".toList] := by
  decide +kernel
example : interpSegs "{a\nb} {c".toList = [.lit "{a\nb} {c".toList] := by decide +kernel

/-- `process2String` on `$"…"` is the explicit specification `interpSpec` on the scanned body:
    each literal is copied, each `{r}` is replaced by `fmtV` of `getWithVar root docs ec r`
    (after one more `process2String fuel` pass when that value is a string); the parts are
    concatenated. -/
theorem C13_interp_spec (fuel : Nat) (docs : List Val) (root : Val) (ec : Vars) (s : String)
    (body : List Char) (hb : interpBody s = some body) :
    process2String (fuel + 1) docs root ec s = interpSpec fuel docs root ec (interpSegs body) :=
  process2String_interp_eq fuel docs root ec s body hb

example : interpBody "$\"a{b}\"" = some "a{b}".toList := by decide

/-- A reference that cannot be resolved makes the whole string an error — never an empty
    substitution. -/
theorem C13_missing_is_error (fuel : Nat) (docs : List Val) (root : Val) (ec : Vars) (s : String)
    (body : List Char) (hb : interpBody s = some body) (r : List Char) (e : Err)
    (hr : Seg.ref r ∈ interpSegs body)
    (he : getWithVar root docs ec (String.ofList r) = .error e) :
    ∃ e', process2String (fuel + 1) docs root ec s = .error e' := by
  rw [C13_interp_spec fuel docs root ec s body hb]
  obtain ⟨e', h⟩ := mapM_error_of_mem (interpSeg fuel docs root ec) (interpSegs body) hr
    (show interpSeg fuel docs root ec (Seg.ref r) = .error e by simp [interpSeg, he])
  exact ⟨e', by simp [interpSpec, h]⟩

/-- `getWithVar` fails (with a modelled error) only if the path lookup failed and the variable
    is unbound; the error is then `variableNotFound`. -/
theorem C13_getWithVar_error (root : Val) (docs : List Val) (ec : Vars) (m : String) (e : Err)
    (h : getWithVar root docs ec m = .error e) (hu : e ≠ .unmodelled) :
    (∃ e', get root docs (.str m) = .error e') ∧ fget ec m = none ∧ e = .variableNotFound := by
  cases hg : get root docs (.str m) with
  | ok v => rw [getWithVar_of_get_ok ec hg] at h; cases h
  | error e' =>
    refine ⟨⟨e', rfl⟩, ?_⟩
    by_cases hu' : e' = .unmodelled
    · subst hu'
      rw [getWithVar_of_get_unmodelled ec hg] at h
      exact absurd (Except.error.inj h).symm hu
    · rw [getWithVar_of_get_error ec hg hu'] at h
      cases hf : fget ec m with
      | none => rw [getVar_none hf] at h; exact ⟨rfl, (Except.error.inj h).symm⟩
      | some v => rw [getVar_some hf] at h; cases h

/-- conversely a bound variable always rescues a failed path lookup -/
theorem C13_getWithVar_var (root : Val) (docs : List Val) (ec : Vars) (m : String) (v : Val) (e : Err)
    (hg : get root docs (.str m) = .error e) (hu : e ≠ .unmodelled) (hv : fget ec m = some v) :
    getWithVar root docs ec m = .ok v := by
  rw [getWithVar_of_get_error ec hg hu, getVar_some hv]

/-- A reference that is a single plain key (`isPlainRef`, no '.') is replaced by exactly the
    value stored under that key in the referencing document … -/
theorem C13_ref_simple_key (kvs : Fields) (docs : List Val) (ec : Vars) (k : String) (v : Val)
    (h1 : isPlainRef k = true) (h2 : '.' ∉ k.toList) (hv : fget kvs k = some v) :
    getWithVar (.map kvs) docs ec k = .ok v :=
  getWithVar_simple_key kvs docs ec k v h1 h2 hv

/-- … and, when the document has no such key, by the variable of that name, if any -/
theorem C13_ref_simple_key_missing (kvs : Fields) (docs : List Val) (ec : Vars) (k : String)
    (h1 : isPlainRef k = true) (h2 : '.' ∉ k.toList) (hv : fget kvs k = none) :
    getWithVar (.map kvs) docs ec k = getVar ec k :=
  getWithVar_of_get_error ec (e := .refNotFound)
    (by rw [get_simple_key _ _ _ h1 h2]; simp [getPath, hv]; rfl) (by decide)

example : isPlainRef "a" = true ∧ '.' ∉ "a".toList ∧ fget [("a", Val.int 5)] "a" = some (.int 5) :=
  ⟨isPlainRef_a, by decide, by decide⟩

/-- non-vacuity of the hypotheses of `C13_getWithVar_error` / `C13_getWithVar_var` -/
example : getWithVar (.map []) [] [] "a" = .error .variableNotFound ∧
    Err.variableNotFound ≠ .unmodelled := by
  refine ⟨?_, by decide⟩
  rw [C13_ref_simple_key_missing _ _ _ _ isPlainRef_a (by decide) (by decide)]; rfl
example : get (.map []) [] (.str "a") = .error .refNotFound ∧ Err.refNotFound ≠ .unmodelled ∧
    fget [("a", Val.int 1)] "a" = some (.int 1) := by
  refine ⟨?_, by decide, by decide⟩
  rw [get_simple_key _ _ _ isPlainRef_a (by decide)]; rfl

/-- end-to-end test: `$"x={a}!"` in the document `{a: 5}` is `"x=5!"` -/
example : process2String 1 [] (.map [("a", .int 5)]) [] "$\"x={a}!\"" = .ok (.str "x=5!") := by
  rw [C13_interp_spec 0 _ _ _ _ "x={a}!".toList (by decide +kernel)]
  have hg : getWithVar (.map [("a", .int 5)]) [] [] "a" = .ok (.int 5) :=
    C13_ref_simple_key _ _ _ _ _ isPlainRef_a (by decide) (by decide +kernel)
  rw [show interpSegs "x={a}!".toList = [.lit "x=".toList, .ref "a".toList, .lit "!".toList] by
    decide +kernel]
  simp only [interpSpec, List.mapM_cons, List.mapM_nil, interpSeg, String.ofList_toList, hg, ok_bind,
    pure, Except.pure]
  exact congrArg Except.ok (by decide +kernel)

/-- end-to-end test: an unresolvable reference is an error -/
example : ∃ e, process2String 1 [] (.map [("a", .int 5)]) [] "$\"x={1}!\"" = .error e := by
  refine C13_missing_is_error 0 _ _ _ _ "x={1}!".toList (by decide +kernel) "1".toList .unmodelled
    (by decide +kernel) ?_
  simp [getWithVar, get, getPathFromString, parseRef, isPlainRef, flowItems]
  rfl

/-! ## `$env:NAME` -/

/-- `$env:NAME` (for every NAME: such a string is never of the `$"…"` form) is a plain variable
    lookup, whatever the fuel. -/
theorem C13_env_is_lookup (fuel : Nat) (docs : List Val) (root : Val) (ec : Vars) (name : String) :
    interpBody ("$env:" ++ name) = none ∧
    process2String fuel docs root ec ("$env:" ++ name) = getVar ec ("$env:" ++ name) :=
  ⟨interpBody_env name, process2String_env fuel docs root ec name⟩

theorem C13_env_bound (fuel : Nat) (docs : List Val) (root : Val) (ec : Vars) (name : String) (v : Val)
    (h : fget ec ("$env:" ++ name) = some v) :
    process2String fuel docs root ec ("$env:" ++ name) = .ok v := by
  rw [(C13_env_is_lookup fuel docs root ec name).2, getVar_some h]

theorem C13_env_unbound (fuel : Nat) (docs : List Val) (root : Val) (ec : Vars) (name : String)
    (h : fget ec ("$env:" ++ name) = none) :
    process2String fuel docs root ec ("$env:" ++ name) = .error .variableNotFound := by
  rw [(C13_env_is_lookup fuel docs root ec name).2, getVar_none h]

/-- if the environment is well formed (every `$env:` variable is a string), the result of
    `$env:NAME` is a string or `variableNotFound` -/
theorem C13_env_is_string (fuel : Nat) (docs : List Val) (root : Val) (ec : Vars) (name : String)
    (hwf : envWF ec) :
    (∃ s, process2String fuel docs root ec ("$env:" ++ name) = .ok (.str s)) ∨
    process2String fuel docs root ec ("$env:" ++ name) = .error .variableNotFound := by
  cases h : fget ec ("$env:" ++ name) with
  | none => exact Or.inr (C13_env_unbound fuel docs root ec name h)
  | some v =>
    obtain ⟨s, rfl⟩ := hwf _ _ h (startsWith_env name)
    exact Or.inl ⟨s, C13_env_bound fuel docs root ec name _ h⟩

example : envWF [("$env:HOME", .str "/root"), ("$repeat", .int 1)] := by
  intro k v h hk
  have hm := fget_mem h
  simp only [List.mem_cons, Prod.mk.injEq, List.mem_nil_iff, or_false] at hm
  rcases hm with ⟨rfl, rfl⟩ | ⟨rfl, rfl⟩
  · exact ⟨_, rfl⟩
  · rw [e_startsWith_false (by decide)] at hk
    cases hk

/-! ## strings that are left alone -/

theorem C13_plain_string_untouched (fuel : Nat) (docs : List Val) (root : Val) (ec : Vars) (s : String)
    (h1 : interpBody s = none) (h2 : s.startsWith "$env:" = false) (h3 : s ≠ "$repeat") :
    process2String fuel docs root ec s = .ok (.str s) :=
  process2String_plain fuel docs root ec s h1 h2 h3

example : interpBody "hello {x}" = none ∧ "hello {x}".startsWith "$env:" = false
    ∧ "hello {x}" ≠ "$repeat" := by
  refine ⟨by decide, by simp, by decide⟩

/-! ## `$env:` in a map key -/

/-- `{"$env:NAME": v}` with `v` a non-null, non-string scalar: the key is replaced by the value
    of NAME when that is a string; unbound → `variableNotFound`; bound to a non-string →
    `invalidType`. -/
theorem C13_env_in_key (fuel : Nat) (docs : List Val) (root : Val) (ec : Vars) (name : String)
    (v : Val) (hv : (∃ b, v = .bool b) ∨ (∃ i, v = .int i) ∨ (∃ r, v = .flt r)) :
    process2 (fuel + 2) docs root ec (.map [("$env:" ++ name, v)]) =
      match fget ec ("$env:" ++ name) with
      | some (.str k2) => .ok (.map [(k2, v)])
      | some _ => .error .invalidType
      | none => .error .variableNotFound := by
  have hval : process2 (fuel + 1) docs root ec v = .ok v ∧ v.isNull = false ∧ lacksKey "$repeat" v := by
    rcases hv with ⟨b, rfl⟩ | ⟨i, rfl⟩ | ⟨r, rfl⟩ <;>
      exact ⟨process2_scalar _ _ _ _ rfl rfl rfl, rfl, fun _ e => by cases e⟩
  rw [process2_single_entry (fuel + 1) docs root ec _ v v hval.2.2 hval.1 hval.2.1
    ⟨env_ne name _ (by decide), env_ne name _ (by decide), env_ne name _ (by decide)⟩,
    process2_str_eq, (C13_env_is_lookup _ docs root ec name).2, getVar]
  cases fget ec ("$env:" ++ name) with
  | none => rfl
  | some w => cases w <;> rfl

example : fget [("$env:X", Val.str "k")] ("$env:" ++ "X") = some (.str "k") := by decide

/-! ## substitution is single-pass: substituted text is not rescanned, but a referenced string
    value is itself evaluated (once) before it is substituted

  (`cx_substSeg`, `substSegChars`, `substStrChars`, the text put in place of a segment, and `inertStr`: BklProofs/Lemmas/Interp.lean) -/

/-- What `process2String` does with each referenced value `v`
    (`getWithVar`): a NON-string `v` (number, list, map …) is formatted with `%v` as it is —
    nothing inside it is evaluated; a string `v = s2` is first evaluated by one more
    `process2String` pass (so a referenced `$"…"` or `$env:…` string is replaced by ITS value,
    with one unit of fuel less), and that result `ev r` is formatted.  The output is the
    concatenation, in order, of the literals and these texts; nothing else happens to it. -/
theorem C13_nested_value (fuel : Nat) (docs : List Val) (root : Val) (ec : Vars) (s : String)
    (body : List Char) (hb : interpBody s = some body) (ev : List Char → Val)
    (h : ∀ r, Seg.ref r ∈ interpSegs body →
      ∃ v, getWithVar root docs ec (String.ofList r) = .ok v ∧
        (((∀ s2, v ≠ .str s2) ∧ ev r = v) ∨
          ∃ s2, v = .str s2 ∧ process2String fuel docs root ec s2 = .ok (ev r))) :
    process2String (fuel + 1) docs root ec s =
      .ok (.str (String.join ((interpSegs body).map (cx_substSeg ev)))) ∧
    (String.join ((interpSegs body).map (cx_substSeg ev))).toList =
      (interpSegs body).flatMap (substSegChars ev) := by
  refine ⟨?_, toList_join_substSeg ev _⟩
  rw [process2String_interp_eq fuel docs root ec s body hb]
  exact interpSpec_subst fuel docs root ec _ ev h

/-- Substituted values are NOT rescanned: when every reference `{r}` of the
    template resolves to a string `sv r` that is not itself a directive string (`inertStr`; its
    characters are otherwise arbitrary — braces, `{b}`, quotes, newlines …), the result is
    exactly the literals and the `sv r` concatenated in order, character for character. -/
theorem C13_no_rescan (fuel : Nat) (docs : List Val) (root : Val) (ec : Vars) (s : String)
    (body : List Char) (hb : interpBody s = some body) (sv : List Char → String)
    (h : ∀ r, Seg.ref r ∈ interpSegs body →
      getWithVar root docs ec (String.ofList r) = .ok (.str (sv r)) ∧ inertStr (sv r)) :
    ∃ t, process2String (fuel + 1) docs root ec s = .ok (.str t) ∧
      t.toList = (interpSegs body).flatMap (substStrChars sv) := by
  obtain ⟨h1, h2⟩ := C13_nested_value fuel docs root ec s body hb (fun r => .str (sv r))
    (fun r hr => ⟨.str (sv r), (h r hr).1,
      Or.inr ⟨sv r, rfl, process2String_plain fuel docs root ec _ (h r hr).2.1 (h r hr).2.2.1 (h r hr).2.2.2⟩⟩)
  exact ⟨_, h1, by rw [h2, substSegChars_str]⟩

/-- the same for an explicitly given canonical segment list `segs` (literals `l_i`, references
    `r_i`): `$"` ++ render segs ++ `"` evaluates to `l_0 s_1 l_1 … s_n l_n` -/
theorem C13_no_rescan_canonical (fuel : Nat) (docs : List Val) (root : Val) (ec : Vars)
    (segs : List Seg) (hc : Canonical segs) (sv : List Char → String)
    (h : ∀ r, Seg.ref r ∈ segs →
      getWithVar root docs ec (String.ofList r) = .ok (.str (sv r)) ∧ inertStr (sv r)) :
    ∃ t, process2String (fuel + 1) docs root ec
        (String.ofList ('$' :: '"' :: (render segs ++ ['"']))) = .ok (.str t) ∧
      t.toList = segs.flatMap (substStrChars sv) := by
  have hs := C13_scan_spec segs hc
  have := C13_no_rescan fuel docs root ec _ (render segs) (interpBody_quoted _) sv
    (by rw [hs]; exact h)
  rwa [hs] at this

/-- non-vacuity: a canonical template, and a substituted string full of braces -/
example : Canonical [.ref "a".toList, .lit " and ".toList, .ref "b".toList] ∧
    inertStr "<{b}>" ∧ inertStr "}{\n{a}$\"" := by
  refine ⟨by simp [Canonical, startsLit], ⟨by decide, by simp, by decide⟩,
    ⟨by decide, by simp, by decide⟩⟩

/-- The concrete document `a: "<{b}>", b: "B", c: $"{a} and {b}"`: the value of `a` contains
    the brace text `{b}`; it is substituted verbatim, NOT expanded again. -/
theorem C13_no_rescan_example (fuel : Nat) :
    let root : Val := .map [("a", .str "<{b}>"), ("b", .str "B"), ("c", .str "$\"{a} and {b}\"")]
    process2 (fuel + 3) [] root [] root =
      .ok (.map [("a", .str "<{b}>"), ("b", .str "B"), ("c", .str "<{b}> and B")]) := by
  intro root
  have hin := fun (x : String) hx n => process2_str_nodollar n [] root [] x hx
  have hga : getWithVar root [] [] (String.ofList "a".toList) = .ok (.str "<{b}>") :=
    getWithVar_simple_key _ _ _ _ _ isPlainRef_a (by decide) (by decide +kernel)
  have hgb : getWithVar root [] [] (String.ofList "b".toList) = .ok (.str "B") :=
    getWithVar_simple_key _ _ _ _ _ (by decide +kernel) (by decide) (by decide +kernel)
  have hc : process2 (fuel + 2) [] root [] (.str "$\"{a} and {b}\"") = .ok (.str "<{b}> and B") :=
    (process2String_parts [.ref "a".toList, .lit " and ".toList, .ref "b".toList] (by decide +kernel)
      (.cons (interpSeg_ref_str hga (process2String_nodollar _ _ _ _ _ (by decide +kernel)))
        (.cons rfl (.cons (interpSeg_ref_str hgb (process2String_nodollar _ _ _ _ _ (by decide +kernel)))
          .nil)))).trans (congrArg Except.ok (by decide +kernel))
  exact (process2_map_closed (by decide +kernel) (by decide +kernel)
    (.cons (entryOut_ok (hin _ (by decide +kernel) _) rfl (hin _ (by decide +kernel) _))
      (.cons (entryOut_ok (hin _ (by decide +kernel) _) rfl (hin _ (by decide +kernel) _))
        (.cons (entryOut_ok hc rfl (hin _ (by decide +kernel) _)) .nil)))).trans
    (congrArg Except.ok (congrArg Val.map (by decide +kernel)))

/-- Contrast: when `a` is itself an interpolation, `a: $"<{b}>", b: "B", c: $"{a} and {b}"`,
    the referenced value is evaluated first, so `c` becomes `<B> and B`. -/
theorem C13_nested_value_example (fuel : Nat) :
    let root : Val :=
      .map [("a", .str "$\"<{b}>\""), ("b", .str "B"), ("c", .str "$\"{a} and {b}\"")]
    process2 (fuel + 4) [] root [] root =
      .ok (.map [("a", .str "<B>"), ("b", .str "B"), ("c", .str "<B> and B")]) := by
  intro root
  have hin := fun (x : String) hx n => process2_str_nodollar n [] root [] x hx
  have hga : getWithVar root [] [] (String.ofList "a".toList) = .ok (.str "$\"<{b}>\"") :=
    getWithVar_simple_key _ _ _ _ _ isPlainRef_a (by decide) (by decide +kernel)
  have hgb : getWithVar root [] [] (String.ofList "b".toList) = .ok (.str "B") :=
    getWithVar_simple_key _ _ _ _ _ (by decide +kernel) (by decide) (by decide +kernel)
  have hb : ∀ n, interpSeg n [] root [] (.ref "b".toList) = .ok "B" := fun n =>
    interpSeg_ref_str hgb (process2String_nodollar _ _ _ _ _ (by decide +kernel))
  have ha : ∀ n, process2String (n + 1) [] root [] "$\"<{b}>\"" = .ok (.str "<B>") := fun n =>
    (process2String_parts [.lit "<".toList, .ref "b".toList, .lit ">".toList] (by decide +kernel)
      (.cons rfl (.cons (hb n) (.cons rfl .nil)))).trans (congrArg Except.ok (by decide +kernel))
  have hc : process2 (fuel + 3) [] root [] (.str "$\"{a} and {b}\"") = .ok (.str "<B> and B") :=
    (process2String_parts [.ref "a".toList, .lit " and ".toList, .ref "b".toList] (by decide +kernel)
      (.cons (interpSeg_ref_str hga (ha _)) (.cons rfl (.cons (hb _) .nil)))).trans
      (congrArg Except.ok (by decide +kernel))
  exact (process2_map_closed (by decide +kernel) (by decide +kernel)
    (.cons (entryOut_ok ((process2_str_eq ..).trans (ha _)) rfl (hin _ (by decide +kernel) _))
      (.cons (entryOut_ok (hin _ (by decide +kernel) _) rfl (hin _ (by decide +kernel) _))
        (.cons (entryOut_ok hc rfl (hin _ (by decide +kernel) _)) .nil)))).trans
    (congrArg Except.ok (congrArg Val.map (by decide +kernel)))

/-- A referenced `$env:` string is evaluated too (to the variable's value), and THAT text is
    again not rescanned: with `X = "{b}"`, `a: $env:X, b: "B"`, the string `$"{a}!"` is `{b}!`.
    A referenced NON-string is formatted raw: with `l: [$env:X]`, `$"{l}"` is `[$env:X]`
    (although the entry `l` itself evaluates to `["{b}"]`). -/
theorem C13_nested_env_example (fuel : Nat) :
    let root : Val := .map [("a", .str "$env:X"), ("b", .str "B"), ("l", .list [.str "$env:X"])]
    let ec : Vars := [("$env:X", .str "{b}")]
    process2String (fuel + 2) [] root ec "$\"{a}!\"" = .ok (.str "{b}!") ∧
    process2String (fuel + 2) [] root ec "$\"{l}\"" = .ok (.str "[$env:X]") ∧
    process2 (fuel + 2) [] root ec (.list [.str "$env:X"]) = .ok (.list [.str "{b}"]) := by
  intro root ec
  have hga : getWithVar root [] ec (String.ofList "a".toList) = .ok (.str "$env:X") :=
    getWithVar_simple_key _ _ _ _ _ isPlainRef_a (by decide) (by decide +kernel)
  have hgl : getWithVar root [] ec (String.ofList "l".toList) = .ok (.list [.str "$env:X"]) :=
    getWithVar_simple_key _ _ _ _ _ (by decide +kernel) (by decide) (by decide +kernel)
  have henv : ∀ n, process2String n [] root ec "$env:X" = .ok (.str "{b}") := fun n =>
    C13_env_bound n [] root ec "X" _ (by decide +kernel)
  refine ⟨?_, ?_, ?_⟩
  · exact (process2String_parts [.ref "a".toList, .lit "!".toList] (by decide +kernel)
      (.cons (interpSeg_ref_str hga (henv _)) (.cons rfl .nil))).trans (congrArg Except.ok (by decide +kernel))
  · exact (process2String_parts [.ref "l".toList] (by decide +kernel)
      (.cons (interpSeg_ref_val hgl nofun) .nil)).trans (congrArg Except.ok (by decide +kernel))
  · rw [process2_list_plain _ _ _ _ _ (fun x hx m e => by cases List.mem_singleton.1 hx; cases e)
      (fun x hx m e => by cases List.mem_singleton.1 hx; cases e)]
    simp only [List.mapM_cons, List.mapM_nil, process2_str_eq, henv, ok_bind, pure_bind]
    rfl

/-- The extra evaluation of a referenced string recurses with one unit of fuel less each time;
    a string that references itself (`a: $"{a}"`) therefore ends in `circularRef`, for every
    fuel — it is never substituted unevaluated. -/
theorem C13_nested_self_reference (fuel : Nat) :
    process2String fuel [] (.map [("a", .str "$\"{a}\"")]) [] "$\"{a}\"" = .error .circularRef := by
  have hb : interpBody "$\"{a}\"" = some "{a}".toList := by decide +kernel
  have hg : getWithVar (.map [("a", .str "$\"{a}\"")]) [] [] (String.ofList "a".toList)
      = .ok (.str "$\"{a}\"") :=
    getWithVar_simple_key _ _ _ _ _ (by simpa using isPlainRef_a) (by decide) (by decide +kernel)
  induction fuel with
  | zero => exact C13_interp_no_fuel _ _ _ _ _ hb
  | succ n ih =>
    rw [process2String_interp_eq n _ _ _ _ _ hb,
      show interpSegs "{a}".toList = [.ref "a".toList] by decide +kernel]
    simp only [interpSpec, List.mapM_cons, List.mapM_nil, interpSeg, hg, ih]
    rfl

/-! ## the environment: `envOfEnviron`, evalcontext.go:envVars (defined, with what of the Go text it mirrors, in
    BklProofs/Lemmas/C13Environ.lean) -/

/-- The entry `name=value` (no `=` in `name`) binds
    `$env:name` to EXACTLY `value`, as a string, for every `value`: further `=` signs stay in
    the value (split at the first `=` only), the empty value is the empty string, and a value
    that looks like a number, a directive or an interpolation is still that string — `$env:name`
    evaluates (`process2String`, any fuel, any document) to `.str value`, never anything else. -/
theorem C13_env_value_keeps_equals (name value : String) (hn : '=' ∉ name.toList) :
    wa_envEntry (name ++ "=" ++ value) = some (name, value) ∧
    getVar (envOfEnviron [name ++ "=" ++ value]) ("$env:" ++ name) = .ok (.str value) ∧
    ∀ (fuel : Nat) (docs : List Val) (root : Val),
      process2String fuel docs root (envOfEnviron [name ++ "=" ++ value]) ("$env:" ++ name) =
        .ok (.str value) := by
  have h := wa_fget_envOfEnviron_last [] [] name value hn (fun _ h => nomatch h)
  rw [List.nil_append] at h
  refine ⟨wa_envEntry_mk name value hn, ?_, fun fuel docs root => C13_env_bound fuel docs root _ name _ h⟩
  simp [getVar, h, pure, Except.pure]

/-- non-vacuity: a value with two more `=`, the empty value, a number, a directive look-alike -/
example : getVar (envOfEnviron ["K=a=b=c"]) "$env:K" = .ok (.str "a=b=c") ∧
    getVar (envOfEnviron ["K="]) "$env:K" = .ok (.str "") ∧
    getVar (envOfEnviron ["K=123"]) "$env:K" = .ok (.str "123") ∧
    getVar (envOfEnviron ["K=$env:K"]) "$env:K" = .ok (.str "$env:K") ∧
    getVar (envOfEnviron ["K==="]) "$env:K" = .ok (.str "==") :=
  ⟨(C13_env_value_keeps_equals "K" "a=b=c" (by decide)).2.1,
   (C13_env_value_keeps_equals "K" "" (by decide)).2.1,
   (C13_env_value_keeps_equals "K" "123" (by decide)).2.1,
   (C13_env_value_keeps_equals "K" "$env:K" (by decide)).2.1,
   (C13_env_value_keeps_equals "K" "==" (by decide)).2.1⟩

/-- In a whole environment the LAST entry for a name wins (Go: `vars[k] = v` in `os.Environ()`
    order), again with its value verbatim; the environment is well formed (`envWF`: every
    `$env:` variable is a string) and a key-sorted map. -/
theorem C13_env_last_wins (pre post : List String) (name value : String)
    (hn : '=' ∉ name.toList) (hpost : ∀ e ∈ post, wa_envName e ≠ some name) :
    getVar (envOfEnviron (pre ++ (name ++ "=" ++ value) :: post)) ("$env:" ++ name) =
      .ok (.str value) ∧
    envWF (envOfEnviron (pre ++ (name ++ "=" ++ value) :: post)) ∧
    Fields.SortedKeys (envOfEnviron (pre ++ (name ++ "=" ++ value) :: post)) := by
  refine ⟨?_, wa_envOfEnviron_envWF _, wa_envOfEnviron_sorted _⟩
  simp [getVar, wa_fget_envOfEnviron_last pre post name value hn hpost, pure, Except.pure]

example : getVar (envOfEnviron ["K=old", "J=x=y", "K=new=1", "noequals"]) "$env:K" =
    .ok (.str "new=1") := by
  have h := (C13_env_last_wins ["K=old", "J=x=y"] ["noequals"] "K" "new=1" (by decide) (by
    intro e he
    have : e = "noequals" := by simpa using he
    subst this; decide)).1
  exact h

/-- A name that is not the part before the first `=` of any entry
    of the environment (`wa_envName e ≠ some name` for every entry `e`; this is an iff) is
    unbound, so
    * `$env:name` is the `variableNotFound` error (`C13_env_unbound`), whatever the fuel;
    * as a reference inside an interpolated string, `{$env:name}` — which the document itself
      does not resolve (`get … = .error e₀`) — is `variableNotFound` (or `unmodelled`, when the
      reference string is outside the modelled YAML sub-language), and makes the whole string
      an error: never an empty substitution. -/
theorem C13_env_unset_is_error (environ : List String) (name : String) :
    (fget (envOfEnviron environ) ("$env:" ++ name) = none ↔
      ∀ e ∈ environ, wa_envName e ≠ some name) ∧
    ((∀ e ∈ environ, wa_envName e ≠ some name) →
      (∀ (fuel : Nat) (docs : List Val) (root : Val),
        process2String fuel docs root (envOfEnviron environ) ("$env:" ++ name) =
          .error .variableNotFound) ∧
      (∀ (docs : List Val) (root : Val) (e₀ : Err),
        get root docs (.str ("$env:" ++ name)) = .error e₀ →
          (e₀ ≠ .unmodelled → getWithVar root docs (envOfEnviron environ) ("$env:" ++ name) =
            .error .variableNotFound) ∧
          (∃ e₁, getWithVar root docs (envOfEnviron environ) ("$env:" ++ name) = .error e₁) ∧
          ∀ (fuel : Nat) (s : String) (body : List Char), interpBody s = some body →
            Seg.ref ("$env:" ++ name).toList ∈ interpSegs body →
            ∃ e', process2String (fuel + 1) docs root (envOfEnviron environ) s = .error e')) := by
  refine ⟨wa_fget_envOfEnviron_none_iff environ name, ?_⟩
  intro hun
  have hnone := (wa_fget_envOfEnviron_none_iff environ name).2 hun
  refine ⟨fun fuel docs root => C13_env_unbound fuel docs root _ name hnone, ?_⟩
  intro docs root e₀ hg
  have h1 : e₀ ≠ .unmodelled → getWithVar root docs (envOfEnviron environ) ("$env:" ++ name) =
      .error .variableNotFound :=
    fun hu => (getWithVar_of_get_error _ hg hu).trans (getVar_none hnone)
  have h2 : ∃ e₁, getWithVar root docs (envOfEnviron environ) ("$env:" ++ name) = .error e₁ := by
    by_cases hu : e₀ = .unmodelled
    · subst hu
      exact ⟨.unmodelled, getWithVar_of_get_unmodelled _ hg⟩
    · exact ⟨_, h1 hu⟩
  refine ⟨h1, h2, ?_⟩
  intro fuel s body hb hr
  obtain ⟨e₁, he₁⟩ := h2
  exact C13_missing_is_error fuel docs root _ s body hb _ e₁ hr
    (by rw [String.ofList_toList]; exact he₁)

/-- non-vacuity: `HOME` is not defined by `PATH=/bin`, `HOMER=x`, `XHOME=y`, `=HOME` or by the
    `=`-less entry `HOME`; the document `{}` does not resolve `$env:HOME` either; `$"{$env:HOME}"`
    scans to that one reference -/
example : (∀ e ∈ ["PATH=/bin", "HOMER=x", "XHOME=y", "=HOME", "HOME"], wa_envName e ≠ some "HOME") ∧
    get (.map []) [] (.str ("$env:" ++ "HOME")) = .error .refNotFound ∧
    interpBody "$\"{$env:HOME}\"" = some "{$env:HOME}".toList ∧
    Seg.ref ("$env:" ++ "HOME").toList ∈ interpSegs "{$env:HOME}".toList := by
  refine ⟨by decide +kernel, ?_, by decide +kernel, by decide +kernel⟩
  rw [show "$env:" ++ "HOME" = "$env:HOME" by decide +kernel]
  exact wa_get_envHOME

end Bkl
