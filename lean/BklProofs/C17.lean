/-
  C17 — bklr (`required`) keeps exactly the `$required` skeleton.
  Specification functions (`countReq` in Lemmas/Required, `onlyMarkers`, `keysPlain` here) are defined
  independently of the model; the theorems relate the model (`Bkl.required`, Bkl/Tools.lean) to them.
  Theorems about `Val` come with companions for `List Val` / `Fields` (same name + `_list` /
  `_fields`; for the positions they are `C17_positions_entries` / `C17_positions_fields`, and
  `C17_positions_list` / `C17_positions_map` speak of the values `.list xs` / `.map kvs`), because `Val`
  is a nested inductive: the three are proved together, by `Val.induction₃_atom`, from the equations
  of `required` (Lemmas/Required).
-/
import BklProofs.Lemmas.Output
import BklProofs.Lemmas.Required
import BklProofs.Lemmas.ToolsCliProofs
namespace Bkl

/-! ## Specification functions -/

mutual
/-- every leaf is `.str "$required"`, every container is non-empty -/
def onlyMarkers : Val → Bool
  | .str s => s == "$required"
  | .list xs => !xs.isEmpty && onlyMarkersList xs
  | .map kvs => !kvs.isEmpty && onlyMarkersFields kvs
  | _ => false
def onlyMarkersList : List Val → Bool
  | [] => true
  | x :: xs => onlyMarkers x && onlyMarkersList xs
def onlyMarkersFields : Fields → Bool
  | [] => true
  | (_, v) :: rest => onlyMarkers v && onlyMarkersFields rest
end

/-! ## The result consists of markers only -/

theorem required_onlyMarkers :
    (∀ v r, required v = some r → onlyMarkers r = true) ∧
    (∀ xs, onlyMarkersList (requiredList xs) = true) ∧
    (∀ kvs, onlyMarkersFields (requiredFields kvs) = true) := by
  refine Val.induction₃_atom ?_ ?_ ?_ rfl ?_ rfl ?_
  · intro v h1 h2 r h
    rw [required_atom_eq h1 h2] at h
    split at h <;> cases h
    rename_i hv
    rw [hv]; rfl
  · intro xs ih r h
    rw [required_list] at h
    split at h <;> cases h
    rename_i hne
    rw [onlyMarkers, ih, Bool.and_true, Bool.not_eq_true']
    exact Bool.eq_false_iff.2 hne
  · intro kvs ih r h
    rw [required_map] at h
    split at h <;> cases h
    rename_i hne
    rw [onlyMarkers, ih, Bool.and_true, Bool.not_eq_true']
    exact Bool.eq_false_iff.2 hne
  · intro x xs ih1 ih2
    rw [requiredList_cons]
    cases h : required x with
    | none => exact ih2
    | some r => exact Bool.and_eq_true_iff.2 ⟨ih1 r h, ih2⟩
  · intro k v rest ih1 ih2
    rw [requiredFields_cons]
    cases h : required v with
    | none => exact ih2
    | some r => exact Bool.and_eq_true_iff.2 ⟨ih1 r h, ih2⟩

theorem C17_only_markers : ∀ (v r : Val), required v = some r → onlyMarkers r = true :=
  required_onlyMarkers.1
theorem C17_only_markers_list : ∀ (xs : List Val), onlyMarkersList (requiredList xs) = true :=
  required_onlyMarkers.2.1
theorem C17_only_markers_fields : ∀ (kvs : Fields), onlyMarkersFields (requiredFields kvs) = true :=
  required_onlyMarkers.2.2

example : required (.map [("a", .str "$required"), ("b", .int 1)]) =
    some (.map [("a", .str "$required")]) := by decide

/-! ## The number of markers is preserved -/

theorem required_countReq :
    (∀ v, countReq ((required v).getD .null) = countReq v) ∧
    (∀ xs, countReqList (requiredList xs) = countReqList xs) ∧
    (∀ kvs, countReqFields (requiredFields kvs) = countReqFields kvs) := by
  refine Val.induction₃_atom ?_ ?_ ?_ rfl ?_ rfl ?_
  · intro v h1 h2
    rw [required_atom_eq h1 h2]
    split
    · rfl
    · rename_i hv; rw [countReq_atom_eq h1 h2, if_neg hv]; rfl
  · intro xs ih
    rw [required_list, countReq, ← ih]
    split
    · rename_i he; rw [List.isEmpty_iff.1 he]; rfl
    · rfl
  · intro kvs ih
    rw [required_map, countReq, ← ih]
    split
    · rename_i he; rw [List.isEmpty_iff.1 he]; rfl
    · rfl
  · intro x xs ih1 ih2
    rw [requiredList_cons, countReqList, ← ih1, ← ih2]
    cases required x with
    | none => exact (Nat.zero_add _).symm
    | some r => rfl
  · intro k v rest ih1 ih2
    rw [requiredFields_cons, countReqFields, ← ih1, ← ih2]
    cases required v with
    | none => exact (Nat.zero_add _).symm
    | some r => rfl

theorem C17_count : ∀ (v : Val), countReq ((required v).getD .null) = countReq v :=
  required_countReq.1
theorem C17_count_list : ∀ (xs : List Val), countReqList (requiredList xs) = countReqList xs :=
  required_countReq.2.1
theorem C17_count_fields : ∀ (kvs : Fields), countReqFields (requiredFields kvs) = countReqFields kvs :=
  required_countReq.2.2

theorem C17_count_some (v r : Val) (h : required v = some r) : countReq r = countReq v := by
  have := C17_count v; rwa [h] at this

theorem C17_count_none (v : Val) (h : required v = none) : countReq v = 0 := by
  have := C17_count v; rw [h] at this; exact this.symm

/-! ## Nothing is emitted iff there is no marker -/

theorem required_eq_none_iff :
    (∀ v, required v = none ↔ countReq v = 0) ∧
    (∀ xs, requiredList xs = [] ↔ countReqList xs = 0) ∧
    (∀ kvs, requiredFields kvs = [] ↔ countReqFields kvs = 0) := by
  refine Val.induction₃_atom ?_ ?_ ?_ (iff_of_true rfl rfl) ?_ (iff_of_true rfl rfl) ?_
  · intro v h1 h2
    rw [required_atom_eq h1 h2, countReq_atom_eq h1 h2]
    split <;> simp
  · intro xs ih
    rw [required_list, countReq, ← ih, ← List.isEmpty_iff]
    split <;> simp [*]
  · intro kvs ih
    rw [required_map, countReq, ← ih, ← List.isEmpty_iff]
    split <;> simp [*]
  · intro x xs ih1 ih2
    rw [requiredList_cons, countReqList, Nat.add_eq_zero_iff, ← ih1, ← ih2]
    cases required x <;> simp
  · intro k v rest ih1 ih2
    rw [requiredFields_cons, countReqFields, Nat.add_eq_zero_iff, ← ih1, ← ih2]
    cases required v <;> simp

theorem C17_empty_iff : ∀ (v : Val), required v = none ↔ countReq v = 0 :=
  required_eq_none_iff.1
theorem C17_empty_iff_list : ∀ (xs : List Val), requiredList xs = [] ↔ countReqList xs = 0 :=
  required_eq_none_iff.2.1
theorem C17_empty_iff_fields : ∀ (kvs : Fields), requiredFields kvs = [] ↔ countReqFields kvs = 0 :=
  required_eq_none_iff.2.2

/-! ## Idempotence -/

theorem required_idem :
    (∀ v r, required v = some r → required r = some r) ∧
    (∀ xs, requiredList (requiredList xs) = requiredList xs) ∧
    (∀ kvs, requiredFields (requiredFields kvs) = requiredFields kvs) := by
  refine Val.induction₃_atom ?_ ?_ ?_ rfl ?_ rfl ?_
  · intro v h1 h2 r h
    rw [required_atom_eq h1 h2] at h
    split at h <;> cases h
    rename_i hv
    rw [hv]; rfl
  · intro xs ih r h
    rw [required_list] at h
    split at h <;> cases h
    rename_i hne
    rw [required_list, ih, if_neg hne]
  · intro kvs ih r h
    rw [required_map] at h
    split at h <;> cases h
    rename_i hne
    rw [required_map, ih, if_neg hne]
  · intro x xs ih1 ih2
    rw [requiredList_cons]
    cases h : required x with
    | none => exact ih2
    | some r => rw [requiredList_cons, ih1 r h, ih2]
  · intro k v rest ih1 ih2
    rw [requiredFields_cons]
    cases h : required v with
    | none => exact ih2
    | some r => rw [requiredFields_cons, ih1 r h, ih2]

theorem C17_idempotent : ∀ (v r : Val), required v = some r → required r = some r :=
  required_idem.1
theorem C17_idempotent_list : ∀ (xs : List Val), requiredList (requiredList xs) = requiredList xs :=
  required_idem.2.1
theorem C17_idempotent_fields : ∀ (kvs : Fields),
    requiredFields (requiredFields kvs) = requiredFields kvs :=
  required_idem.2.2

example : required (.list [.map [("a", .str "$required"), ("b", .int 1)], .str "x"]) =
    some (.list [.map [("a", .str "$required")]]) := by decide

/-! ## Positions: which entries survive, in which order, with which values -/

theorem required_some_pos {v r : Val} (h : required v = some r) : 0 < countReq v :=
  Nat.pos_of_ne_zero fun h0 => by rw [(C17_empty_iff v).2 h0] at h; cases h

/-- unconditional form: the surviving entries of a map -/
theorem C17_positions_fields (kvs : Fields) :
    requiredFields kvs =
      (kvs.filter fun kv => decide (0 < countReq kv.2)).map
        fun kv => (kv.1, (required kv.2).getD .null) := by
  induction kvs with
  | nil => rfl
  | cons kv rest ih =>
    obtain ⟨k, v⟩ := kv
    rw [requiredFields_cons, List.filter_cons]
    cases h : required v with
    | none => rw [if_neg (by simp [(C17_empty_iff v).1 h])]; exact ih
    | some r =>
      rw [if_pos (decide_eq_true (required_some_pos h)), List.map_cons, ← ih]
      simp only [h, Option.getD_some]

/-- unconditional form: the surviving entries of a list -/
theorem C17_positions_entries (xs : List Val) :
    requiredList xs =
      (xs.filter fun x => decide (0 < countReq x)).map fun x => (required x).getD .null := by
  induction xs with
  | nil => rfl
  | cons x rest ih =>
    rw [requiredList_cons, List.filter_cons]
    cases h : required x with
    | none => rw [if_neg (by simp [(C17_empty_iff x).1 h])]; exact ih
    | some r =>
      rw [if_pos (decide_eq_true (required_some_pos h)), List.map_cons, ← ih]
      simp only [h, Option.getD_some]

/-- The result for a map keeps exactly the entries whose value contains a marker, in the original
    order, each value replaced by its own `required` image. -/
theorem C17_positions_map (kvs rs : Fields) (h : required (.map kvs) = some (.map rs)) :
    rs = (kvs.filter fun kv => decide (0 < countReq kv.2)).map
          fun kv => (kv.1, (required kv.2).getD .null) := by
  rw [← C17_positions_fields]
  rw [required_map] at h
  split at h <;> cases h
  rfl

/-- keys of the result = keys of the marker-carrying entries, same order -/
theorem C17_positions_map_keys (kvs rs : Fields) (h : required (.map kvs) = some (.map rs)) :
    rs.map (·.1) = (kvs.filter fun kv => decide (0 < countReq kv.2)).map (·.1) := by
  rw [C17_positions_map kvs rs h, List.map_map]; rfl

/-- every value of the result is `required` of an original value under the same key -/
theorem C17_positions_map_values (kvs rs : Fields) (h : required (.map kvs) = some (.map rs))
    (k : String) (r : Val) (hm : (k, r) ∈ rs) :
    ∃ v, (k, v) ∈ kvs ∧ required v = some r := by
  rw [required_map] at h
  split at h <;> cases h
  rw [requiredFields_eq] at hm
  exact mem_filterMapVal.1 hm

example : required (.map [("a", .str "$required"), ("b", .int 1), ("c", .list [.str "$required"])])
    = some (.map [("a", .str "$required"), ("c", .list [.str "$required"])]) := by decide

/-- The result for a list keeps exactly the entries that contain a marker, in the original order,
    each replaced by its own `required` image. -/
theorem C17_positions_list (xs rs : List Val) (h : required (.list xs) = some (.list rs)) :
    rs = (xs.filter fun x => decide (0 < countReq x)).map fun x => (required x).getD .null := by
  rw [← C17_positions_entries]
  rw [required_list] at h
  split at h <;> cases h
  rfl

example : required (.list [.int 1, .str "$required", .map [("a", .str "x")], .str "$required"])
    = some (.list [.str "$required", .str "$required"]) := by decide

/-! ## Agreement with `validate` (Bkl/Output.lean) -/

mutual
/-- no map key is rejected by `validateString`, and no string leaf other than "$required" is -/
def keysPlain : Val → Bool
  | .str s => s == "$required" || (validateString s).isOk
  | .list xs => keysPlainList xs
  | .map kvs => keysPlainFields kvs
  | _ => true
def keysPlainList : List Val → Bool
  | [] => true
  | x :: xs => keysPlain x && keysPlainList xs
def keysPlainFields : Fields → Bool
  | [] => true
  | (k, v) :: rest => (validateString k).isOk && keysPlain v && keysPlainFields rest
end

/-- Under `keysPlain`, `validate` is exactly the emptiness test of `required`.  `validate` stops at
    the first failing entry; under `keysPlain` every key check and every string other than the marker
    passes, so the first failure is at the first entry on which `required` answers, and its class
    is `requiredField`. -/
theorem validate_eq_required :
    (∀ v, keysPlain v = true →
      validate v = if (required v).isNone then .ok () else .error .requiredField) ∧
    (∀ xs, keysPlainList xs = true →
      validateList xs = if (requiredList xs).isEmpty then .ok () else .error .requiredField) ∧
    (∀ kvs, keysPlainFields kvs = true →
      validateFields kvs =
        if (requiredFields kvs).isEmpty then .ok () else .error .requiredField) := by
  refine Val.induction₃_atom ?_ ?_ ?_ (fun _ => rfl) ?_ (fun _ => rfl) ?_
  · intro v h1 h2 h
    rw [required_atom_eq h1 h2]
    split
    · rename_i hv; rw [hv]; decide
    · rename_i hv
      cases v with
      | map m => cases h1
      | list l => cases h2
      | str s =>
        rw [keysPlain, Bool.or_eq_true, beq_iff_eq] at h
        rw [validate]
        exact o_isOk_unit (h.resolve_left fun e => hv (congrArg Val.str e))
      | _ => rfl
  · intro xs ih h
    rw [validate, ih h, required_list]
    split <;> rfl
  · intro kvs ih h
    rw [validate, ih h, required_map]
    split <;> rfl
  · intro x xs ih1 ih2 h
    rw [keysPlainList, Bool.and_eq_true] at h
    have h1 := ih1 h.1
    rw [validateList, requiredList_cons]
    cases hr : required x with
    | none => rw [hr] at h1; rw [o_seq_of_ok h1, ih2 h.2]
    | some r => rw [hr] at h1; rw [o_seq_of_error h1]; rfl
  · intro k v rest ih1 ih2 h
    rw [keysPlainFields, Bool.and_eq_true, Bool.and_eq_true] at h
    have h1 := ih1 h.1.2
    rw [validateFields, requiredFields_cons, o_seq_of_ok (o_isOk_unit h.1.1)]
    cases hr : required v with
    | none => rw [hr] at h1; rw [o_seq_of_ok h1, ih2 h.2]
    | some r => rw [hr] at h1; rw [o_seq_of_error h1]; rfl

theorem C17_validate_eq : ∀ (v : Val), keysPlain v = true →
    validate v = if (required v).isNone then .ok () else .error .requiredField :=
  validate_eq_required.1
theorem C17_validate_eq_list : ∀ (xs : List Val), keysPlainList xs = true →
    validateList xs = if (requiredList xs).isEmpty then .ok () else .error .requiredField :=
  validate_eq_required.2.1
theorem C17_validate_eq_fields : ∀ (kvs : Fields), keysPlainFields kvs = true →
    validateFields kvs = if (requiredFields kvs).isEmpty then .ok () else .error .requiredField :=
  validate_eq_required.2.2

/-- With plain keys and strings, `validate` fails with `requiredField` iff bklr reports something. -/
theorem C17_agrees_with_validate (v : Val) (h : keysPlain v = true) :
    (validate v = .error .requiredField ↔ required v ≠ none) ∧
    (validate v = .ok () ↔ required v = none) := by
  rw [C17_validate_eq v h]
  cases required v <;> simp

example : keysPlain (.map [("a", .str "$required"), ("b", .list [.str "$$x", .int 1])]) = true := by
  decide +kernel

/-! ## The tool main: cmd/bklr/main.go (`Bkl.bklrRun`, Bkl/ToolsCli.lean)

  Helper lemmas are in BklProofs/Lemmas/ToolsCliProofs.lean (prefix `tc_`); the sample file
  system `tc_toolFS` holds /w/r.yaml with the document `tc_req`
  (`{a: $required, b: 1, c: [$required, 2]}`). -/

/-- bklr's format rule differs from bkld/bkli (`C15_tool_format_choice`): the input's format is
    replaced by the extension of `-o` whenever `-o` is given — also by an empty one — and then
    by `-f` whenever `-f` is given — also by an empty one.  The chosen format must be supported. -/
theorem C17_bklr_format_choice (fs : FS) (cwd : Comps) (opts : ToolOpts) (path : String)
    (data : Val) (f : String) (hi : opts.inputs = [path])
    (hg : getOnlyDocument fs cwd path = .ok (data, f)) :
    (∀ x, opts.format = some x →
      bklrRun fs cwd opts =
        if supportedExts.contains x then .ok { format := x, doc := required data }
        else .error .unknownFormat) ∧
    (∀ o, opts.format = none → opts.outPath = some o →
      bklrRun fs cwd opts =
        if supportedExts.contains (extOfPath o) then
          .ok { format := extOfPath o, doc := required data }
        else .error .unknownFormat) ∧
    (opts.format = none → opts.outPath = none →
      bklrRun fs cwd opts =
        if supportedExts.contains f then .ok { format := f, doc := required data }
        else .error .unknownFormat) := by
  have h : ∀ fmt, (do let fmt ← checkFormat fmt; pure { format := fmt, doc := required data } :
      R ToolResult) = if supportedExts.contains fmt then .ok { format := fmt, doc := required data }
        else .error .unknownFormat := by
    intro fmt
    rw [tc_checkFormat_eq]
    split <;> rfl
  rw [tc_bklrRun_one fs cwd opts path hi, hg, ok_bind]
  exact ⟨fun x hx => by rw [← h, hx], fun o hx ho => by rw [← h, hx, ho],
    fun hx ho => by rw [← h, hx, ho]⟩

example : ({ inputs := ["r.yaml"] } : ToolOpts).inputs = ["r.yaml"] ∧
    getOnlyDocument tc_toolFS ["w"] "r.yaml" = .ok (tc_req, "yaml") := ⟨rfl, tc_toolFS_get_r⟩

/-- `bklr r.yaml`: the input's format -/
theorem C17_bklr_sample :
    bklrRun tc_toolFS ["w"] { inputs := ["r.yaml"] } =
      .ok { format := "yaml",
            doc := some (.map [("a", .str "$required"), ("c", .list [.str "$required"])]) } := by
  rw [(C17_bklr_format_choice tc_toolFS ["w"] _ "r.yaml" tc_req "yaml" rfl tc_toolFS_get_r).2.2
    rfl rfl]
  rfl

/-- `bklr -o out.toml r.yaml` → toml; `bklr -f json -o out.toml r.yaml` → json -/
example : bklrRun tc_toolFS ["w"] { outPath := some "out.toml", inputs := ["r.yaml"] } =
    .ok { format := "toml", doc := required tc_req } := by
  rw [(C17_bklr_format_choice tc_toolFS ["w"] _ "r.yaml" tc_req "yaml" rfl tc_toolFS_get_r).2.1
    "out.toml" rfl rfl, tc_ext_out_toml]
  rfl

example : bklrRun tc_toolFS ["w"]
      { format := some "json", outPath := some "out.toml", inputs := ["r.yaml"] } =
    .ok { format := "json", doc := required tc_req } := by
  rw [(C17_bklr_format_choice tc_toolFS ["w"] _ "r.yaml" tc_req "yaml" rfl tc_toolFS_get_r).1
    "json" rfl]
  rfl

/-- the difference to bkld/bkli: `-o out` (no extension) does not fall back to the input's
    format — bklr fails, while `toolFormat` answers `yaml` -/
theorem C17_bklr_format_differs :
    bklrRun tc_toolFS ["w"] { outPath := some "out", inputs := ["r.yaml"] } =
      .error .unknownFormat ∧
    toolFormat { outPath := some "out", inputs := ["r.yaml"] } "yaml" = "yaml" ∧
    bklrRun tc_toolFS ["w"] { format := some "", inputs := ["r.yaml"] } = .error .unknownFormat ∧
    toolFormat { format := some "", inputs := ["r.yaml"] } "yaml" = "yaml" := by
  refine ⟨?_, tc_toolFormat_fb _ _ (.inl rfl) (.inr ⟨"out", rfl, tc_ext_out⟩), ?_,
    tc_toolFormat_fb _ _ (.inr rfl) (.inl rfl)⟩
  · rw [(C17_bklr_format_choice tc_toolFS ["w"] _ "r.yaml" tc_req "yaml" rfl tc_toolFS_get_r).2.1
      "out" rfl rfl, tc_ext_out]
    rfl
  · rw [(C17_bklr_format_choice tc_toolFS ["w"] _ "r.yaml" tc_req "yaml" rfl tc_toolFS_get_r).1
      "" rfl]
    rfl

/-- bklr succeeds exactly when it has one input, the input yields exactly one merged document
    (`getOnlyDocument`; the document is NOT evaluated), and the chosen format is supported; the
    emitted document is `required` of that merged document. -/
theorem C17_bklr_result_iff (fs : FS) (cwd : Comps) (opts : ToolOpts) (r : ToolResult) :
    bklrRun fs cwd opts = .ok r ↔
      ∃ path data f,
        opts.inputs = [path] ∧ getOnlyDocument fs cwd path = .ok (data, f) ∧
        (match opts.format with
          | some x => x
          | none => match opts.outPath with | some o => extOfPath o | none => f) ∈ supportedExts ∧
        r = { format := (match opts.format with
                | some x => x
                | none => match opts.outPath with | some o => extOfPath o | none => f),
              doc := required data } := by
  constructor
  · intro h
    by_cases hi : ∃ p, opts.inputs = [p]
    · obtain ⟨path, hi⟩ := hi
      rw [tc_bklrRun_one fs cwd opts path hi] at h
      simp only [R_bind_eq_ok, Prod.exists] at h
      obtain ⟨data, f, hg, fmt, hc, h⟩ := h
      obtain ⟨rfl, hmem⟩ := tc_checkFormat_ok_iff.1 hc
      cases h
      exact ⟨path, data, f, hi, hg, hmem, rfl⟩
    · rw [tc_bklrRun_not_one fs cwd opts (fun p h => hi ⟨p, h⟩)] at h
      cases h
  · rintro ⟨path, data, f, hi, hg, hmem, rfl⟩
    rw [tc_bklrRun_one fs cwd opts path hi, hg, ok_bind]
    exact R_bind_eq_ok.2 ⟨_, tc_checkFormat_of_mem hmem, rfl⟩

/-- the forward direction, field by field; nothing is emitted iff the merged document carries
    no `$required` marker (`C17_empty_iff`) -/
theorem C17_bklr_result (fs : FS) (cwd : Comps) (opts : ToolOpts) (r : ToolResult)
    (h : bklrRun fs cwd opts = .ok r) :
    ∃ path data f,
      opts.inputs = [path] ∧ getOnlyDocument fs cwd path = .ok (data, f) ∧
      r.doc = required data ∧ (r.doc = none ↔ countReq data = 0) ∧
      (∀ out, r.doc = some out → onlyMarkers out = true ∧ countReq out = countReq data) ∧
      r.format = (match opts.format with
        | some x => x
        | none => match opts.outPath with | some o => extOfPath o | none => f) ∧
      r.format ∈ supportedExts := by
  obtain ⟨path, data, f, hi, hg, hmem, rfl⟩ := (C17_bklr_result_iff fs cwd opts r).1 h
  exact ⟨path, data, f, hi, hg, rfl, C17_empty_iff data,
    fun out ho => ⟨C17_only_markers data out ho, C17_count_some data out ho⟩, rfl, hmem⟩

example : ∃ r, bklrRun tc_toolFS ["w"] { inputs := ["r.yaml"] } = .ok r := ⟨_, C17_bklr_sample⟩

/-- a document without markers: bklr succeeds and emits nothing -/
example : bklrRun tc_toolFS ["w"] { inputs := ["a.yaml"] } = .ok { format := "yaml", doc := none } := by
  rw [(C17_bklr_format_choice tc_toolFS ["w"] _ "a.yaml" tc_base "yaml" rfl tc_toolFS_get_a).2.2
    rfl rfl]
  rfl

/-- The merged document a tool works on never has a top-level `$parent` or `$match` key (both
    are consumed by the loader / the parser), and neither has bklr's output.  This is what makes
    the output readable back as a plain single-document file. -/
theorem C17_bklr_output_no_directives (fs : FS) (cwd : Comps) (opts : ToolOpts) (r : ToolResult)
    (out : Val) (h : bklrRun fs cwd opts = .ok r) (ho : r.doc = some out) :
    ∀ m, out = .map m → fget m "$parent" = none ∧ fget m "$match" = none := by
  obtain ⟨path, data, f, _, hg, hdoc, _⟩ := C17_bklr_result fs cwd opts r h
  rw [hdoc] at ho
  have hc := tc_required_clean (tc_getOnlyDocument_clean hg) ho
  rintro m rfl
  simpa [tc_clean, tc_noKey] using hc

example : (∃ r, bklrRun tc_toolFS ["w"] { inputs := ["r.yaml"] } = .ok r ∧
    r.doc = some (.map [("a", .str "$required"), ("c", .list [.str "$required"])])) :=
  ⟨_, C17_bklr_sample, rfl⟩

/-- Idempotence through the CLI.  Let bklr succeed and emit `out` in format `r.format`.  Store
    the output as the only file `/w/out.<format>` of a file system (`tc_outFS`: the directory
    /w and that one single-document file, no parents) and run `bklr out.<format>` in /w:
    the result is the same document in the same format.  No hypothesis on the original input. -/
theorem C17_bklr_cli_idempotent (fs : FS) (cwd : Comps) (opts : ToolOpts) (r : ToolResult)
    (out : Val) (h : bklrRun fs cwd opts = .ok r) (ho : r.doc = some out) :
    bklrRun (tc_outFS r.format out) ["w"] { inputs := ["out" ++ "." ++ r.format] } =
      .ok { format := r.format, doc := some out } := by
  obtain ⟨path, data, f, _, hg, hdoc, _, _, _, hmem⟩ := C17_bklr_result fs cwd opts r h
  rw [hdoc] at ho
  have hc := tc_required_clean (tc_getOnlyDocument_clean hg) ho
  rw [C17_bklr_result_iff]
  refine ⟨"out" ++ "." ++ r.format, out, r.format, rfl, tc_outFS_get r.format hmem out hc, hmem, ?_⟩
  rw [C17_idempotent data out ho]

example : (∃ r, bklrRun tc_toolFS ["w"] { inputs := ["r.yaml"] } = .ok r ∧
    r.doc = some (.map [("a", .str "$required"), ("c", .list [.str "$required"])])) :=
  ⟨_, C17_bklr_sample, rfl⟩

/-- the instance for the sample: `bklr r.yaml > out.yaml; bklr out.yaml` -/
example :
    bklrRun (tc_outFS "yaml" (.map [("a", .str "$required"), ("c", .list [.str "$required"])]))
      ["w"] { inputs := ["out" ++ "." ++ "yaml"] } =
      .ok { format := "yaml",
            doc := some (.map [("a", .str "$required"), ("c", .list [.str "$required"])]) } :=
  C17_bklr_cli_idempotent tc_toolFS ["w"] { inputs := ["r.yaml"] }
    { format := "yaml",
      doc := some (.map [("a", .str "$required"), ("c", .list [.str "$required"])]) }
    (.map [("a", .str "$required"), ("c", .list [.str "$required"])]) C17_bklr_sample rfl

end Bkl
