/-
  C09 — "Evaluation is deterministic … regardless of hash-map iteration order".

  The Go implementation walks Go maps with `for k, v := range m` (random order); the Lean model
  walks association lists in key order.  For every such loop we show that the observable result
  is the same for EVERY iteration order: `s` is the entry list of the Go map (pairwise distinct
  keys — `Fields.DistinctKeys s`, which follows from `Fields.SortedKeys s`), `s'` is any
  permutation of it (`s'.Perm s`, core `List.Perm`), and the loop run over `s'` is compared with
  the loop run over `s`.
-/
import BklProofs.Lemmas.Process2
import BklProofs.Lemmas.Interp
import BklProofs.Lemmas.Match
import BklProofs.Lemmas.Merge
import BklProofs.Lemmas.Order
import BklProofs.Lemmas.Output
import BklProofs.Lemmas.Required
namespace Bkl

/-! ### the non-vacuity witnesses of the examples below: a 3-entry map and a genuinely different order -/

def C09_s : Fields := [("a", .int 1), ("b", .int 2), ("c", .int 3)]
def C09_s' : Fields := [("c", .int 3), ("a", .int 1), ("b", .int 2)]

theorem C09_s'_perm : C09_s'.Perm C09_s :=
  (List.perm_append_comm :
    (([("c", .int 3)] : Fields) ++ ([("a", .int 1), ("b", .int 2)] : Fields)).Perm _)
theorem C09_s'_ne : C09_s' ≠ C09_s := by decide
theorem C09_s_sorted : Fields.SortedKeys C09_s := by decide
theorem C09_s_distinct : Fields.DistinctKeys C09_s := distinctKeys_of_sorted C09_s_sorted

/-- sorted keys (the model's well-formedness) imply distinct keys, so every theorem below that
    asks for `Fields.DistinctKeys s` applies to every well-formed model map -/
theorem C09_sorted_distinct {s : Fields} (h : Fields.SortedKeys s) : Fields.DistinctKeys s :=
  distinctKeys_of_sorted h

/-! ## 1. merge.go:mergeMapMap `for k, v := range src` -/

/-- Same success/failure status, and on success the same resulting map, for every order in
    which the patch entries are visited.  (When both runs fail the error *class* may differ:
    it is the one of whichever bad key is visited first.) -/
theorem C09_merge_order_invariant {d s s' : Fields} (hd : Fields.SortedKeys d)
    (hn : Fields.DistinctKeys s) (hp : s'.Perm s) :
    ((∃ r', mergeFields d s' = .ok r') ↔ (∃ r, mergeFields d s = .ok r)) ∧
    (∀ r' r, mergeFields d s' = .ok r' → mergeFields d s = .ok r → r' = r) := by
  refine ⟨mergeFields_ok_perm hn hp, fun r' r h' h => ?_⟩
  rw [mergeFields_perm hd hn hp h] at h'
  exact (Except.ok.inj h').symm

/-- The status half needs no hypothesis on `d` at all. -/
theorem C09_merge_status_order_invariant (d : Fields) {s s' : Fields}
    (hn : Fields.DistinctKeys s) (hp : s'.Perm s) :
    (mergeFields d s').isOk = (mergeFields d s).isOk := by
  have h := mergeFields_ok_perm (d := d) hn hp
  cases h1 : mergeFields d s' with
  | ok r' =>
    obtain ⟨r, hr⟩ := h.1 ⟨r', h1⟩
    rw [hr]; rfl
  | error e' =>
    cases h2 : mergeFields d s with
    | ok r =>
      obtain ⟨r', hr'⟩ := h.2 ⟨r, h2⟩
      rw [h1] at hr'; cases hr'
    | error e => rfl

/-- The value half does need the accumulated map `d` to be key-sorted (i.e. to be a map at
    all): on an ill-formed `d` with an out-of-order key the two orders give different lists.
    Every `d` the model produces is sorted (C01_wf), so this is not a defect of the model. -/
theorem C09_merge_unsorted_dst_counterexample :
    let d : Fields := [("b", .int 1), ("a", .int 2)]
    let s : Fields := [("a", .int 5), ("b", .str "$delete")]
    let s' : Fields := [("b", .str "$delete"), ("a", .int 5)]
    s'.Perm s ∧ Fields.DistinctKeys s ∧ ¬ Fields.SortedKeys d ∧
    mergeFields d s = .ok [("a", .int 5), ("a", .int 2)] ∧
    mergeFields d s' = .ok [("a", .int 5)] := by
  refine ⟨List.Perm.swap _ _ _, by decide, by decide, ?_, ?_⟩
  · simp [mergeFields_cons, mergeFields_nil, merge_int, fget, fset, fdel, Val.toStr]
  · simp [mergeFields_cons, mergeFields_nil, merge_int, fget, fset, fdel, Val.toStr]

-- non-vacuity: a sorted `d`, the 3-entry patch and a different visiting order; both succeed
example : Fields.SortedKeys [("a", .int 0), ("z", .int 9)] ∧ Fields.DistinctKeys C09_s ∧
    C09_s'.Perm C09_s ∧ C09_s' ≠ C09_s ∧
    mergeFields [("a", .int 0), ("z", .int 9)] C09_s' =
      .ok [("a", .int 1), ("b", .int 2), ("c", .int 3), ("z", .int 9)] ∧
    mergeFields [("a", .int 0), ("z", .int 9)] C09_s =
      .ok [("a", .int 1), ("b", .int 2), ("c", .int 3), ("z", .int 9)] := by
  refine ⟨by decide, C09_s_distinct, C09_s'_perm, C09_s'_ne, ?_, ?_⟩
  · simp [C09_s', mergeFields_cons, mergeFields_nil, merge_int, fget, fset, Val.toStr]
  · simp [C09_s, mergeFields_cons, mergeFields_nil, merge_int, fget, fset, Val.toStr]

-- non-vacuity of "both fail with different error classes": hence only the status is claimed
example :
    mergeFields [("a", .int 1), ("b", .list [])] [("a", .int 1), ("b", .int 2)]
      = .error .uselessOverride ∧
    mergeFields [("a", .int 1), ("b", .list [])] [("b", .int 2), ("a", .int 1)]
      = .error .invalidType := by
  constructor
  · simp [mergeFields_cons, merge_int, fget, Val.toStr]
  · simp [mergeFields_cons, merge_list_other _ (.int 2) rfl rfl, fget, Val.toStr]

/-! ## 2. match.go:matchMap `for pk, pv := range pat` -/

theorem C09_match_order_invariant (okvs : Fields) (skip : Bool) {s s' : Fields}
    (hp : s'.Perm s) : matchFields okvs skip s' = matchFields okvs skip s := by
  rw [matchFields_eq_all, matchFields_eq_all]
  exact hp.all_eq

example : C09_s'.Perm C09_s ∧ C09_s' ≠ C09_s := ⟨C09_s'_perm, C09_s'_ne⟩

/-! ## 3. validate.go:validateMap `for k, v := range obj` -/

/-- Status only: which offending entry is reported first may differ. -/
theorem C09_validate_order_invariant {s s' : Fields} (hp : s'.Perm s) :
    (validateFields s' = .ok ()) ↔ (validateFields s = .ok ()) := by
  rw [validateFields_ok_iff, validateFields_ok_iff]
  exact ⟨fun h p hm => h p (hp.mem_iff.2 hm), fun h p hm => h p (hp.mem_iff.1 hm)⟩

example : C09_s'.Perm C09_s ∧ C09_s' ≠ C09_s ∧ validateFields C09_s = .ok () :=
  ⟨C09_s'_perm, C09_s'_ne, rfl⟩

-- the reported error does depend on the order
example :
    validateFields [("a", .str "$required"), ("b", .str "$x")] = .error .requiredField ∧
    validateFields [("b", .str "$x"), ("a", .str "$required")] = .error .invalidDirective :=
  ⟨rfl, rfl⟩

/-! ## 4. finalize.go:finalizeMap (iterates `sortedMap(obj)` since the repair) -/

/-- The model's finalised map is a function of the map alone: no order parameter. -/
theorem C09_finalize_function (s : Fields) :
    ∃ r, fofList (finalizeFields s) = r ∧ ∀ r', fofList (finalizeFields s) = r' → r' = r :=
  ⟨_, rfl, fun _ h => h.symm⟩

/-- When the finalised keys do not collide, every iteration order gives the same map. -/
theorem C09_finalize_sorted {s s' : Fields}
    (hn : (s.map (fun kv => finalizeString kv.1)).Nodup) (hp : s'.Perm s) :
    fofList (finalizeFields s') = fofList (finalizeFields s) := by
  rw [finalizeFields_eq_map, finalizeFields_eq_map]
  apply fofList_perm _ (hp.map _)
  show ((s.map (fun p => (finalizeString p.1, finalize p.2))).map (·.1)).Nodup
  rw [List.map_map]
  exact hn

example : (C09_s.map (fun kv => finalizeString kv.1)).Nodup ∧ C09_s'.Perm C09_s ∧
    C09_s' ≠ C09_s := ⟨by decide, C09_s'_perm, C09_s'_ne⟩

/-- When two keys finalise to the same string (`$$A` and `$A` both become `$A`) the order
    decides which value survives: with Go's random `range` order the output would be
    nondeterministic.  This is why finalizeMap must (and, since the repair, does) iterate in
    sorted key order, which is the one order the model implements. -/
theorem C09_finalize_collision_counterexample :
    let s : Fields := [("$$A", .int 1), ("$A", .int 2)]
    let s' : Fields := [("$A", .int 2), ("$$A", .int 1)]
    s'.Perm s ∧ Fields.SortedKeys s ∧
    fofList (finalizeFields s) = [("$A", .int 2)] ∧
    fofList (finalizeFields s') = [("$A", .int 1)] ∧
    fofList (finalizeFields s') ≠ fofList (finalizeFields s) := by
  have h1 : finalizeString "$$A" = "$A" := by decide
  have h2 : finalizeString "$A" = "$A" := by decide
  refine ⟨List.Perm.swap _ _ _, by decide, ?_, ?_, ?_⟩
  · simp [finalizeFields, finalize, h1, h2, fofList, fsetAll, fset, String.lt_irrefl]
  · simp [finalizeFields, finalize, h1, h2, fofList, fsetAll, fset, String.lt_irrefl]
  · simp [finalizeFields, finalize, h1, h2, fofList, fsetAll, fset, String.lt_irrefl]

/-! ## 5. `for k, v := range src { dst[k] = v }` (yaml.go:yamlMerge, repeat.go) -/

theorem C09_insert_order_invariant {d s s' : Fields} (hd : Fields.SortedKeys d)
    (hn : Fields.DistinctKeys s) (hp : s'.Perm s) : fsetAll d s' = fsetAll d s :=
  fsetAll_perm hd hn hp

example : Fields.SortedKeys [("b", .int 0), ("z", .int 9)] ∧ Fields.DistinctKeys C09_s ∧
    C09_s'.Perm C09_s ∧ C09_s' ≠ C09_s :=
  ⟨by decide, C09_s_distinct, C09_s'_perm, C09_s'_ne⟩

/-- repeat.go `for k, v := range rs { ec.Vars["$repeat."+k] = v }`, exactly as it occurs in
    `repeatGen` -/
theorem C09_repeat_vars_order_invariant {ec rs rs' : Fields} (hec : Fields.SortedKeys ec)
    (hn : Fields.DistinctKeys rs) (hp : rs'.Perm rs) :
    rs'.foldl (fun e (k, v) => fset e ("$repeat." ++ k) v) ec =
      rs.foldl (fun e (k, v) => fset e ("$repeat." ++ k) v) ec := by
  -- the fold is `fsetAll` of the entries under their `$repeat.` keys, which are as distinct as the names
  have key : ∀ (l : Fields) (e : Fields),
      l.foldl (fun e (k, v) => fset e ("$repeat." ++ k) v) e =
        fsetAll e (l.map (fun p => ("$repeat." ++ p.1, p.2))) :=
    fun l e => (repeatEc1_eq_foldl e l).trans (repeatEc1_eq_fsetAll e l)
  rw [key, key]
  exact fsetAll_perm hec (distinctKeys_repeatKeys hn) (hp.map _)

example : Fields.SortedKeys [("$env:X", .str "1")] ∧ Fields.DistinctKeys C09_s ∧
    C09_s'.Perm C09_s := ⟨by decide, C09_s_distinct, C09_s'_perm⟩

/-! ## 6. tools: the Go code stores into a fresh Go map, i.e. `fofList` of the model's list -/

/-- cmd/bklr/required.go `for k, v := range obj` -/
theorem C09_required_order_invariant {s s' : Fields} (hn : Fields.DistinctKeys s)
    (hp : s'.Perm s) : fofList (requiredFields s') = fofList (requiredFields s) := by
  rw [requiredFields_eq, requiredFields_eq]
  exact fofList_filterMapVal_perm _ hn hp

/-- cmd/bkli/intersect.go `for k, v := range a` -/
theorem C09_intersect_order_invariant (bm : Fields) {s s' : Fields} (hn : Fields.DistinctKeys s)
    (hp : s'.Perm s) : fofList (intersectFields s' bm) = fofList (intersectFields s bm) := by
  rw [intersectFields_eq, intersectFields_eq]
  exact fofList_filterMapVal_perm _ hn hp

/-- the model's `diffFields` result is always a well-formed (key-sorted) map -/
theorem C09_sorted_diffFields (s sm : Fields) : Fields.SortedKeys (diffFields s sm).1 :=
  sorted_diffFields s sm

/-- cmd/bkld/diff.go `for k, v := range dst`: both components of the loop's result -/
theorem C09_diff_order_invariant (sm : Fields) {s s' : Fields} (hn : Fields.DistinctKeys s)
    (hp : s'.Perm s) :
    (diffFields s' sm).1 = (diffFields s sm).1 ∧ (diffFields s' sm).2 = (diffFields s sm).2 := by
  constructor
  · rw [diffFields_fst_distinct hn, diffFields_fst_distinct (distinctKeys_perm hp hn)]
    exact fofList_filterMapVal_perm _ hn hp
  · rw [diffFields_snd, diffFields_snd]
    exact hp.any_eq

example : Fields.DistinctKeys C09_s ∧ C09_s'.Perm C09_s ∧ C09_s' ≠ C09_s ∧
    requiredFields [("a", .str "$required"), ("b", .int 1)] = [("a", .str "$required")] ∧
    (diffFields C09_s [("a", .int 1), ("b", .int 7)]).1 = [("b", .int 2), ("c", .int 3)] ∧
    (diffFields C09_s' [("a", .int 1), ("b", .int 7)]).1 = [("b", .int 2), ("c", .int 3)] :=
  ⟨C09_s_distinct, C09_s'_perm, C09_s'_ne, by decide, by decide, by decide⟩

/-! ## 7. document.go:allParents -/

theorem C09_allParents_order_invariant (known : List (String × List String)) (fuel : Nat)
    {direct direct' : List String} (hp : direct'.Perm direct) :
    ∀ x, x ∈ allParents known fuel direct' ↔ x ∈ allParents known fuel direct :=
  mem_allParents_congr known fuel (fun _ => hp.mem_iff)

/-- the targets of a layer (ancestors, in document order) do not depend on the order in which
    the parents are walked -/
theorem C09_parentsOf_order_invariant (st : PState) {direct direct' : List String}
    (hp : direct'.Perm direct) : parentsOf st direct' = parentsOf st direct := by
  unfold parentsOf
  have h : ∀ d : String × Val,
      (allParents st.known (st.known.length + 1) direct').contains d.1 =
        (allParents st.known (st.known.length + 1) direct).contains d.1 := by
    intro d
    rw [Bool.eq_iff_iff, List.contains_iff_mem, List.contains_iff_mem]
    exact C09_allParents_order_invariant _ _ hp d.1
  simp only [h]

example : (["p2", "p1"] : List String).Perm ["p1", "p2"] ∧ (["p2", "p1"] : List String) ≠ ["p1", "p2"] :=
  ⟨List.Perm.swap _ _ _, by decide⟩

/-! ## 8. the composed pipeline takes no order argument -/

/-- The model's output depends only on the documents and the environment (`∃!`, spelled out
    because the `∃!` notation is Mathlib-only). -/
theorem C09_eval_function : ∀ (docs : List Val) (env : Vars),
    ∃ r, outputDocuments docs env = r ∧ ∀ r', outputDocuments docs env = r' → r' = r :=
  fun _ _ => ⟨_, rfl, fun _ h => h.symm⟩

/-! ## 9. process2.go:process2Map — evaluated-key collisions

  The last `filterMap` of process2Map evaluates every value and every key (`$"…"`, `$env:…` keys
  are replaced by their values), so two different keys can evaluate to the same key.  The Go
  code walks `sortedMap(obj)` and stores into a fresh map; the model walks the key-sorted entry
  list and stores with `fset`.  `evalEntry` (BklProofs/Lemmas/Process2.lean) is the evaluation of
  one entry (`none`: the entry is dropped); `noRepeatEntries kvs` says that no
  entry is a `{$repeat: …}` map (those are expanded by an earlier step). -/

/-- The result is an explicit function of the sorted entry list: evaluate the entries in order
    (first error wins), then build the map from the evaluated entries in that same order. -/
theorem C09_process2_map_entries (fuel : Nat) (docs : List Val) (root : Val) (ec : Vars)
    (kvs : Fields) (hs : Fields.sortedKeysB kvs = true) (hr : noRepeatEntries kvs)
    (h1 : fget kvs "$encode" = none) (h2 : fget kvs "$decode" = none)
    (h3 : fget kvs "$value" = none) :
    process2 (fuel + 1) docs root ec (.map kvs) =
      (kvs.mapM (evalEntry fuel docs root ec) >>= fun os => pure (.map (fofList (os.filterMap id)))) := by
  rw [process2_map_noRepeat _ _ _ _ _ hs hr]
  exact mapBodyM_plain _ ec h1 h2 h3

/-- … and of nothing else: in whatever order the entries of the Go map are listed, `process2`
    first re-inserts them one by one into a fresh map, i.e. sorts them. -/
theorem C09_process2_map_order_invariant (fuel : Nat) (docs : List Val) (root : Val) (ec : Vars)
    {s s' : Fields} (hn : Fields.DistinctKeys s) (hr : noRepeatEntries s) (hp : s'.Perm s) :
    process2 (fuel + 1) docs root ec (.map s') = process2 (fuel + 1) docs root ec (.map s) :=
  process2_map_perm fuel docs root ec hn hr hp

example : Fields.DistinctKeys C09_s ∧ noRepeatEntries C09_s ∧ C09_s'.Perm C09_s ∧ C09_s' ≠ C09_s := by
  refine ⟨C09_s_distinct, ?_, C09_s'_perm, C09_s'_ne⟩
  intro p hp m hm
  simp only [C09_s, List.mem_cons, List.mem_nil_iff, or_false] at hp
  rcases hp with rfl | rfl | rfl <;> cases hm

/-- the evaluated entries of a part of the map whose entries do not evaluate to the key `k` -/
theorem filterMap_no_key {f : String × Val → R (Option (String × Val))} {k : String} {C : Fields}
    {os : List (Option (String × Val))} (h : C.mapM f = .ok os)
    (hC : ∀ p ∈ C, ∀ q, f p = .ok (some q) → q.1 ≠ k) : ∀ q ∈ os.filterMap id, q.1 ≠ k := by
  intro q hq
  obtain ⟨o, ho, e⟩ := List.mem_filterMap.1 hq
  cases e
  obtain ⟨p, hp, hpq⟩ := ((mapM_ok_iff f _ _).1 h).mem_right ho
  exact hC p hp q hpq

/-- General collision rule: among the entries that evaluate to the key `k`, the LAST one in
    sorted order of the ORIGINAL keys supplies the value — if `(k2, v2)` evaluates to `(k, w2)`
    and no entry after it evaluates to `k`, the result maps `k` to `w2`, whatever the entries
    before it do. -/
theorem C09_process2_map_later_wins (fuel : Nat) (docs : List Val) (root : Val) (ec : Vars)
    (kvs : Fields) (hs : Fields.sortedKeysB kvs = true) (hr : noRepeatEntries kvs)
    (h1 : fget kvs "$encode" = none) (h2 : fget kvs "$decode" = none)
    (h3 : fget kvs "$value" = none)
    (P C : Fields) (k2 : String) (v2 : Val) (hsplit : kvs = P ++ (k2, v2) :: C)
    (k : String) (w2 : Val)
    (he2 : evalEntry fuel docs root ec (k2, v2) = .ok (some (k, w2)))
    (hC : ∀ p ∈ C, ∀ q, evalEntry fuel docs root ec p = .ok (some q) → q.1 ≠ k)
    (ret : Val) (hok : process2 (fuel + 1) docs root ec (.map kvs) = .ok ret) :
    ∃ m, ret = .map m ∧ Fields.SortedKeys m ∧ fget m k = some w2 := by
  rw [C09_process2_map_entries fuel docs root ec kvs hs hr h1 h2 h3, hsplit, List.mapM_append,
    List.mapM_cons, he2] at hok
  cases hP : P.mapM (evalEntry fuel docs root ec) with
  | error e => rw [hP] at hok; cases hok
  | ok oP =>
    cases hCm : C.mapM (evalEntry fuel docs root ec) with
    | error e => rw [hP, hCm] at hok; cases hok
    | ok oC =>
      rw [hP, hCm] at hok
      cases hok
      refine ⟨_, rfl, sorted_fofList _, ?_⟩
      rw [List.filterMap_append]
      exact fget_fofList_last _ _ k w2 (filterMap_no_key hCm hC)

/-- A key that no entry evaluates to is absent from the result. -/
theorem C09_process2_map_absent (fuel : Nat) (docs : List Val) (root : Val) (ec : Vars)
    (kvs : Fields) (hs : Fields.sortedKeysB kvs = true) (hr : noRepeatEntries kvs)
    (h1 : fget kvs "$encode" = none) (h2 : fget kvs "$decode" = none)
    (h3 : fget kvs "$value" = none) (k : String)
    (hk : ∀ p ∈ kvs, ∀ q, evalEntry fuel docs root ec p = .ok (some q) → q.1 ≠ k)
    (ret : Val) (hok : process2 (fuel + 1) docs root ec (.map kvs) = .ok ret) :
    ∃ m, ret = .map m ∧ fget m k = none := by
  rw [C09_process2_map_entries fuel docs root ec kvs hs hr h1 h2 h3] at hok
  obtain ⟨os, hos, hok⟩ := R_bind_eq_ok.1 hok
  cases hok
  exact ⟨_, rfl, fget_fofList_none _ k (filterMap_no_key hos hk)⟩

/-- two entries `k1 < k2` whose evaluated keys coincide (`k`),
    no other entry evaluating to `k`: the value kept under `k` is the one of `k2`, the entry that
    is later in the sorted order of the original keys — not of any iteration order. -/
theorem C09_process2_map_collision (fuel : Nat) (docs : List Val) (root : Val) (ec : Vars)
    (kvs : Fields) (hs : Fields.sortedKeysB kvs = true) (hr : noRepeatEntries kvs)
    (h1 : fget kvs "$encode" = none) (h2 : fget kvs "$decode" = none)
    (h3 : fget kvs "$value" = none)
    (k1 k2 : String) (v1 v2 : Val) (hm1 : (k1, v1) ∈ kvs) (hm2 : (k2, v2) ∈ kvs) (hlt : k1 < k2)
    (k : String) (w1 w2 : Val)
    (he1 : evalEntry fuel docs root ec (k1, v1) = .ok (some (k, w1)))
    (he2 : evalEntry fuel docs root ec (k2, v2) = .ok (some (k, w2)))
    (hother : ∀ p ∈ kvs, p ≠ (k1, v1) → p ≠ (k2, v2) →
      ∀ q, evalEntry fuel docs root ec p = .ok (some q) → q.1 ≠ k)
    (ret : Val) (hok : process2 (fuel + 1) docs root ec (.map kvs) = .ok ret) :
    ∃ m, ret = .map m ∧ Fields.SortedKeys m ∧ fget m k = some w2 := by
  have _ := hm1; have _ := he1
  obtain ⟨P, C, hsplit, _, hC⟩ := sorted_split_at hs hm2
  refine C09_process2_map_later_wins fuel docs root ec kvs hs hr h1 h2 h3 P C k2 v2 hsplit k w2 he2
    ?_ ret hok
  intro p hp
  have hp2 : k2 < p.1 := hC p hp
  apply hother p (by rw [hsplit]; exact List.mem_append_right _ (List.mem_cons_of_mem _ hp))
  · intro e
    rw [e] at hp2
    exact String.lt_asymm hlt hp2
  · intro e
    rw [e] at hp2
    exact String.lt_irrefl _ hp2

/-- The document `{$"{p}": 1, $"{q}": 2, p: web, q: web}`: both interpolated keys evaluate to
    `web`; the sorted order of the original keys is `$"{p}" < $"{q}" < p < q`. -/
def C09_collide : Fields :=
  [("$\"{p}\"", .int 1), ("$\"{q}\"", .int 2), ("p", .str "web"), ("q", .str "web")]

theorem C09_collide_entries (fuel : Nat) :
    evalEntry (fuel + 2) [] (.map C09_collide) [] ("$\"{p}\"", .int 1) = .ok (some ("web", .int 1)) ∧
    evalEntry (fuel + 2) [] (.map C09_collide) [] ("$\"{q}\"", .int 2) = .ok (some ("web", .int 2)) ∧
    evalEntry (fuel + 2) [] (.map C09_collide) [] ("p", .str "web") = .ok (some ("p", .str "web")) ∧
    evalEntry (fuel + 2) [] (.map C09_collide) [] ("q", .str "web") = .ok (some ("q", .str "web")) := by
  have hin := fun (x : String) hx n => process2_str_nodollar n [] (.map C09_collide) [] x hx
  -- a key `$"{r}"` whose one reference `r` is bound to the string `web`
  have hkey : ∀ (k : String) (r : List Char), (interpBody k).map interpSegs = some [.ref r] →
      getWithVar (.map C09_collide) [] [] (String.ofList r) = .ok (.str "web") →
      process2 (fuel + 2) [] (.map C09_collide) [] (.str k) = .ok (.str "web") := fun k r hk hg =>
    (process2_str_eq ..).trans (process2String_parts [.ref r] hk
      (.cons (interpSeg_ref_str hg (process2String_nodollar _ _ _ _ _ (by decide +kernel))) .nil))
  exact ⟨entryOut_ok (process2_scalar _ _ _ _ rfl rfl rfl) rfl (hkey _ "p".toList (by decide +kernel)
      (getWithVar_simple_key _ _ _ _ _ (by decide +kernel) (by decide) (by decide))),
    entryOut_ok (process2_scalar _ _ _ _ rfl rfl rfl) rfl (hkey _ "q".toList (by decide +kernel)
      (getWithVar_simple_key _ _ _ _ _ (by decide +kernel) (by decide) (by decide))),
    entryOut_ok (hin _ (by decide +kernel) _) rfl (hin _ (by decide +kernel) _),
    entryOut_ok (hin _ (by decide +kernel) _) rfl (hin _ (by decide +kernel) _)⟩

theorem C09_collide_sorted : Fields.sortedKeysB C09_collide = true := by decide +kernel

theorem C09_collide_plain : fget C09_collide "$encode" = none ∧
    fget C09_collide "$decode" = none ∧ fget C09_collide "$value" = none := by decide

theorem C09_collide_noRepeat : noRepeatEntries C09_collide := by
  intro p hp m hm
  simp only [C09_collide, List.mem_cons, List.mem_nil_iff, or_false] at hp
  rcases hp with rfl | rfl | rfl | rfl <;> cases hm

/-- `C09_collide` evaluates to `{p: web, q: web, web: 2}`: the entry of the LATER original key `$"{q}"`
    wins.  Were the same evaluated entries inserted in another order (as a Go `range` over the
    map could), the value under `web` would be 1: the result is fixed by the sorted order only. -/
theorem C09_process2_map_collision_example (fuel : Nat) :
    Fields.sortedKeysB C09_collide = true ∧
    process2 (fuel + 3) [] (.map C09_collide) [] (.map C09_collide) =
      .ok (.map [("p", .str "web"), ("q", .str "web"), ("web", .int 2)]) ∧
    fofList [("web", .int 2), ("web", .int 1), ("p", .str "web"), ("q", .str "web")] =
      [("p", .str "web"), ("q", .str "web"), ("web", .int 1)] := by
  refine ⟨C09_collide_sorted, ?_, by decide⟩
  obtain ⟨e1, e2, e3, e4⟩ := C09_collide_entries fuel
  rw [C09_process2_map_entries _ _ _ _ _ C09_collide_sorted C09_collide_noRepeat
    C09_collide_plain.1 C09_collide_plain.2.1 C09_collide_plain.2.2]
  simp only [C09_collide] at e1 e2 e3 e4 ⊢
  simp only [List.mapM_cons, List.mapM_nil, e1, e2, e3, e4, ok_bind, pure_bind]
  exact congrArg Except.ok (congrArg Val.map (by decide))

/-- the same instance through the general theorem (non-vacuity of its hypotheses) -/
example (fuel : Nat) (ret : Val)
    (hok : process2 (fuel + 3) [] (.map C09_collide) [] (.map C09_collide) = .ok ret) :
    ∃ m, ret = .map m ∧ Fields.SortedKeys m ∧ fget m "web" = some (.int 2) := by
  obtain ⟨e1, e2, e3, e4⟩ := C09_collide_entries fuel
  refine C09_process2_map_collision (fuel + 2) [] (.map C09_collide) [] C09_collide
    C09_collide_sorted C09_collide_noRepeat C09_collide_plain.1 C09_collide_plain.2.1
    C09_collide_plain.2.2 "$\"{p}\"" "$\"{q}\"" (.int 1) (.int 2) (by simp [C09_collide])
    (by simp [C09_collide]) (by decide) "web" (.int 1) (.int 2) e1 e2 ?_ ret hok
  intro p hp n1 n2 q hq
  simp only [C09_collide, List.mem_cons, List.mem_nil_iff, or_false] at hp
  rcases hp with rfl | rfl | rfl | rfl
  · exact absurd rfl n1
  · exact absurd rfl n2
  · rw [e3] at hq; cases hq; decide
  · rw [e4] at hq; cases hq; decide

end Bkl
